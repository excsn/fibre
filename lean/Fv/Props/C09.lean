import Fv.Lemmas.ChanHist
import Fv.Lemmas.ChanTeardown
/-!
# C09 — every value entrusted to a channel is dropped exactly once

Token locations are *derived* from the model's ghost lists (`St.placed`: buffered, delivered,
returned, lost = dropped by a failing `send`, destroyed by the channel, parked in a rendezvous sender
record) plus the values still in the hands of an operation in progress (`P.inHand`), so "every token is
in exactly one location" is a theorem about the model, not a by-construction fact.

`stranded`: held by an operation that blocked for good.
Not covered: addresses / storage reuse (use-after-free, double free of the *slot*), see DESIGN §3; the
harness' per-value `Drop` counters (`D` lines) are compared with `St.dropCount` on every run.
-/
namespace Fv.Props.C09
open Fv.Chan List

/-- Every atomic step conserves tokens: what the step newly takes from its caller (`δ`) plus what the
operation held plus what was placed equals what it holds afterwards plus what is placed afterwards. -/
theorem C09_step_conserves_tokens {fl : Flavour} {cfg : Cfg} {s s' : St} {p p' : P}
    (hs : (s', p') ∈ micro fl cfg s p) :
    ∃ δ, s'.created = s.created ++ δ ∧ (δ = [] ∨ δ = freshVals p) ∧
      ∀ v, count v δ + count v p.inHand + count v s.placed = count v p'.inHand + count v s'.placed := by
  obtain ⟨δ, hδ, hok⟩ := micro_ok hs
  exact ⟨δ, hok.created, hδ, hok.tok⟩

/-- The ledger of every sequential program balances. -/
theorem C09_token_ledger (fl : Flavour) (ops : List Op) (v : Val) :
    count v (runOps fl (init fl) ops).created =
      count v (stranded fl (init fl) ops) + count v (runOps fl (init fl) ops).placed := by
  have := runOps_ledger fl ops (init_ledger fl) v
  simpa using this

/-- With pairwise distinct offered values, every created token is in exactly one location, exactly once. -/
theorem C09_each_token_in_exactly_one_place (fl : Flavour) (ops : List Op) (hn : (ops.flatMap Op.vals).Nodup)
    (v : Val) (hv : v ∈ (runOps fl (init fl) ops).created) :
    count v (stranded fl (init fl) ops) + count v (runOps fl (init fl) ops).buf +
      count v (runOps fl (init fl) ops).recvOk + count v (runOps fl (init fl) ops).returned +
      count v (runOps fl (init fl) ops).lost + count v (runOps fl (init fl) ops).chanDropped +
      count v (runOps fl (init fl) ops).parked = 1 := by
  have h1 := C09_token_ledger fl ops v
  have h2 := created_le_offered fl ops v
  have h3 := (nodup_iff_count.mp hn) v
  have h4 : 0 < count v (runOps fl (init fl) ops).created := count_pos_iff.mpr hv
  simp only [St.placed, count_append] at h1
  omega

/-- Once every handle object is gone, nothing is buffered any more. -/
theorem C09_buffer_empty_after_teardown (fl : Flavour) (ops : List Op)
    (hgone : (runOps fl (init fl) ops).hs = []) : (runOps fl (init fl) ops).buf = [] :=
  runOps_TD ops (init_TD fl) hgone

/-- **After teardown every created token has been dropped exactly once.** (No operation stuck holding
values, no sender left parked in a rendezvous record — both are deadlocks, where the harness prints no
`D` line either.) -/
theorem C09_dropped_exactly_once_after_teardown (fl : Flavour) (ops : List Op)
    (hn : (ops.flatMap Op.vals).Nodup) (hgone : (runOps fl (init fl) ops).hs = [])
    (hstr : stranded fl (init fl) ops = []) (hpark : (runOps fl (init fl) ops).parked = [])
    (v : Val) (hv : v ∈ (runOps fl (init fl) ops).created) :
    (runOps fl (init fl) ops).dropCount v = 1 := by
  have h1 := C09_each_token_in_exactly_one_place fl ops hn v hv
  have hb := C09_buffer_empty_after_teardown fl ops hgone
  simp only [hstr, hpark, hb, count_nil] at h1
  unfold St.dropCount
  omega

def exFl : Flavour := ⟨.sb, .spsc, 2, false⟩
def exOps : List Op :=
  [.snd .trySend ⟨.tx, 0⟩ [1], .snd .trySend ⟨.tx, 0⟩ [2], .snd .trySend ⟨.tx, 0⟩ [3], .rcv .recv ⟨.rx, 0⟩ 0,
   .drop ⟨.rx, 0⟩, .snd .send ⟨.tx, 0⟩ [4], .drop ⟨.tx, 0⟩]

/-- non-vacuity: 1 delivered, 2 destroyed at teardown, 3 handed back (Full), 4 dropped by the failing `send` -/
example : (runOps exFl (init exFl) exOps).hs = [] ∧ stranded exFl (init exFl) exOps = [] ∧
    (runOps exFl (init exFl) exOps).recvOk = [1] ∧ (runOps exFl (init exFl) exOps).chanDropped = [2] ∧
    (runOps exFl (init exFl) exOps).returned = [3] ∧ (runOps exFl (init exFl) exOps).lost = [4] := by decide

/-- Every accepted concurrent history ends in a state whose ledger balances: created = held by the
operations still pending + placed; and nothing is created that was not offered. -/
theorem C09_linearizable_token_ledger (fl : Flavour) (cfg : Cfg) (h : History) (q : Bool) (sf : St)
    (hl : linearize fl cfg h q = some sf) :
    ∃ pf : LinCore.Pend PL, (∀ v, count v sf.created = pendSum P.inHand v pf + count v sf.placed) ∧
      (∀ v, count v sf.created ≤ count v (offered h)) := by
  obtain ⟨pf, ha, _⟩ := linearize_acc hl
  exact ⟨pf, ha.tok, fun v => by have := ha.off v; omega⟩

end Fv.Props.C09
