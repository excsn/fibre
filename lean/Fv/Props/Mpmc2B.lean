import Fv.Lemmas.Mpmc2BSafe
import Fv.Lemmas.Mpmc2BWakeStep
/-!
# mpmc bounded v2 — B-model theorems (feed C01, C02, C03, C05, C06)

Model: `Fv.Chan.Mpmc2B` (critical-section granularity small-step model of
`mpmc_v2/{core,sync_impl,async_impl,mod}.rs`). Every theorem quantifies over every capacity,
every number of threads/tasks, every program (the environment's `call` / `poll` / `dropFut`
labels are unconstrained) and every interleaving.
-/
namespace Fv.Props.Mpmc2B
open Fv.Chan.Mpmc2B

/-! ## Safety (all reachable states, no hypothesis) -/

/-- **C03** `queue_len ≤ capacity` in every reachable state. -/
theorem mpmc2_capacity {cap s} (h : Reach cap s) : s.queue.length ≤ cap := by
  have := (invS_reach h).cap_ok; rwa [reach_cap h] at this

/-- **C01/C02** the linearised successful sends are exactly the received tokens followed by the
buffer, in order. -/
theorem mpmc2_linearised {cap s} (h : Reach cap s) : s.sent = s.recvd ++ s.queue := (invS_reach h).lin

/-- **C01** exactly-once: no token is linearised twice, hence none is received twice and none sits in
the buffer twice; everything received or buffered was offered to a send. -/
theorem mpmc2_exactly_once {cap s} (h : Reach cap s) :
    (s.recvd ++ s.queue).Nodup ∧ ∀ v, v ∈ s.recvd ++ s.queue → v ∈ s.offered := by
  have hi := invS_reach h
  rw [← hi.lin]; exact ⟨hi.sent_nodup, hi.sent_off⟩

/-- **C02** dequeue order is enqueue order. -/
theorem mpmc2_dequeue_order {cap s} (h : Reach cap s) : s.recvd <+: s.sent := by
  rw [mpmc2_linearised h]; exact List.prefix_append _ _

/-- **C01** a send that reported Ok is in `received ++ buffered` (exactly once, by `mpmc2_exactly_once`). -/
theorem mpmc2_send_ok_delivered {cap s} (h : Reach cap s) {t v} (hp : s.pc t = .done (.sendOk v)) :
    v ∈ s.recvd ++ s.queue := by
  have hi := invS_reach h; rw [← hi.lin]; exact hi.res_ok t v hp

/-- **C01** a failed `try_send` (Full / Closed) hands the token back and the token is never delivered. -/
theorem mpmc2_failed_try_send_returns_token {cap s} (h : Reach cap s) {t v}
    (hp : s.pc t = .done (.sendFull v) ∨ s.pc t = .done (.sendClosed v)) :
    v ∈ s.returned ∧ v ∉ s.recvd ++ s.queue := by
  have hi := invS_reach h
  have hr : v ∈ s.returned := by
    cases hp with
    | inl hp => exact hi.res_full t v hp
    | inr hp => exact hi.res_closed t v hp
  refine ⟨hr, ?_⟩
  rw [← hi.lin]; intro hs; exact (hi.disj_sent v hs).1 hr

/-- **C01** a blocking / async send that reported Closed dropped its token; the token is never delivered. -/
theorem mpmc2_closed_send_not_delivered {cap s} (h : Reach cap s) {t v}
    (hp : s.pc t = .done (.sendClosedDrop v)) : v ∈ s.dropped ∧ v ∉ s.recvd ++ s.queue := by
  have hi := invS_reach h
  have hr := hi.res_drop t v hp
  refine ⟨hr, ?_⟩
  rw [← hi.lin]; intro hs; exact (hi.disj_sent v hs).2 hr

/-- **C01** a receive returns only a token that was popped from the buffer (hence sent). -/
theorem mpmc2_recv_ok_was_sent {cap s} (h : Reach cap s) {t v} (hp : s.pc t = .done (.recvOk v)) :
    v ∈ s.recvd ∧ v ∈ s.sent ∧ v ∈ s.offered := by
  have hi := invS_reach h
  have hr := hi.res_recv t v hp
  have hs : v ∈ s.sent := by rw [hi.lin]; exact List.mem_append_left _ hr
  exact ⟨hr, hs, hi.sent_off v hs⟩

/-- **C01 / C06** token accounting, cancellation included: a token held by an operation or a live
future is in none of the histories, no two agents hold the same token, and the three histories
`sent` / `returned` / `dropped` are pairwise disjoint and duplicate-free. Dropping a future
(`dropFut`, at any poll boundary) is a step like any other, so cancellation neither loses nor
duplicates a token. -/
theorem mpmc2_token_accounting {cap s} (h : Reach cap s) :
    (∀ t v, holds (s.pc t) = some v → v ∈ s.offered ∧ v ∉ s.sent ∧ v ∉ s.returned ∧ v ∉ s.dropped) ∧
    (∀ t1 t2 v, holds (s.pc t1) = some v → holds (s.pc t2) = some v → t1 = t2) ∧
    s.sent.Nodup ∧ s.returned.Nodup ∧ s.dropped.Nodup ∧
    (∀ v, v ∈ s.sent → v ∉ s.returned ∧ v ∉ s.dropped) ∧ (∀ v, v ∈ s.returned → v ∉ s.dropped) := by
  have hi := invS_reach h
  exact ⟨hi.held_fresh, hi.held_unique, hi.sent_nodup, hi.ret_nodup, hi.drop_nodup, hi.disj_sent, hi.disj_ret⟩

/-- **C01/C03** effect of any single step on the abstract channel: nothing; or the push of exactly
the token the stepping agent holds, and that is the step in which its send returns Ok; or the pop of
the front, returned by that very step. -/
theorem mpmc2_step_effect {s s' : State} {t : Nat} {l : Label} (h : step s t l = some s') : Eff s s' t :=
  step_eff h

/-- **C01** failed operations have no effect: a step after which the agent has any result other than
`Ok` (Full, Closed, Empty, Disconnected, Timeout, future dropped, …) leaves buffer and histories unchanged. -/
theorem mpmc2_failed_op_no_effect {s s' : State} {t : Nat} {l : Label} (h : step s t l = some s')
    (hf : ∀ v, s'.pc t ≠ .done (.sendOk v) ∧ s'.pc t ≠ .done (.recvOk v)) :
    s'.queue = s.queue ∧ s'.sent = s.sent ∧ s'.recvd = s.recvd := by
  rcases step_eff h with h1 | ⟨v, _, _, _, _, hp⟩ | ⟨v, _, _, _, _, hp⟩
  · exact ⟨h1.1, h1.2.1, h1.2.2.1⟩
  · exact absurd hp (hf v).1
  · exact absurd hp (hf v).2

/-- **C03** a send returns Ok only in the very step that appends its token to the buffer, and that
step found `queue_len < capacity`. -/
theorem mpmc2_send_ok_only_by_push {cap s s'} (hr : Reach cap s) {t u : Nat} {l : Label} {v : Nat}
    (h : step s t l = some s') (h0 : s.pc u ≠ .done (.sendOk v)) (h1 : s'.pc u = .done (.sendOk v)) :
    u = t ∧ holds (s.pc t) = some v ∧ s'.queue = s.queue ++ [v] ∧ s.queue.length < cap := by
  have hut : u = t := by
    by_cases hne : u = t
    · exact hne
    · rw [step_pc_other h hne] at h1; exact absurd h1 h0
  subst hut
  rcases step_eff h with h2 | ⟨w, hw, hq, _, _, hp⟩ | ⟨w, _, _, _, _, hp⟩
  · exact absurd h1 (h2.2.2.2 v).1
  · rw [h1] at hp; injection hp with hp; injection hp with hp; subst hp
    refine ⟨rfl, hw, hq, ?_⟩
    have := mpmc2_capacity (Reach.step hr h); rw [hq] at this; simp at this; omega
  · rw [h1] at hp; injection hp with hp; cases hp

/-- **C02** per-producer FIFO: the linearisation order only grows at its end, and each new entry is
the token the stepping agent currently holds, which was not linearised before — so a producer's
tokens enter `sent` (and by `mpmc2_dequeue_order` leave the channel) in the order it sent them. -/
theorem mpmc2_fifo_per_producer {cap s s'} (hr : Reach cap s) {t : Nat} {l : Label} (h : step s t l = some s') :
    s'.sent = s.sent ∨ ∃ v, s'.sent = s.sent ++ [v] ∧ holds (s.pc t) = some v ∧ v ∉ s.sent := by
  rcases step_eff h with h2 | ⟨w, hw, _, hs, _, _⟩ | ⟨w, _, _, _, hs, _⟩
  · exact Or.inl h2.2.1
  · exact Or.inr ⟨w, hs, hw, ((invS_reach hr).held_fresh t w hw).2.1⟩
  · exact Or.inl hs

/-- **C01** an agent that gets Disconnected from `try_recv_core` saw an empty buffer with no sender
left: at that moment every token ever sent has been received. -/
theorem mpmc2_disconnected_means_drained {cap s} (hr : Reach cap s) {t : Nat}
    (_hpc : s.pc t = .trTry) (hd : (stepTrTry s t).pc t = .done .recvDisc) : s.queue = [] ∧ s.sent = s.recvd := by
  have hq : s.queue = [] := by
    unfold stepTrTry at hd
    split at hd
    · rename_i v s1 hs; simp [recvCore_pc hs] at hd
    · exact recvCore_none (s := s) (g := s.ar) ‹_›
  exact ⟨hq, by rw [mpmc2_linearised hr, hq]; simp⟩

/-! ## No dangling waiter record (all reachable states, no hypothesis) — finding F17, repaired -/

/-- **No dangling waiter record**: every record queued in `waiting_async_receivers` belongs to a live
`RecvFuture` of its owner — the owner is inside a poll of that future, Pending on it, or inside its unlink /
`Drop` path. The raw state pointer a sender CASes and wakes through therefore always points into a live future,
whatever the environment does (spurious polls of registered futures, drops of woken futures, any interleaving).
This is the invariant finding F17 broke (a re-polled registered future took an item and returned Ready leaving
its WAITING record queued: use-after-free on the next send); it holds since fix cd494c8. -/
theorem mpmc2_no_dangling_waiter_record {cap s} (h : Reach cap s) {r : Nat} (hr : r ∈ s.war) :
    liveFutR (s.pc (s.owner r)) = some r := (invD_reach h).live_war r hr

/-- … in particular an agent whose operation has returned (or that has none) owns no queued receiver record:
a future that resolved — by taking an item in a spurious re-poll, by Disconnected, by being dropped — left none. -/
theorem mpmc2_resolved_future_leaves_no_record {cap s} (h : Reach cap s) {t : Nat} (hp : (s.pc t).atRest = true)
    {r : Nat} (hr : r ∈ s.war) : s.owner r ≠ t := by
  intro ho
  have := mpmc2_no_dangling_waiter_record h hr
  rw [ho] at this
  cases hpc : s.pc t <;> simp [hpc, PC.atRest, liveFutR] at hp this

/-- the step that left the record behind before fix cd494c8: the locked section of a re-polled, still registered future that
takes an item (or sees Disconnected) removes its own record, whatever the state. -/
theorem mpmc2_repoll_ready_unlinks (s : State) (t r : Nat) (hd : ∃ x, (stepArTry s t r).pc t = .done x) :
    r ∉ (stepArTry s t r).war := by
  obtain ⟨x, hx⟩ := hd
  unfold stepArTry at hx ⊢
  split
  · rename_i v s1 hs
    simp [List.mem_filter]
  · split
    · simp [List.mem_filter]
    · rename_i hs h0
      simp [hs, h0] at hx

/-! ## Wake-ups (C05 / C06), proved for runs satisfying `Benign` at every step:
no future is dropped between being woken and its next poll (F2). Blocking (thread) operations need no
hypothesis of their own; the hypothesis only restricts the environment label `dropFut` (spurious polls of a
registered `RecvFuture` are not restricted). -/

/-- **Q1** (DESIGN A.5): while some receiver record is still WAITING, every buffered item is matched
by a distinct receiver that was CASed to SUCCESS and woken in the same locked section and has not
yet re-entered `try_recv_core` (it is at a wait / pending / retry control state of that record). -/
theorem mpmc2_Q1 {cap s} (h : ReachB cap s) {r : Nat} (hr : r ∈ s.wsr ∨ r ∈ s.war) (hw : s.st r = .waiting) :
    s.queue.length ≤ s.ar.length ∧ s.ar.Nodup ∧
    ∀ r', r' ∈ s.ar → s.st r' = .success ∧ wokenRecv (s.pc (s.owner r')) = some r' :=
  have hA := invA_reach h
  ⟨hA.q1 r hr hw, hA.a2, hA.a1⟩

/-- **Q2** mirror image for senders: while some sender record is WAITING, every free slot is matched by
a distinct woken sender that has not yet re-entered `try_send_core`. -/
theorem mpmc2_Q2 {cap s} (h : ReachB cap s) {r : Nat} (hr : r ∈ s.wss ∨ r ∈ s.was) (hw : s.st r = .waiting) :
    cap - s.queue.length ≤ s.asg.length ∧ s.asg.Nodup ∧
    ∀ r', r' ∈ s.asg → s.st r' = .success ∧ wokenSend (s.pc (s.owner r')) = some r' := by
  have hA := invA_reach h
  have := hA.q2 r hr hw
  rw [reach_cap h.reach] at this
  exact ⟨this, hA.b2, hA.b1⟩

/-- A blocked thread / Pending task whose waiter state is still WAITING is enqueued (so Q1 / Q2 speak
about it), and no such record exists once the other side is gone. -/
theorem mpmc2_waiting_is_registered {cap s} (h : ReachB cap s) :
    (∀ t r, blockR (s.pc t) = some r → s.st r = .waiting → (r ∈ s.wsr ∨ r ∈ s.war) ∧ s.senders ≠ 0) ∧
    (∀ t r, regAtS (s.pc t) = some r → s.st r = .waiting → (r ∈ s.wss ∨ r ∈ s.was) ∧ s.receivers ≠ 0) := by
  have hR := invR_reach h
  refine ⟨fun t r hb hw => ?_, fun t r hb hw => ?_⟩
  · have hm := hR.k4r t r hb hw
    exact ⟨hm, fun h0 => hR.d1 h0 r hm hw⟩
  · have hm := hR.k4s t r hb hw
    exact ⟨hm, fun h0 => hR.d2 h0 r hm hw⟩

/-- The C06 wake statement for every blocked receiver, thread or task: while its record is WAITING and an item is
buffered, some receiver was CASed to SUCCESS for that item and has not re-entered `try_recv_core` yet. -/
theorem waiting_recv_covered {cap s} (h : ReachB cap s) {t r : Nat} (hb : blockR (s.pc t) = some r)
    (hw : s.st r = .waiting) (hq : s.queue ≠ []) :
    ∃ r', r' ∈ s.ar ∧ wokenRecv (s.pc (s.owner r')) = some r' := by
  have ⟨hm, _⟩ := (mpmc2_waiting_is_registered h).1 t r hb hw
  have ⟨hl, _, ha⟩ := mpmc2_Q1 h hm hw
  have ⟨a, hm⟩ := List.exists_mem_of_length_pos (Nat.lt_of_lt_of_le (List.length_pos_iff.2 hq) hl)
  exact ⟨a, hm, (ha a hm).2⟩

theorem waiting_send_covered {cap s} (h : ReachB cap s) {t r : Nat} (hb : regAtS (s.pc t) = some r)
    (hw : s.st r = .waiting) (hq : s.queue.length < cap) :
    ∃ r', r' ∈ s.asg ∧ wokenSend (s.pc (s.owner r')) = some r' := by
  have ⟨hm, _⟩ := (mpmc2_waiting_is_registered h).2 t r hb hw
  have ⟨hl, _, ha⟩ := mpmc2_Q2 h hm hw
  have ⟨a, hm⟩ := List.exists_mem_of_length_pos (l := s.asg) (by omega)
  exact ⟨a, hm, (ha a hm).2⟩

/-- **Wake delivery** (C05 park level / C06 waker level): an agent parked or Pending on a record whose
state byte is already terminal (SUCCESS or CLOSED) has a park token / a counted wake, or a closing
thread that has already left the lock still holds that wake in its `to_wake` list. -/
theorem mpmc2_wake_owed {cap s} (h : ReachB cap s) {t r : Nat} (hw : waitish (s.pc t) = some r)
    (hf : s.st r = .success ∨ s.st r = .closed) : 0 < s.wakes t ∨ t ∈ wl (s.pc (s.wakeBy r)) := by
  by_cases h0 : s.wakes t = 0
  · exact Or.inr ((invW_reach h).k3 t r hw hf h0)
  · exact Or.inl (Nat.pos_of_ne_zero h0)

/-- an agent that can take a protocol step by itself, or a Pending task that has been woken
(an executor that polls woken tasks will poll it) -/
def Runnable (s : State) (u : Nat) : Prop :=
  (stepAdv s u).isSome = true ∨ (∃ r, waitish (s.pc u) = some r ∧ 0 < s.wakes u)

theorem hWake_runnable {s : State} {c t : Nat} (h : t ∈ wl (s.pc c)) : Runnable s c := by
  left
  cases hp : s.pc c <;> simp [hp, wl] at h
  simp [stepAdv, hp]

/-- an agent whose record was CASed to SUCCESS and that has not re-entered the core yet can step by itself, unless it
sleeps on the record: then it has its token / counted wake, or the closing agent that owes it the wake can step -/
theorem woken_runnable {cap s} (h : ReachB cap s) {r : Nat} (hm : r ∈ s.ar ∨ r ∈ s.asg) : ∃ c, Runnable s c := by
  have ⟨hs, hw⟩ : s.st r = .success ∧ (wokenRecv (s.pc (s.owner r)) = some r ∨ wokenSend (s.pc (s.owner r)) = some r) :=
    hm.elim (fun hm => ((invA_reach h).a1 r hm).imp_right .inl) (fun hm => ((invA_reach h).b1 r hm).imp_right .inr)
  generalize s.owner r = u at hw
  cases hwt : waitish (s.pc u) with
  | none => exact ⟨u, Or.inl (by cases hp : s.pc u <;> simp [hp, wokenRecv, wokenSend, waitish, stepAdv] at hw hwt ⊢)⟩
  | some r' =>
    have hr : r' = r := by
      have := waitish_recOf hwt
      rcases hw with hw | hw
      · rw [wokenRecv_recOf hw] at this; exact (Option.some.inj this).symm
      · rw [wokenSend_recOf hw] at this; exact (Option.some.inj this).symm
    by_cases h0 : s.wakes u = 0
    · exact ⟨_, hWake_runnable ((invW_reach h).k3 u r (hr ▸ hwt) (Or.inl hs) h0)⟩
    · exact ⟨u, Or.inr ⟨r', hwt, Nat.pos_of_ne_zero h0⟩⟩

/-- an agent asleep on its record `r` without a token: if `r` is terminal the wake is owed by a closing agent, which can
step; if `r` is still WAITING, a woken peer (`hw`) can -/
theorem sleeper_runnable {cap s} (h : ReachB cap s) {t r : Nat} (hwt : waitish (s.pc t) = some r) (h0 : s.wakes t = 0)
    (hc : s.st r ≠ .cancelled)
    (hw : s.st r = .waiting → ∃ r', r' ∈ s.ar ∨ r' ∈ s.asg) : ∃ u, Runnable s u := by
  cases hst : s.st r with
  | success => exact ⟨_, hWake_runnable ((invW_reach h).k3 t r hwt (Or.inl hst) h0)⟩
  | closed => exact ⟨_, hWake_runnable ((invW_reach h).k3 t r hwt (Or.inr hst) h0)⟩
  | cancelled => exact absurd hst hc
  | waiting => obtain ⟨r', hm⟩ := hw hst; exact woken_runnable h hm

/-- **C05 / C06 no lost wakeup, receivers** (safety form): if a thread is parked in `recv` without a
token, or a `RecvFuture` is Pending without a counted wake, while an item is buffered or every sender is
gone, then some agent is runnable (the proof exhibits the closing agent that holds the deferred wake, or a woken agent
that has not re-entered the core). Hence no quiescent state leaves a receiver asleep while its operation is possible. -/
theorem mpmc2_no_lost_wakeup_recv {cap s} (h : ReachB cap s) {t r : Nat}
    (hb : s.pc t = .rPark r ∨ s.pc t = .arPend r) (h0 : s.wakes t = 0)
    (hen : s.queue ≠ [] ∨ s.senders = 0) : ∃ u, Runnable s u := by
  have hwt : waitish (s.pc t) = some r := by rcases hb with hb | hb <;> simp [hb, waitish]
  have hbr : blockR (s.pc t) = some r := by rcases hb with hb | hb <;> simp [hb, blockR]
  have hc : s.st r ≠ .cancelled := by
    rcases hb with hb | hb
    · exact (invW_reach h).k5 t r (by simp [hb, liveWait])
    · exact (invK_reach h.reach).not_canc t r (by simp [hb, recvFutRec])
  refine sleeper_runnable h hwt h0 hc fun hst => ?_
  rcases hen with hq | hs
  · have ⟨a, hm, _⟩ := waiting_recv_covered h hbr hst hq
    exact ⟨a, .inl hm⟩
  · exact absurd hs ((mpmc2_waiting_is_registered h).1 t r hbr hst).2

/-- **C05 / C06 no lost wakeup, senders**: same for a thread parked in `send` / a Pending `SendFuture`
while the buffer has a free slot or every receiver is gone. -/
theorem mpmc2_no_lost_wakeup_send {cap s} (h : ReachB cap s) {t v r : Nat}
    (hb : s.pc t = .sPark v r ∨ s.pc t = .asPend v r) (h0 : s.wakes t = 0)
    (hen : s.queue.length < cap ∨ s.receivers = 0) : ∃ u, Runnable s u := by
  have hwt : waitish (s.pc t) = some r := by rcases hb with hb | hb <;> simp [hb, waitish]
  have hbr : regAtS (s.pc t) = some r := by rcases hb with hb | hb <;> simp [hb, regAtS]
  have hc := (invW_reach h).k5 t r (by rcases hb with hb | hb <;> simp [hb, liveWait])
  refine sleeper_runnable h hwt h0 hc fun hst => ?_
  rcases hen with hq | hs
  · have ⟨a, hm, _⟩ := waiting_send_covered h hbr hst hq
    exact ⟨a, .inr hm⟩
  · exact absurd hs ((mpmc2_waiting_is_registered h).2 t r hbr hst).2

theorem wakes_zero_of_quiescent {s : State} (hq : ∀ u, ¬ Runnable s u) {t r : Nat}
    (hb : waitish (s.pc t) = some r) : s.wakes t = 0 :=
  Decidable.byContradiction fun h0 => hq t (Or.inr ⟨r, hb, Nat.pos_of_ne_zero h0⟩)

/-- **C05 deadlock freedom / C06 executor never stalls** (corollary): in a quiescent state — no agent can
take a protocol step and no Pending task has an unconsumed wake — nobody sleeps while its operation is
possible: parked receivers / Pending recv futures see an empty buffer with a live sender, parked senders /
Pending send futures see a full buffer with a live receiver. -/
theorem mpmc2_quiescent_nobody_stuck {cap s} (h : ReachB cap s) (hq : ∀ u, ¬ Runnable s u) :
    (∀ t r, (s.pc t = .rPark r ∨ s.pc t = .arPend r) → s.queue = [] ∧ s.senders ≠ 0) ∧
    (∀ t v r, (s.pc t = .sPark v r ∨ s.pc t = .asPend v r) → cap ≤ s.queue.length ∧ s.receivers ≠ 0) := by
  refine ⟨fun t r hb => ?_, fun t v r hb => ?_⟩
  · have h0 := wakes_zero_of_quiescent hq (t := t) (r := r) (by rcases hb with hb | hb <;> simp [hb, waitish])
    have hn := fun hen => (mpmc2_no_lost_wakeup_recv h hb h0 hen).elim fun u hu => hq u hu
    exact ⟨Decidable.byContradiction fun hne => hn (Or.inl hne), fun hs => hn (Or.inr hs)⟩
  · have h0 := wakes_zero_of_quiescent hq (t := t) (r := r) (by rcases hb with hb | hb <;> simp [hb, waitish])
    have hn := fun hen => (mpmc2_no_lost_wakeup_send h hb h0 hen).elim fun u hu => hq u hu
    exact ⟨Nat.le_of_not_lt fun hlt => hn (Or.inl hlt), fun hs => hn (Or.inr hs)⟩

instance (s : State) (t : Nat) (l : Label) : Decidable (Benign s t l) := by
  unfold Benign; split <;> infer_instance

/-- run a schedule, checking the `Benign` hypothesis at every step -/
def runB (s : State) : List (Nat × Label) → Option State
  | [] => some s
  | (t, l) :: rest => if Benign s t l then (step s t l).bind (fun s' => runB s' rest) else none

theorem reachB_of_runB {cap : Nat} (tr : List (Nat × Label)) (s0 s : State) (h0 : ReachB cap s0)
    (h : runB s0 tr = some s) : ReachB cap s :=
  Fv.run_closed_guarded (G := Benign) (fun _ => rfl) (fun _ _ _ _ => rfl) (fun h hb hs => .step h hb hs) tr s0 s h0 h

theorem run_witness {α : Type} {f : State → α} {x : α} {cap : Nat} {tr : List (Nat × Label)}
    (h : (run (init cap) tr).map f = some x) : ∃ s, run (init cap) tr = some s ∧ Reach cap s ∧ f s = x :=
  have ⟨s, hr, e⟩ := Option.map_eq_some_iff.1 h
  ⟨s, hr, reach_of_run _ _ s .init hr, e⟩

theorem runB_witness {α : Type} {f : State → α} {x : α} {cap : Nat} {tr : List (Nat × Label)}
    (h : (runB (init cap) tr).map f = some x) : ∃ s, runB (init cap) tr = some s ∧ ReachB cap s ∧ f s = x :=
  have ⟨s, hr, e⟩ := Option.map_eq_some_iff.1 h
  ⟨s, hr, reachB_of_runB _ _ s .init hr, e⟩

/-! ## What is false of the code as it is (witnesses by `decide`) -/

/-- Full C06 wake statement for receive futures: a Pending `RecvFuture` whose record is still
WAITING while an item is buffered is covered by a woken receiver that is still going to consume it.
FALSE on `Reach` for the code as it stands (F2); true on `ReachB` (`…_partial`). -/
def C06_mpmc2_recv_statement : Prop :=
  ∀ cap s, Reach cap s → ∀ t r, s.pc t = .arPend r → s.st r = .waiting → s.queue ≠ [] →
    ∃ r', r' ∈ s.ar ∧ wokenRecv (s.pc (s.owner r')) = some r'

def C06_mpmc2_send_statement : Prop :=
  ∀ cap s, Reach cap s → ∀ t v r, s.pc t = .asPend v r → s.st r = .waiting → s.queue.length < cap →
    ∃ r', r' ∈ s.asg ∧ wokenSend (s.pc (s.owner r')) = some r'

theorem C06_mpmc2_recv_partial {cap s} (h : ReachB cap s) {t r : Nat} (hp : s.pc t = .arPend r)
    (hw : s.st r = .waiting) (hq : s.queue ≠ []) : ∃ r', r' ∈ s.ar ∧ wokenRecv (s.pc (s.owner r')) = some r' :=
  waiting_recv_covered h (t := t) (by simp [hp, blockR]) hw hq

theorem C06_mpmc2_send_partial {cap s} (h : ReachB cap s) {t v r : Nat} (hp : s.pc t = .asPend v r)
    (hw : s.st r = .waiting) (hq : s.queue.length < cap) : ∃ r', r' ∈ s.asg ∧ wokenSend (s.pc (s.owner r')) = some r' :=
  waiting_send_covered h (t := t) (by simp [hp, regAtS]) hw hq

/-- all agents of a finite list are stuck: no protocol step enabled, and no Pending task has a wake -/
def stuck (s : State) (agents : List Nat) : Bool :=
  agents.all (fun a => (stepAdv s a).isNone && ((waitish (s.pc a)).isNone || s.wakes a == 0))

/-- **F2 (receive side)**: tasks 1 and 2 are Pending in `recv()`; `try_send(7)` CASes task 1 to SUCCESS
and wakes it; task 1 is dropped before it is polled (`Drop`: the cancel CAS fails, the future just
unlinks). The wake is swallowed: task 2 stays Pending with zero wakes while 7 sits in the buffer and
nothing in the system can move. -/
def trF2recv : List (Nat × Label) :=
  [(1, .call .recvFut), (1, .poll), (1, .adv), (1, .adv),
   (2, .call .recvFut), (2, .poll), (2, .adv), (2, .adv),
   (0, .call (.trySend 7)), (0, .adv),
   (1, .dropFut), (1, .adv)]

theorem F2_recv_run_a : (run (init 2) trF2recv).map
      (fun s => (s.pc 2, s.st 1, s.wakes 2, s.queue, s.ar, s.pc (s.owner 0))) =
    some (.arPend 1, .waiting, 0, [7], [0], .done .futDropped) := by decide
theorem F2_recv_run_c : (run (init 2) trF2recv).map (fun s => stuck s [0, 1, 2]) = some true := by decide

theorem C06_fails_F2_mpmc2_recv : ¬ C06_mpmc2_recv_statement := by
  intro hC
  obtain ⟨s, -, hr, e⟩ := run_witness F2_recv_run_a
  simp only [Prod.mk.injEq] at e
  obtain ⟨e1, e2, -, e3, e4, e5⟩ := e
  obtain ⟨r', hm, hw⟩ := hC 2 s hr 2 1 e1 e2 (by simp [e3])
  rw [e4] at hm; simp at hm; subst hm
  rw [e5] at hw; simp [wokenRecv] at hw

/-- **F2 (send side)**: capacity 1, buffer full; tasks 1 and 2 are Pending in `send()`; `try_recv` frees the
slot and wakes task 1, which is dropped before its poll. Task 2 stays Pending, un-woken, with a free slot. -/
def trF2send : List (Nat × Label) :=
  [(0, .call (.trySend 7)), (0, .adv),
   (1, .call (.sendFut 8)), (1, .poll), (1, .adv), (1, .adv),
   (2, .call (.sendFut 9)), (2, .poll), (2, .adv), (2, .adv),
   (0, .call .tryRecv), (0, .adv),
   (1, .dropFut), (1, .adv)]

theorem F2_send_run_a : (run (init 1) trF2send).map
      (fun s => (s.pc 2, s.st 1, s.wakes 2, s.queue, s.asg, s.pc (s.owner 0))) =
    some (.asPend 9 1, .waiting, 0, [], [0], .done .futDropped) := by decide
theorem F2_send_run_c : (run (init 1) trF2send).map (fun s => stuck s [0, 1, 2]) = some true := by decide

theorem C06_fails_F2_mpmc2_send : ¬ C06_mpmc2_send_statement := by
  intro hC
  obtain ⟨s, -, hr, e⟩ := run_witness F2_send_run_a
  simp only [Prod.mk.injEq] at e
  obtain ⟨e1, e2, -, e3, e4, e5⟩ := e
  obtain ⟨r', hm, hw⟩ := hC 1 s hr 2 9 1 e1 e2 (by simp [e3])
  rw [e4] at hm; simp at hm; subst hm
  rw [e5] at hw; simp [wokenSend] at hw

/-- **F17 (repaired by cd494c8)**: no future is dropped at all. Tasks 1 and 2 are Pending in `recv()`;
`try_send(7)` wakes task 1; task 2 is re-polled although it was not woken (`select!` / `join!` do that):
`poll_recv_internal` runs `try_recv_core_for` first, takes 7 and returns Ready — and unlinks its own WAITING record
in that locked section. Task 1 is polled, finds nothing, re-registers. `try_send(8)` CASes task 1's record and
wakes task 1. (Before the fix the stale record of the finished task 2 was CASed instead: task 1 stayed Pending,
un-woken, with 8 buffered, and in the real code a use-after-free.) -/
def trF17 : List (Nat × Label) :=
  [(1, .call .recvFut), (1, .poll), (1, .adv), (1, .adv),
   (2, .call .recvFut), (2, .poll), (2, .adv), (2, .adv),
   (0, .call (.trySend 7)), (0, .adv),
   (2, .poll), (2, .adv),
   (1, .poll), (1, .adv), (1, .adv),
   (0, .call (.trySend 8)), (0, .adv)]

/-- the steal: after task 2's spurious re-poll it has 7, and no record is queued any more (task 1's was consumed
by the wake, task 2's own is unlinked by the section that took the item) -/
theorem F17_fixed_steal_unlinks : (run (init 2) (trF17.take 12)).map (fun s => (s.pc 2, s.war, s.queue)) =
    some (.done (.recvOk 7), [], []) := by decide
/-- the end of the run: task 1 is Pending, its record CASed to SUCCESS, one counted wake, 8 buffered for it -/
theorem F17_fixed_run : (run (init 2) trF17).map (fun s => (s.pc 1, s.st 0, s.wakes 1)) =
    some (.arPend 0, .success, 1) := by decide
theorem F17_fixed_run_b : (run (init 2) trF17).map (fun s => (s.queue, s.ar, s.war)) = some ([8], [0], []) := by decide
/-- the finished task 2 is not woken, and the system is not stuck (task 1 has its wake) -/
theorem F17_fixed_run_c : (run (init 2) trF17).map (fun s => (s.wakes 2, stuck s [0, 1, 2])) = some (0, false) := by decide
/-- … and the whole run satisfies the hypothesis of the `_partial` theorems (`Benign` does not restrict polls) -/
theorem F17_fixed_run_benign : (runB (init 2) trF17).isSome = true := by decide

/-- non-vacuity of `C06_mpmc2_recv_partial` on a run WITH a spurious re-poll (`ReachB` allows it): tasks 1
and 2 Pending, `try_send(7)` wakes task 1, task 2 is polled spuriously between its two locked sections … here it is
stopped right after the poll boundary: task 2 is inside `poll` on a record that is still queued and WAITING. -/
example : ∃ s, ReachB 2 s ∧ s.pc 2 = .arTry 1 ∧ s.st 1 = .waiting ∧ s.war = [1] ∧ s.queue = [7] ∧ s.ar = [0] := by
  have h1 : (runB (init 2) (trF17.take 11)).map (fun s => (s.pc 2, s.st 1, s.war, s.queue, s.ar)) =
      some (.arTry 1, .waiting, [1], [7], [0]) := by decide
  obtain ⟨s, -, hr, e⟩ := runB_witness h1
  simp at e
  exact ⟨s, hr, e⟩

/-- Full C05 statement for the timed receive: `recv_timeout` always returns. FALSE (F5). -/
def C05_mpmc2_timed_statement : Prop :=
  ∀ cap s, Reach cap s → ∀ t, s.pc t ≠ .done .panicked

/-- **F5**: thread 1 is enqueued in `recv_timeout(0)`; `try_send(7)` CASes it to SUCCESS; thread 2's
`try_recv` barges in and takes 7; thread 1's cancel CAS fails ("a sender committed the handoff"), its final
`try_recv_core` finds the buffer empty and hits `unreachable!("state was finished but channel empty")`. -/
def trF5 : List (Nat × Label) :=
  [(1, .call .recvTimeout0), (1, .adv), (1, .adv),
   (0, .call (.trySend 7)), (0, .adv),
   (2, .call .tryRecv), (2, .adv),
   (1, .adv), (1, .adv)]

theorem F5_run : (run (init 2) trF5).map (fun s => (s.pc 1, s.pc 2, s.pc 0)) =
    some (.done .panicked, .done (.recvOk 7), .done (.sendOk 7)) := by decide

theorem C05_fails_F5 : ¬ C05_mpmc2_timed_statement := by
  intro hC
  obtain ⟨s, -, hr, e⟩ := run_witness F5_run
  exact hC 2 s hr 1 (congrArg (·.1) e)

/-- the only way into the panic: the final `try_recv_core` of a timed receive whose cancel CAS lost,
with an empty buffer and a live sender — i.e. its item was taken by a barging receiver. -/
theorem C05_mpmc2_timed_partial {s s' : State} {t : Nat} {l : Label} (h : step s t l = some s')
    (h0 : s.pc t ≠ .done .panicked) (h1 : s'.pc t = .done .panicked) :
    ∃ r, s.pc t = .toFin r ∧ l = .adv ∧ s.queue = [] ∧ s.senders ≠ 0 := by
  cases step_seff h with
  | panic r hr hq hn hs hpc =>
    refine ⟨r, hr, ?_, hq, hn⟩
    cases l <;> simp [step, stepCall, stepPoll, stepDropFut, stepSpurious, hr, PC.atRest] at h ⊢
  | move p' hs hpc hh hp => rw [hpc, upd_same] at h1; subst h1; cases hp
  | offer v p' hv hf hs hpc hh hp => rw [hpc, upd_same] at h1; subst h1; cases hp
  | ret v p' hv hs hpc hp => rw [hpc, upd_same] at h1; subst h1; simp at hp
  | drop v p' hv hs hpc hp => rw [hpc, upd_same] at h1; subst h1; simp at hp
  | push v hv hne hs hpc => rw [hpc, upd_same] at h1; cases h1
  | pop v q hv hq hs hpc => rw [hpc, upd_same] at h1; cases h1

/-- a reachable state with a full buffer of capacity 2, one token received, in FIFO order -/
example : ∃ s, Reach 2 s ∧ s.queue = [8, 9] ∧ s.recvd = [7] ∧ s.pc 0 = .done (.sendOk 9) := by
  let tr : List (Nat × Label) :=
    [(0, .call (.trySend 7)), (0, .adv), (0, .call (.send 8)), (0, .adv), (1, .call .tryRecv), (1, .adv),
     (0, .call (.trySend 9)), (0, .adv)]
  have h1 : (run (init 2) tr).map (fun s => (s.queue, s.recvd, s.pc 0)) = some ([8, 9], [7], .done (.sendOk 9)) := by
    decide
  obtain ⟨s, -, hr, e⟩ := run_witness h1
  simp at e
  exact ⟨s, hr, e⟩

/-- non-vacuity of `mpmc2_no_lost_wakeup_recv` / `mpmc2_Q1`: two threads parked in `recv`, one item sent:
thread 2 is parked without token on a WAITING record while 7 is buffered; the theorem's conclusion is
witnessed by thread 1 (woken, token set). -/
example : ∃ s, ReachB 2 s ∧ s.pc 2 = .rPark 3 ∧ s.wakes 2 = 0 ∧ s.st 3 = .waiting ∧ s.queue = [7] ∧ s.ar = [1] := by
  let tr : List (Nat × Label) :=
    [(1, .call .recv), (1, .adv), (1, .adv), (1, .adv), (2, .call .recv), (2, .adv), (2, .adv), (2, .adv),
     (0, .call (.trySend 7)), (0, .adv)]
  have h1 : (runB (init 2) tr).map (fun s => (s.pc 2, s.wakes 2, s.st 3, s.queue, s.ar)) =
      some (.rPark 3, 0, .waiting, [7], [1]) := by decide
  obtain ⟨s, -, hr, e⟩ := runB_witness h1
  simp at e
  exact ⟨s, hr, e⟩

/-- non-vacuity of the sender side: capacity 1, a parked sender, then a `try_recv` frees the slot and wakes it -/
example : ∃ s, ReachB 1 s ∧ s.pc 1 = .sPark 8 1 ∧ 0 < s.wakes 1 ∧ s.st 1 = .success ∧ s.queue = [] ∧ s.asg = [1] := by
  let tr : List (Nat × Label) :=
    [(0, .call (.trySend 7)), (0, .adv), (1, .call (.send 8)), (1, .adv), (1, .adv), (1, .adv),
     (0, .call .tryRecv), (0, .adv)]
  have h1 : (runB (init 1) tr).map (fun s => (s.pc 1, s.wakes 1, s.st 1, s.queue, s.asg)) =
      some (.sPark 8 1, 1, .success, [], [1]) := by decide
  obtain ⟨s, -, hr, e⟩ := runB_witness h1
  simp at e
  exact ⟨s, hr, e.1, by omega, e.2.2⟩

/-- a failed try_send on a full channel: the token comes back -/
example : ((run (init 1) [(0, .call (.trySend 7)), (0, .adv), (0, .call (.trySend 8)), (0, .adv)]).map
    (fun s => (s.pc 0, s.queue, s.returned))) = some (.done (.sendFull 8), [7], [8]) := by decide

end Fv.Props.Mpmc2B
