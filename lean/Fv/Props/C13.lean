import Fv.Lemmas.CacheAccounting
import Fv.Cache.Policy.Lru
/-
C13 — capacity is enforced and cost accounting matches residency.

What is proved about the model (`Fv.Cache.stepOp`, every eviction policy, every oracle):

* `C13_accounting_step`: every API call except `run_maintenance` preserves "keys are distinct and
  `current_cost` = cost sum of the resident entries (mod 2^64)" — unconditionally, whatever the
  policy answers.
* `C13_accounting_partial`: `run_maintenance` preserves it IF every capacity pass is honest
  (`CapHonest`); the real code is not (F8c, `C13_fails_F8c`).
* `capacity_pass_enforces_partial`, `capacity_bridge`: an honest capacity pass whose policy can
  release the overage brings the cache back under its capacity; F8a/F8b show passes that cannot
  (`C13_fails_F8a`, `C13_fails_F8b`).
-/
namespace Fv.Props.C13
open Fv.Cache
open Fv.Cache.Policy

def lruOps : PolicyOps Lru.State where
  access := Lru.access
  admit := Lru.admit
  remove := Lru.remove
  evict := fun s n _ => some (Lru.evict s n)
  clear := Lru.clear

def residentCost {P} (s : State P) : Nat := (s.map.map (·.2.cost)).sum

/-- `residentCost` is the `costSum` of the accounting lemmas -/
theorem residentCost_eq {P} (s : State P) : residentCost s = costSum s := rfl

variable {P : Type}

/-- C13 (accounting), every call but `run_maintenance`: if the keys of the map are distinct and
    `current_cost` equals the resident cost sum modulo 2^64, the same holds after the call.  No
    hypothesis on the policy: inserts (also overwriting with a different cost), multi ops, remove,
    clear, the entry API, compute, `fetch_with`, restore, iteration, snapshots, the opportunistic
    maintenance of a synchronous insert and the flush of the introspection calls (admission-driven
    evictions subtract exactly the cost of the entries they removed). -/
theorem C13_accounting_step (cfg : Cfg) (ops : PolicyOps P) (p0 : P) (o : Oracle) (s : State P) (op : Op)
    (hop : op ≠ .runMaintenance) (hwf : WF s) (hacc : Acc s) :
    let r := stepOp cfg ops p0 o s op
    WF r.1 ∧ Acc r.1 := by
  obtain ⟨hw, ha⟩ := stepOp_pres (H := True) cfg ops p0 o s op (fun _ h => absurd h hop) hwf
  exact ⟨hw, ha trivial hacc⟩

/-- C13 (accounting) for `run_maintenance`, PARTIAL: the same conclusion under the explicit
    hypothesis that every capacity pass is honest — the amount the policy reports as released
    equals (mod 2^64) the cost of the entries the pass really removes (`CapHonest`).  This is the
    clause F8c breaks: `cleanup_capacity_for_shard` subtracts what the POLICY reports for its
    victims whether or not they were resident (ghost keys, stale costs) — see `C13_fails_F8c`.
    The drain (`perform_shard_maintenance`) and the TTL / TTI cleanups need no hypothesis. -/
theorem C13_accounting_partial (cfg : Cfg) (ops : PolicyOps P) (p0 : P) (o : Oracle) (s : State P)
    (hhonest : ∀ (s1 : State P) (i : Nat), WF s1 → CapHonest cfg ops o s1 i) (hwf : WF s) (hacc : Acc s) :
    let r := stepOp cfg ops p0 o s .runMaintenance
    WF r.1 ∧ Acc r.1 := by
  obtain ⟨hw, ha⟩ := stepOp_pres (H := True) cfg ops p0 o s .runMaintenance (fun _ _ => hhonest) hwf
  exact ⟨hw, ha trivial hacc⟩

/-- whole histories: the invariant holds after any history in which every capacity pass is honest -/
theorem C13_accounting_run_partial (cfg : Cfg) (ops : PolicyOps P) (p0 : P)
    (hhonest : ∀ (o : Oracle) (s1 : State P) (i : Nat), WF s1 → CapHonest cfg ops o s1 i) :
    ∀ (h : List (Op × Oracle)) (s : State P), WF s → Acc s →
      WF (run cfg ops p0 s h).1 ∧ Acc (run cfg ops p0 s h).1 := by
  intro h s hw ha
  refine (run_inv cfg ops (fun s (_ : Unit) => WF s ∧ Fv.Cache.Acc s) p0 h (fun s _ op o _ hs => ⟨(), ?_⟩) s () ⟨hw, ha⟩).elim
    (fun _ h => h)
  by_cases hop : op = .runMaintenance
  · subst hop; exact C13_accounting_partial cfg ops p0 o s (hhonest o) hs.1 hs.2
  · exact C13_accounting_step cfg ops p0 o s op hop hs.1 hs.2

/-- with exact accounting and no u64 wrap, `current_cost ≤ capacity` IS the capacity bound on
    the resident entries -/
theorem capacity_bridge (cfg : Cfg) (s : State P) (ha : Acc s) (hlt : costSum s < U64)
    (hc : s.met.currentCost ≤ cfg.capacity) : costSum s ≤ cfg.capacity := by
  unfold Fv.Cache.Acc at ha
  rw [Nat.mod_eq_of_lt hlt] at ha
  omega

/-- C13 (capacity), PARTIAL: one `cleanup_capacity_for_shard` pass started with exact accounting
    brings the cache back under its capacity PROVIDED the pass is honest (`CapHonest`, broken by
    F8c) and the policy released at least the overage without underflow.  "The policy can release
    the overage" needs every resident key to be tracked by the policy with its exact cost; the
    real code breaks that in four ways: F8a (only 16 write events are drained per shard and call),
    F8b (the write-event buffer drops events when it holds 512), F9 (C14: ARC stops tracking a
    resident key, TinyLFU never nominates the keys in its window, FIFO / Clock / SLRU keep a stale
    cost) and F11 (entries restored from a snapshot are unknown to the policy) — `C13_fails_F8a`,
    `C13_fails_F8b`, `Fv.Props.C17.C17_fails_F11`. -/
theorem capacity_pass_enforces_partial (cfg : Cfg) (ops : PolicyOps P) (o : Oracle) (s : State P) (i : Nat)
    (hw : WF s) (ha : Acc s) (hlt : costSum s < U64) (hh : CapHonest cfg ops o s i)
    (hrel : s.met.currentCost - cfg.capacity ≤
      (s.polEvict ops i (s.met.currentCost - cfg.capacity) (o.evictHint.getD i [])).2.2)
    (hno : (s.polEvict ops i (s.met.currentCost - cfg.capacity) (o.evictHint.getD i [])).2.2 ≤ s.met.currentCost) :
    (s.cleanupCapacity cfg ops o i).met.currentCost ≤ cfg.capacity ∧
      costSum (s.cleanupCapacity cfg ops o i) ≤ cfg.capacity := by
  have hinv := (cleanupCapacity_pres cfg ops o s i hw).2 hh ha
  have hle := cleanupCapacity_costSum_le cfg ops o s i
  have hcc : (s.cleanupCapacity cfg ops o i).met.currentCost ≤ cfg.capacity := by
    have hccs : s.met.currentCost = costSum s := by
      unfold Fv.Cache.Acc at ha; rw [Nat.mod_eq_of_lt hlt] at ha; exact ha
    unfold CapHonest at hh
    rcases cleanupCapacity_cases cfg ops o s i with ⟨h, he⟩ | ⟨s1, victims, released, _, hp, hq, _, he⟩
    · rw [he]; exact h
    · rw [hp] at hh hrel hno
      dsimp only at hh hrel hno
      rcases he with ⟨hv, _⟩ | ⟨_, m, hm, he⟩
      · -- no victim although over capacity: an honest policy then reports nothing released
        subst hv
        exfalso
        unfold capRemovedCost at hh
        simp only [List.foldl_nil, Nat.sub_self] at hh
        unfold U64 at hh hlt
        omega
      · rw [he]
        show m.currentCost ≤ cfg.capacity
        rw [hm, (capRemoves_spec cfg i victims s1).2, hq.cost]
        unfold subW U64
        unfold U64 at hlt
        omega
  exact ⟨hcc, capacity_bridge cfg _ hinv (Nat.lt_of_le_of_lt hle hlt) hcc⟩

def cfgLru5 : Cfg := { capacity := 5, trackReads := true }

/-- the empty oracle (no hints: the model falls back to map order) -/
def o0 : Oracle := {}

/-- a fresh cache satisfies the hypotheses of the accounting theorems -/
theorem fresh_wf_acc (cfg : Cfg) (p0 : P) (now : Nat) : WF (State.fresh cfg p0 now) ∧ Acc (State.fresh cfg p0 now) :=
  ⟨fresh_wf cfg p0 now, rfl⟩

example : (WF (State.fresh cfgLru5 Lru.init 0) ∧ Acc (State.fresh cfgLru5 Lru.init 0)) ∧
    (Op.insert false 1 101 3) ≠ .runMaintenance := ⟨fresh_wf_acc _ _ _, by decide⟩

/-- the theorem applied to a state with content: overwrite with a different cost -/
example : let s := (run cfgLru5 lruOps Lru.init (State.fresh cfgLru5 Lru.init 0)
      [(.insert false 1 101 3, {}), (.insert false 1 102 2, {}), (.insert false 2 103 1, {})]).1
    s.met.currentCost = 3 ∧ residentCost s = 3 := by decide

/-- the null policy (unbounded cache) makes every capacity pass honest: the hypothesis of
    `C13_accounting_partial` is satisfiable -/
theorem nullOps_honest (cfg : Cfg) (o : Oracle) (s1 : State Unit) (i : Nat) : CapHonest cfg nullOps o s1 i := by
  unfold CapHonest State.polEvict
  cases s1.aux[i]? <;> simp [nullOps, capRemovedCost]

example (cfg : Cfg) (o : Oracle) : ∀ (s1 : State Unit) (i : Nat), WF s1 → CapHonest cfg nullOps o s1 i :=
  fun s1 i _ => nullOps_honest cfg o s1 i

/-- a state that satisfies every hypothesis of `capacity_pass_enforces_partial`: two resident
    entries of cost 3, both known to the LRU policy with their exact cost (the write events have been
    drained), capacity 5 -/
def capDemo : State Lru.State :=
  ((run cfgLru5 lruOps Lru.init (State.fresh cfgLru5 Lru.init 0)
    [(.insert false 2 102 3, {}), (.insert false 3 103 3, {})]).1).performShard cfgLru5 lruOps o0 0 16

example : WF capDemo ∧ Fv.Cache.Acc capDemo ∧ costSum capDemo < U64 ∧ CapHonest cfgLru5 lruOps o0 capDemo 0 ∧
    capDemo.met.currentCost - cfgLru5.capacity ≤
      (capDemo.polEvict lruOps 0 (capDemo.met.currentCost - cfgLru5.capacity) (o0.evictHint.getD 0 [])).2.2 ∧
    (capDemo.polEvict lruOps 0 (capDemo.met.currentCost - cfgLru5.capacity) (o0.evictHint.getD 0 [])).2.2 ≤
      capDemo.met.currentCost := by
  refine ⟨⟨by decide, fun sn h => ?_⟩, by unfold Fv.Cache.Acc; decide, by decide, by unfold CapHonest; decide, by decide, by decide⟩
  have : capDemo.snap = none := by decide
  rw [this] at h; cases h

/-- … and the pass does bring it back under the capacity -/
example : (capDemo.cleanupCapacity cfgLru5 lruOps o0 0).met.currentCost = 3 ∧
    residentCost (capDemo.cleanupCapacity cfgLru5 lruOps o0 0) = 3 := by decide

/-- the `WF` half of the invariant is preserved by EVERY call, `run_maintenance` included,
    whatever the policy reports and whether or not the accounting is exact (F8c does not break it) -/
theorem C13_WF_step (cfg : Cfg) (ops : PolicyOps P) (p0 : P) (o : Oracle) (s : State P) (op : Op) (hwf : WF s) :
    WF (stepOp cfg ops p0 o s op).1 := Fv.Cache.WF_step cfg ops p0 o s op hwf

/-- the keys of the map (and of the stored snapshot) are distinct after ANY history of a fresh cache -/
theorem C13_WF_run (cfg : Cfg) (ops : PolicyOps P) (p0 : P) (t0 : Nat) (hist : List (Op × Oracle)) :
    WF (run cfg ops p0 (State.fresh cfg p0 t0) hist).1 := Fv.Cache.WF_run cfg ops p0 t0 hist

/-- every reachable state (the state after some history, hence after every prefix) is well-formed -/
theorem C13_WF_reachable (cfg : Cfg) (ops : PolicyOps P) (p0 : P) (t0 : Nat) (s : State P)
    (h : Reachable cfg ops p0 t0 s) : WF s := Fv.Cache.WF_reachable h

-- non-vacuity: the F8c run (inexact accounting) is reachable, hence well-formed
example : Reachable cfgLru5 lruOps Lru.init 0
    (run cfgLru5 lruOps Lru.init (State.fresh cfgLru5 Lru.init 0)
      [(.insert false 1 101 3, {}), (.remove 1, {}), (.runMaintenance, {})]).1 := ⟨_, rfl⟩

/-- F8c (ghost victim): insert k, remove k, maintenance admits the removed key into the policy;
    two more inserts put the cache over capacity; the capacity pass "evicts" the ghost key and
    subtracts its cost although nothing left the map. -/
def f8cRun : State Lru.State × List Ret :=
  run cfgLru5 lruOps Lru.init (State.fresh cfgLru5 Lru.init 0)
    [(.insert false 1 101 3, {}), (.remove 1, {}), (.runMaintenance, {}),
     (.insert false 2 102 3, {}), (.insert false 3 103 3, {}), (.runMaintenance, {})]

theorem C13_fails_F8c : f8cRun.1.met.currentCost = 3 ∧ residentCost f8cRun.1 = 6 ∧ cfgLru5.capacity = 5 := by decide

/-- F8a: 22 unit-cost inserts of distinct keys (no opportunistic maintenance), then ONE
    `run_maintenance` with the real drain limit 16: the policy learns 16 keys, the capacity pass
    evicts all 16, six entries stay resident in a cache of capacity 5 — and the accounting is
    exact, so this is purely a capacity violation. -/
def f8aRun : State Lru.State × List Ret :=
  run cfgLru5 lruOps Lru.init (State.fresh cfgLru5 Lru.init 0)
    ((List.range 22).map (fun k => (Op.insert false k (100 + k) 1, o0)) ++ [(Op.runMaintenance, o0)])

theorem C13_fails_F8a :
    residentCost f8aRun.1 = 6 ∧ f8aRun.1.met.currentCost = 6 ∧ cfgLru5.capacity = 5 ∧
      cfgLru5.drainLimit = 16 ∧ cfgLru5.mcAlways = false := by decide

/-- F8b, the general fact (any `eventCap`, in particular the real 512): `try_send` on a full
    write-event buffer changes nothing — the event is dropped, so the entry `insertCore` has just
    put into the map stays resident and no policy will ever be told about it. -/
theorem C13_F8b_pushEvent_full_drops (cfg : Cfg) (s : State P) (k c : Nat) (a : Aux P)
    (ha : s.aux[cfg.shardOf k]? = some a) (hfull : cfg.eventCap ≤ a.events.length) :
    (s.pushEvent cfg k c).aux = s.aux ∧ (s.pushEvent cfg k c).map = s.map :=
  ⟨pushEvent_full cfg s k c a ha hfull, rfl⟩

/-- F8b is stated on a scaled-down configuration (kernel evaluation of 530 inserts is too slow):
    buffer of 8 events, 4 drained per call, capacity 2 — the code path is the same for 512 / 16 -/
def cfgF8b : Cfg := { capacity := 2, trackReads := true, eventCap := 8, drainLimit := 4 }

/-- 12 unit-cost inserts without maintenance (the buffer keeps 8 events and drops 4), then `n`
    `run_maintenance` calls -/
def f8bRun (n : Nat) : State Lru.State × List Ret :=
  run cfgF8b lruOps Lru.init (State.fresh cfgF8b Lru.init 0)
    ((Op.multiInsert ((List.range 12).map (fun k => (k, 100 + k, 1))), o0) :: List.replicate n (Op.runMaintenance, o0))

/-- F8b: after the buffer overflowed, two `run_maintenance` calls drain it completely and evict
    every key the policy knows; the four entries whose events were dropped stay resident in a cache
    of capacity 2, and further `run_maintenance` calls change nothing (`current_cost` is exact: 4). -/
theorem C13_fails_F8b :
    (f8bRun 0).1.aux.map (·.events.length) = [8] ∧ residentCost (f8bRun 0).1 = 12 ∧
    (f8bRun 2).1.aux.map (·.events.length) = [0] ∧ residentCost (f8bRun 2).1 = 4 ∧
    residentCost (f8bRun 4).1 = 4 ∧ (f8bRun 4).1.met.currentCost = 4 ∧
    (f8bRun 4).1.map = (f8bRun 2).1.map ∧ cfgF8b.capacity = 2 := by decide

/-- the hypotheses of `C13_F8b_pushEvent_full_drops` hold in that run -/
example : ∃ a, (f8bRun 0).1.aux[cfgF8b.shardOf 12]? = some a ∧ cfgF8b.eventCap ≤ a.events.length := by
  refine ⟨_, rfl, ?_⟩; decide

end Fv.Props.C13
