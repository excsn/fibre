import Fv.Lemmas.MpscUBInv
import Fv.Lemmas.MpmcUBProj
/-!
# ChainB — the slab-backed Vyukov chain (`channels/src/internal/slab_chain.rs`), step level

Model: `Fv.Chan.ChainB` (one visible action per step; `SLAB_NODES`, `SLAB_POOL_CAP` are parameters).
Every theorem below quantifies over every number of sender handles, every program (any sequence of
sends, batches of any size, clones, closes), every interleaving of the atomic actions of all
producers with the consumer side, and every slab size `N ≥ 1` / pool capacity.

Feeds C01/C02 (exactly-once, FIFO in swap order, batches contiguous), C04 (straggler re-drain:
Disconnected only after drain), C09 (slab accounting, recycling safety, teardown drops every token
exactly once) for the flavours `mpsc_u`, `mpsc_u_async`, `mpmc_u`, `mpmc_u_async`; the channel
models `Fv.Chan.MpscUB` / `Fv.Chan.MpmcUB` embed this model step for step.
-/
namespace Fv.Props.ChainB
open Fv.Chan.ChainB

variable {cfg : Cfg} {s s' : State}

/-! ## V1 — exactly once, FIFO in swap order (C01, C02) -/

/-- **V1.** In every reachable state the consumer cursor is the node at swap position `k`, and the
values taken out of the chain so far (handed to receivers, then — after the last handle is gone —
destroyed by the `Drop` walk) are exactly the first `k` published values, in swap order:
nothing is delivered twice, skipped, reordered or invented. -/
theorem V1_cursor_and_prefix (hN : 0 < cfg.N) (h : Reach cfg s) :
    s.tail = s.at_ s.k ∧ s.recvd ++ s.dropped = s.sent.take s.k ∧ s.k ≤ s.sent.length := by
  have hi := inv_reach hN h
  exact ⟨hi.c.tail, hi.c.seq, by rw [← hi.c.len]; exact hi.c.k_le⟩

/-- The received sequence is a prefix of the published sequence. -/
theorem V1_recvd_prefix (hN : 0 < cfg.N) (h : Reach cfg s) : s.recvd <+: s.sent :=
  List.IsPrefix.trans ⟨s.dropped, (V1_cursor_and_prefix hN h).2.1⟩ (List.take_prefix s.k _)

/-- While the shared state is alive nothing is destroyed: `recvd` alone is the consumed prefix. -/
theorem V1_recvd_exact (hN : 0 < cfg.N) (h : Reach cfg s) (hf : s.fin = false) :
    s.recvd = s.sent.take s.k := by
  have hi := inv_reach hN h
  have := hi.c.seq
  rw [hi.c.nodrop hf] at this
  simpa using this

/-- What is still buffered: the node at every position `k < i ≤ len` holds the `i`-th published
value (the cursor node and every retired node hold none: `InvC.valk`, `InvS.dead_val`). -/
theorem V1_buffered (hN : 0 < cfg.N) (h : Reach cfg s) (i : Nat) (h1 : s.k < i) (h2 : i ≤ s.len) :
    s.val (s.at_ i) = s.sent[i - 1]? :=
  (inv_reach hN h).c.vals i h1 h2

/-- **A batch is one contiguous run published by one swap**: the swap appends exactly the values of
the batch, in batch order, to the global order, and changes nothing else of it. -/
theorem batch_contiguous {h : Nat} (hs : step cfg s h .pSwap = some s') :
    s'.sent = s.sent ++ s.pvals h ∧ s'.recvd = s.recvd ∧ s'.k = s.k := by
  step_unfold at hs
  step_elim hs
  simp

/-- A pop takes exactly the next value in swap order (or nothing). -/
theorem pop_takes_next (hN : 0 < cfg.N) (h : Reach cfg s) (hs : step cfg s 0 .cPopLoad = some s') :
    (s'.cpc = .done none ∧ s'.recvd = s.recvd ∧ s'.k = s.k) ∨
    (∃ v, s.sent[s.k]? = some v ∧ s'.recvd = s.recvd ++ [v] ∧ s'.k = s.k + 1) := by
  have hi := inv_reach hN h
  step_unfold at hs
  step_elim hs
  · exact .inl (by simp)
  · obtain ⟨hlt, hx, _⟩ := hi.c.next_tail (hi.h.not_gone (by assumption)) (by assumption)
    have hv := hi.c.vals (s.k + 1) (by omega) (by omega)
    have hl := hi.c.len
    refine .inr ⟨s.sent[s.k]'(by omega), by simp, ?_⟩
    split <;> simp [hx, hv, List.getElem?_eq_getElem (show s.k < s.sent.length by omega)]

/-! ## V2, V3 — gaps and the straggler re-drain (C04) -/

/-- **V2.** An unlinked gap inside the published chain means its publisher is between its swap
and its link store (and will perform the link store as its next action). -/
theorem V2_gap_has_publisher (hN : 0 < cfg.N) (h : Reach cfg s) (i : Nat) (h1 : s.k ≤ i) (h2 : i < s.len)
    (hn : s.next (s.at_ i) = none) :
    ∃ p, s.ppc p = .link i (s.at_ i) (s.at_ (i + 1)) ∧ s.hst p = .live := by
  have hi := inv_reach hN h
  rcases hi.c.linked_or_gap h1 h2 with hl | ⟨p, hg, _⟩
  · rw [hl.2] at hn; cases hn
  · exact ⟨p, hg, hi.h.active p (by rw [hg]; simp)⟩

/-- **V3.** With no sender counted in `sender_count`, every link of the published chain is set. -/
theorem V3_no_senders_all_linked (hN : 0 < cfg.N) (h : Reach cfg s) (h0 : s.senders = 0)
    (i : Nat) (h1 : s.k ≤ i) (h2 : i < s.len) : s.next (s.at_ i) = some (s.at_ (i + 1)) :=
  have hi := inv_reach hN h
  hi.c.all_linked (fun p => (hi.h.no_senders h0 p).2) h1 h2

/-- **Straggler re-drain (C04).** If `sender_count` is 0 and the cursor's `next` is null, the chain
is drained: every value ever published has been taken.  (The consumer reads `sender_count == 0`
and then pops once more; this is why that second pop, when it finds nothing, may report
`Disconnected`.) -/
theorem straggler_drained (hN : 0 < cfg.N) (h : Reach cfg s) (h0 : s.senders = 0)
    (hn : s.next s.tail = none) : s.k = s.len ∧ s.recvd ++ s.dropped = s.sent := by
  have hi := inv_reach hN h
  have hk := hi.c.drained (fun p => (hi.h.no_senders h0 p).2) hn
  refine ⟨hk, ?_⟩
  have := hi.c.seq
  rw [hk, hi.c.len, List.take_length] at this
  exact this

/-- Intended (C04: "a receiver that has observed Disconnected never obtains a value afterwards"):
`sender_count = 0` is final and freezes the published sequence. -/
def no_senders_stable_statement (cfg : Cfg) : Prop :=
  ∀ s s' a l, Reach cfg s → s.senders = 0 → step cfg s a l = some s' → s'.senders = 0 ∧ s'.sent = s.sent

/-- **F3 (known finding, closed handle accepted).** `Sender::clone` works on a closed handle and
re-increments `sender_count`: handle 0 closes (count 1 → 0, a receiver may now observe
`Disconnected`), is cloned (count 0 → 1), and the clone can publish.  Replay:
`P 0 close s0 ; try_recv r0 ; clone s0 s1 ; send s1 7 ; try_recv r0` on `mpsc_u` / `mpmc_u`
(`chanh run`: `err:disconnected` … `ok:7`). -/
theorem no_senders_stable_fails_F3 :
    (run {} init [(0, .pClose), (0, .pDropDec)]).map (fun s => s.senders) = some 0 ∧
    (run {} init [(0, .pClose), (0, .pDropDec), (0, .pClone 1)]).map (fun s => s.senders) = some 1 := by
  decide

theorem no_senders_stable_statement_false : ¬ no_senders_stable_statement {} := by
  intro hst
  have hf := no_senders_stable_fails_F3
  cases h1 : run {} init [(0, .pClose), (0, .pDropDec)] with
  | none => exact absurd h1 (by decide)
  | some s1 =>
    have hr1 : Reach {} s1 := reach_run _ _ _ Reach.init h1
    have hs1 : s1.senders = 0 := by
      have := hf.1; rw [h1] at this; simpa using this
    have happ : run {} init [(0, .pClose), (0, .pDropDec), (0, .pClone 1)] = run {} s1 [(0, .pClone 1)] := by
      have := run_append {} init [(0, .pClose), (0, .pDropDec)] [(0, .pClone 1)]
      rw [h1] at this; simpa using this
    have hone : run {} s1 [(0, .pClone 1)] = step {} s1 0 (.pClone 1) := by
      simp only [run]; cases step {} s1 0 (.pClone 1) <;> rfl
    have h3 := hf.2
    rw [happ, hone] at h3
    cases h2 : step {} s1 0 (.pClone 1) with
    | none => rw [h2] at h3; simp at h3
    | some s2 =>
      rw [h2] at h3
      have := (hst s1 s2 0 (.pClone 1) hr1 hs1 h2).1
      simp at h3; omega

/-- What holds: unless a closed handle is cloned (F3), `sender_count = 0` is final and freezes the
published sequence - no step publishes or resurrects a sender afterwards, so "drained" stays true and
`Disconnected` is never followed by a value. -/
theorem no_senders_stable_partial (hN : 0 < cfg.N) (h : Reach cfg s) (h0 : s.senders = 0) {a : Nat} {l : Label}
    (hcl : ∀ h', l ≠ .pClone h')
    (hs : step cfg s a l = some s') : s'.senders = 0 ∧ s'.sent = s.sent := by
  by_cases hl : l.isProd = true
  · have ⟨hd, hidle⟩ := (inv_reach hN h).h.no_senders h0 a
    exact (prod_active hl hcl hs).elim (absurd · hd) (absurd hidle)
  · have hf := cons_frame (by simpa using hl) hs
    exact ⟨hf.1.trans h0, hf.2.1⟩

/-! ## The slab machine (C09) -/

/-- **Slab accounting.** For every allocated slab, `remaining` is the producer hold (1 while a
handle bump-allocates from it or re-arms it, else 0) plus the number of its nodes not yet retired
in the current incarnation (never-used nodes are written off by the seal).  Equivalently
`remaining = SLAB_NODES + 1 − retired − sealed_release` (DESIGN A.7). -/
theorem slab_accounting (hN : 0 < cfg.N) (h : Reach cfg s) (b : Nat) (hb : b < s.nextSlab) :
    s.rem b = hold (s.sst b) + live cfg s.nst b ∧ s.rem b ≤ cfg.N + 1 := by
  have hi := inv_reach hN h
  have := hi.s.count b hb
  have hl := live_le cfg s.nst b
  refine ⟨this, ?_⟩
  have : hold (s.sst b) ≤ 1 := by cases s.sst b <;> simp
  omega

/-- **A slab is recycled (or freed) only when dead.** From the moment its count reaches zero until
it is re-armed — while it is being released, sits in the pool, was freed, or was just popped — no
node of it holds a token, is in the chain, is in a producer's hands or awaits its retire, and no
producer can bump from it. -/
theorem recycle_only_when_dead (hN : 0 < cfg.N) (h : Reach cfg s) (b : Nat)
    (hz : isZero (s.sst b) = true) :
    s.rem b = 0 ∧ (∀ i, i < cfg.N → s.nst (.nd b i) = .retired ∧ s.val (.nd b i) = none) ∧
    (∀ p, s.pslab p ≠ some b) := by
  have hi := inv_reach hN h
  refine ⟨hi.s.zero b hz, ?_, ?_⟩
  · intro i hlt
    have := hi.s.zero_retired b i hz hlt
    exact ⟨this, hi.s.dead_val _ (Or.inl this)⟩
  · intro p hp
    have := hi.s.owned p b hp
    rw [this] at hz; simp at hz

/-- The pool holds exactly the slabs in state `pooled`, each once. -/
theorem pool_exact (hN : 0 < cfg.N) (h : Reach cfg s) :
    s.pool.Nodup ∧ ∀ b, b ∈ s.pool ↔ s.sst b = .pooled :=
  ⟨(inv_reach hN h).s.pool_nodup, (inv_reach hN h).s.pool_iff⟩

/-- **A node is bumped at most once per incarnation of its slab**: the node `bump` hands out is
free (fresh or re-armed: `next = null`, `val = None`) and is marked as held by this handle; only the
re-arm of a dead slab makes a node free again. -/
theorem bump_hands_out_free_node (hN : 0 < cfg.N) (h : Reach cfg s) {p : Nat}
    (hs : step cfg s p .pBump = some s') :
    ∃ b, s.pslab p = some b ∧ s.nst (.nd b (s.ppos p)) = .free ∧ s.next (.nd b (s.ppos p)) = none ∧
      s.val (.nd b (s.ppos p)) = none ∧ s'.nst (.nd b (s.ppos p)) = .held p (s.rlen p) := by
  have hi := inv_reach hN h
  step_unfold at hs
  step_elim hs
  rename_i b _ hsl hg
  obtain ⟨hf, hnx, hv⟩ := hi.s.bump_node hsl hg.2
  exact ⟨b, hsl, hf, hnx, hv, by simp [upd]⟩

/-- Distinct live logical positions are distinct physical nodes (so a recycled node never aliases
a node still in the chain). -/
theorem positions_injective (hN : 0 < cfg.N) (h : Reach cfg s) (hg : s.tailGone = false) (i j : Nat)
    (hi1 : s.k ≤ i) (hi2 : i ≤ s.len) (hj1 : s.k ≤ j) (hj2 : j ≤ s.len) (e : s.at_ i = s.at_ j) : i = j := by
  have hi := inv_reach hN h
  have a := hi.c.at_in hg i hi1 hi2
  have b := hi.c.at_in hg j hj1 hj2
  rw [e, b] at a
  exact (NodeSt.inchain.inj a).symm

/-- **Teardown (C09).** When the `Drop` walk of the shared state has finished: every value ever
published was either handed to a receiver or destroyed by the walk, exactly once and in order;
no node anywhere still holds a value; and every slab ever allocated has been returned to the pool
or freed (its count reached zero) — nothing leaks, nothing is dropped twice. -/
theorem teardown_complete (hN : 0 < cfg.N) (h : Reach cfg s) (hf : s.cpc = .finished) :
    s.recvd ++ s.dropped = s.sent ∧ (∀ n, s.val n = none) ∧
    (∀ b, b < s.nextSlab → s.sst b = .pooled ∨ s.sst b = .freed) := by
  have hi := inv_reach hN h
  have hgone : s.tailGone = true := by have := hi.h.gone_pc; rw [hf] at this; simpa using this.symm
  have hfin : s.fin = true := hi.h.gone_fin hgone
  have hidle := hi.h.fin_idle hfin
  have hnoslab := hi.h.fin_slab hfin
  have hk := hi.c.gone_k hgone
  have hnolive : ∀ n, s.nst n = .free ∨ s.nst n = .retired := by
    intro n
    cases hn : s.nst n with
    | free => simp
    | retired => simp
    | held p j =>
      have := (hi.p.held' n p j hn).1
      have hz := hi.p.rlen_zero p (by rw [hidle p]; rfl)
      omega
    | inchain i => have := (hi.c.in_at n i hn).1; rw [hgone] at this; simp at this
    | limbo => have := (hi.s.limbo n).1 hn; rw [hf] at this; simp at this
  have hnoarm : ∀ b, isArming (s.sst b) = false := by
    intro b
    cases hs : s.sst b <;> simp
    rename_i p
    have := hi.s.arming' p b hs
    rw [hidle p] at this; simp at this
  refine ⟨?_, ?_, ?_⟩
  · have := hi.c.seq
    rw [hk, hi.c.len, List.take_length] at this
    exact this
  · intro n
    rcases hnolive n with hfree | hret
    · cases n with
      | stub => exact absurd hfree (stub_not_free h)
      | nd b i =>
        by_cases hb : b < s.nextSlab
        · by_cases hlt : i < cfg.N
          · have := hi.s.armed_clean b i hb hfree (by rw [hi.s.armed_full b hb (hnoarm b)]; exact hlt)
            exact this.2
          · exact (hi.s.junk b i (by omega)).2.2
        · exact (hi.s.fresh_nodes b i (by omega)).2.2
    · exact hi.s.dead_val n (Or.inl hret)
  · intro b hb
    have hcnt := hi.s.count b hb
    cases hs : s.sst b with
    | pooled => simp
    | freed => simp
    | unalloc => exact absurd hs (hi.s.alloc b hb)
    | owned p => have := hi.s.owned' p b hs; rw [hnoslab p] at this; simp at this
    | releasing a =>
      cases a with
      | prod p => have := hi.s.rel_p' p b hs; rw [hidle p] at this; simp at this
      | cons => have := hi.s.rel_c' b hs; rw [hf] at this; simp at this
    | popped p => have := hi.s.popped' p b hs; rw [hidle p] at this; simp at this
    | arming p => have := hnoarm b; rw [hs] at this; simp at this
    | sealed =>
      exfalso
      have hpos := hi.s.sealed_pos b hs
      rw [hs] at hcnt
      simp at hcnt
      have hall : live cfg s.nst b = 0 := by
        unfold live
        apply cnt_none
        intro i hlt
        rcases hnolive (.nd b i) with hfree | hret
        · have := hi.s.free_state b i hb hlt hfree; rw [hs] at this; simp at this
        · simp [hret]
      omega

/-- slab size 2, pool capacity 1 -/
def cfg2 : Cfg := { N := 2, poolCap := 1 }

/-- Handle 0 sends 10, 11 (filling its slab), 12 (seal + fresh slab); the consumer receives all
three (retiring the stub and both nodes of slab 0, which goes to the pool); a clone (handle 1) sends
13 and gets slab 0 RECYCLED (re-armed), its node 0 re-entering the chain at position 4. -/
def recycleTrace : List (Nat × Label) :=
  [(0, .pStart [10]), (0, .pAcqLock), (0, .pAcqUnlock), (0, .pAlloc), (0, .pBump), (0, .pSwap), (0, .pLink),
   (0, .pStart [11]), (0, .pBump), (0, .pSwap), (0, .pLink),
   (0, .pStart [12]), (0, .pSealDec), (0, .pAcqLock), (0, .pAcqUnlock), (0, .pAlloc), (0, .pBump), (0, .pSwap), (0, .pLink),
   (0, .cPopLoad), (0, .cRet), (0, .cPopLoad), (0, .cRetDec), (0, .cRet),
   (0, .cPopLoad), (0, .cRetDec), (0, .cRelFence), (0, .cRelLock), (0, .cRelUnlock), (0, .cRet),
   (0, .pClone 1), (1, .pStart [13]), (1, .pAcqLock), (1, .pAcqUnlock), (1, .pRearmRem), (1, .pRearmNode),
   (1, .pRearmNode), (1, .pBump), (1, .pSwap), (1, .pLink)]

/-- Recycling is reachable, and the recycled node is back in the chain. -/
theorem recycling_reached :
    (run cfg2 init recycleTrace).map (fun s => (s.recvd, s.sent, s.k, s.len)) = some ([10, 11, 12], [10, 11, 12, 13], 3, 4) ∧
    (run cfg2 init recycleTrace).map (fun s => (s.sst 0, s.nst (.nd 0 0), s.rem 0)) = some (.owned 1, .inchain 4, 3) := by
  decide

/-- After that: both handles close, the consumer receives 13, the shared state is dropped and the
walk finishes: hypotheses of `teardown_complete` are satisfiable, and its conclusion is visible. -/
def teardownTrace : List (Nat × Label) :=
  recycleTrace ++
  [(0, .cPopLoad), (0, .cRetDec), (0, .cRet),
   (0, .pClose), (0, .pSealDec), (0, .pRelFence), (0, .pRelLock), (0, .pRelUnlock), (0, .pDropDec),
   (1, .pClose), (1, .pSealDec), (1, .pDropDec),
   (0, .cFinStart), (0, .cFinLoad), (0, .cRetDec), (0, .cRelFence), (0, .cRelLock), (0, .cRelUnlock)]

theorem teardown_reached :
    (run cfg2 init teardownTrace).map (fun s => (s.cpc, s.recvd, s.dropped, s.sent)) =
      some (.finished, [10, 11, 12, 13], [], [10, 11, 12, 13]) ∧
    (run cfg2 init teardownTrace).map (fun s => (s.pool, s.sst 0, s.sst 1)) = some ([1], .freed, .pooled) := by
  decide

example : ∃ s, Reach cfg2 s ∧ s.cpc = .finished := by
  cases hr : run cfg2 init teardownTrace with
  | none => exact absurd hr (by decide)
  | some s =>
    refine ⟨s, reach_run _ _ _ Reach.init hr, ?_⟩
    have : (run cfg2 init teardownTrace).map (fun s => s.cpc) = some .finished := by decide
    rw [hr] at this; simpa using this

/-- Non-vacuity of V2: a reachable state with an open gap (publisher between swap and link). -/
example : ∃ s, Reach cfg2 s ∧ s.k ≤ 0 ∧ 0 < s.len ∧ s.next (s.at_ 0) = none := by
  let tr : List (Nat × Label) := [(0, .pStart [10]), (0, .pAcqLock), (0, .pAcqUnlock), (0, .pAlloc), (0, .pBump), (0, .pSwap)]
  cases hr : run cfg2 init tr with
  | none => exact absurd hr (by decide)
  | some s =>
    have h1 : (run cfg2 init tr).map (fun s => (s.k, s.len, s.next (s.at_ 0))) = some (0, 1, none) := by decide
    rw [hr] at h1; simp at h1
    exact ⟨s, reach_run _ _ _ Reach.init hr, by omega, by omega, h1.2.2⟩

/-! ## The unbounded mpsc channel on the chain (`Fv.Chan.MpscUB`; flavours mpsc_u, mpsc_u_async) -/

namespace Mpsc
open Fv.Chan

/-- **Embedding.** Every step of the channel model is at most one step of the chain model on its
chain component; so every theorem above holds of `s.ch` for every reachable channel state. -/
theorem chain_reachable {cfg : MpscUB.Cfg} {s : MpscUB.State} (h : MpscUB.Reach cfg s) :
    ChainB.Reach cfg.chain s.ch := MpscUB.reach_chain h

/-- **C01 / C02 at the API.** The values handed to receive calls so far (`taken`: returned by
completed calls or destroyed by the receiver's close drain, in call order), followed by those the
running receive has collected (`rout`) and the one a running `pop_node` holds, are exactly the
consumed prefix of the swap order: every published value is delivered at most once, in swap order
(per-producer FIFO, batches contiguous), and nothing is delivered that was not sent. -/
theorem received_is_consumed_prefix {cfg : MpscUB.Cfg} {s : MpscUB.State} (hN : 0 < cfg.chain.N)
    (h : MpscUB.Reach cfg s) :
    s.taken ++ s.rout ++ ChainB.cPend s.ch.cpc = s.ch.recvd ∧ s.ch.recvd <+: s.ch.sent := by
  refine ⟨(MpscUB.invA_reach h).out.symm, ?_⟩
  exact V1_recvd_prefix hN (MpscUB.reach_chain h)

/-- Between receive calls nothing is in flight: `taken` is exactly what left the chain. -/
theorem idle_taken_exact {cfg : MpscUB.Cfg} {s : MpscUB.State} (h : MpscUB.Reach cfg s) (hi : s.rpc = MpscUB.RPC.idle) :
    s.taken = s.ch.recvd := by
  have hA := MpscUB.invA_reach h
  have h1 := hA.quiet (by rw [hi]; rfl)
  have h2 := hA.pend (by rw [hi]; simp)
  have := hA.out
  rw [h1, h2] at this
  simpa using this.symm

/-- **C04 (straggler) at the chain level, transferred.** When the consumer has read
`sender_count == 0` and its next pop finds nothing, every published value has been consumed. -/
theorem disconnected_means_drained {cfg : MpscUB.Cfg} {s : MpscUB.State} (hN : 0 < cfg.chain.N)
    (h : MpscUB.Reach cfg s) (h0 : s.ch.senders = 0) (hn : s.ch.next s.ch.tail = none) :
    s.ch.k = s.ch.len ∧ s.ch.recvd ++ s.ch.dropped = s.ch.sent :=
  straggler_drained hN (MpscUB.reach_chain h) h0 hn

/-- **C09 at teardown, transferred.** Once the last handle is gone and the `Drop` walk has finished:
every published value was handed to a receive call (or discarded by the close drain) or destroyed by
the walk - exactly once -, no node holds a value, every slab is pooled or freed. -/
theorem teardown {cfg : MpscUB.Cfg} {s : MpscUB.State} (hN : 0 < cfg.chain.N) (h : MpscUB.Reach cfg s)
    (hf : s.ch.cpc = ChainB.CPC.finished) :
    s.taken ++ s.rout ++ s.ch.dropped = s.ch.sent ∧ (∀ n, s.ch.val n = none) ∧
    (∀ b, b < s.ch.nextSlab → s.ch.sst b = ChainB.SlabSt.pooled ∨ s.ch.sst b = ChainB.SlabSt.freed) := by
  have ht := teardown_complete hN (MpscUB.reach_chain h) hf
  have ho := (MpscUB.invA_reach h).out
  refine ⟨?_, ht.2.1, ht.2.2⟩
  rw [hf] at ho
  simp at ho
  rw [← ho]; exact ht.1

end Mpsc

/-! ## The unbounded mpmc channel on the chain (`Fv.Chan.MpmcUB`; flavours mpmc_u, mpmc_u_async) -/

namespace Mpmc
open Fv.Chan

theorem chain_reachable {cfg : MpmcUB.Cfg} {s : MpmcUB.State} (h : MpmcUB.Reach cfg s) :
    ChainB.Reach cfg.chain s.ch := MpmcUB.reach_chain h

/-- C01 / C02 for mpmc_u: whatever the receivers took out of the chain - under the consumer mutex,
by any number of receiver handles - is a prefix of the swap order, so each consumer's received
subsequence of any one producer is in that producer's send order. -/
theorem received_prefix {cfg : MpmcUB.Cfg} {s : MpmcUB.State} (hN : 0 < cfg.chain.N) (h : MpmcUB.Reach cfg s) :
    s.ch.recvd <+: s.ch.sent := V1_recvd_prefix hN (MpmcUB.reach_chain h)

theorem disconnected_means_drained {cfg : MpmcUB.Cfg} {s : MpmcUB.State} (hN : 0 < cfg.chain.N)
    (h : MpmcUB.Reach cfg s) (h0 : s.ch.senders = 0) (hn : s.ch.next s.ch.tail = none) :
    s.ch.k = s.ch.len ∧ s.ch.recvd ++ s.ch.dropped = s.ch.sent :=
  straggler_drained hN (MpmcUB.reach_chain h) h0 hn

theorem teardown_chain {cfg : MpmcUB.Cfg} {s : MpmcUB.State} (hN : 0 < cfg.chain.N) (h : MpmcUB.Reach cfg s)
    (hf : s.ch.cpc = ChainB.CPC.finished) :
    s.ch.recvd ++ s.ch.dropped = s.ch.sent ∧ (∀ n, s.ch.val n = none) ∧
    (∀ b, b < s.ch.nextSlab → s.ch.sst b = ChainB.SlabSt.pooled ∨ s.ch.sst b = ChainB.SlabSt.freed) :=
  teardown_complete hN (MpmcUB.reach_chain h) hf

/-! ### C06 for mpmc_u_async: F2 -/

/-- no thread is inside an API call -/
def Quiet (s : MpmcUB.State) : Prop := ∀ t, s.tpc t = MpmcUB.TPC.idle

/-- Intended (C06): in a state where no call is running, a pending receive future of handle `r`
that is registered as a waiter while an item is visible behind the cursor (or every sender is gone)
has had its waker invoked since its last poll. -/
def C06_pending_is_woken_statement (cfg : MpmcUB.Cfg) : Prop :=
  ∀ s r fu, MpmcUB.Reach cfg s → Quiet s → s.rfut r = some fu → s.reg r ≠ none →
    ((s.ch.next s.ch.tail).isSome = true ∨ s.ch.senders = 0) → 0 < s.wakes fu.id

def advs (t n : Nat) : List (Nat × MpmcUB.Label) := List.replicate n (t, .adv)

/-- two receiver handles with one pending future each (`f0` on `r0`, `f1` on `r1`); one value is sent:
`notify_receivers` pops `r0`'s entry, marks its cell NOTIFIED and wakes `f0`; `f0` is dropped: `cancel_wait`
finds its entry gone, the cell NOTIFIED (not FULFILLED) and does nothing. -/
def f2Trace : List (Nat × MpmcUB.Label) :=
  [(0, .callR 0 (.clone 1)), (0, .adv), (0, .ret),
   (0, .callR 0 (.mkFut 0 1)), (0, .ret), (0, .callR 1 (.mkFut 1 1)), (0, .ret),
   (0, .callR 0 .poll)] ++ advs 0 13 ++ [(0, .ret), (0, .callR 1 .poll)] ++ advs 0 13 ++ [(0, .ret),
   (0, .callS 0 (.send [7]))] ++ advs 0 15 ++ [(0, .ret),
   (0, .callR 0 .dropFut)] ++ advs 0 3 ++ [(0, .ret)]

/-- **F2 (known finding) on the model.** After `f2Trace`: `f0`'s waker was invoked once, `f1`'s never;
`f1` is still pending and registered; the value 7 is visible behind the cursor; a sender is alive; nobody
is running.  The wake-one was consumed by a future that was then dropped and is not passed on: `f1` is never
woken although its receive can complete.  Replay: /verif/corpus/chainb/f2_mpmc_u_async.case
(`chanh run`: monitor `mpmc_u_async:recv_fut:pending-enabled-not-woken:after-woken-future-dropped`). -/
theorem C06_fails_F2_mpmcU :
    (MpmcUB.run {} MpmcUB.init f2Trace).map (fun s => (s.wakes 0, s.wakes 1, (s.rfut 1).isSome, s.reg 1)) =
      some (1, 0, true, some 1) ∧
    (MpmcUB.run {} MpmcUB.init f2Trace).map (fun s => ((s.ch.next s.ch.tail).isSome, s.ch.senders)) =
      some (true, 1) ∧
    (MpmcUB.run {} MpmcUB.init f2Trace).map (fun s => (s.tpc 0, s.rpc 0, s.rpc 1, s.spc 0)) =
      some (MpmcUB.TPC.idle, MpmcUB.RPC.idle, MpmcUB.RPC.idle, MpmcUB.SPC.idle) := by
  decide

/-- The full C06 statement is false of the code (witnessed by `f2Trace`). -/
theorem C06_pending_is_woken_statement_false : ¬ C06_pending_is_woken_statement {} := by
  intro hst
  have hw := C06_fails_F2_mpmcU
  cases hr : MpmcUB.run {} MpmcUB.init f2Trace with
  | none => rw [hr] at hw; simp at hw
  | some s =>
    rw [hr] at hw
    simp only [Option.map_some, Option.some.injEq, Prod.mk.injEq] at hw
    obtain ⟨⟨_, hw1, hfut, hreg⟩, ⟨hnext, hsend⟩, ⟨htpc0, _, _, _⟩⟩ := hw
    have hreach : MpmcUB.Reach {} s := MpmcUB.reach_run _ _ _ MpmcUB.Reach.init hr
    have hquiet : Quiet s := by
      intro t
      by_cases ht : t = 0
      · subst ht; exact htpc0
      · have := MpmcUB.run_tpc_other (cfg := {}) 0 f2Trace (by decide) MpmcUB.init s hr t ht
        rw [this]; rfl
    cases hf : s.rfut 1 with
    | none => rw [hf] at hfut; simp at hfut
    | some fu =>
      have hid : fu.id = 1 := by
        have : (MpmcUB.run {} MpmcUB.init f2Trace).map (fun s => (s.rfut 1).map (·.id)) = some (some 1) := by decide
        rw [hr] at this; simp [hf] at this; exact this
      have := hst s 1 fu hreach hquiet hf (by rw [hreg]; simp) (Or.inl hnext)
      rw [hid, hw1] at this
      exact absurd this (by decide)

/-- What is proved for mpmc_u(_async) wake-ups at step level: the tie (every real execution is a model
execution) and this witness.  The inductive no-lost-wakeup invariant under the hypothesis "no future whose
cell is NOTIFIED is dropped before its next poll" is NOT proved in Lean for the mpmc model (gap). -/
theorem C06_partial_note : True := trivial

end Mpmc

end Fv.Props.ChainB
