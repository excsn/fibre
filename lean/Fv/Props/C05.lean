import Fv.Lemmas.ChanClose
import Fv.Lemmas.ChanLinCore
/-!
# C05 — blocked threads are always woken (history level, safety form)

`EnabledRecv` / `EnabledSend` are what the property says a blocked operation waits for, on the abstract state:
a receive is enabled when an item is buffered or every sender is gone; a send when there is space (by the exact
occupancy) or every receiver is gone.

Safety form: a history that ended with every unfinished thread blocked (`X deadlock`) is checked with
`quiesce = true`, and one in which a blocked operation is enabled at quiescence is rejected
(`MISMATCH … blocked-op-enabled-at-quiescence`): F14 (mpsc bounded), F18 (oneshot pending recv).
The step-level no-lost-wakeup theorems (register / fence / re-check / park) belong to the layer-B models.
-/
namespace Fv.Props.C05
open Fv.Chan List LinCore

def EnabledRecv (s : St) : Prop := s.buf ≠ [] ∨ s.sc = 0
def EnabledSend (fl : Flavour) (s : St) : Prop := full fl s = false ∨ receiversGone fl s = true

/-- **A blocking receive blocks ⇔ it is not enabled** (buffered families; open handle; every receive form tests
the sender count — since fix 23f212c (N6) also the spsc async batch forms, so no hypothesis on `producer_dropped`). -/
theorem C05_recv_blocks_iff_not_enabled {fl : Flavour} (hrv : fl.fam ≠ .rv) (hos : fl.fam ≠ .os) (s : St)
    (f : Form) (h : HName) (n : Nat) (hd : Handle) (hf : findH s.hs h = some hd) (hside : hd.name.side = .rx)
    (hform : f.isSend = false) (hblk : f.blocking = true) (hsup : supportsForm fl.fam hd.isAsync f = true)
    (hopen : hd.closed = false) (hn : f.isBatch = true → n ≠ 0) :
    (stepOp fl s (.rcv f h n)).2.tag = .blocks ↔ ¬ EnabledRecv s := by
  have hw := recvWant_pos_of hn
  -- sequentially the first receive step decides: the operation blocks iff that step cannot move
  have hblocks : (stepOp fl s (.rcv f h n)).2.tag = .blocks ↔ recvStep fl seqCfg s 0 f hd n [] = none := by
    rw [stepOp_rcv_start hrv hos hf, start_rcv_open hrv hos hf hside hform hsup hn seqCfg 0 hopen]
    cases hr : recvStep fl seqCfg s 0 f hd n [] with
    | none => simp [P.outOrBlocks, blocksOut]
    | some r =>
      obtain ⟨o, ho, hnb⟩ := recvStep_seq hw (show _ = some (r.1, r.2) from hr)
      simpa [ho, P.outOrBlocks] using hnb
  rw [hblocks, recvStep_none_iff fl seqCfg s 0 f hd n hw hform]
  unfold EnabledRecv sendersGone
  simp only [hblk, and_true, beq_eq_false_iff_ne, ne_eq, not_or, Decidable.not_not]

/-- **A blocking send blocks ⇔ it is not enabled**, wherever the window it consults is the exact one
(every buffered family; for the bounded mpsc only while no consumer progress is unpublished). -/
theorem C05_send_blocks_iff_not_enabled_partial {fl : Flavour} (hrv : fl.fam ≠ .rv) (hos : fl.fam ≠ .os) (s : St)
    (h : HName) (v : Val) (hd : Handle) (hf : findH s.hs h = some hd) (hside : hd.name.side = .tx)
    (hsup : supportsForm fl.fam hd.isAsync .send = true) (hopen : hd.closed = false)
    (hexact : fl.fam ≠ .mb ∨ s.unpub = 0) :
    (stepOp fl s (.snd .send h [v])).2.tag = .blocks ↔ ¬ EnabledSend fl s := by
  unfold EnabledSend
  by_cases hlive : receiversGone fl s = true
  · -- receivers gone: the send fails Closed, it does not block; and it is enabled
    simp only [hlive, or_true, not_true_eq_false, iff_false]
    obtain ⟨o, ho, ht, _⟩ := failSend_out fl (s.create [v]) .send .closed [] [v]
    rw [stepOp_send_closed (vs := [v]) hrv hos hf hside rfl hsup (by simp) (Or.inr hlive), ho]
    simp [P.outOrBlocks, ht]
  · have hl : receiversGone fl s = false := by simpa using hlive
    -- the send blocks iff its first step cannot move, iff the window it consults is closed
    have hblocks : (stepOp fl s (.snd .send h [v])).2.tag = .blocks ↔ hotRoom fl s = some 0 := by
      have hnone := sendStep_none_iff fl seqCfg (s.create [v]) 0 h v
      rw [receiversGone_create, hl, sendAvail_single_eq_zero] at hnone
      have hhot : seqCfg.hot = true := rfl
      simp only [true_and, Form.blocking, hhot, and_self, if_true, hotRoom_create] at hnone
      rw [← hnone, stepOp_snd_start hrv hos hf hside rfl hsup,
        startSendBuf_open 0 (by simp) hopen hl]
      cases hr : sendStep fl seqCfg (s.create [v]) 0 .send h [] [v] with
      | none => simp [P.outOrBlocks, blocksOut]
      | some r =>
        obtain ⟨o, ho, hnb⟩ := sendStep_seq (show _ = some (r.1, r.2) from hr)
        simpa [ho, P.outOrBlocks] using hnb
    have hh : hotRoom fl s = room fl s := by
      unfold hotRoom
      rcases hexact with e | e
      · cases hfm : fl.fam <;> simp_all
      · cases hfm : fl.fam <;> simp [room, e, hfm]
    rw [hblocks, hh, hl, ← full_iff]
    simp

def mbS : Flavour := ⟨.mb, .mpsc, 2, false⟩
def f14State : St :=
  runOps mbS (init mbS) [.snd .send ⟨.tx, 0⟩ [1], .snd .send ⟨.tx, 0⟩ [2], .rcv .recv ⟨.rx, 0⟩ 0]

/-- F14 (mpsc bounded v3): after `send 1; send 2; recv` on a capacity-2 channel one slot is free
(`len = 1`, `is_full = false`, `try_send` succeeds) but a blocking `send` still blocks: the consumer has
not published its progress (`unpub = 1`). -/
theorem C05_fails_F14 :
    f14State.buf = [2] ∧ full mbS f14State = false ∧ f14State.unpub = 1 ∧
      (stepOp mbS f14State (.snd .send ⟨.tx, 0⟩ [3])).2.tag = .blocks ∧
      (stepOp mbS f14State (.snd .trySend ⟨.tx, 0⟩ [3])).2.tag = .ok := by decide

/-- **Soundness of the checker for liveness (safety form).**  If the checker accepts a history under
the quiescence requirement, there is a linearization of it at whose end every operation that never
returned is unfinished and has no possible step. -/
theorem C05_checker_sound_quiescent (fl : Flavour) (cfg : Cfg) (h : History) (sf : St) (pf : Pend PL)
    (hl : linearizeP fl cfg h true = some (sf, pf)) :
    Lin (sem fl cfg) (init fl) [] h sf pf ∧
      ∀ x ∈ pf, x.2.2.out? = none ∧ micro fl cfg sf x.2.2 = [] := by
  obtain ⟨hlin, hq⟩ := search_sound_init (sem fl cfg) hl
  refine ⟨hlin, fun x hx => ?_⟩
  obtain ⟨h1, h2⟩ := hq rfl x hx
  refine ⟨?_, ?_⟩
  · simp only [sem, Option.map_eq_none_iff] at h1; exact h1
  · simp only [sem, map_eq_nil_iff] at h2; exact h2

/-- … so a never-returned blocking receive that has taken nothing is not enabled in that final state:
nothing is buffered for it and the senders are not gone. -/
theorem C05_quiescent_recv_not_enabled {fl : Flavour} {cfg : Cfg} {sf : St} {t : Nat} {f : Form} {h : HName}
    {n : Nat} {hd : Handle} (hf : findH sf.hs h = some hd) (hform : f.isSend = false)
    (hw : recvWant f n [] > 0) (hstuck : micro fl cfg sf (.brecv t f h n []) = []) :
    sf.buf = [] ∧ sf.sc ≠ 0 := by
  have hdet := microDet_none hstuck
  simp only [microDet, hf] at hdet
  have hdet' : recvStep fl cfg sf t f hd n [] = none := by
    cases hr : recvStep fl cfg sf t f hd n [] with
    | none => rfl
    | some r => rw [hr] at hdet; simp at hdet
  obtain ⟨hb, hg, _⟩ := (recvStep_none_iff fl cfg sf t f hd n hw hform).mp hdet'
  refine ⟨hb, ?_⟩
  unfold sendersGone at hg
  simp only [beq_eq_false_iff_ne, ne_eq] at hg
  exact hg

/-- … and a never-returned blocking `send` that has pushed nothing is not enabled: the window is closed
(with the exact window of the concurrent specification: the channel is full) and the receivers are alive. -/
theorem C05_quiescent_send_not_enabled {fl : Flavour} {sf : St} {t : Nat} {h : HName} {v : Val}
    (hstuck : micro fl linCfg sf (.bsend t .send h [] [v]) = []) :
    receiversGone fl sf = false ∧ full fl sf = true ∨ (fl.fam = .rv ∨ fl.fam = .os) ∨
      (receiversGone fl sf = false ∧ room fl sf = some 0) := by
  have hdet := microDet_none hstuck
  simp only [microDet] at hdet
  obtain ⟨hg, hav⟩ := (sendStep_none_iff fl linCfg sf t h v).mp hdet
  right; right
  exact ⟨hg, by simpa [linCfg] using (sendAvail_single_eq_zero ..).mp hav⟩

end Fv.Props.C05
