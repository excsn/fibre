import Fv.Lemmas.SpscBWaitK
/-!
# Step-level theorems for the bounded SPSC channel (feeds C01, C02, C03, C05 — spsc flavour)

Model: `Fv.Chan.SpscB` — one visible action (atomic load / store / swap / cas / fetch_sub, fence,
mutex lock / unlock, park, unpark, spin) per step, two threads (`P` = sender handle, `C` = receiver
handle), programs `pp pc : List Op` over `send / try_send / recv / try_recv / recv_timeout(0) / recv_timeout(d) /
len / close / drop`, any capacity. Every theorem below quantifies over every capacity `0 < cap`, every pair of
programs and every interleaving (`Reach cap pp pc s`), including spurious park returns.

Not in the model: the batch forms, `is_closed`, the async handles.
-/
namespace Fv.Props.SpscB
open Fv.Chan.SpscB

variable {cap : Nat} {pp pc : List Op} {s : State}

/-! ## Ring safety (C01 / C02 / C03) -/

/-- **C03**: the occupancy `tail − head` never exceeds the capacity (and `head ≤ tail`). -/
theorem ring_occupancy (hcap : 0 < cap) (h : Reach cap pp pc s) : s.head ≤ s.tail ∧ s.tail - s.head ≤ s.cap ∧ s.cap ≤ s.phys :=
  have hi := reach_rinv hcap h
  ⟨hi.ht, hi.occ, hi.capPhys⟩

/-- the private index caches are always conservative: `cachedHead ≤ head ≤ cachedTail ≤ tail`. -/
theorem ring_caches (hcap : 0 < cap) (h : Reach cap pp pc s) :
    s.cachedHead ≤ s.head ∧ s.head ≤ s.cachedTail ∧ s.cachedTail ≤ s.tail :=
  have hi := reach_rinv hcap h
  ⟨hi.ch, hi.ct1, hi.ct2⟩

/-- **C01 + C02 in one equation**: everything ever published (`pushed`, in publication order) is exactly
what has been received (`popped`, in reception order), then what the final `Ring::drop` drained, then
the slots of the published window `[head, tail)`, oldest first. -/
theorem ring_sequence (hcap : 0 < cap) (h : Reach cap pp pc s) :
    s.pushed.map some = (s.popped ++ s.drained).map some ++ window s.slots s.phys s.head (s.tail - s.head) :=
  (reach_rinv hcap h).seq

/-- **received ⊑ sent, in order, each at most once; nothing is lost**: `pushed = popped ++ drained ++ buffered`
where `buffered` is the content of the `tail − head` published slots. -/
theorem received_prefix_of_sent (hcap : 0 < cap) (h : Reach cap pp pc s) :
    ∃ buffered, s.pushed = s.popped ++ s.drained ++ buffered ∧ buffered.length = s.tail - s.head ∧
      buffered.map some = window s.slots s.phys s.head (s.tail - s.head) := by
  obtain ⟨B, R, h1, hB, h2⟩ := List.map_eq_append_iff.1 (ring_sequence hcap h)
  rw [List.map_inj_right fun _ _ => Option.some.inj] at hB
  refine ⟨R, hB ▸ h1, ?_, h2⟩
  simpa [window_length] using congrArg List.length h2

/-- exactly-once: if the tokens published are pairwise distinct, no token is received twice, received and
drained, or received and still buffered. -/
theorem exactly_once (hcap : 0 < cap) (h : Reach cap pp pc s) (hd : s.pushed.Nodup) :
    ∃ buffered, (s.popped ++ s.drained ++ buffered).Nodup ∧ s.pushed = s.popped ++ s.drained ++ buffered := by
  obtain ⟨R, h1, _, _⟩ := received_prefix_of_sent hcap h
  exact ⟨R, h1 ▸ hd, h1⟩

/-- the key arithmetic fact of the masked ring, for an arbitrary modulus. -/
theorem ring_index_injective {a b m : Nat} (h1 : a < b) (h2 : b - a < m) : a % m ≠ b % m := mod_ne_of_lt h1 h2

/-- **nothing is overwritten before it is read**: the slot a producer has just written (and not yet
published) is none of the slots of the published window. -/
theorem write_outside_window (hcap : 0 < cap) (h : Reach cap pp pc s) {r : Role} (hm : (s.loc r).m = .pushStTail) :
    ∀ k, k < s.tail - s.head → (s.head + k) % s.phys ≠ s.tail % s.phys := by
  have hi := reach_rinv hcap h
  obtain ⟨_, hlt, _⟩ := (hi.th r).2.1 hm
  intro k hk
  exact mod_ne_of_lt (by omega) (by have := hi.capPhys; omega)

/-- a push that fails (`Err(item)` → `TrySendError::Full` / the wait loop) really saw `tail − head ≥ cap`
at its refresh of `head`. -/
theorem full_really_full (hcap : 0 < cap) (h : Reach cap pp pc s) {r : Role} {s' : State}
    (hm : (s.loc r).m = .pushLdHead) (hs : step s r (.load .head) = some s') (hf : (s'.loc r).m ≠ .pushStTail) :
    s.cap ≤ s.tail - s.head := by
  have hi := reach_rinv hcap h
  have ht := (hi.th r).1 hm
  simp only [step, stepLdHead, hm] at hs
  split at hs
  · omega
  · simp at hs; subst hs; simp at hf

/-- a pop that fails (`None` → Empty / Disconnected check / the wait loop) really saw `head = tail` at its
refresh of `tail`. -/
theorem empty_really_empty (hcap : 0 < cap) (h : Reach cap pp pc s) {r : Role} {s' : State}
    (hm : (s.loc r).m = .popLdTail) (hs : step s r (.load .tail) = some s') (hf : (s'.loc r).m ≠ .popStHead) :
    s.head = s.tail := by
  have hi := reach_rinv hcap h
  have ht := (hi.th r).2.2.1 hm
  simp only [step, stepLdTail, hm] at hs
  split at hs
  · omega
  · simp at hs; subst hs; simp at hf

/-- only the sender thread pushes, only the receiver thread (or the final drain) pops. -/
theorem single_producer_single_consumer (h : Reach cap pp pc s) {r q : Role} :
    (isPush (s.loc r).m = true → r = .P) ∧ (isPop (s.loc r).m = true → isPop (s.loc q).m = true → r = q) :=
  have hc := reach_cinv h
  ⟨fun a => push_P hc a, fun a b => pop_unique hc a b⟩

/-! ## No lost wakeup, in safety form (C05) -/

/-- what a blocked receiver waits for: an item, or the sender side gone -/
def condC (s : State) : Prop := s.head < s.tail ∨ s.count .P = 0
/-- what a blocked sender waits for: space, or the receiver gone -/
def condP (s : State) : Prop := s.tail - s.head < s.cap ∨ s.dropped .C = true
def cond (s : State) : Role → Prop
  | .P => condP s
  | .C => condC s

/-- the thread at `(k, m)` is inside a straight-line (non-blocking) section that ends in waking the other
side: between its publication (`tail`/`head` store) and the end of `notify_*`, or between the
`dropped`-store / count decrement of `close`/`Drop` and the end of its `wake_one`. -/
def notifying (k : K) (m : Mic) : Prop := owesNf k m ∨ dropSec k m ∨ holdsW m = true ∨ m = .wkUnpark

/-- a wake is owed to the thread of role `q` -/
def Owed (s : State) (q : Role) : Prop :=
  s.tok q = true ∨ s.flag q = true ∨ notifying (s.loc (other q)).k (s.loc (other q)).m

/-- **No lost wakeup at the waiter of role `q`**: if it is registered and past the last look its loop iteration takes at
what it waits for (`pastAvail`: the ring; `pastGone`: the other side's `dropped` flag or count) while that has come true,
a wake is owed to it: a slot already taken means flag or notifier at work (`W`), a slot still armed means the publisher
is on its way to it (`WK`). -/
theorem no_lost_wakeup_at (hcap : 0 < cap) (h : Reach cap pp pc s) (q : Role)
    (hk : (s.loc q).k = loopK q) (hreg : (s.loc q).reg = true)
    (hpos : pastAvail q (s.loc q).m ∧ avail s q ∨ pastGone q (s.loc q).m ∧ goneFor s q) : Owed s q := by
  have A := reach_all hcap h
  cases hs : s.slot q with
  | none =>
    rcases A.w.taken q hreg hs with f | w | u | u
    · exact .inr (.inl f)
    · exact .inr (.inr (.inr (.inr (.inl (wkPre_holdsW w)))))
    all_goals cases q <;> simp [pastAvail, pastGone, u] at hpos
  | some f =>
    obtain ⟨k1, k2⟩ := A.k q hk hreg (by simp [hs])
    rcases hpos with ⟨p, a⟩ | ⟨p, g⟩
    · exact .inr (.inr (.inl (k1 p a)))
    · exact .inr (.inr (.inr (.inl (k2 p g))))

/-- **No lost wakeup, receiver.** In every reachable state, if the receiver is registered and past its
post-registration re-check (about to read `sender_count`, or at `park`) while an item is available, or
is at `park` while the sender side is gone, then a wake is owed to it. -/
theorem no_lost_wakeup_consumer (hcap : 0 < cap) (h : Reach cap pp pc s)
    (hk : (s.loc .C).k = .rL) (hreg : (s.loc .C).reg = true)
    (hpos : ((s.loc .C).m = .ldCount ∧ s.head < s.tail) ∨ ((s.loc .C).m = .park ∧ condC s)) : Owed s .C := by
  refine no_lost_wakeup_at hcap h .C hk hreg ?_
  rcases hpos with ⟨e, a⟩ | ⟨e, a | g⟩
  · exact .inl ⟨.inl e, a⟩
  · exact .inl ⟨.inr e, a⟩
  · exact .inr ⟨e, g⟩

/-- **No lost wakeup, sender** (mirror image): registered and at `park` with space available, or past its
`consumer_dropped` check with the receiver gone ⇒ a wake is owed. -/
theorem no_lost_wakeup_producer (hcap : 0 < cap) (h : Reach cap pp pc s)
    (hk : (s.loc .P).k = .sL) (hreg : (s.loc .P).reg = true)
    (hpos : ((s.loc .P).m = .park ∧ condP s) ∨
            (((s.loc .P).m = .pushLdTail ∨ (s.loc .P).m = .pushLdHead) ∧ s.dropped .C = true)) : Owed s .P := by
  refine no_lost_wakeup_at hcap h .P hk hreg ?_
  rcases hpos with ⟨e, a | g⟩ | ⟨e, g⟩
  · exact .inl ⟨e, a⟩
  · exact .inr ⟨.inr (.inr e), g⟩
  · exact .inr ⟨e.elim .inl (.inr ∘ .inl), g⟩

theorem parked_is_registered (hcap : 0 < cap) (h : Reach cap pp pc s) {r : Role} (hp : (s.loc r).m = .park) :
    (s.loc r).reg = true ∧ (s.loc r).k = loopK r := by
  have A := reach_all hcap h
  refine ⟨A.w.reg_of_park r hp, ?_⟩
  have h1 := A.c.ok r
  have h2 := A.c.side r
  rw [hp] at h1
  simp only [okAt] at h1
  cases r with
  | P => rcases h1 with h1 | h1
         · exact h1
         · have := h2 .C (by simp [h1, kSide]); simp at this
  | C => rcases h1 with h1 | h1
         · have := h2 .P (by simp [h1, kSide]); simp at this
         · exact h1

/-- **C05 for spsc**: a parked thread whose condition holds is owed a wake. -/
theorem no_lost_wakeup (hcap : 0 < cap) (h : Reach cap pp pc s) (r : Role)
    (hp : (s.loc r).m = .park) (hc : cond s r) : Owed s r := by
  obtain ⟨hreg, hk⟩ := parked_is_registered hcap h hp
  cases r with
  | P => exact no_lost_wakeup_at hcap h .P hk hreg (hc.imp (⟨hp, ·⟩) (⟨.inr (.inr hp), ·⟩))
  | C => exact no_lost_wakeup_at hcap h .C hk hreg (hc.imp (⟨.inr hp, ·⟩) (⟨hp, ·⟩))

/-! ### quiescence: no reachable deadlock with a thread whose condition holds -/

/-- no thread has an enabled protocol step (environment `call`s and spurious park returns excluded) -/
def Quiescent (s : State) : Prop := ∀ r l, l ≠ .call → l ≠ .spurious → step s r l = none

def labelAt (r : Role) : Mic → Label
  | .idle => .call
  | .pushLdTail | .popLdTail | .lenLdTail => .load .tail
  | .pushLdHead | .popLdHead | .lenLdHead => .load .head
  | .pushStTail => .store .tail
  | .popStHead => .store .head
  | .nfFence | .rgFence => .fence
  | .nfLdGate => .load (.gate (other r))
  | .wkLock => .lock (other r)
  | .wkStGate _ => .store (.gate (other r))
  | .wkStFlag => .store (.flag (other r))
  | .wkUnlock _ => .unlock (other r)
  | .wkUnpark => .unpark (other r)
  | .rgLock | .urLock => .lock r
  | .rgStGate | .urStGate => .store (.gate r)
  | .rgUnlock | .urUnlock => .unlock r
  | .park => .park
  | .swapFlag => .swap (.flag r)
  | .spin => .spin
  | .ldClosed => .load (.closed r)
  | .ldDropped => .load (.dropped (other r))
  | .ldCount => .load (.count (other r))
  | .casClosed => .cas (.closed r)
  | .swapClosed => .swap (.closed r)
  | .stDropped => .store (.dropped r)
  | .subCount => .fsub (.count r)
  | .ret _ => .ret

theorem enabled_or_blocked (s : State) (r : Role) :
    (s.loc r).m = .idle ∨ (s.loc r).m = .park ∨
    (((s.loc r).m = .wkLock ∧ s.locked (other r) = true) ∨
     (((s.loc r).m = .rgLock ∨ (s.loc r).m = .urLock) ∧ s.locked r = true)) ∨
    ∃ l, l ≠ .call ∧ l ≠ .spurious ∧ (step s r l).isSome = true := by
  by_cases hi : (s.loc r).m = .idle
  · exact Or.inl hi
  by_cases hp : (s.loc r).m = .park
  · exact Or.inr (Or.inl hp)
  by_cases hb : ((s.loc r).m = .wkLock ∧ s.locked (other r) = true) ∨
      (((s.loc r).m = .rgLock ∨ (s.loc r).m = .urLock) ∧ s.locked r = true)
  · exact Or.inr (Or.inr (Or.inl hb))
  refine Or.inr (Or.inr (Or.inr ⟨labelAt r (s.loc r).m, ?_, ?_, ?_⟩)) <;>
    cases hm : (s.loc r).m <;> simp_all [labelAt, step, targetOf, stepLdTail, stepLdHead, stepStTail, stepStHead, stepFence,
      stepLdGate, stepLock, stepStGate, stepStFlag, stepUnlock, stepUnpark, stepSwapFlag, stepSpin, stepLdClosed,
      stepLdDropped, stepLdCount, stepCasClosed, stepSwapClosed, stepStDropped, stepSubCount, stepRet]
  all_goals (repeat' split) <;> rfl

theorem holder_enabled {s : State} {r : Role} (h : holdsSelf (s.loc r).m = true ∨ holdsW (s.loc r).m = true) :
    ∃ l, l ≠ .call ∧ l ≠ .spurious ∧ (step s r l).isSome = true := by
  rcases enabled_or_blocked s r with e | e | (⟨e, _⟩ | ⟨e | e, _⟩) | e
  iterate 5 simp [e, holdsSelf, holdsW] at h
  exact e

theorem not_enabled_of_quiescent {s : State} (hq : Quiescent s) (r : Role) :
    ¬ ∃ l, l ≠ .call ∧ l ≠ .spurious ∧ (step s r l).isSome = true := by
  rintro ⟨l, h1, h2, h3⟩
  rw [hq r l h1 h2] at h3
  simp at h3

theorem quiescent_idle_or_parked (hcap : 0 < cap) (h : Reach cap pp pc s) (hq : Quiescent s) (r : Role) :
    (s.loc r).m = .idle ∨ (s.loc r).m = .park := by
  have A := reach_all hcap h
  rcases enabled_or_blocked s r with e | e | e | e
  · exact Or.inl e
  · exact Or.inr e
  · exfalso
    -- blocked on a held mutex: the holder has an enabled step
    have hold : ∀ q, s.locked q = true → False := by
      intro q hl
      rcases A.w.holder q hl with hs | hw
      · exact not_enabled_of_quiescent hq q (holder_enabled (.inl hs))
      · exact not_enabled_of_quiescent hq (other q) (holder_enabled (.inr hw))
    rcases e with ⟨_, hl⟩ | ⟨_, hl⟩
    · exact hold _ hl
    · exact hold _ hl
  · exact absurd e (not_enabled_of_quiescent hq r)

theorem notifying_not_idle_parked {k : K} {m : Mic} (h : notifying k m) : m ≠ .idle ∧ m ≠ .park := by
  rcases h with h | h | h | h
  · cases m <;> simp_all [owesNf]
  · rcases h with ⟨_, h | h⟩ <;> simp [h]
  · cases m <;> simp_all [holdsW]
  · simp [h]

/-- **Deadlock freedom (C05 corollary)**: in a reachable state with no enabled step, every thread is idle
or parked *with its condition false* — no thread is blocked while an item / space is available or the
other side is gone. -/
theorem quiescent_no_lost_wakeup (hcap : 0 < cap) (h : Reach cap pp pc s) (hq : Quiescent s) (r : Role) :
    (s.loc r).m = .idle ∨ ((s.loc r).m = .park ∧ s.tok r = false ∧ ¬ cond s r) := by
  have A := reach_all hcap h
  rcases quiescent_idle_or_parked hcap h hq r with e | e
  · exact Or.inl e
  · have ht : s.tok r = false := by
      cases ht : s.tok r with
      | false => rfl
      | true =>
        exfalso
        apply not_enabled_of_quiescent hq r
        exact ⟨.park, by simp, by simp, by simp [step, stepPark, e, ht]⟩
    refine Or.inr ⟨e, ht, ?_⟩
    · intro hc
      obtain ⟨_, hk⟩ := parked_is_registered hcap h e
      have hn : ¬ notifying (s.loc (other r)).k (s.loc (other r)).m := fun hn => by
        have := notifying_not_idle_parked hn
        rcases quiescent_idle_or_parked hcap h hq (other r) with e' | e' <;> simp_all
      rcases no_lost_wakeup hcap h r e hc with o | o | o
      · simp [ht] at o
      · rcases A.w.tok_of_flag r o with c | c | c | c
        · simp [ht] at c
        · exact hn (by cases hm : (s.loc (other r)).m <;> simp_all [wkPost, notifying, holdsW])
        · simp [e] at c
        · cases r <;> simp [hk, loopK, exitK] at c
      · exact hn o

/-! ## Non-vacuity: concrete reachable states (capacity 1, `send 1 ‖ recv`) -/

theorem reach_of_run {tr : List (Role × Label)} : ∀ {s0 s : State}, Reach cap pp pc s0 → run s0 tr = some s → Reach cap pp pc s :=
  fun h0 h => run_closed (fun _ => rfl) (fun _ _ _ _ => rfl) (fun h hs => Reach.step h hs) tr _ _ h0 h

/-- the receiver runs alone until it parks: closed check, two empty pops, `senders_alive`, one spin,
again, register (lock, gate := 1, unlock), fence, re-check, `senders_alive`, → `park` -/
def trParkC : List (Role × Label) :=
  [(.C, .call), (.C, .load (.closed .C)), (.C, .load .head), (.C, .load .tail), (.C, .load .head), (.C, .load .tail),
   (.C, .load (.count .P)), (.C, .spin), (.C, .load .head), (.C, .load .tail), (.C, .load (.count .P)),
   (.C, .lock .C), (.C, .store (.gate .C)), (.C, .unlock .C), (.C, .fence),
   (.C, .load .head), (.C, .load .tail), (.C, .load (.count .P))]

/-- … then the sender publishes one item: closed checks, `tail` load (slot written), `tail` store -/
def trPublish : List (Role × Label) :=
  [(.P, .call), (.P, .load (.closed .P)), (.P, .load (.dropped .C)), (.P, .load .tail), (.P, .store .tail)]

/-- … and notifies: fence, gate read (= 1), lock, gate := 0, flag := true, unlock, unpark, return; the receiver
wakes, swaps the flag, pops the item, notifies (gate 0) and returns it -/
def trWake : List (Role × Label) :=
  [(.P, .fence), (.P, .load (.gate .C)), (.P, .lock .C), (.P, .store (.gate .C)), (.P, .store (.flag .C)),
   (.P, .unlock .C), (.P, .unpark .C), (.P, .ret),
   (.C, .park), (.C, .swap (.flag .C)), (.C, .load .head), (.C, .load .tail), (.C, .store .head),
   (.C, .fence), (.C, .load (.gate .P)), (.C, .ret)]

/-- Non-vacuity of `no_lost_wakeup` (receiver): a reachable state in which the receiver is parked without a
token, an item is available, and the wake is owed by the sender being between its `tail` store and the end
of `notify_receivers`. -/
example : ∃ s, Reach 1 [.send 1] [.recv] s ∧ (s.loc .C).m = .park ∧ s.tok .C = false ∧ s.flag .C = false ∧
    s.head < s.tail ∧ (s.loc .P).m = .nfFence := by
  have hd : (run (init 1 [.send 1] [.recv]) (trParkC ++ trPublish)).map
      (fun s => ((s.loc .C).m, s.tok .C, s.flag .C, decide (s.head < s.tail), (s.loc .P).m)) =
      some (.park, false, false, true, .nfFence) := by decide
  cases hr : run (init 1 [.send 1] [.recv]) (trParkC ++ trPublish) with
  | none => simp [hr] at hd
  | some s => exact ⟨s, reach_of_run Reach.init hr, by simpa [hr] using hd⟩

/-- the whole handshake runs in the model: the parked receiver is woken and returns the item sent. -/
example : (run (init 1 [.send 1] [.recv]) (trParkC ++ trPublish ++ trWake)).map
    (fun s => (s.results .P, s.results .C, s.pushed, s.popped, s.tok .C)) = some ([.ok], [.okV 1], [1], [1], false) := by decide

/-- Non-vacuity of the quiescent case: the receiver parked alone (sender idle, handle alive, nothing sent) is
quiescent-blocked with its condition false — the only kind of blocked state the theorems allow. -/
example : (run (init 1 [] [.recv]) trParkC).map (fun s => ((s.loc .C).m, s.tok .C, decide (s.head < s.tail), s.count .P))
    = some (.park, false, false, 1) := by decide

end Fv.Props.SpscB
