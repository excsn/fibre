import Fv.Lemmas.PolicySweep
import Fv.Lemmas.PolicySeg
/-!
# C14 — eviction policies nominate only tracked residents and follow their definition

Every policy has `P.contract : Contract P.step P.tracked P.Inv …` (`Fv/Lemmas/Policy*.lean`), of which the
invariant, soundness and history theorems below are projections.

Per policy (`P` below stands for its name, in lower case in theorem names: `lru_inv_step`, `Lru.Inv`;
all statements for every state satisfying the inductive invariant `P.Inv`, which holds after every
history of admit/access/remove/evict/clear calls):
* `P_inv_reachable`, `P_inv_step` — tracked keys are distinct, running totals = Σ recorded costs;
* `P_evict_sound` — victims are distinct, tracked, reported at exactly their recorded cost, not
  tracked afterwards, and every other tracked pair is unchanged;
* `P_evict_enough` — `freed ≥ n` whenever the tracked keys are worth `n`;
* `P_untrack_only_by_nomination` — access/admit/remove change the tracked set only as the trait
  contract allows;
* `P_readmit_updates_cost` — after `admit k c` the recorded cost of `k` is `c` (once);
* `P_tracks_only_on_admit`, `P_no_renomination` — only `admit x` starts tracking `x`, hence a key
  nominated by `evict` is never nominated again without an `admit` of it in between;
* LRU / FIFO order theorems against history-only specifications of recency / insertion time
  (`lru_evicts_least_recent`, `fifo_evicts_in_insertion_order`).
Status per policy: LRU, SIEVE, Random full; FIFO, Clock, SLRU full except the re-admit cost update
(F9c: `_partial` + witness); ARC: evict sufficiency and admit-untracking `_partial` (F9a, two
witnesses); TinyLFU: evict sufficiency `_partial` (F9b, witness), everything else full.
Clauses that are false of the code have a `C14_fails_<finding>_<policy>` witness and a
`_partial` theorem.
-/
namespace Fv.Props.C14
open Fv.Cache.Policy

theorem lru_inv_reachable (ops : List Op) : Lru.Inv (Lru.run ops) := Lru.contract.inv_run Lru.Inv_init ops

theorem lru_inv_step {s : Lru.State} (h : Lru.Inv s) (op : Op) : Lru.Inv (Lru.step s op) :=
  Lru.contract.inv_step h op

example : Lru.Inv (Lru.run [.admit 1 2, .admit 2 0, .access 1 2, .evict 1 []]) := lru_inv_reachable _

theorem lru_evict_sound {s : Lru.State} (h : Lru.Inv s) (n : Nat) :
    EvictSound (Lru.tracked s) (Lru.tracked (Lru.evict s n).1) (Lru.evict s n).2.1 (Lru.evict s n).2.2
    ∧ Lru.Inv (Lru.evict s n).1 :=
  Lru.contract.evict h n []

/-- `evict n` frees at least `n` whenever the tracked keys are worth that much. -/
theorem lru_evict_enough {s : Lru.State} (h : Lru.Inv s) {n : Nat}
    (hn : n ≤ costSum (Lru.tracked s)) : n ≤ (Lru.evict s n).2.2 :=
  (Lru.evict_spec h n).enough hn

example : Lru.Inv (Lru.run [.admit 1 2, .admit 2 3]) ∧ 4 ≤ costSum (Lru.tracked (Lru.run [.admit 1 2, .admit 2 3])) :=
  ⟨lru_inv_reachable _, by decide⟩

theorem lru_untrack_only_by_nomination {s : Lru.State} (h : Lru.Inv s) (k c : Nat) :
    AccessOk (Lru.tracked s) (Lru.tracked (Lru.access s k c)) k
    ∧ AdmitOk (Lru.tracked s) (Lru.tracked (Lru.admit s k c).1) k (Lru.admit s k c).2.victims
    ∧ RemoveOk (Lru.tracked s) (Lru.tracked (Lru.remove s k)) k
    ∧ Lru.tracked (Lru.clear s) = [] :=
  ⟨(Lru.contract.access h k c).2, (Lru.admit_spec h k c).2, LruList.remove_ok s k, rfl⟩

/-- Re-admitting a key updates its recorded cost (and `Inv` says it is recorded once). -/
theorem lru_readmit_updates_cost (s : Lru.State) (k c : Nat) :
    costOf (Lru.tracked (Lru.admit s k c).1) k = some c := by
  simp only [Lru.tracked, Lru.admit]; rw [LruList.pushFront_items]; exact costOf_push _ k c

/-- The LRU list is ordered by the history-only recency measure `lastUse` (head = most recent):
the model's list order IS the least-recently-used order of the call history. -/
theorem lru_list_sorted_by_recency (ops : List Op) :
    (Lru.tracked (Lru.run ops)).Pairwise (fun p q => lastUse ops q.1 < lastUse ops p.1) :=
  Lru.sorted_run ops

/-- LRU evicts in least-recently-used order, exactly: after any history `ops`, `evict n`
nominates victims in strictly increasing recency of last use, every victim was used less recently
than every key that stays tracked, and it stops as soon as the request is met (all victims but
the last are worth `< n`). With `lru_evict_sound` this pins the victim list down uniquely. -/
theorem lru_evicts_least_recent (ops : List Op) (n : Nat) :
    let s := Lru.run ops
    let r := Lru.evict s n
    r.2.1.Pairwise (fun a b => lastUse ops a < lastUse ops b)
    ∧ (∀ v ∈ r.2.1, ∀ x ∈ keys (Lru.tracked r.1), lastUse ops v < lastUse ops x)
    ∧ (∀ vs0 v, r.2.1 = vs0 ++ [v] →
        (vs0.map (fun k => (costOf (Lru.tracked s) k).getD 0)).sum < n) := by
  exact (Lru.evict_spec (lru_inv_reachable ops) n).in_order (Lru.sorted_run ops)
    (lru_inv_reachable ops).1

example : (Lru.evict (Lru.run [.admit 1 1, .admit 2 1, .admit 3 1, .access 1 1]) 2).2.1 = [2, 3] := by
  decide

theorem lru_tracks_only_on_admit {s : Lru.State} (h : Lru.Inv s) (op : Op) {x : Nat}
    (hx : x ∈ keys (Lru.tracked (Lru.step s op))) :
    x ∈ keys (Lru.tracked s) ∨ ∃ c, op = .admit x c :=
  Lru.contract.tracks_only_on_admit h op hx

/-- A key is never nominated twice without a re-admission in between: if `evict` nominated `k`
after history `ops1` and nominates it again after the further calls `ops2`, then `ops2` contains
an `admit k`. -/
theorem lru_no_renomination (ops1 ops2 : List Op) (n n' k : Nat)
    (h1 : k ∈ (Lru.evict (Lru.run ops1) n).2.1)
    (h2 : k ∈ (Lru.evict (Lru.run (ops1 ++ .evict n [] :: ops2)) n').2.1) :
    ∃ c, Op.admit k c ∈ ops2 :=
  Lru.contract.no_renomination Lru.Inv_init (p' := []) h1 h2

example : 1 ∈ (Lru.evict (Lru.run [.admit 1 1]) 1).2.1 ∧
    1 ∈ (Lru.evict (Lru.run ([.admit 1 1] ++ .evict 1 [] :: [.admit 1 1])) 1).2.1 := by decide

theorem fifo_inv_reachable (ops : List Op) : Fifo.Inv (Fifo.run ops) := Fifo.contract.inv_run Fifo.Inv_init ops

theorem fifo_inv_step {s : Fifo.State} (h : Fifo.Inv s) (op : Op) : Fifo.Inv (Fifo.step s op) :=
  Fifo.contract.inv_step h op

example : Fifo.Inv (Fifo.run [.admit 1 2, .admit 1 0, .evict 1 []]) := fifo_inv_reachable _

theorem fifo_evict_sound {s : Fifo.State} (h : Fifo.Inv s) (n : Nat) :
    EvictSound (Fifo.tracked s) (Fifo.tracked (Fifo.evict s n).1) (Fifo.evict s n).2.1 (Fifo.evict s n).2.2
    ∧ Fifo.Inv (Fifo.evict s n).1 :=
  Fifo.contract.evict h n []

theorem fifo_evict_enough {s : Fifo.State} (h : Fifo.Inv s) {n : Nat}
    (hn : n ≤ costSum (Fifo.tracked s)) : n ≤ (Fifo.evict s n).2.2 :=
  (Fifo.evict_spec h n).enough hn

theorem fifo_untrack_only_by_nomination (s : Fifo.State) (k c : Nat) :
    AccessOk (Fifo.tracked s) (Fifo.tracked (Fifo.access s k c)) k
    ∧ AdmitOk (Fifo.tracked s) (Fifo.tracked (Fifo.admit s k c).1) k (Fifo.admit s k c).2.victims
    ∧ RemoveOk (Fifo.tracked s) (Fifo.tracked (Fifo.remove s k)) k
    ∧ Fifo.tracked (Fifo.clear s) = [] :=
  ⟨.rfl' k, (Fifo.admit_spec s k c).ok, LruList.remove_ok s k, rfl⟩

/-- F9c witness: FIFO keeps the stale cost on re-admission (full clause "re-admitting a key
updates its cost" is false of the code). -/
theorem C14_fails_F9c_fifo :
    let s := (Fifo.admit (Fifo.admit Fifo.init 1 1).1 1 5).1
    s.lookup 1 = some 1 := by decide

/-- PARTIAL (F9c): excluded is the cost update on re-admission of a key that is already tracked —
then `admit` is a no-op and the OLD cost stays (no duplication though). For an untracked key the
cost is recorded as given. -/
theorem fifo_readmit_updates_cost_partial (s : Fifo.State) (k c : Nat) :
    (k ∉ keys (Fifo.tracked s) → costOf (Fifo.tracked (Fifo.admit s k c).1) k = some c)
    ∧ (k ∈ keys (Fifo.tracked s) → (Fifo.admit s k c).1 = s) :=
  ⟨(Fifo.admit_spec s k c).fresh, (Fifo.admit_spec s k c).kept⟩

/-- The FIFO list is ordered by insertion time (head = newest), where `insertedAt` is refreshed
neither by access nor by re-admission of a tracked key. -/
theorem fifo_list_sorted_by_insertion (ops : List Op) :
    (Fifo.tracked (Fifo.run ops)).Pairwise
      (fun p q => Fifo.insertedAt ops q.1 < Fifo.insertedAt ops p.1) :=
  Fifo.sorted_run ops

/-- FIFO evicts in insertion order, exactly: oldest insertion first, every victim inserted before
every survivor, stopping as soon as the request is met. -/
theorem fifo_evicts_in_insertion_order (ops : List Op) (n : Nat) :
    let s := Fifo.run ops
    let r := Fifo.evict s n
    r.2.1.Pairwise (fun a b => Fifo.insertedAt ops a < Fifo.insertedAt ops b)
    ∧ (∀ v ∈ r.2.1, ∀ x ∈ keys (Fifo.tracked r.1), Fifo.insertedAt ops v < Fifo.insertedAt ops x)
    ∧ (∀ vs0 v, r.2.1 = vs0 ++ [v] →
        (vs0.map (fun k => (costOf (Fifo.tracked s) k).getD 0)).sum < n) := by
  exact (Fifo.evict_spec (fifo_inv_reachable ops) n).in_order (Fifo.sorted_run ops)
    (fifo_inv_reachable ops).1

example : (Fifo.evict (Fifo.run [.admit 1 1, .admit 2 1, .admit 3 1, .access 1 1, .admit 1 1]) 2).2.1
    = [1, 2] := by decide

theorem fifo_tracks_only_on_admit {s : Fifo.State} (h : Fifo.Inv s) (op : Op) {x : Nat}
    (hx : x ∈ keys (Fifo.tracked (Fifo.step s op))) :
    x ∈ keys (Fifo.tracked s) ∨ ∃ c, op = .admit x c :=
  Fifo.contract.tracks_only_on_admit h op hx

/-- A key is never nominated twice without a re-admission in between: if `evict` nominated `k`
after history `ops1` and nominates it again after the further calls `ops2`, then `ops2` contains
an `admit k`. -/
theorem fifo_no_renomination (ops1 ops2 : List Op) (n n' k : Nat)
    (h1 : k ∈ (Fifo.evict (Fifo.run ops1) n).2.1)
    (h2 : k ∈ (Fifo.evict (Fifo.run (ops1 ++ .evict n [] :: ops2)) n').2.1) :
    ∃ c, Op.admit k c ∈ ops2 :=
  Fifo.contract.no_renomination Fifo.Inv_init (p' := []) h1 h2

example : 1 ∈ (Fifo.evict (Fifo.run [.admit 1 1]) 1).2.1 ∧
    1 ∈ (Fifo.evict (Fifo.run ([.admit 1 1] ++ .evict 1 [] :: [.admit 1 1])) 1).2.1 := by decide

/-! Random: the victim picks are an oracle, and the statements hold for EVERY admissible pick list -/

theorem random_inv_step {s : Random.State} (h : Random.Inv s) (op : Op) : Random.Inv (Random.step s op) :=
  Random.contract.inv_step h op

theorem random_inv_reachable (ops : List Op) : Random.Inv (Random.run ops) :=
  Random.contract.inv_run Random.Inv_init ops

example : Random.Inv (Random.run [.admit 1 2, .admit 2 0, .evict 1 [2, 1]]) := random_inv_reachable _

/-- `evictWith … = some …` says the pick list is a possible run of the loop -/
theorem random_evict_sound {s : Random.State} (h : Random.Inv s) (n : Nat) (picks : List Nat)
    {s' : Random.State} {freed : Nat} (he : Random.evictWith s n picks 0 = some (s', freed)) :
    EvictSound (Random.tracked s) (Random.tracked s') picks freed ∧ Random.Inv s' := by
  simpa [Random.ev_of_some he] using Random.contract.evict h n picks

theorem random_evict_enough {s : Random.State} (h : Random.Inv s) {n : Nat} (picks : List Nat)
    {s' : Random.State} {freed : Nat} (he : Random.evictWith s n picks 0 = some (s', freed))
    (hn : n ≤ costSum (Random.tracked s)) : n ≤ freed := by
  obtain ⟨_, hl⟩ := Random.evictWith_spec picks s n [] 0 s' freed h he
  exact hl.evict.1.enough hl.evict.2 hn

example : Random.Inv (Random.run [.admit 1 2, .admit 2 3]) ∧
    Random.evictWith (Random.run [.admit 1 2, .admit 2 3]) 4 [1, 2] 0 = some ({}, 5) :=
  ⟨random_inv_reachable _, by decide⟩

theorem random_untrack_only_by_nomination (s : Random.State) (k c : Nat) :
    AccessOk (Random.tracked s) (Random.tracked (Random.access s k c)) k
    ∧ AdmitOk (Random.tracked s) (Random.tracked (Random.admit s k c).1) k (Random.admit s k c).2.victims
    ∧ RemoveOk (Random.tracked s) (Random.tracked (Random.remove s k)) k
    ∧ Random.tracked (Random.clear s) = [] :=
  ⟨.rfl' k, .of_push _ k c, .of_without _ k, rfl⟩

theorem random_readmit_updates_cost (s : Random.State) (k c : Nat) :
    costOf (Random.tracked (Random.admit s k c).1) k = some c := costOf_push _ k c

theorem random_tracks_only_on_admit {s : Random.State} (h : Random.Inv s) (op : Op) {x : Nat}
    (hx : x ∈ keys (Random.tracked (Random.step s op))) :
    x ∈ keys (Random.tracked s) ∨ ∃ c, op = .admit x c :=
  Random.contract.tracks_only_on_admit h op hx

/-- A key is never nominated twice without a re-admission in between (for every pair of
admissible random pick lists). -/
theorem random_no_renomination (ops1 ops2 : List Op) (n n' k : Nat) (picks picks' : List Nat)
    {s1 s2 : Random.State} {f1 f2 : Nat}
    (he1 : Random.evictWith (Random.run ops1) n picks 0 = some (s1, f1)) (h1 : k ∈ picks)
    (he2 : Random.evictWith (Random.run (ops1 ++ .evict n picks :: ops2)) n' picks' 0 = some (s2, f2))
    (h2 : k ∈ picks') : ∃ c, Op.admit k c ∈ ops2 :=
  Random.contract.no_renomination Random.Inv_init (Random.mem_ev he1 h1) (Random.mem_ev he2 h2)

example : Random.evictWith (Random.run [.admit 1 1]) 1 [1] 0 = some ({}, 1) ∧
    Random.evictWith (Random.run ([.admit 1 1] ++ .evict 1 [1] :: [.admit 1 1])) 1 [1] 0 = some ({}, 1) := by
  decide

/-! SLRU: `protCap` = protected-segment capacity, a construction-time constant -/

theorem slru_inv_step (protCap : Nat) {s : Slru.State} (h : Slru.Inv s) (op : Op) :
    Slru.Inv (Slru.step protCap s op) :=
  (Slru.contract protCap).inv_step h op

theorem slru_inv_reachable (protCap : Nat) (ops : List Op) : Slru.Inv (Slru.run protCap ops) :=
  (Slru.contract protCap).inv_run Slru.Inv_init ops

/-- the invariant says in particular: no key is tracked twice (in either segment) -/
theorem slru_inv_nodup {s : Slru.State} (h : Slru.Inv s) : (keys (Slru.tracked s)).Nodup :=
  Slru.nodup_tracked h

example : Slru.Inv (Slru.run 1 [.admit 1 2, .admit 2 0, .access 1 2, .access 2 0, .evict 1 []]) :=
  slru_inv_reachable _ _

theorem slru_evict_sound {s : Slru.State} (h : Slru.Inv s) (n protCap : Nat) :
    EvictSound (Slru.tracked s) (Slru.tracked (Slru.evict s n protCap).1)
      (Slru.evict s n protCap).2.1 (Slru.evict s n protCap).2.2
    ∧ Slru.Inv (Slru.evict s n protCap).1 :=
  (Slru.contract protCap).evict h n []

theorem slru_evict_enough {s : Slru.State} (h : Slru.Inv s) {n : Nat} (protCap : Nat)
    (hn : n ≤ costSum (Slru.tracked s)) : n ≤ (Slru.evict s n protCap).2.2 :=
  (Slru.evictItems_spec h n protCap).1.enough (Slru.evictItems_spec h n protCap).2.2 hn

example : Slru.Inv (Slru.run 1 [.admit 1 2, .admit 2 3]) ∧
    4 ≤ costSum (Slru.tracked (Slru.run 1 [.admit 1 2, .admit 2 3])) := ⟨slru_inv_reachable _ _, by decide⟩

theorem slru_untrack_only_by_nomination {s : Slru.State} (h : Slru.Inv s) (k c protCap : Nat) :
    AccessOk (Slru.tracked s) (Slru.tracked (Slru.access s k c protCap)) k
    ∧ AdmitOk (Slru.tracked s) (Slru.tracked (Slru.admit s k c).1) k (Slru.admit s k c).2.victims
    ∧ RemoveOk (Slru.tracked s) (Slru.tracked (Slru.remove s k)) k
    ∧ Slru.tracked (Slru.clear s) = [] :=
  ⟨((Slru.contract protCap).access h k c).2, (Slru.admit_spec s k c).ok,
    ((Slru.contract protCap).remove h k).2, rfl⟩

/-- F9c witness: SLRU keeps the stale cost on re-admission. -/
theorem C14_fails_F9c_slru :
    let s := (Slru.admit (Slru.admit Slru.init 1 1).1 1 5).1
    costOf (Slru.tracked s) 1 = some 1 := by decide

/-- PARTIAL (F9c): excluded is the cost update on re-admission of a tracked key (no-op, the OLD
cost stays; no duplication). For an untracked key the cost is recorded as given. -/
theorem slru_readmit_updates_cost_partial {s : Slru.State} (h : Slru.Inv s) (k c : Nat) :
    (k ∉ keys (Slru.tracked s) → costOf (Slru.tracked (Slru.admit s k c).1) k = some c)
    ∧ (k ∈ keys (Slru.tracked s) → (Slru.admit s k c).1 = s) :=
  ⟨(Slru.admit_spec s k c).fresh, (Slru.admit_spec s k c).kept⟩

theorem slru_tracks_only_on_admit (protCap : Nat) {s : Slru.State} (h : Slru.Inv s) (op : Op) {x : Nat}
    (hx : x ∈ keys (Slru.tracked (Slru.step protCap s op))) :
    x ∈ keys (Slru.tracked s) ∨ ∃ c, op = .admit x c :=
  (Slru.contract protCap).tracks_only_on_admit h op hx

/-- A key is never nominated twice without a re-admission in between: if `evict` nominated `k`
after history `ops1` and nominates it again after the further calls `ops2`, then `ops2` contains
an `admit k`. -/
theorem slru_no_renomination (protCap : Nat) (ops1 ops2 : List Op) (n n' k : Nat)
    (h1 : k ∈ (Slru.evict (Slru.run protCap ops1) n protCap).2.1)
    (h2 : k ∈ (Slru.evict (Slru.run protCap (ops1 ++ .evict n [] :: ops2)) n' protCap).2.1) :
    ∃ c, Op.admit k c ∈ ops2 :=
  (Slru.contract protCap).no_renomination Slru.Inv_init (p' := []) h1 h2

example : 1 ∈ (Slru.evict (Slru.run 2 [.admit 1 1]) 1 2).2.1 ∧
    1 ∈ (Slru.evict (Slru.run 2 ([.admit 1 1] ++ .evict 1 [] :: [.admit 1 1])) 1 2).2.1 := by decide

theorem sieve_inv_step {s : Sieve.State} (h : Sieve.Inv s) (op : Op) : Sieve.Inv (Sieve.step s op) :=
  Sieve.contract.inv_step h op

theorem sieve_inv_reachable (ops : List Op) : Sieve.Inv (Sieve.run ops) :=
  Sieve.contract.inv_run Sieve.Inv_init ops

example : Sieve.Inv (Sieve.run [.admit 1 2, .admit 2 0, .access 1 2, .evict 1 []]) := sieve_inv_reachable _

theorem sieve_evict_sound {s : Sieve.State} (h : Sieve.Inv s) (n : Nat) :
    EvictSound (Sieve.tracked s) (Sieve.tracked (Sieve.evict s n).1) (Sieve.evict s n).2.1 (Sieve.evict s n).2.2
    ∧ Sieve.Inv (Sieve.evict s n).1 :=
  Sieve.contract.evict h n []

theorem sieve_evict_enough (s : Sieve.State) {n : Nat}
    (hn : n ≤ costSum (Sieve.tracked s)) : n ≤ (Sieve.evict s n).2.2 :=
  (Sieve.evict_spec s n).1.enough (Sieve.evict_spec s n).2 hn

example : 4 ≤ costSum (Sieve.tracked (Sieve.run [.admit 1 2, .admit 2 3])) := by decide

theorem sieve_untrack_only_by_nomination (s : Sieve.State) (k c : Nat) :
    AccessOk (Sieve.tracked s) (Sieve.tracked (Sieve.access s k c)) k
    ∧ AdmitOk (Sieve.tracked s) (Sieve.tracked (Sieve.admit s k c).1) k (Sieve.admit s k c).2.victims
    ∧ RemoveOk (Sieve.tracked s) (Sieve.tracked (Sieve.remove s k)) k
    ∧ Sieve.tracked (Sieve.clear s) = [] := by
  refine ⟨?_, ?_, ?_, rfl⟩
  · rw [Sieve.tracked_access]; exact AccessOk.rfl' k
  · rw [Sieve.tracked_admit]; exact AdmitOk.of_push _ k c
  · rw [Sieve.tracked_remove]; exact RemoveOk.of_without _ k

theorem sieve_readmit_updates_cost (s : Sieve.State) (k c : Nat) :
    costOf (Sieve.tracked (Sieve.admit s k c).1) k = some c := by
  rw [Sieve.tracked_admit]; exact costOf_push _ k c

theorem sieve_tracks_only_on_admit {s : Sieve.State} (h : Sieve.Inv s) (op : Op) {x : Nat}
    (hx : x ∈ keys (Sieve.tracked (Sieve.step s op))) :
    x ∈ keys (Sieve.tracked s) ∨ ∃ c, op = .admit x c :=
  Sieve.contract.tracks_only_on_admit h op hx

/-- A key is never nominated twice without a re-admission in between: if `evict` nominated `k`
after history `ops1` and nominates it again after the further calls `ops2`, then `ops2` contains
an `admit k`. -/
theorem sieve_no_renomination (ops1 ops2 : List Op) (n n' k : Nat)
    (h1 : k ∈ (Sieve.evict (Sieve.run ops1) n).2.1)
    (h2 : k ∈ (Sieve.evict (Sieve.run (ops1 ++ .evict n [] :: ops2)) n').2.1) :
    ∃ c, Op.admit k c ∈ ops2 :=
  Sieve.contract.no_renomination Sieve.Inv_init (p' := []) h1 h2

example : 1 ∈ (Sieve.evict (Sieve.run [.admit 1 1]) 1).2.1 ∧
    1 ∈ (Sieve.evict (Sieve.run ([.admit 1 1] ++ .evict 1 [] :: [.admit 1 1])) 1).2.1 := by decide

theorem clock_inv_step {s : Clock.State} (h : Clock.Inv s) (op : Op) : Clock.Inv (Clock.step s op) :=
  Clock.contract.inv_step h op

theorem clock_inv_reachable (ops : List Op) : Clock.Inv (Clock.run ops) :=
  Clock.contract.inv_run Clock.Inv_init ops

example : Clock.Inv (Clock.run [.admit 1 2, .admit 2 0, .access 1 2, .evict 1 []]) := clock_inv_reachable _

theorem clock_evict_sound {s : Clock.State} (h : Clock.Inv s) (n : Nat) :
    EvictSound (Clock.tracked s) (Clock.tracked (Clock.evict s n).1) (Clock.evict s n).2.1 (Clock.evict s n).2.2
    ∧ Clock.Inv (Clock.evict s n).1 :=
  Clock.contract.evict h n []

/-- in particular the second-chance sweep always finds a victim while anything is tracked -/
theorem clock_evict_enough (s : Clock.State) {n : Nat}
    (hn : n ≤ costSum (Clock.tracked s)) : n ≤ (Clock.evict s n).2.2 :=
  (Clock.evict_spec s n).1.enough (Clock.evict_spec s n).2 hn

example : 4 ≤ costSum (Clock.tracked (Clock.run [.admit 1 2, .admit 2 3])) := by decide

theorem clock_untrack_only_by_nomination {s : Clock.State} (h : Clock.Inv s) (k c : Nat) :
    AccessOk (Clock.tracked s) (Clock.tracked (Clock.access s k c)) k
    ∧ AdmitOk (Clock.tracked s) (Clock.tracked (Clock.admit s k c).1) k (Clock.admit s k c).2.victims
    ∧ RemoveOk (Clock.tracked s) (Clock.tracked (Clock.remove s k)) k
    ∧ Clock.tracked (Clock.clear s) = [] :=
  ⟨(Clock.contract.access h k c).2, (Clock.admit_spec s k c).ok, (Clock.contract.remove h k).2, rfl⟩

/-- F9c witness: Clock keeps the stale cost on re-admission. -/
theorem C14_fails_F9c_clock :
    let s := (Clock.admit (Clock.admit Clock.init 1 1).1 1 5).1
    costOf (Clock.tracked s) 1 = some 1 := by decide

/-- PARTIAL (F9c): excluded is the cost update on re-admission of a tracked key (no-op, the OLD
cost stays; no duplication). For an untracked key the cost is recorded as given. -/
theorem clock_readmit_updates_cost_partial (s : Clock.State) (k c : Nat) :
    (k ∉ keys (Clock.tracked s) → costOf (Clock.tracked (Clock.admit s k c).1) k = some c)
    ∧ (k ∈ keys (Clock.tracked s) → (Clock.admit s k c).1 = s) :=
  ⟨(Clock.admit_spec s k c).fresh, (Clock.admit_spec s k c).kept⟩

theorem clock_tracks_only_on_admit {s : Clock.State} (h : Clock.Inv s) (op : Op) {x : Nat}
    (hx : x ∈ keys (Clock.tracked (Clock.step s op))) :
    x ∈ keys (Clock.tracked s) ∨ ∃ c, op = .admit x c :=
  Clock.contract.tracks_only_on_admit h op hx

/-- A key is never nominated twice without a re-admission in between: if `evict` nominated `k`
after history `ops1` and nominates it again after the further calls `ops2`, then `ops2` contains
an `admit k`. -/
theorem clock_no_renomination (ops1 ops2 : List Op) (n n' k : Nat)
    (h1 : k ∈ (Clock.evict (Clock.run ops1) n).2.1)
    (h2 : k ∈ (Clock.evict (Clock.run (ops1 ++ .evict n [] :: ops2)) n').2.1) :
    ∃ c, Op.admit k c ∈ ops2 :=
  Clock.contract.no_renomination Clock.Inv_init (p' := []) h1 h2

example : 1 ∈ (Clock.evict (Clock.run [.admit 1 1]) 1).2.1 ∧
    1 ∈ (Clock.evict (Clock.run ([.admit 1 1] ++ .evict 1 [] :: [.admit 1 1])) 1).2.1 := by decide

/-! ARC: `cap` = capacity, a construction-time constant; tracked = T1 ++ T2, the ghost lists
B1/B2 remember keys that are NOT resident and are not tracked -/

theorem arc_inv_step (cap : Nat) {s : Arc.State} (h : Arc.Inv s) (op : Op) :
    Arc.Inv (Arc.step cap s op) :=
  (Arc.contract cap).inv_step h op

theorem arc_inv_reachable (cap : Nat) (ops : List Op) : Arc.Inv (Arc.run cap ops) :=
  (Arc.contract cap).inv_run Arc.Inv_init ops

/-- the invariant says in particular: no key is tracked twice (in T1 or T2) -/
theorem arc_inv_nodup {s : Arc.State} (h : Arc.Inv s) : (keys (Arc.tracked s)).Nodup :=
  Arc.nodup_tracked h

example : Arc.Inv (Arc.run 2 [.admit 1 1, .admit 2 1, .admit 3 1, .access 2 1, .evict 1 []]) :=
  arc_inv_reachable _ _

theorem arc_evict_sound {s : Arc.State} (h : Arc.Inv s) (n cap : Nat) :
    EvictSound (Arc.tracked s) (Arc.tracked (Arc.evict s n cap).1)
      (Arc.evict s n cap).2.1 (Arc.evict s n cap).2.2
    ∧ Arc.Inv (Arc.evict s n cap).1 :=
  (Arc.contract cap).evict h n []

/-- F9a witness (second half of the finding): `replace` returns `None` although T1 is not empty
(T1 cheaper than the target `p`, T2 empty), so `evict 2` frees 1 while keys worth 2 are tracked. -/
theorem C14_fails_F9a_arc_evict_stuck :
    let s := Arc.run 2 [.admit 1 1, .admit 2 1, .admit 3 1, .admit 1 1, .admit 2 1]
    costSum (Arc.tracked s) = 2 ∧ (Arc.evict s 2 2).2 = ([1], 1) := by decide

/-- PARTIAL (F9a): `evict n` frees at least `n` provided the tracked keys are worth `n + p` (`p` =
ARC's adaptive target for T1). Excluded: requests within `p` of the total tracked cost — there
`replace` may give up with T1 non-empty (witness `C14_fails_F9a_arc_evict_stuck`). -/
theorem arc_evict_enough_partial {s : Arc.State} (h : Arc.Inv s) {n : Nat} (cap : Nat)
    (hn : n + s.p ≤ costSum (Arc.tracked s)) : n ≤ (Arc.evict s n cap).2.2 := by
  obtain ⟨hd, _, hdone⟩ := Arc.evict_spec h n cap
  have := hd.costSum_eq
  omega

example : Arc.Inv (Arc.run 2 [.admit 1 1, .admit 2 1]) ∧
    2 + (Arc.run 2 [.admit 1 1, .admit 2 1]).p ≤ costSum (Arc.tracked (Arc.run 2 [.admit 1 1, .admit 2 1])) :=
  ⟨arc_inv_reachable _ _, by decide⟩

/-- F9a witness: ARC stops tracking key 1 without nominating it. -/
theorem C14_fails_F9a_arc :
    let s := (Arc.admit (Arc.admit (Arc.admit Arc.init 1 1 2).1 2 1 2).1 3 1 2).1
    (s.t1.contains 1 || s.t2.contains 1) = false ∧ (Arc.evict s 1000000 2).2.1 = [2, 3] := by decide

/-- PARTIAL (F9a): access / remove / clear obey the contract. `admit k` obeys it (with the empty
victim list it reports) when `k` is already tracked or T1+T2 is below capacity. Excluded: an
admission of a new key at capacity — there the tracked set changes as if a list `dropped` of at
most one key had been nominated, but `on_admit` reports no victim (it discards the key chosen by
`replace`; witness `C14_fails_F9a_arc`). Nothing else is ever untracked. -/
theorem arc_untrack_only_by_nomination_partial {s : Arc.State} (h : Arc.Inv s) (k c cap : Nat) :
    AccessOk (Arc.tracked s) (Arc.tracked (Arc.access s k c)) k
    ∧ ((k ∈ keys (Arc.tracked s) ∨ s.t1.cost + s.t2.cost < cap) →
        AdmitOk (Arc.tracked s) (Arc.tracked (Arc.admit s k c cap).1) k (Arc.admit s k c cap).2.victims)
    ∧ (∃ dropped : List Nat, dropped.length ≤ 1
        ∧ AdmitOk (Arc.tracked s) (Arc.tracked (Arc.admit s k c cap).1) k dropped)
    ∧ RemoveOk (Arc.tracked s) (Arc.tracked (Arc.remove s k)) k
    ∧ Arc.tracked (Arc.clear s) = [] := by
  obtain ⟨_, _, dropped, hl, hok, hnone⟩ := Arc.admit_spec h k c cap
  refine ⟨(Arc.access_spec h k c).2, fun hc => ?_, ⟨dropped, hl, hok⟩,
    ((Arc.contract cap).remove h k).2, rfl⟩
  rw [Arc.admit_snd]; rw [hnone hc] at hok; exact hok

/-- Re-admitting (or admitting) `k` records cost `c` for it — once, by `arc_inv_nodup`. -/
theorem arc_readmit_updates_cost {s : Arc.State} (h : Arc.Inv s) (k c cap : Nat) :
    costOf (Arc.tracked (Arc.admit s k c cap).1) k = some c := by
  obtain ⟨hi, hm, _⟩ := Arc.admit_spec h k c cap
  exact (costOf_eq_some_iff (Arc.nodup_tracked hi)).2 hm

theorem arc_tracks_only_on_admit (cap : Nat) {s : Arc.State} (h : Arc.Inv s) (op : Op) {x : Nat}
    (hx : x ∈ keys (Arc.tracked (Arc.step cap s op))) :
    x ∈ keys (Arc.tracked s) ∨ ∃ c, op = .admit x c :=
  (Arc.contract cap).tracks_only_on_admit h op hx

/-- A key is never nominated twice without a re-admission in between: if `evict` nominated `k`
after history `ops1` and nominates it again after the further calls `ops2`, then `ops2` contains
an `admit k`. -/
theorem arc_no_renomination (cap : Nat) (ops1 ops2 : List Op) (n n' k : Nat)
    (h1 : k ∈ (Arc.evict (Arc.run cap ops1) n cap).2.1)
    (h2 : k ∈ (Arc.evict (Arc.run cap (ops1 ++ .evict n [] :: ops2)) n' cap).2.1) :
    ∃ c, Op.admit k c ∈ ops2 :=
  (Arc.contract cap).no_renomination Arc.Inv_init (p' := []) h1 h2

example : 1 ∈ (Arc.evict (Arc.run 2 [.admit 1 1]) 1 2).2.1 ∧
    1 ∈ (Arc.evict (Arc.run 2 ([.admit 1 1] ++ .evict 1 [] :: [.admit 1 1])) 1 2).2.1 := by decide

/-! W-TinyLFU: tracked = admission window ++ main SLRU; the theorems hold for EVERY state of
the frequency sketch, so they do not depend on how the sketch is modelled -/

theorem tinylfu_inv_step (cfg : TinyLfu.Cfg) {s : TinyLfu.State} (h : TinyLfu.Inv s) (op : Op) :
    TinyLfu.Inv (TinyLfu.step cfg s op) :=
  (TinyLfu.contract cfg).inv_step h op

theorem tinylfu_inv_reachable (cfg : TinyLfu.Cfg) (ops : List Op) : TinyLfu.Inv (TinyLfu.run cfg ops) :=
  (TinyLfu.contract cfg).inv_run (TinyLfu.Inv_init cfg) ops

/-- the invariant says in particular: no key is tracked twice (window, probation, protected) -/
theorem tinylfu_inv_nodup {s : TinyLfu.State} (h : TinyLfu.Inv s) : (keys (TinyLfu.tracked s)).Nodup :=
  TinyLfu.nodup_tracked h

example : TinyLfu.Inv (TinyLfu.run (TinyLfu.mkCfg 10)
    [.admit 1 1, .admit 2 1, .admit 3 1, .access 2 1, .evict 1 []]) := tinylfu_inv_reachable _ _

theorem tinylfu_evict_sound {s : TinyLfu.State} (h : TinyLfu.Inv s) (cfg : TinyLfu.Cfg) (n : Nat) :
    EvictSound (TinyLfu.tracked s) (TinyLfu.tracked (TinyLfu.evict s cfg n).1)
      (TinyLfu.evict s cfg n).2.1 (TinyLfu.evict s cfg n).2.2
    ∧ TinyLfu.Inv (TinyLfu.evict s cfg n).1 :=
  (TinyLfu.contract cfg).evict h n []

/-- F9b witness: TinyLFU never nominates a key that sits in the admission window. -/
theorem C14_fails_F9b_tinylfu :
    let cfg := TinyLfu.mkCfg 10
    let s := (TinyLfu.admit (TinyLfu.init cfg) cfg 1 1).1
    s.window.contains 1 = true ∧ (TinyLfu.evict s cfg 1).2 = ([], 0) := by decide

/-- PARTIAL (F9b): `evict n` frees at least `n` provided the MAIN segment alone is worth `n`.
Excluded: the cost of keys sitting in the admission window — `evict` never nominates them
(witness `C14_fails_F9b_tinylfu`). -/
theorem tinylfu_evict_enough_partial {s : TinyLfu.State} (h : TinyLfu.Inv s) (cfg : TinyLfu.Cfg)
    {n : Nat} (hn : n ≤ costSum (Slru.tracked s.main)) : n ≤ (TinyLfu.evict s cfg n).2.2 :=
  (TinyLfu.evict_spec h cfg n).2.2 hn

example : TinyLfu.Inv (TinyLfu.run (TinyLfu.mkCfg 10) [.admit 1 1, .admit 2 1, .admit 3 1]) ∧
    1 ≤ costSum (Slru.tracked (TinyLfu.run (TinyLfu.mkCfg 10) [.admit 1 1, .admit 2 1, .admit 3 1]).main) :=
  ⟨tinylfu_inv_reachable _ _, by decide⟩

/-- TinyLFU obeys the tracking contract at full strength: `admit` may reject window candidates,
and it reports exactly those as `AdmitAndEvict` victims. -/
theorem tinylfu_untrack_only_by_nomination {s : TinyLfu.State} (h : TinyLfu.Inv s)
    (cfg : TinyLfu.Cfg) (k c : Nat) :
    AccessOk (TinyLfu.tracked s) (TinyLfu.tracked (TinyLfu.access s cfg k c)) k
    ∧ AdmitOk (TinyLfu.tracked s) (TinyLfu.tracked (TinyLfu.admit s cfg k c).1) k
        (TinyLfu.admit s cfg k c).2.victims
    ∧ RemoveOk (TinyLfu.tracked s) (TinyLfu.tracked (TinyLfu.remove s k)) k
    ∧ TinyLfu.tracked (TinyLfu.clear s) = [] :=
  ⟨((TinyLfu.contract cfg).access h k c).2, (TinyLfu.admit_spec h cfg k c).2.1,
    ((TinyLfu.contract cfg).remove h k).2, rfl⟩

example : (TinyLfu.admit (TinyLfu.run (TinyLfu.mkCfg 10) [.admit 1 1, .admit 2 1, .access 1 1, .access 1 1])
    (TinyLfu.mkCfg 10) 3 1).2 = .admitAndEvict [2] := by decide

/-- After `admit k c`, unless `k` itself was rejected by the admission filter (then it is among
the reported victims and untracked), `k` is tracked with cost `c` — once, by `tinylfu_inv_nodup`. -/
theorem tinylfu_readmit_updates_cost {s : TinyLfu.State} (h : TinyLfu.Inv s)
    (cfg : TinyLfu.Cfg) (k c : Nat) (hk : k ∉ (TinyLfu.admit s cfg k c).2.victims) :
    costOf (TinyLfu.tracked (TinyLfu.admit s cfg k c).1) k = some c := by
  obtain ⟨hi, _, hm⟩ := TinyLfu.admit_spec h cfg k c
  exact (costOf_eq_some_iff (TinyLfu.nodup_tracked hi)).2 (hm hk)

theorem tinylfu_tracks_only_on_admit (cfg : TinyLfu.Cfg) {s : TinyLfu.State} (h : TinyLfu.Inv s) (op : Op) {x : Nat}
    (hx : x ∈ keys (TinyLfu.tracked (TinyLfu.step cfg s op))) :
    x ∈ keys (TinyLfu.tracked s) ∨ ∃ c, op = .admit x c :=
  (TinyLfu.contract cfg).tracks_only_on_admit h op hx

/-- A key is never nominated twice without a re-admission in between: if `evict` nominated `k`
after history `ops1` and nominates it again after the further calls `ops2`, then `ops2` contains
an `admit k`. -/
theorem tinylfu_no_renomination (cfg : TinyLfu.Cfg) (ops1 ops2 : List Op) (n n' k : Nat)
    (h1 : k ∈ (TinyLfu.evict (TinyLfu.run cfg ops1) cfg n).2.1)
    (h2 : k ∈ (TinyLfu.evict (TinyLfu.run cfg (ops1 ++ .evict n [] :: ops2)) cfg n').2.1) :
    ∃ c, Op.admit k c ∈ ops2 :=
  (TinyLfu.contract cfg).no_renomination (TinyLfu.Inv_init cfg) (p' := []) h1 h2

example : 1 ∈ (TinyLfu.evict (TinyLfu.run (TinyLfu.mkCfg 10) [.admit 1 1, .admit 2 1]) (TinyLfu.mkCfg 10) 1).2.1 ∧
    1 ∈ (TinyLfu.evict (TinyLfu.run (TinyLfu.mkCfg 10)
      ([.admit 1 1, .admit 2 1] ++ .evict 1 [] :: [.admit 1 1, .admit 3 1])) (TinyLfu.mkCfg 10) 2).2.1 := by decide

end Fv.Props.C14
