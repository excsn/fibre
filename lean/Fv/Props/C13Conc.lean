import Fv.Props.CacheConc
/-!
# C13 under interleavings — the accounting clause at full strength for unbounded caches

`Fv.Props.CacheConc.C13c_quiescent_accounting_partial` needs `dirty = false` (no capacity pass was
told a released cost different from what it removed). With `capacity = u64::MAX` (`unbounded()`), the
capacity pass's load of `current_cost` can never exceed the capacity, so the pass never reaches its
policy call: the hypothesis is a theorem.

Every theorem below quantifies over programs that mix calls on the sync and on the async handle
(`Fv.Props.CacheConc`, `Fv.Props.CacheConcAsync`).
-/
namespace Fv.Props.C13Conc
open Fv.Cache.Conc

/-- **Accounting at quiescence, unbounded cache, full strength**: for every program, thread count and
interleaving of get / insert / overwrite / remove / compute / or_insert / clear / maintenance passes,
in every quiescent reachable state `current_cost` = Σ cost of resident entries. -/
theorem C13c_quiescent_accounting_unbounded {c : Cfg} (hc : 18446744073709551615 ≤ c.capacity) {s : State}
    (h : Reach c s) (hq : Quiescent c s) : s.cur = residentCost s :=
  Fv.Props.CacheConc.C13c_quiescent_accounting_partial h hq (invU_reach hc h).clean

/-- in an unbounded cache no thread is ever inside the evicting part of the capacity pass -/
theorem C13c_unbounded_never_evicts_for_capacity {c : Cfg} (hc : 18446744073709551615 ≤ c.capacity) {s : State}
    (h : Reach c s) (t : Nat) : capPC (s.pc t) = false := (invU_reach hc h).nocap t

/-- non-vacuity: the insert ‖ clear schedule in an unbounded configuration ends quiescent -/
example : (run { nThreads := 2, nShards := 1, capacity := 18446744073709551615 } init
    Fv.Props.CacheConc.traceClearOverlap).map (fun s => (s.cur, residentCost s)) = some (0, 0) := by decide

end Fv.Props.C13Conc
