import Fv.Lemmas.SyncMutexQuiet
import Fv.Lemmas.SyncRwProps
import Fv.Lemmas.SyncRwWakeT
/-!
# C10 — hybrid locks: mutual exclusion, wake on release, cancel-safe acquisition

Models (B level, one visible action per step, all programs / thread counts / interleavings):
`Fv/Sync/WaitList.lean`, `Fv/Sync/Mutex.lean` (`fibre::sync::HybridMutex`), `Fv/Sync/RwLock.lean`
(`HybridRwLock`).  `Mutex.Reach cfg s`: `s` is reachable from an initial state (any programs) by
any interleaving of thread steps (`Mutex.next`), for any spin / poll budgets `cfg`.

Theorems here (helpers in `Fv/Lemmas/Sync*.lean`):
* (a) `mutex_mutual_exclusion`, `mutex_locked_iff_held` — a holder excludes every other holder;
* (b) `mutex_try_lock_bounded` — `try_lock` is straight-line: ≤ 3 own steps, never parks/spins;
* (c) `mutex_no_lost_wakeup` — NO LOST WAKEUP, safety form: whenever a thread is parked without a
  token (or a polled future is Pending with no wake recorded) and the lock is free, the queue is
  non-empty and its head is covered: a `wake_next` is in flight (a releaser that read `HAS_QUEUED`,
  or a dropping `WOKEN` future before its forwarding call), or the head is `WOKEN` with an awake
  owner / an undelivered handle, or the head's owner is in its own re-check phase; corollary
  `mutex_quiescent_no_blocked_waiter`; `mutex_woken_node_accounted` (wake conservation);
  `mutex_drop_woken_forwards`;
* (d) `mutex_list_wf`, `mutex_queued_node_has_live_owner`, `mutex_list_lock_exclusive` — the wait
  list is exactly the set of linked nodes (no duplicates, counters exact) in every reachable
  state, whatever futures are dropped and whenever; every queued node belongs to a waiter that is
  still inside its acquisition (thread in `lock_slow`, or a live future whose node is allocated),
  so no wake ever touches a freed node; list critical sections exclude each other.

HybridRwLock (`RwLock.Reach cfg s`, same conventions):
* (a) `rwlock_mutual_exclusion`, `rwlock_reader_count`; (b) `rwlock_try_bounded`;
* (c) `rwlock_no_lost_wakeup` — NO LOST WAKEUP, safety form: whenever the lock is free (no writer, no
  reader) and the queue is non-empty, a `wake_waiters` is in flight (a releaser that read
  `HAS_QUEUED`, or a dropping `WOKEN` future before its forwarding call), or a covering node is
  queued: a writer node (any node if no writer is queued) that is `WOKEN` with an awake owner / an
  undelivered handle, or whose owner is in its own acquisition / re-check phase;
  `rwlock_blocked_waiter_covered` — the node of every blocked waiter is queued, or `WOKEN` with its
  handle in flight, or unlinked by a waker that is about to mark it; `rwlock_woken_node_accounted`
  (wake conservation, also for reader nodes the waker has already unlinked);
  `rwlock_drop_woken_forwards`; corollary `rwlock_quiescent_no_blocked_waiter`;
* (d) `rwlock_list_wf`, `rwlock_queued_node_has_live_owner`;
* (e) writer preference: `rwlock_writer_pending_iff_writer_queued`, `rwlock_has_queued_iff_nonempty`
  (no list critical section open), `rwlock_reader_cas_needs_flag_clear`, `rwlock_writer_gate`, and,
  in EVERY reachable state, `rwlock_writer_queued_pending` (a queued writer node implies
  `WRITER_PENDING`, except during the one step between that writer's `link_back` and its
  `fetch_or`) and `rwlock_writer_preference` (hence no read-acquiring CAS succeeds meanwhile).
(c) rests on the wake invariants `Mutex.WInv` (14 conjuncts, `Fv/Lemmas/SyncMutexWake.lean`; inductive:
`Mutex.WInv_reach`, `SyncMutexQuiet.lean`) and `RwLock.WInv` (14 conjuncts, `SyncRwWakeI.lean`; inductive:
`RwLock.WInv_reach`, `SyncRwWakeA.lean`).
-/
namespace Fv.Props.C10
open Fv.Sync

section MutexTheorems
open Fv.Sync.Mutex

/-- (a) MUTUAL EXCLUSION: in every reachable state a guard holder excludes every other holder. -/
theorem mutex_mutual_exclusion {cfg : Cfg} {s : State} (h : Reach cfg s) :
    ∀ g ∈ s.holders, s.holders = [g] := by
  intro g hg
  exact (holders_key (Inv_reach h).lockedHeld (Inv_reach h).freeEmpty hg).1

/-- (a) the `LOCKED` bit is set exactly while a guard exists (ghost `holders`: added by the
acquiring CAS, removed by the releasing `fetch_and`). -/
theorem mutex_locked_iff_held {cfg : Cfg} {s : State} (h : Reach cfg s) :
    s.word.locked = true ↔ s.holders ≠ [] := by
  have hi := Inv_reach h
  constructor
  · intro hl; obtain ⟨u, hu⟩ := hi.lockedHeld hl; rw [hu]; simp
  · intro hne
    cases hl : s.word.locked
    · exact absurd (hi.freeEmpty hl) hne
    · rfl

/-- own-step budget of a `try_lock` in progress (also: a pending `ret`) -/
def tryRank : Pc → Nat
  | .taLoad .tryLock => 3
  | .taCas .tryLock => 2
  | .ret _ => 1
  | _ => 0

/-- (b) `try_lock` never blocks: after `call try_lock` the thread is at rank 3; every own step
from a positive rank is a load, a CAS or the return (never `park`, `yield`, `spin`) and strictly
decreases the rank; steps of other threads do not touch it.  Hence `try_lock` returns after at
most 3 further own steps, in every interleaving. -/
theorem mutex_try_lock_bounded {cfg : Cfg} {s s' : State} {t : Tid} {l : Lbl}
    (h : (l, s') ∈ next cfg s t) :
    (l = .call .tryLock → tryRank (s'.th t).pc = 3)
    ∧ (0 < tryRank (s.th t).pc →
        l ≠ .park ∧ l ≠ .parkSpur ∧ l ≠ .yield ∧ l ≠ .spin ∧ tryRank (s'.th t).pc < tryRank (s.th t).pc)
    ∧ (∀ u, u ≠ t → s'.th u = s.th u) := by
  have hs := step_of_mem h
  refine ⟨?_, ?_, step_th_other hs⟩
  · intro hl
    cases hs <;> simp_all [callStep, setTh, tryRank]
  · intro hr
    cases hs
    case taLoadLocked k hpc hl => cases k <;> simp_all [tryRank, taFail, withPc, setTh]
    case taLoadFree k hpc hl => cases k <;> simp_all [tryRank, setTh]
    case taCasOk k hpc he => cases k <;> simp_all [tryRank, taSucc, withPc, setTh]
    case taCasFail k hpc he => cases k <;> simp_all [tryRank, taFail, withPc, setTh]
    all_goals simp_all [tryRank]

/-- (d) LIST INVARIANT: in every reachable state the FIFO holds exactly the linked nodes, without
repetition, and `len` / `writers` are exact — across every future drop, before or after a wake. -/
theorem mutex_list_wf {cfg : Cfg} {s : State} (h : Reach cfg s) : s.wl.WF := (Inv_reach h).wf

/-- (d) NO DANGLING NODE: a queued stack node belongs to a thread that is still inside
`lock_slow` (its frame is alive); a queued heap node belongs to a future that is alive and has
its node allocated.  (A dropped, completed or never-queued future has no node in the list.) -/
theorem mutex_queued_node_has_live_owner {cfg : Cfg} {s : State} (h : Reach cfg s) :
    ∀ n ∈ s.wl.queue,
      match n with
      | .thr t => (s.th t).cur = none ∧ slowL (s.th t).pc = true
      | .fut f => (s.fut f).phase = .startedNode := by
  have hi := Inv_reach h
  intro n hn
  have hl := (hi.wf.linked n).2 hn
  cases n with
  | thr t => exact hi.thrNode t hl
  | fut f => exact hi.futNode f hl

/-- (d) the list spinlock gives exclusion: at most one thread is inside a list critical section
and the bit is set while it is. -/
theorem mutex_list_lock_exclusive {cfg : Cfg} {s : State} (h : Reach cfg s) {t u : Tid}
    (ht : inLL (s.th t).pc = true) (hu : inLL (s.th u).pc = true) : t = u ∧ s.wl.locked = true :=
  ⟨((Inv_reach h).ll u hu).2 t ht, ((Inv_reach h).ll t ht).1⟩

/-- thread 0 locks, thread 1 finds the lock held, queues itself and parks -/
def progPark : Tid → List MOp := fun t => if t = 0 then [.lock, .unlock] else if t = 1 then [.lock, .unlock] else []

def schedPark : List (Tid × Nat) :=
  [(0,0),(0,0),(0,0),(0,0), (1,0),(1,0),(1,0),(1,0),(1,0),(1,0),(1,0),(1,0),(1,0),(1,0)]

theorem parked_state_reachable :
    ∃ s, Reach {} s ∧ (s.th 1).pc = .wPark ∧ s.token 1 = false ∧ s.word.locked = true
      ∧ s.wl.queue = [.thr 1] ∧ s.holders = [(0, true)] := by
  have h1 : ((exec {} (init progPark) schedPark).map fun s =>
      (((s.th 1).pc, s.token 1, s.word.locked, s.wl.queue), s.holders))
      = some ((.wPark, false, true, [.thr 1]), [(0, true)]) := by decide
  obtain ⟨s, hr, h1⟩ := execOf_obs (init := IsInit) ⟨progPark, rfl⟩ h1
  simp only [Prod.mk.injEq] at h1
  obtain ⟨⟨a, b, c, d⟩, e⟩ := h1
  exact ⟨s, hr, a, b, c, d, e⟩

example : ∃ s, Reach {} s ∧ s.holders ≠ [] := by
  obtain ⟨s, hr, _, _, _, _, hh⟩ := parked_state_reachable
  exact ⟨s, hr, by rw [hh]; simp⟩

/-- a thread parked without a token: a sync waiter in `lock_slow`'s park loop, or the harness
executor of a `lock_async` future that returned `Pending` -/
def ParkedBlocked (s : State) (u : Tid) : Prop :=
  ((s.th u).pc = .wPark ∨ (s.th u).pc = .boPark) ∧ s.token u = false

/-- a manually polled future that returned `Pending` (its node is allocated), is not being polled
or dropped right now, and has no wake recorded since its last poll -/
def PendingBlocked (s : State) (f : Fid) : Prop :=
  (s.fut f).phase = .startedNode ∧ (s.fut f).busy = false ∧ s.wakes f = 0

/-- (c) NO LOST WAKEUP (safety form).  In every reachable state in which the lock is free and some
waiter is blocked, the wait queue is non-empty and its head `hd` is covered:
* some thread is inside a `wake_next` that has not yet marked the head - it released the lock by
  the `fetch_and` that read `HAS_QUEUED`, or it is dropping a future whose node is `WOKEN` and has
  not yet made the forwarding call (`PreWake`); or
* `hd` is `WOKEN` and its owner is not blocked (awake thread / token present / wake recorded / being
  polled), or the handle that unblocks it is still carried by the waker (`PostWake`); or
* the owner of `hd` is itself in its acquisition / arm-and-re-check phase (`OwnerActive`).
Each of these threads has an enabled step, so a wake is always owed. -/
theorem mutex_no_lost_wakeup {cfg : Cfg} {s : State} (hr : Reach cfg s) (hfree : s.word.locked = false)
    (hb : (∃ u, ParkedBlocked s u) ∨ (∃ f, PendingBlocked s f)) :
    ∃ hd rest, s.wl.queue = hd :: rest ∧
      ((∃ t, PreWake s t)
        ∨ ((s.wl.node hd).woken = true ∧ (¬ OwnerBlocked s hd ∨ ∃ t, PostWake s t hd))
        ∨ OwnerActive s hd) := by
  obtain ⟨n, hn⟩ : ∃ n, n ∈ s.wl.queue := by
    rcases hb with ⟨u, hp, _⟩ | ⟨f, hph, hbz, _⟩
    · exact ⟨_, parked_queued hr hp⟩
    · exact ⟨_, pending_queued hr hph hbz⟩
  cases hq : s.wl.queue with
  | nil => rw [hq] at hn; cases hn
  | cons hd rest => exact ⟨hd, rest, rfl, no_lost_wakeup hr hfree hq⟩

/-- (c)/(d) WAKE CONSERVATION: a queued node that has been marked `WOKEN` is always accounted for -
its owner is not blocked, or the waker still carries the handle that unblocks it.  Together with
`PreWake` covering a dropping `WOKEN` future this is: a consumed wake is used or forwarded. -/
theorem mutex_woken_node_accounted {cfg : Cfg} {s : State} (hr : Reach cfg s) {n : Nid}
    (hq : n ∈ s.wl.queue) (hwk : (s.wl.node n).woken = true) :
    ¬ OwnerBlocked s n ∨ ∃ t, PostWake s t n := by
  obtain ⟨hi, hw⟩ := WInv_reach hr
  exact hw.wk n ((hi.wf.linked n).2 hq) hwk

/-- (d) a future dropped while its node is `WOKEN` is, from the moment the drop starts until its
forwarding `wake_next` has marked the next head, a `PreWake` thread (so the wake it consumed keeps
covering the queue, see `mutex_no_lost_wakeup`); the step after its `state.load` enters `wake_next`. -/
theorem mutex_drop_woken_forwards {cfg : Cfg} {s s' : State} {t : Tid} {l : Lbl}
    (h : (l, s') ∈ next cfg s t) (hpc : (s.th t).pc = .dLoad)
    (hwk : (s.wl.node (.fut (curF (s.th t)))).woken = true) :
    (s'.th t).pc = .llSwap .wakeNext ∧ PreWake s' t := by
  have hs := step_of_mem h
  cases hs <;> simp_all [withPc, setTh, PreWake, preWakePc]

/-- no thread has an enabled step other than a spurious return from `park` -/
def Quiescent (cfg : Cfg) (s : State) : Prop := ∀ t l s', (l, s') ∈ next cfg s t → l = .parkSpur

/-- (c) corollary, QUIESCENT DEADLOCK FREEDOM: in a reachable state in which no thread can take a
step (spurious park returns aside), the lock is free, and the executor has served every recorded
wake (no idle Pending manual future has `wakes > 0` - the one thing the lock cannot do itself is
re-poll a woken task), nobody is waiting: the queue is empty, no thread is parked, no future is
Pending. -/
theorem mutex_quiescent_no_blocked_waiter {cfg : Cfg} {s : State} (hr : Reach cfg s)
    (hq : Quiescent cfg s) (hfree : s.word.locked = false)
    (hexec : ∀ g, (s.fut g).bo = false → (s.fut g).phase = .startedNode → (s.fut g).busy = false → s.wakes g = 0) :
    s.wl.queue = [] ∧ (∀ u, ¬ ParkedBlocked s u) ∧ (∀ f, ¬ PendingBlocked s f) := by
  have hempty : s.wl.queue = [] := Classical.byContradiction fun hne =>
    have ⟨t, l, s', hm, hl⟩ := progress hr hfree hexec hne
    hl (hq t l s' hm)
  refine ⟨hempty, fun u ⟨hp, _⟩ => ?_, fun f ⟨hph, hbz, _⟩ => ?_⟩
  · have := parked_queued hr hp; rw [hempty] at this; cases this
  · have := pending_queued hr hph hbz; rw [hempty] at this; cases this

/-! non-vacuity of (c): thread 0 has released (its `fetch_and` read `HAS_QUEUED`) and is about to
take the list lock in `wake_next`; thread 1 is parked without a token; the lock is free. -/

def schedRel : List (Tid × Nat) := schedPark ++ [(0,0),(0,0)]

theorem nlw_hypotheses_reachable :
    ∃ s, Reach {} s ∧ s.word.locked = false ∧ ParkedBlocked s 1 ∧ PreWake s 0 := by
  have h1 : ((exec {} (init progPark) schedRel).map fun s =>
      (s.word.locked, (s.th 1).pc, s.token 1, (s.th 0).pc)) = some (false, .wPark, false, .llSwap .wakeNext) := by
    decide
  obtain ⟨s, hr, h1⟩ := execOf_obs (init := IsInit) ⟨progPark, rfl⟩ h1
  simp only [Prod.mk.injEq] at h1
  exact ⟨s, hr, h1.1, ⟨Or.inl h1.2.1, h1.2.2.1⟩, Or.inl (by rw [h1.2.2.2]; rfl)⟩

example : ∃ s hd rest, Reach {} s ∧ s.wl.queue = hd :: rest := by
  obtain ⟨s, hr, hf, hb, _⟩ := nlw_hypotheses_reachable
  obtain ⟨hd, rest, hq, _⟩ := mutex_no_lost_wakeup hr hf (Or.inl ⟨1, hb⟩)
  exact ⟨s, hd, rest, hr, hq⟩

/-- the state in which every program has ended is quiescent (and satisfies the corollary's hypotheses) -/
example : Reach {} (init fun _ => []) ∧ Quiescent {} (init fun _ => []) ∧ (init fun _ => []).word.locked = false :=
  ⟨ReachOf.init ⟨_, rfl⟩, by intro t l s' h; simp [next, init, nIdle] at h, rfl⟩

end MutexTheorems

section RwLockTheorems
open Fv.Sync.RwLock

/-- (a) MUTUAL EXCLUSION: in every reachable state a write holder excludes every other holder
(read guards may coexist, see `rwlock_reader_count`). -/
theorem rwlock_mutual_exclusion {cfg : RwLock.Cfg} {s : RwLock.State} (hr : RwLock.Reach cfg s) :
    ∀ g ∈ s.holders, g.2 = true → s.holders = [g] := by
  have hi := Inv_reach hr
  intro g hm ht
  cases hl : s.word.wl
  · have := (hi.free hl).1 g hm
    rw [ht] at this; cases this
  · obtain ⟨⟨u, hu⟩, -⟩ := hi.wlHeld hl
    rw [hu] at hm ⊢
    simp at hm
    rw [hm]

/-- (a) while `WRITE_LOCKED` is clear every guard is a read guard and the reader count of the state
word is exactly the number of read guards. -/
theorem rwlock_reader_count {cfg : RwLock.Cfg} {s : RwLock.State} (hr : RwLock.Reach cfg s)
    (hl : s.word.wl = false) : (∀ g ∈ s.holders, g.2 = false) ∧ s.holders.length = s.word.readers :=
  (Inv_reach hr).free hl

/-- (b) `try_read` / `try_write` are straight-line: ≤ 3 own steps, never park / yield / spin. -/
theorem rwlock_try_bounded {cfg : RwLock.Cfg} {s s' : RwLock.State} {t : Tid} {l : RwLock.Lbl}
    (h : (l, s') ∈ RwLock.next cfg s t) :
    ((l = .call .tryRead ∨ l = .call .tryWrite) → RwLock.tryRank (s'.th t).pc = 3)
    ∧ (0 < RwLock.tryRank (s.th t).pc →
        l ≠ .park ∧ l ≠ .parkSpur ∧ l ≠ .yield ∧ l ≠ .spin
          ∧ RwLock.tryRank (s'.th t).pc < RwLock.tryRank (s.th t).pc)
    ∧ (∀ u, u ≠ t → s'.th u = s.th u) := RwLock.try_bounded h

/-- (d) the wait-list invariant holds in every reachable state (wake_waiters unlinking other
threads' reader nodes, future drops before / after a wake included). -/
theorem rwlock_list_wf {cfg : RwLock.Cfg} {s : RwLock.State} (hr : RwLock.Reach cfg s) : s.wl.WF :=
  (Inv_reach hr).wf

/-- (d) no dangling node: a queued stack node belongs to a thread inside `read_slow`/`write_slow`,
a queued heap node to a live future whose node is allocated. -/
theorem rwlock_queued_node_has_live_owner {cfg : RwLock.Cfg} {s : RwLock.State} (hr : RwLock.Reach cfg s) :
    ∀ n ∈ s.wl.queue,
      match n with
      | .thr t => (s.th t).cur = none ∧ RwLock.slowL (s.th t).pc = true
      | .fut f => (s.fut f).phase = .startedNode := by
  have hi := RwLock.Inv_reach hr
  intro n hn
  have hl := (hi.wf.linked n).2 hn
  cases n with
  | thr t => exact ⟨(hi.thrNode t hl).1, (hi.thrNode t hl).2.1⟩
  | fut f => exact hi.futNode f hl

/-- (e) WRITER GATE, part 1: whenever no list critical section is open, `WRITER_PENDING` is set
exactly while a writer node is queued. -/
theorem rwlock_writer_pending_iff_writer_queued {cfg : RwLock.Cfg} {s : RwLock.State}
    (hr : RwLock.Reach cfg s) (hl : s.wl.locked = false) :
    s.word.wp = true ↔ ∃ n ∈ s.wl.queue, (s.wl.node n).isWriter = true := by
  rw [wp_iff_writers hr hl, (Inv_reach hr).wf.writers, List.countP_pos_iff]

/-- (e) WRITER GATE, part 2: a read-acquiring CAS succeeds only from a state word with
`WRITER_PENDING` and `WRITE_LOCKED` clear. -/
theorem rwlock_reader_cas_needs_flag_clear {cfg : RwLock.Cfg} {s s' : RwLock.State} {t : Tid} {l : RwLock.Lbl}
    (hr : RwLock.Reach cfg s) (h : (l, s') ∈ RwLock.next cfg s t) {w : Bool} {old new : Nat}
    (hl : l = .cas .state w .acquire .relaxed old new true) (hw : (s.th t).wr = false) :
    s.word.wp = false ∧ s.word.wl = false :=
  ⟨(RwLock.reader_cas_needs_flag_clear hr h hl hw).1, (RwLock.reader_cas_needs_flag_clear hr h hl hw).2.1⟩

/-- (e) WRITER NON-STARVATION, safety form: while a writer node is queued (and no list critical
section is open) no reader can acquire the lock - every read-acquiring CAS fails. -/
theorem rwlock_writer_gate {cfg : RwLock.Cfg} {s s' : RwLock.State} {t : Tid} {l : RwLock.Lbl}
    (hr : RwLock.Reach cfg s) (hl : s.wl.locked = false) {n : Nid} (hn : n ∈ s.wl.queue)
    (hnw : (s.wl.node n).isWriter = true) (h : (l, s') ∈ RwLock.next cfg s t) (hw : (s.th t).wr = false)
    {w : Bool} {old new : Nat} : l ≠ .cas .state w .acquire .relaxed old new true := by
  intro hlab
  have := (reader_cas_needs_flag_clear hr h hlab hw).1
  rw [(rwlock_writer_pending_iff_writer_queued hr hl).2 ⟨n, hn, hnw⟩] at this; cases this

/-- (e) `HAS_QUEUED` is set exactly while the queue is non-empty (no list critical section open). -/
theorem rwlock_has_queued_iff_nonempty {cfg : RwLock.Cfg} {s : RwLock.State}
    (hr : RwLock.Reach cfg s) (hl : s.wl.locked = false) : s.word.hq = true ↔ s.wl.queue ≠ [] := by
  rw [(Inv2_reach hr).hqFree hl, (Inv_reach hr).wf.len, List.length_pos_iff]

/-- (c) NO LOST WAKEUP (safety form).  In every reachable state in which the lock is free (no
writer, no reader) and the wait queue is non-empty,
* some thread is inside a `wake_waiters` that may still mark queued nodes - it released the lock by
  the `fetch_and` / last `fetch_sub` that read `HAS_QUEUED`, or it is dropping a future whose node
  is `WOKEN` and has not yet made the forwarding call (`PreWake`); or
* a covering node `n` is queued: `n` is a writer node, or no writer is queued at all (this is
  what `wake_waiters` would pick: the first writer, else everybody), and
  - `n` is `WOKEN` and its owner is not blocked (awake thread / token present / wake recorded /
    being polled), or the handle that unblocks it is still carried by the waker (`PostWake`); or
  - the owner of `n` is itself in its acquisition / arm-and-re-check phase (`OwnerActive`).
Each of these threads has an enabled step, so a wake is always owed; a reader parked behind a queued
writer is woken by that writer's release (or by the drop of its future, see below). -/
theorem rwlock_no_lost_wakeup {cfg : RwLock.Cfg} {s : RwLock.State} (hr : RwLock.Reach cfg s)
    (hfree : s.word.wl = false ∧ s.word.readers = 0) (hq : s.wl.queue ≠ []) :
    (∃ t, RwLock.PreWake s t)
    ∨ ∃ n ∈ s.wl.queue,
        ((s.wl.node n).isWriter = true ∨ ∀ m ∈ s.wl.queue, (s.wl.node m).isWriter = false)
        ∧ (((s.wl.node n).woken = true ∧ (¬ RwLock.OwnerBlocked s n ∨ ∃ t, RwLock.PostWake s t n))
            ∨ RwLock.OwnerActive s n) :=
  RwLock.no_lost_wakeup hr hfree hq

/-- (c) every blocked waiter is covered, in every reachable state: the node of a thread parked
without a token (sync waiter or `block_on` executor), resp. of a `Pending` manually polled future
with no wake recorded, is still queued (then `rwlock_no_lost_wakeup` speaks about the queue once the
lock is free), or it is `WOKEN` and the handle that unblocks the owner is carried by a waker about to
deliver it, or a waker in the reader loop of `wake_waiters` has unlinked it and is about to mark it. -/
theorem rwlock_blocked_waiter_covered {cfg : RwLock.Cfg} {s : RwLock.State} (hr : RwLock.Reach cfg s) :
    (∀ u, RwLock.ParkedBlocked s u →
      RwLock.me u (s.th u) ∈ s.wl.queue
      ∨ ((s.wl.node (RwLock.me u (s.th u))).woken = true ∧ ∃ t, RwLock.PostWake s t (RwLock.me u (s.th u)))
      ∨ RwLock.MarkPending s (RwLock.me u (s.th u)))
    ∧ (∀ f, RwLock.PendingBlocked s f →
      .fut f ∈ s.wl.queue
      ∨ ((s.wl.node (.fut f)).woken = true ∧ ∃ t, RwLock.PostWake s t (.fut f))
      ∨ RwLock.MarkPending s (.fut f)) := by
  obtain ⟨hi, -, hw⟩ := WInv_reach hr
  exact ⟨fun u hb => Accounted.covered hi hw (hw.pk u (Or.inr hb.1)) (hb.blocked hi hw).1 (hb.blocked hi hw).2,
    fun f hb => Accounted.covered hi hw (hw.fl f hb.1 hb.2.1) hb.1 (hb.blocked hw)⟩

/-- (c)/(d) WAKE CONSERVATION: a node marked `WOKEN` whose owner still exists (a stack node; a heap
node while the future has it allocated) - a queued writer node, or a reader node the waker has
already unlinked - is always accounted for: its owner is not blocked, or a waker still carries the
handle that unblocks it. -/
theorem rwlock_woken_node_accounted {cfg : RwLock.Cfg} {s : RwLock.State} (hr : RwLock.Reach cfg s) {n : Nid}
    (hlive : match n with | .thr _ => True | .fut f => (s.fut f).phase = .startedNode)
    (hwk : (s.wl.node n).woken = true) :
    ¬ RwLock.OwnerBlocked s n ∨ ∃ t, RwLock.PostWake s t n := by
  refine RwLock.woken_node_accounted hr ?_ hwk
  cases n <;> exact hlive

/-- (d) a Read/WriteFuture dropped while its node is `WOKEN` is, from the moment the drop starts
until its forwarding `wake_waiters` has done its marking, a `PreWake` thread (so the wake it consumed
keeps covering the queue, see `rwlock_no_lost_wakeup`); the step after its `state.load` enters
`wake_waiters`. -/
theorem rwlock_drop_woken_forwards {cfg : RwLock.Cfg} {s s' : RwLock.State} {t : Tid} {l : RwLock.Lbl}
    (h : (l, s') ∈ RwLock.next cfg s t) (hpc : (s.th t).pc = .dLoad)
    (hwk : (s.wl.node (.fut (RwLock.curF (s.th t)))).woken = true) :
    (s'.th t).pc = .llSwap .wake ∧ RwLock.PreWake s' t := by
  have hs := step_of_mem h
  cases hs <;> simp_all [withPc, setTh, RwLock.PreWake, preWakePc]

/-- (c) corollary, QUIESCENT DEADLOCK FREEDOM: in a reachable state in which no thread can take a
step (spurious park returns aside), the lock is free, and the executor has served every recorded
wake (no idle Pending manual future has `wakes > 0`), nobody is waiting: the queue is empty, no
thread is parked, no future is Pending. -/
theorem rwlock_quiescent_no_blocked_waiter {cfg : RwLock.Cfg} {s : RwLock.State} (hr : RwLock.Reach cfg s)
    (hq : RwLock.Quiescent cfg s) (hfree : s.word.wl = false ∧ s.word.readers = 0)
    (hexec : ∀ g, (s.fut g).bo = false → (s.fut g).phase = .startedNode → (s.fut g).busy = false → s.wakes g = 0) :
    s.wl.queue = [] ∧ (∀ u, ¬ RwLock.ParkedBlocked s u) ∧ (∀ f, ¬ RwLock.PendingBlocked s f) := by
  have hn := fun hb => let ⟨t, l, s', hm, hne⟩ := RwLock.progress hr hfree hexec hb; hne (hq t l s' hm)
  exact ⟨Classical.byContradiction fun h => hn (Or.inl h), fun u h => hn (Or.inr (Or.inl ⟨u, h⟩)),
    fun f h => hn (Or.inr (Or.inr ⟨f, h⟩))⟩

/-- (e) in EVERY reachable state (list critical sections open or not) a queued writer node implies
that `WRITER_PENDING` is set - the only exception is the single step, under the list lock, between a
writer's `link_back` and its own `fetch_or(HAS_QUEUED | WRITER_PENDING)`. -/
theorem rwlock_writer_queued_pending {cfg : RwLock.Cfg} {s : RwLock.State} (hr : RwLock.Reach cfg s)
    {n : Nid} (hn : n ∈ s.wl.queue) (hnw : (s.wl.node n).isWriter = true) :
    s.word.wp = true ∨ ∃ t, (s.th t).pc = .qFetchOr ∧ (s.th t).wr = true :=
  wpdir_reach hr ((Inv_reach hr).wf.writers_pos (((Inv_reach hr).wf.linked n).2 hn) hnw)

/-- (e) WRITER NON-STARVATION, safety form, without the "no critical section open" proviso of
`rwlock_writer_gate`: while a writer node is queued no read-acquiring CAS succeeds (fast path, spin
loop, poll, re-check under the list lock alike), outside that one-step window. -/
theorem rwlock_writer_preference {cfg : RwLock.Cfg} {s s' : RwLock.State} {t : Tid} {l : RwLock.Lbl}
    (hr : RwLock.Reach cfg s) {n : Nid} (hn : n ∈ s.wl.queue) (hnw : (s.wl.node n).isWriter = true)
    (hwin : ∀ u, (s.th u).pc = .qFetchOr → (s.th u).wr = false)
    (h : (l, s') ∈ RwLock.next cfg s t) (hw : (s.th t).wr = false)
    {w : Bool} {old new : Nat} : l ≠ .cas .state w .acquire .relaxed old new true := by
  intro hlab
  have hwp : s.word.wp = true := by
    rcases rwlock_writer_queued_pending hr hn hnw with h1 | ⟨u, hpc, hwr⟩
    · exact h1
    · rw [hwin u hpc] at hwr; cases hwr
  have := (reader_cas_needs_flag_clear hr h hlab hw).1
  rw [hwp] at this; cases this

/-- thread 0 takes and releases a read guard; thread 1 wants to write -/
def progRwRel : Tid → List RwLock.ROp :=
  fun u => if u = 0 then [.read, .unread] else if u = 1 then [.write] else []

/-- thread 0 reads; thread 1 calls `write`, spins, queues its node, re-checks and parks; thread 0
calls `unread`: its `fetch_sub` reads `readers = 1` and `HAS_QUEUED` -/
def schedRwRel : List (Tid × Nat) := RwLock.schedGate ++ [(0,0),(0,0)]

/-- … then thread 0 takes the list lock, marks the writer node (`wnStore`) and drops the guard; it
now carries the handle `Thread(1)` -/
def schedRwMarked : List (Tid × Nat) := schedRwRel ++ [(0,0),(0,0),(0,0)]

/-- the hypotheses of `rwlock_no_lost_wakeup` / `rwlock_blocked_waiter_covered` are satisfiable:
the lock is free, the writer of thread 1 is queued and parked without a token, thread 0 is on its
way into `wake_waiters` -/
theorem rwlock_nlw_hypotheses_reachable :
    ∃ s, RwLock.Reach {} s ∧ (s.word.wl = false ∧ s.word.readers = 0) ∧ s.wl.queue = [.thr 1]
      ∧ RwLock.ParkedBlocked s 1 ∧ RwLock.PreWake s 0 := by
  have h1 : ((RwLock.exec {} (RwLock.init progRwRel) schedRwRel).map fun s =>
      (s.word.wl, s.word.readers, s.wl.queue, (s.th 1).pc, s.token 1, (s.th 0).pc))
      = some (false, 0, [.thr 1], .wPark, false, .llSwap .wake) := by decide
  obtain ⟨s, hr, h1⟩ := execOf_obs (init := RwLock.IsInit) ⟨progRwRel, rfl⟩ h1
  simp only [Prod.mk.injEq] at h1
  obtain ⟨a, b, c, d, e, f⟩ := h1
  exact ⟨s, hr, ⟨a, b⟩, c, ⟨Or.inl d, e⟩, Or.inl (by rw [f]; rfl)⟩

/-- a marked node with a blocked owner: the lock is free, the writer node of thread 1 is queued and
`WOKEN`, thread 1 is still parked without a token, thread 0 carries the handle -/
theorem rwlock_marked_state_reachable :
    ∃ s, RwLock.Reach {} s ∧ (s.word.wl = false ∧ s.word.readers = 0) ∧ s.wl.queue = [.thr 1]
      ∧ (s.wl.node (.thr 1)).woken = true ∧ (s.wl.node (.thr 1)).isWriter = true
      ∧ RwLock.OwnerBlocked s (.thr 1) ∧ RwLock.PostWake s 0 (.thr 1) := by
  -- observed as the truth value of a conjunction, as in `RwLock.gate_state_reachable`
  have h1 : ((RwLock.exec {} (RwLock.init progRwRel) schedRwMarked).map fun s => decide
      (s.word.wl = false ∧ s.word.readers = 0 ∧ s.wl.queue = [.thr 1] ∧ (s.th 1).pc = .wPark ∧ s.token 1 = false
        ∧ (s.th 0).pc = .wnWake ∧ (s.wl.node (.thr 1)).woken = true ∧ (s.wl.node (.thr 1)).isWriter = true
        ∧ (s.th 0).ws = [.thread 1])) = some true := by decide
  obtain ⟨s, hr, h1⟩ := execOf_obs (init := RwLock.IsInit) ⟨progRwRel, rfl⟩ h1
  obtain ⟨a, b, c, d, e, f, g, i, j⟩ := of_decide_eq_true h1
  exact ⟨s, hr, ⟨a, b⟩, c, g, i, ⟨d, e⟩, by rw [f]; rfl, .thread 1, by rw [j]; simp, rfl⟩

example : ∃ s, RwLock.Reach {} s ∧ (∃ t, RwLock.PreWake s t) := by
  obtain ⟨s, hr, _, _, _, hp⟩ := rwlock_nlw_hypotheses_reachable
  exact ⟨s, hr, 0, hp⟩

/-- in the marked state the conclusion of `rwlock_no_lost_wakeup` holds through its second
disjunct's `WOKEN` branch with the handle in flight -/
example : ∃ s n, RwLock.Reach {} s ∧ n ∈ s.wl.queue ∧ (s.wl.node n).woken = true
    ∧ (¬ RwLock.OwnerBlocked s n ∨ ∃ t, RwLock.PostWake s t n) := by
  obtain ⟨s, hr, _, hq, hwk, _, _, _⟩ := rwlock_marked_state_reachable
  exact ⟨s, .thr 1, hr, by rw [hq]; simp, hwk, rwlock_woken_node_accounted hr trivial hwk⟩

/-- `rwlock_blocked_waiter_covered` is not vacuous: thread 1 is `ParkedBlocked` -/
example : ∃ s, RwLock.Reach {} s ∧ RwLock.ParkedBlocked s 1 ∧ s.wl.queue ≠ [] := by
  obtain ⟨s, hr, _, hq, hb, _⟩ := rwlock_nlw_hypotheses_reachable
  exact ⟨s, hr, hb, by rw [hq]; simp⟩

/-- the state in which every program has ended is quiescent (and satisfies the corollary's hypotheses) -/
example : RwLock.Reach {} (RwLock.init fun _ => []) ∧ RwLock.Quiescent {} (RwLock.init fun _ => [])
    ∧ (RwLock.init fun _ => []).word.wl = false ∧ (RwLock.init fun _ => []).word.readers = 0 :=
  ⟨ReachOf.init ⟨_, rfl⟩, by intro t l s' h; simp [RwLock.next, RwLock.init, RwLock.nIdle] at h, rfl, rfl⟩

/-- the hypotheses of `rwlock_writer_queued_pending` / `rwlock_writer_preference` are satisfiable,
with a reader (thread 2) about to step: the parked writer of `RwLock.gate_state_reachable` -/
example : ∃ s n, RwLock.Reach {} s ∧ n ∈ s.wl.queue ∧ (s.wl.node n).isWriter = true
    ∧ (∀ u, (s.th u).pc = .qFetchOr → (s.th u).wr = false) ∧ s.word.wp = true
    ∧ (RwLock.next {} s 2).length = 1 := by
  obtain ⟨s, hr, h1, h2, _, _, h5, h6, _, _, h9⟩ := RwLock.gate_state_reachable
  refine ⟨s, .thr 1, hr, by rw [h5]; simp, h6, ?_, h2, h9⟩
  intro u hu
  have := ((RwLock.Inv_reach hr).ll u (by rw [hu]; rfl)).1
  rw [h1] at this; cases this

end RwLockTheorems

end Fv.Props.C10
