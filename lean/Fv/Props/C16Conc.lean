import Fv.Lemmas.CacheConcNote
import Fv.Lemmas.CacheConcLock
import Fv.Props.CacheConc
/-!
# C16 under interleavings — no removal is notified twice; maintenance-lock discipline

Model: `Fv.Cache.Conc`. `s.removed` is the ghost log of every removal of a binding from a shard map
by `remove`/`invalidate`, admission-driven eviction, the capacity pass and TTL cleanup, each with a
fresh removal id; `s.notifs` is the log of notifications accepted by the notification channel
(`try_send` succeeded; a full channel drops the notification — `sent = false`).

Every theorem below quantifies over programs that mix calls on the sync and on the async handle
(`Fv.Props.CacheConc`, `Fv.Props.CacheConcAsync`).
-/
namespace Fv.Props.C16Conc
open Fv.Cache.Conc

/-- **No removal is notified twice**, under every interleaving: the removal ids of the accepted
notifications are pairwise distinct. -/
theorem C16c_no_duplicate_notification {c : Cfg} {s : State} (h : Reach c s) :
    (s.notifs.map (·.rid)).Nodup :=
  (nodup_rids_append.1 ((invN_reach h).own 0)).1

/-- removal ids identify removals: the removal log has no two entries with the same id -/
theorem C16c_removal_ids_unique {c : Cfg} {s : State} (h : Reach c s) :
    (s.removed.map (·.rid)).Nodup := (invM_reach h).nodup

/-- **Notifications are truthful**: every accepted notification `(k, v, reason)` is the record of a
logged removal of the binding `k ↦ v` with that reason. -/
theorem C16c_notification_truthful {c : Cfg} {s : State} (h : Reach c s) :
    ∀ n ∈ s.notifs, n ∈ s.removed := fun n hn => (invN_reach h).sub 0 n (List.mem_append_left _ hn)

/-- a notification still to be sent is owned by exactly one thread — the one whose critical section
removed the binding — and has not been sent yet -/
theorem C16c_pending_owned_once {c : Cfg} {s : State} (h : Reach c s) {t1 t2 : Nat} {a b : Note}
    (ha : a ∈ pend (s.pc t1)) (hb : b ∈ pend (s.pc t2)) (e : a.rid = b.rid) :
    t1 = t2 ∧ ∀ m ∈ s.notifs, m.rid ≠ a.rid := by
  have hi := invN_reach h
  exact ⟨Classical.byContradiction fun hne => hi.disj t1 t2 hne a ha b hb e,
    fun m hm => (nodup_rids_append.1 (hi.own t1)).2.2 m hm a ha⟩

/-- **Overwrite by `insert` is not a removal**: the map section of `insert` neither logs a removal
nor sends a notification (stated explicitly, as in the sequential development). -/
theorem C16c_overwrite_is_silent {c : Cfg} {s s' : State} {t : Nat} (h : step c s t .insMap = some s') :
    s'.notifs = s.notifs ∧ s'.removed = s.removed := by
  generalize hpc : s.pc t = a
  cases Step.of_step h hpc <;> exact ⟨rfl, rfl⟩

/-- `clear` notifies nobody -/
theorem C16c_clear_is_silent {c : Cfg} {s s' : State} {t : Nat} (h : step c s t .clear = some s') :
    s'.notifs = s.notifs := by
  generalize hpc : s.pc t = a
  cases Step.of_step h hpc; rfl

/-- **Maintenance-lock discipline**: two threads inside a maintenance pass of the same shard are the
same thread — so at most one thread at a time drains a shard's write-event buffer. -/
theorem C16c_maintenance_exclusive {c : Cfg} {s : State} (h : Reach c s) {t1 t2 sh : Nat}
    (h1 : holds (s.pc t1) = some sh) (h2 : holds (s.pc t2) = some sh) : t1 = t2 :=
  Owns.unique (invL_reach h) h1 h2

/-- no maintenance lock is leaked: a held lock has its holder inside the pass -/
theorem C16c_no_leaked_maintenance_lock {c : Cfg} {s : State} (h : Reach c s) (hq : Quiescent c s)
    (sh : Nat) : s.mlock sh = none :=
  Owns.free (invL_reach h) fun t => by
    rcases isRest_iff.1 (rest_of_quiescent (invA_reach h) hq t) with e | ⟨r, e⟩ <;> simp [e]

/-- non-vacuity: a remove and a concurrent capacity eviction of two different keys, both notified:
two accepted notifications with distinct removal ids. -/
def traceTwoNotifs : List (Nat × Label) :=
  [(0, .call (.insert 0 10 2 none) false), (0, .insMap), (0, .insEv), (0, .insAdd), (0, .coopSkip),
   (0, .call (.insert 1 11 2 none) false), (0, .insMap), (0, .insEv), (0, .insAdd), (0, .coopSkip),
   (1, .call (.maint 0 16 true) false), (1, .mLock), (1, .recv), (1, .recv), (1, .recv),
   (1, .admit .admit), (1, .admit .admit), (1, .ttlAdvance []), (1, .ttiMap [] true), (1, .capLoad), (1, .capEvict [0] 2),
   (0, .call (.remove 1) false), (0, .rmMap), (1, .capMap true), (0, .rmPol), (0, .rmSub), (0, .rmNote true),
   (1, .capSub), (1, .unlock)]

example : (run Fv.Props.CacheConc.cfg3 init traceTwoNotifs).map (fun s => (s.notifs.map (·.rid), s.cur, s.dirty)) =
    some ([1, 0], 0, false) := by decide

end Fv.Props.C16Conc
