import Fv.Lemmas.CacheRegister
import Fv.Lemmas.CacheExpiry
/-
C11 — cache reads return only the latest live value of their own key.

The cache model (`Fv.Cache.stepOp`, one public API call run to completion, generic in the eviction
policy and in the hash-order / victim oracles) REFINES a per-key register
(`Fv.Cache.Reg`, `specStep`, `admissible`, `Agree` in `Fv/Lemmas/CacheRegister.lean`):

* `C11_step`  : one call keeps `Agree` and hands only admissible values to its caller;
* `C11_run`   : so does every history from a fresh cache.

"May forget": a read may return nothing although the register holds a value (expiry, eviction,
capacity maintenance) — the refinement is one-directional (map ⊆ register) on purpose.
-/
namespace Fv.Props.C11
open Fv.Cache
variable {P : Type}

/-- `get` / `fetch` return the value id of the binding of THAT key in the map -/
theorem get_reads_own_binding (cfg : Cfg) (s : State P) (k v : Nat) (h : (s.get cfg k).2 = some v) :
    ∃ e, (k, e) ∈ s.map ∧ e.vid = v := by
  obtain ⟨e, he, hv, _⟩ := get_some cfg s k v h
  exact ⟨e, lookup_mem he, hv⟩

example : (State.get (P := Unit) {} { map := [(1, { vid := 7, cost := 1 })] } 1).2 = some 7 := by decide

theorem specStep_restore_some {sp : Spec} {l : List (Nat × Nat)} (h : sp.snap = some l) (r : Ret) :
    specStep sp .restore r = { sp with reg := Reg.ofPairs l } := by
  simp only [specStep, h]

theorem specStep_restore_none {sp : Spec} (h : sp.snap = none) (r : Ret) : specStep sp .restore r = sp := by
  simp only [specStep, h]

/-- **C11, one step.**  For every configuration, policy, oracle, state and spec state that agree:
    the call hands only admissible values to its caller and the resulting states agree again. -/
theorem C11_step (cfg : Cfg) (ops : PolicyOps P) (p0 : P) (o : Oracle) (s : State P) (sp : Spec) (op : Op)
    (h : Agree s sp) :
    admissible sp op (stepOp cfg ops p0 o s op).2 ∧
      Agree (stepOp cfg ops p0 o s op).1 (specStep sp op (stepOp cfg ops p0 o s op).2) := by
  have h0 : Agree s.resetLogs sp := h.of_eq rfl rfl
  -- `insert` / `insert_with_ttl`, followed (sync handle) by opportunistic maintenance
  have hins : ∀ (a : Bool) (k : Nat) (e : Entry) (td : Option Nat),
      Agree (if a then s.resetLogs.insertCore cfg k e td true
             else (s.resetLogs.insertCore cfg k e td true).opportunistic cfg ops o k)
        { sp with reg := sp.reg.set k e.vid } := by
    intro a k e td
    have h1 := insertCore_agree cfg k e td true h0
    cases a with
    | true => exact h1
    | false => exact h1.mstep (opportunistic_mstep cfg ops o _ k)
  cases op with
  | get k =>
    obtain ⟨hag, hok⟩ := get_agree cfg k h0
    exact ⟨⟨(s.resetLogs.get cfg k).2, rfl, hok⟩, hag⟩
  | peek k => exact ⟨⟨s.resetLogs.peek cfg k, rfl, peek_ok cfg k h0⟩, h0⟩
  | occupied k => exact ⟨trivial, h0⟩
  | insert async k vid cost => exact ⟨trivial, hins async k (Entry.mk' vid cost _ _ _) _⟩
  | insertTtl async k vid cost ttl => exact ⟨trivial, hins async k (Entry.mkCustom vid cost _ _ _) _⟩
  | remove k =>
    obtain ⟨hag, hok⟩ := removeKey_agree cfg ops k h0
    exact ⟨⟨(s.resetLogs.removeKey cfg ops k).2, rfl, hok⟩, hag⟩
  | invalidate k => exact ⟨trivial, (removeKey_agree cfg ops k h0).1⟩
  | clear =>
    obtain ⟨hm, _, _, hs, _⟩ := clearAll_spec cfg ops o s.resetLogs
    refine ⟨trivial, ?_, ?_⟩
    · intro k e he
      have he' : (k, e) ∈ (s.resetLogs.clearAll cfg ops o).map := he
      rw [hm] at he'
      cases he'
    · show sp.snap = (s.resetLogs.clearAll cfg ops o).snap.map Snapshot.pairs
      rw [hs]; exact h0.2
  | advance d => exact ⟨trivial, h0.of_eq rfl rfl⟩
  | runMaintenance => exact ⟨trivial, h0.mstep (runMaintenance_mstep cfg ops o _)⟩
  | metrics => exact ⟨trivial, h0.mstep (flush_mstep cfg ops o _)⟩
  | orInsert k vid cost => exact orInsert_agree cfg k vid cost h0
  | compute k vid => exact compute_agree k vid h0
  | fetchWith k vid cost => exact fetchWith_agree cfg k vid cost h0
  | multiget async ks =>
    obtain ⟨found, hf, h1, h2⟩ := multiget_lift ops o (Keeps.rel cfg sp) p0 s async ks
    have hp : ∀ p ∈ found, p.1 ∈ ks ∧ Hit cfg (Keeps sp) s.resetLogs p :=
      fun p hp => (h2 p hp).resolve_left (fun h => nomatch h)
    rw [hf]
    exact ⟨⟨found, rfl, fun p hp' => h0.hit (hp p hp').2, fun p hp' => (hp p hp').1⟩, h1 h0⟩
  | multiInsert items => exact ⟨trivial, multiInsert_agree cfg items _ _ h0⟩
  | multiRemove ks =>
    obtain ⟨h1, h2, h3⟩ := multiRemoveLoop_agree cfg ops ks h0
    exact ⟨⟨(multiRemoveLoop cfg ops s.resetLogs ks []).2, rfl, h2, h3⟩, h1⟩
  | iter batch inter =>
    obtain ⟨h1, h2⟩ := iterAll_agree cfg ops o batch inter h0
    exact ⟨⟨(s.resetLogs.iterAll cfg ops o batch inter).2, rfl, h2⟩, h1⟩
  | iterSnapshot inter =>
    obtain ⟨h1, h2⟩ := iterSnapshotAll_agree cfg ops o inter h0
    exact ⟨⟨(s.resetLogs.iterSnapshotAll cfg ops o inter).2, rfl, h2⟩, h1⟩
  | snapshot =>
    obtain ⟨h1, h2⟩ := toSnapshot_agree cfg ops o h0
    exact ⟨⟨(s.resetLogs.toSnapshot cfg ops o).2, rfl, h1⟩, h2⟩
  | restore =>
    refine ⟨trivial, ?_⟩
    rcases stepOp_restore cfg ops o p0 s with ⟨hsn, he⟩ | ⟨sn, hsn, he⟩ <;> rw [he]
    · rw [specStep_restore_none (by rw [h.2, hsn]; rfl)]
      exact h0
    · have hsp : sp.snap = some sn.pairs := by rw [h.2, hsn]; rfl
      rw [specStep_restore_some hsp]
      exact restore_agree cfg p0 s.now sn sp hsp
  | hold k =>
    rw [stepOp_hold]
    obtain ⟨hag, hok⟩ := get_agree cfg k h0
    exact ⟨⟨(s.resetLogs.get cfg k).2, holdOf_ret k _, hok⟩, holdOf_agree k _ hag⟩
  | release => exact ⟨trivial, release_agree h0⟩
  | gate closed => cases closed <;> exact ⟨trivial, h0.of_eq rfl rfl⟩

def specRun (sp : Spec) : List (Op × Oracle) → List Ret → Spec
  | (op, _) :: rest, r :: rs => specRun (specStep sp op r) rest rs
  | _, _ => sp

theorem fresh_agree (cfg : Cfg) (p0 : P) (t0 : Nat) : Agree (State.fresh cfg p0 t0) Spec.empty :=
  ⟨fun _ _ he => absurd he List.not_mem_nil, rfl⟩

theorem C11_run_from (cfg : Cfg) (ops : PolicyOps P) (p0 : P) :
    ∀ (hist : List (Op × Oracle)) (s : State P) (sp : Spec), Agree s sp →
      (run cfg ops p0 s hist).2.length = hist.length ∧
      (∀ (i : Nat) (op : Op) (o : Oracle) (r : Ret), hist[i]? = some (op, o) → (run cfg ops p0 s hist).2[i]? = some r →
        admissible (specRun sp (hist.take i) ((run cfg ops p0 s hist).2.take i)) op r) ∧
      Agree (run cfg ops p0 s hist).1 (specRun sp hist (run cfg ops p0 s hist).2) := by
  intro hist
  induction hist with
  | nil => intro s sp h; exact ⟨rfl, fun i _ _ _ hi => by simp at hi, h⟩
  | cons a rest ih =>
    intro s sp h
    obtain ⟨op0, o0⟩ := a
    obtain ⟨hadm, hag⟩ := C11_step cfg ops p0 o0 s sp op0 h
    obtain ⟨hlen, hpt, hfin⟩ := ih _ _ hag
    refine ⟨congrArg (· + 1) hlen, fun i op o r hi ho => ?_, hfin⟩
    cases i with
    | zero => cases hi; cases ho; exact hadm
    | succ j => exact hpt j op o r hi ho

/-- **C11, whole histories.**  For every history from a fresh cache (any configuration, any policy,
    any oracles): there is one output per call, and the output of the `i`-th call is admissible for
    the register obtained by folding `specStep` over the first `i` calls and their outputs. -/
theorem C11_run (cfg : Cfg) (ops : PolicyOps P) (p0 : P) (t0 : Nat) (hist : List (Op × Oracle)) :
    let outs := (run cfg ops p0 (State.fresh cfg p0 t0) hist).2
    outs.length = hist.length ∧
    ∀ (i : Nat) (op : Op) (o : Oracle) (r : Ret), hist[i]? = some (op, o) → outs[i]? = some r →
      admissible (specRun Spec.empty (hist.take i) (outs.take i)) op r :=
  have h := C11_run_from cfg ops p0 hist _ _ (fresh_agree cfg p0 t0)
  ⟨h.1, h.2.1⟩

/-- `(k, v)` is a value of the PRE-call cache content that the call handed to its caller; for `fetch_with` the
    hit or stale value, for `or_insert` a value other than its argument -/
def readsOld (op : Op) (ret : Ret) (k v : Nat) : Prop :=
  match op with
  | .get k' => k = k' ∧ ret = .val (some v)
  | .peek k' => k = k' ∧ ret = .val (some v)
  | .hold k' => k = k' ∧ ret = .val (some v)
  | .remove k' => k = k' ∧ ret = .val (some v)
  | .multiget _ _ => ∃ l, ret = .pairs l ∧ (k, v) ∈ l
  | .multiRemove _ => ∃ l, ret = .pairs l ∧ (k, v) ∈ l
  | .iter _ _ => ∃ l, ret = .pairs l ∧ (k, v) ∈ l
  | .iterSnapshot _ => ∃ l, ret = .pairs l ∧ (k, v) ∈ l
  | .snapshot => ∃ sn, ret = .snap sn ∧ (k, v) ∈ sn.pairs
  | .compute k' _ => k = k' ∧ ret = .computed (some (some v))
  | .fetchWith k' _ _ => k = k' ∧ ∃ stale loader, ret = .loaded v stale loader ∧ (stale || !loader) = true
  | .orInsert k' w _ => k = k' ∧ ret = .val (some v) ∧ v ≠ w
  | _ => False

theorem admissible_readsOld {sp : Spec} {op : Op} {ret : Ret} {k v : Nat}
    (ha : admissible sp op ret) (hr : readsOld op ret k v) : sp.reg k = some v := by
  cases op <;> first | exact False.elim hr | skip
  case get k' | peek k' | hold k' | remove k' | compute k' w =>
    obtain ⟨rfl, hret⟩ := hr
    obtain ⟨x, hx, hok⟩ := ha
    rw [hret] at hx; cases hx; exact hok v rfl
  case multiget a ks | multiRemove ks =>
    obtain ⟨l, hret, hm⟩ := hr
    obtain ⟨l', hx, hok, _⟩ := ha
    rw [hret] at hx; cases hx; exact hok _ hm
  case iter b i | iterSnapshot i | snapshot =>
    obtain ⟨l, hret, hm⟩ := hr
    obtain ⟨l', hx, hok⟩ := ha
    rw [hret] at hx; cases hx; exact hok _ hm
  case fetchWith k' w c =>
    obtain ⟨rfl, stale, loader, hret, hc⟩ := hr
    obtain ⟨x, st, ld, hx, hok⟩ := ha
    rw [hret] at hx; cases hx
    rw [if_pos hc] at hok; exact hok
  case orInsert k' w c =>
    obtain ⟨rfl, hret, hne⟩ := hr
    obtain ⟨x, hx, hok⟩ := ha
    rw [hret] at hx; cases hx
    exact hok.resolve_right hne

/-- **no cross-key reads**: whatever a call returns for key `k` out of the cache content is the
    register content of `k` — the latest un-removed write of `k` itself -/
theorem no_cross_key (cfg : Cfg) (ops : PolicyOps P) (p0 : P) (o : Oracle) (s : State P) (sp : Spec) (op : Op)
    (h : Agree s sp) (k v : Nat) (hr : readsOld op (stepOp cfg ops p0 o s op).2 k v) : sp.reg k = some v :=
  admissible_readsOld (C11_step cfg ops p0 o s sp op h).1 hr

/-- … so, when distinct keys hold distinct value ids (the harness writes a fresh id every time), it is
    never the binding of another key -/
theorem no_cross_key_distinct (cfg : Cfg) (ops : PolicyOps P) (p0 : P) (o : Oracle) (s : State P) (sp : Spec)
    (op : Op) (h : Agree s sp) (hinj : ∀ k1 k2 x, sp.reg k1 = some x → sp.reg k2 = some x → k1 = k2)
    (k v : Nat) (hr : readsOld op (stepOp cfg ops p0 o s op).2 k v) :
    ∀ k', k' ≠ k → sp.reg k' ≠ some v :=
  fun k' hne hk' => hne (hinj k' k v hk' (no_cross_key cfg ops p0 o s sp op h k v hr))

/-- after `remove k` the key is not resident -/
theorem remove_absent (cfg : Cfg) (ops : PolicyOps P) (p0 : P) (o : Oracle) (s : State P) (k : Nat) :
    lookup (stepOp cfg ops p0 o s (.remove k)).1.map k = none :=
  (removeKey_lookup cfg ops s.resetLogs k k).trans (if_pos rfl)

theorem invalidate_absent (cfg : Cfg) (ops : PolicyOps P) (p0 : P) (o : Oracle) (s : State P) (k : Nat) :
    lookup (stepOp cfg ops p0 o s (.invalidate k)).1.map k = none :=
  (removeKey_lookup cfg ops s.resetLogs k k).trans (if_pos rfl)

theorem clear_empty (cfg : Cfg) (ops : PolicyOps P) (p0 : P) (o : Oracle) (s : State P) :
    (stepOp cfg ops p0 o s .clear).1.map = [] := (clearAll_spec cfg ops o s.resetLogs).1

theorem multiRemove_absent (cfg : Cfg) (ops : PolicyOps P) (p0 : P) (o : Oracle) (s : State P) (ks : List Nat)
    (k : Nat) (hk : k ∈ ks) : lookup (stepOp cfg ops p0 o s (.multiRemove ks)).1.map k = none :=
  multiRemoveLoop_absent cfg ops ks s.resetLogs [] k (.inl hk)

/-- a key that is not resident is read as absent by every single-key read -/
theorem absent_reads_none (cfg : Cfg) (ops : PolicyOps P) (p0 : P) (o : Oracle) (s : State P) (k : Nat)
    (h : lookup s.map k = none) :
    (stepOp cfg ops p0 o s (.get k)).2 = .val none ∧ (stepOp cfg ops p0 o s (.peek k)).2 = .val none ∧
    (stepOp cfg ops p0 o s (.hold k)).2 = .val none ∧ (stepOp cfg ops p0 o s (.occupied k)).2 = .flag false ∧
    (stepOp cfg ops p0 o s (.compute k 0)).2 = .computed none := by
  have h' : lookup s.resetLogs.map k = none := h
  refine ⟨?_, ?_, ?_, ?_, ?_⟩
  · show Ret.val (s.resetLogs.get cfg k).2 = _
    rw [get_absent cfg _ k h']
  · show Ret.val (s.resetLogs.peek cfg k) = _
    rw [← get_snd, get_absent cfg _ k h']
  · rw [stepOp_hold, holdOf_ret, get_absent cfg _ k h']
  · show Ret.flag (s.resetLogs.occupied k) = _
    unfold State.occupied; rw [h']; rfl
  · show (s.resetLogs.compute k 0).2 = _
    unfold State.compute; rw [h']

/-- the call may (re)bind key `k` in the register -/
def writesKey (op : Op) (k : Nat) : Prop :=
  match op with
  | .insert _ k' _ _ => k' = k
  | .insertTtl _ k' _ _ _ => k' = k
  | .multiInsert items => ∃ it, it ∈ items ∧ it.1 = k
  | .orInsert k' _ _ => k' = k
  | .compute k' _ => k' = k
  | .fetchWith k' _ _ => k' = k
  | .restore => True
  | _ => False

/-- `remove k` / `invalidate k` / `clear` / `multi_remove ∋ k` empty the register at `k` -/
theorem specStep_unsets (sp : Spec) (k : Nat) (r : Ret) :
    (specStep sp (.remove k) r).reg k = none ∧ (specStep sp (.invalidate k) r).reg k = none ∧
    (specStep sp .clear r).reg k = none ∧
    ∀ ks, k ∈ ks → (specStep sp (.multiRemove ks) r).reg k = none :=
  ⟨Reg.unset_same _ _, Reg.unset_same _ _, rfl, fun ks hk => (Reg.unsetAll_apply ks _ k).trans (if_pos hk)⟩

theorem specStep_keeps_absent (sp : Spec) (op : Op) (r : Ret) (k : Nat) (hk : sp.reg k = none)
    (hw : ¬ writesKey op k) : (specStep sp op r).reg k = none := by
  cases op <;> first | exact hk | skip
  case insert a k' v c | insertTtl a k' v c t =>
    show sp.reg.set k' v k = none
    rw [Reg.set_other _ _ (fun e => hw e.symm)]; exact hk
  case multiInsert items =>
    show sp.reg.setAll (items.map (fun it => (it.1, it.2.1))) k = none
    rw [Reg.setAll_not_mem _ _ _ ?_]; exact hk
    intro p hp hpk
    obtain ⟨it, hit, rfl⟩ := List.mem_map.1 hp
    exact hw ⟨it, hit, hpk⟩
  case remove k' | invalidate k' => exact Reg.unsetAll_none [k'] _ _ hk
  case multiRemove ks => exact Reg.unsetAll_none ks _ _ hk
  case clear => rfl
  case orInsert k' v c | compute k' v | fetchWith k' v c =>
    unfold specStep
    dsimp only
    split
    · show sp.reg.set k' v k = none
      rw [Reg.set_other _ _ (fun e => hw e.symm)]; exact hk
    · exact hk
  case snapshot =>
    unfold specStep
    dsimp only
    split <;> exact hk
  case restore => exact absurd trivial hw

/-- while the register holds nothing for `k`, no call returns a value for `k` out of the cache -/
theorem no_resurrection (cfg : Cfg) (ops : PolicyOps P) (p0 : P) (o : Oracle) (s : State P) (sp : Spec) (op : Op)
    (h : Agree s sp) (k : Nat) (hk : sp.reg k = none) (v : Nat) :
    ¬ readsOld op (stepOp cfg ops p0 o s op).2 k v := by
  intro hr
  rw [no_cross_key cfg ops p0 o s sp op h k v hr] at hk
  cases hk

/-- **no resurrection**: once the register is empty at `k` (e.g. right after `remove k`, `invalidate k`,
    `clear`, `multi_remove ∋ k`: `specStep_unsets`), after ANY further calls `mid` none of which writes
    `k` (and none is `restore`), `k` is not resident and no call returns a value for `k` -/
theorem no_resurrection_run (cfg : Cfg) (ops : PolicyOps P) (p0 : P) (k : Nat) :
    ∀ (mid : List (Op × Oracle)) (s : State P) (sp : Spec), Agree s sp → sp.reg k = none →
      (∀ x, x ∈ mid → ¬ writesKey x.1 k) →
      lookup (run cfg ops p0 s mid).1.map k = none ∧
      ∀ (op : Op) (o : Oracle) (v : Nat), ¬ readsOld op (stepOp cfg ops p0 o (run cfg ops p0 s mid).1 op).2 k v := by
  intro mid s sp h hk hmid
  obtain ⟨sp', h', hk'⟩ := run_inv cfg ops (fun s sp => Agree s sp ∧ sp.reg k = none) p0 mid
    (fun s sp op o hm hs => ⟨_, (C11_step cfg ops p0 o s sp op hs.1).2,
      specStep_keeps_absent sp op _ k hs.2 (hmid (op, o) hm)⟩) s sp ⟨h, hk⟩
  exact ⟨h'.absent hk', fun op o v => no_resurrection cfg ops p0 o _ sp' op h' k hk' v⟩

/-- What is modelled: in the sequential model Q the whole `try_compute_val` call is one critical
    section (one `stepOp`).  On a resident, un-pinned key it returns the old value id, re-binds
    exactly that key to the same entry with the new value id, and leaves every other binding
    untouched.  (No expiry check — the code does none.) -/
theorem compute_atomic (s : State P) (k vid : Nat) (e : Entry) (he : lookup s.map k = some e)
    (hp : e.pinned = false) :
    (s.compute k vid).2 = .computed (some (some e.vid)) ∧
    lookup (s.compute k vid).1.map k = some { e with vid := vid } ∧
    (∀ k', k' ≠ k → lookup (s.compute k vid).1.map k' = lookup s.map k') ∧
    (∀ k' e', k' ≠ k → ((k', e') ∈ (s.compute k vid).1.map ↔ (k', e') ∈ s.map)) := by
  rcases compute_cases s k vid with ⟨hn, _⟩ | ⟨e1, he1, hp1, _⟩ | ⟨e1, he1, _, heq⟩
  · rw [hn] at he; cases he
  · rw [he1] at he; cases he; rw [hp1] at hp; cases hp
  · rw [he1] at he; cases he
    rw [heq]
    refine ⟨rfl, lookup_put_self _ _ _, fun k' hk' => lookup_put_ne _ _ hk', ?_⟩
    intro k' e' hk'
    show (k', e') ∈ put s.map k _ ↔ _
    rw [mem_put]
    constructor
    · intro hx
      rcases hx with hx | hx
      · exact absurd hx.1 hk'
      · exact hx.1
    · intro hx; exact .inr ⟨hx, hk'⟩

/-- the other outcomes: absent key → NotFound, pinned value → Fail; the state is unchanged -/
theorem compute_no_effect (s : State P) (k vid : Nat)
    (h : lookup s.map k = none ∨ ∃ e, lookup s.map k = some e ∧ e.pinned = true) :
    (s.compute k vid).1 = s ∧
      ((s.compute k vid).2 = .computed none ∨ (s.compute k vid).2 = .computed (some none)) := by
  rcases compute_cases s k vid with ⟨_, heq⟩ | ⟨_, _, _, heq⟩ | ⟨e1, he1, hp1, _⟩
  · rw [heq]; exact ⟨rfl, .inl rfl⟩
  · rw [heq]; exact ⟨rfl, .inr rfl⟩
  · rcases h with h | ⟨e, he, hp⟩
    · rw [h] at he1; cases he1
    · rw [he] at he1; cases he1; rw [hp] at hp1; cases hp1

theorem orInsert_resident (cfg : Cfg) (s : State P) (k v c : Nat) (e : Entry) (he : lookup s.map k = some e) :
    s.orInsert cfg k v c = (s, .val (some e.vid)) := by
  rcases orInsert_cases cfg s k v c with ⟨e1, he1, heq⟩ | ⟨hn, _⟩
  · rw [he1] at he; cases he; exact heq
  · rw [hn] at he; cases he

theorem orInsert_makes_resident (cfg : Cfg) (s : State P) (k v c : Nat) :
    ∃ e, lookup (s.orInsert cfg k v c).1.map k = some e ∧ (s.orInsert cfg k v c).2 = .val (some e.vid) := by
  rcases orInsert_cases cfg s k v c with ⟨e1, he1, heq⟩ | ⟨_, hret, hp⟩
  · rw [heq]; exact ⟨e1, he1, rfl⟩
  · rw [hp.map, hret]; exact ⟨_, lookup_put_self _ _ _, rfl⟩

/-- **at most once**: a second `or_insert` on the same key (nothing in between) returns what the
    first returned and changes nothing at all -/
theorem orInsert_at_most_once (cfg : Cfg) (s : State P) (k v1 c1 v2 c2 : Nat) :
    ((s.orInsert cfg k v1 c1).1.orInsert cfg k v2 c2).2 = (s.orInsert cfg k v1 c1).2 ∧
    ((s.orInsert cfg k v1 c1).1.orInsert cfg k v2 c2).1 = (s.orInsert cfg k v1 c1).1 := by
  obtain ⟨e, he, hret⟩ := orInsert_makes_resident cfg s k v1 c1
  rw [orInsert_resident cfg _ k v2 c2 e he, hret]
  exact ⟨rfl, rfl⟩

/-- the same as two consecutive API calls: same returned value, same bindings -/
theorem orInsert_at_most_once_step (cfg : Cfg) (ops : PolicyOps P) (p0 : P) (o1 o2 : Oracle) (s : State P)
    (k v1 c1 v2 c2 : Nat) :
    (stepOp cfg ops p0 o2 (stepOp cfg ops p0 o1 s (.orInsert k v1 c1)).1 (.orInsert k v2 c2)).2 =
      (stepOp cfg ops p0 o1 s (.orInsert k v1 c1)).2 ∧
    (stepOp cfg ops p0 o2 (stepOp cfg ops p0 o1 s (.orInsert k v1 c1)).1 (.orInsert k v2 c2)).1.map =
      (stepOp cfg ops p0 o1 s (.orInsert k v1 c1)).1.map := by
  obtain ⟨e, he, hret⟩ := orInsert_makes_resident cfg s.resetLogs k v1 c1
  show ((s.resetLogs.orInsert cfg k v1 c1).1.resetLogs.orInsert cfg k v2 c2).2 = (s.resetLogs.orInsert cfg k v1 c1).2 ∧
    ((s.resetLogs.orInsert cfg k v1 c1).1.resetLogs.orInsert cfg k v2 c2).1.map = (s.resetLogs.orInsert cfg k v1 c1).1.map
  rw [orInsert_resident cfg (s.resetLogs.orInsert cfg k v1 c1).1.resetLogs k v2 c2 e he, hret]
  exact ⟨rfl, rfl⟩

section Examples

def cfg0 : Cfg := {}
def s0 : State Unit := State.fresh cfg0 () 0
def o0 : Oracle := {}

def hist1 : List (Op × Oracle) :=
  [(.insert false 1 10 1, o0), (.get 1, o0), (.insert false 1 11 1, o0), (.get 1, o0), (.get 2, o0),
   (.remove 1, o0), (.get 1, o0), (.peek 1, o0)]

example : (run cfg0 nullOps () s0 hist1).2 =
    [.unit, .val (some 10), .unit, .val (some 11), .val none, .val (some 11), .val none, .val none] := by decide

example : (specRun Spec.empty hist1 (run cfg0 nullOps () s0 hist1).2).reg 1 = none := by decide
example : (specRun Spec.empty (hist1.take 4) ((run cfg0 nullOps () s0 hist1).2.take 4)).reg 1 = some 11 := by decide

def hist2 : List (Op × Oracle) :=
  [(.orInsert 1 20 1, o0), (.orInsert 1 21 1, o0), (.compute 1 22, o0), (.get 1, o0),
   (.fetchWith 2 30 1, o0), (.fetchWith 2 31 1, o0), (.multiget false [1, 2, 3], o0),
   (.iter 2 none, o0), (.snapshot, o0), (.clear, o0), (.get 1, o0), (.restore, o0), (.get 1, o0),
   (.multiRemove [1, 2], o0), (.iterSnapshot none, o0)]

example : ((run cfg0 nullOps () s0 hist2).2.take 8) =
    [.val (some 20), .val (some 20), .computed (some (some 20)), .val (some 22),
     .loaded 30 false true, .loaded 30 false false, .pairs [(1, 22), (2, 30)], .pairs [(2, 30), (1, 22)]] := by
  decide

example : ((run cfg0 nullOps () s0 hist2).2.drop 9) =
    [.unit, .val none, .unit, .val (some 22), .pairs [(1, 22), (2, 30)], .pairs []] := by decide

/-- hypotheses of `C11_step` are satisfiable on a non-empty state -/
example : Agree (P := Unit) { map := [(1, { vid := 7, cost := 1 })] } { reg := Reg.empty.set 1 7 } := by
  refine ⟨?_, rfl⟩
  intro k e he
  simp at he
  obtain ⟨rfl, rfl⟩ := he
  simp

/-- `readsOld` / `no_cross_key` are not vacuous: the second `get` of `hist1` reads `(1, 11)` -/
example : readsOld (.get 1) (.val (some 11)) 1 11 := ⟨rfl, rfl⟩

/-- `compute_atomic` hypotheses hold on a concrete state -/
example : lookup (State.map (P := Unit) { map := [(1, { vid := 7, cost := 1 })] }) 1 = some { vid := 7, cost := 1 } ∧
    ({ vid := 7, cost := 1 } : Entry).pinned = false := by decide

/-- `no_resurrection_run` hypotheses: empty register cell, a non-writing middle section -/
example : ¬ writesKey (.get 1) 1 ∧ ¬ writesKey (.insert false 2 5 1) 1 := by
  refine ⟨fun h => h, fun h => ?_⟩
  exact absurd (show (2 : Nat) = 1 from h) (by decide)

end Examples

end Fv.Props.C11
