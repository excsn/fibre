import Fv.Lemmas.Mpsc3BSim
/-!
# Mpsc3B — step-level theorems for fibre's bounded MPSC v3 (feeds C01, C02, C03, C04, C05, C06, C09)

Model: `Fv.Chan.Mpsc3B` (one visible action per step; N producers, one consumer at a time;
capacity, publish cadence K, chunk geometry, spin budgets, programs and the number of threads are
parameters).  Every theorem below quantifies over all of them and over every interleaving
(`Reach c p s`: any state reachable by any schedule of visible actions, calls, returns and spurious
park returns).

Ghost history: `log` (ticket ↦ token written SET), `recvd` (tokens drained, in order),
token = (producer thread, per-producer sequence number, payload).
-/
namespace Fv.Props.Mpsc3B
open Fv.Chan.Mpsc3B

/-- the values currently buffered: tokens in SET slots from the consumer position to the tail, in ticket order -/
def bufferedOf (s : State) : List Tok := buffered s.slot s.hPos (s.gtail - s.hPos)

/-- every token ever written SET, in ticket order -/
def loggedOf (s : State) : List Tok := collect s.log s.gtail

/-- thread `u` holds ticket `t` claimed and not yet written -/
def Claims (s : State) (u : Tid) (t : Nat) : Prop := ∃ ch, claimOf (s.th u) = some ⟨t, ch⟩

/-- **P1 (slot state partition by position).** Below the consumer position every slot is EMPTY
(drained); at or above the ticket counter every slot is EMPTY and unclaimed; in between a slot is
EMPTY and claimed by exactly one producer, or SET, or SKIP. -/
theorem P1_partition {c p s} (h : Reach c p s) (t : Nat) :
    (t < s.hPos → s.slot t = .empty) ∧
    (s.gtail ≤ t → s.slot t = .empty ∧ ∀ u, ¬ Claims s u t) ∧
    (s.hPos ≤ t → t < s.gtail →
      (s.slot t = .empty ∧ (∃ u, Claims s u t) ∧ ∀ u v, Claims s u t → Claims s v t → u = v) ∨
      (∃ x, s.slot t = .set x) ∨ s.slot t = .skip) := by
  have hi := cinv_reach h
  refine ⟨hi.below t, fun hg => ⟨hi.above t hg, ?_⟩, fun h1 h2 => ?_⟩
  · rintro u ⟨ch, hu⟩
    have := (hi.claimRange u t ch hu).2.1
    exact absurd this (by simp only [absC]; omega)
  · cases hs : s.slot t with
    | empty =>
      left
      refine ⟨rfl, ?_, ?_⟩
      · obtain ⟨u, ch, hu⟩ := hi.claimed t h1 h2 hs
        exact ⟨u, ch, hu⟩
      · rintro u v ⟨c1, h1⟩ ⟨c2, h2⟩
        exact hi.claimUniq u v t c1 c2 h1 h2
    | set x => right; left; exact ⟨x, rfl⟩
    | skip => right; right; rfl

/-- A claimed, unwritten ticket lies in the live window and its slot is still EMPTY. -/
theorem claim_in_window {c p s} (h : Reach c p s) {u t} (hc : Claims s u t) :
    s.hPos ≤ t ∧ t < s.gtail ∧ s.slot t = .empty := by
  obtain ⟨ch, hu⟩ := hc
  exact (cinv_reach h).claimRange u t ch hu

/-- counters: `progress ≤ drained ≤ pos ≤ g_tail`, and the consumer's private `unpublished` is
exactly the unpublished part of its position (outside `publish_progress`). -/
theorem counters_ordered {c p s} (h : Reach c p s) :
    s.progress ≤ s.drained ∧ s.drained ≤ s.hPos ∧ s.hPos ≤ s.gtail ∧ s.progress + s.hUnpub ≤ s.hPos := by
  have hi := cinv_reach h
  refine ⟨hi.ord1, hi.ord2, hi.ord3, ?_⟩
  have := hi.unpubEq
  simp only [absC] at this; omega

/-- **P2.** A SET slot lies within `cap` tickets of the consumer position … -/
theorem P2_set_window {c p s} (h : Reach c p s) {t x} (hs : s.slot t = .set x) : s.hPos ≤ t ∧ t < s.hPos + c.cap := by
  have hi := cinv_reach h
  refine ⟨?_, hi.capSet t x hs⟩
  rcases Nat.lt_or_ge t s.hPos with hlt | hge
  · have := hi.below t hlt; simp only [absC] at this; rw [hs] at this; simp at this
  · exact hge

/-- … **hence capacity is never exceeded (C03)**: at most `cap` values are buffered, in every
reachable state, for every number of concurrently sending producers. -/
theorem C03_capacity_never_exceeded {c p s} (h : Reach c p s) : (bufferedOf s).length ≤ c.cap :=
  (cinv_reach h).buffered_le _

/-- **P3 / C01 (sequence equation).** Everything ever written SET, in ticket order, is exactly what
has been received (in receive order) followed by what is still buffered: no value is lost, none is
invented, none is reordered. -/
theorem C01_logged_eq_received_then_buffered {c p s} (h : Reach c p s) : loggedOf s = s.recvd ++ bufferedOf s := by
  have hi := cinv_reach h
  have := hi.seq_eq (s.gtail - s.hPos)
  have h3 := hi.ord3
  simp only [absC] at this h3
  unfold loggedOf bufferedOf
  rw [← this]; congr 1; omega

/-- **C01 / C09 (exactly once).** No token occurs twice among the received and buffered values. -/
theorem C01_exactly_once {c p s} (h : Reach c p s) : (s.recvd ++ bufferedOf s).Nodup := by
  rw [← C01_logged_eq_received_then_buffered h]
  exact (cinv_reach h).collect_nodup _

/-- **C02 (per-producer FIFO).** Among received-then-buffered values, two tokens of the same producer
appear in the order of their per-producer sequence numbers (= the order of that producer's successful
sends: a producer's tickets increase along its program). -/
theorem C02_per_producer_fifo {c p s} (h : Reach c p s) :
    (s.recvd ++ bufferedOf s).Pairwise (fun a b => a.p = b.p → a.k < b.k) := by
  rw [← C01_logged_eq_received_then_buffered h]
  exact ((cinv_reach h).collect_pairwise _).imp (fun h => h.2)

/-- the received sequence alone: per-producer FIFO and no duplicates -/
theorem C02_received_fifo {c p s} (h : Reach c p s) :
    s.recvd.Pairwise (fun a b => a ≠ b ∧ (a.p = b.p → a.k < b.k)) := by
  have hi := cinv_reach h
  have := hi.collect_pairwise s.hPos
  have e := hi.recvdEq
  simp only [absC] at this e
  rw [e]; exact this

/-! ## Reachability of concrete schedules (for witnesses and non-vacuity) -/

theorem reach_runT {c p} : ∀ (tr : List Tid) (s0 s : State), Reach c p s0 → runT c s0 tr = some s → Reach c p s := by
  intro tr
  induction tr with
  | nil => intro s0 s h0 h; simp [runT] at h; subst h; exact h0
  | cons t rest ih =>
    intro s0 s h0 h
    simp only [runT, Option.bind] at h
    split at h
    · simp at h
    · rename_i s1 hs1; exact ih s1 s (Reach.step h0 hs1) h

/-- no thread below `N` has an enabled step other than a spurious park return (computable form) -/
def quiescentB (c : Cfg) (s : State) (N : Nat) : Bool :=
  (List.range N).all (fun t => (step c s t .act).isNone && (step c s t .call).isNone && (step c s t .ret).isNone)

def Quiescent (c : Cfg) (s : State) (N : Nat) : Prop :=
  ∀ t, t < N → ∀ l, l ≠ Label.spurious → step c s t l = none

theorem quiescentB_spec {c s N} (h : quiescentB c s N = true) : Quiescent c s N := by
  intro t ht l hl
  simp only [quiescentB, List.all_eq_true, List.mem_range, Bool.and_eq_true, Option.isNone_iff_eq_none] at h
  obtain ⟨⟨h1, h2⟩, h3⟩ := h t ht
  cases l
  · exact h1
  · exact h2
  · exact h3
  · exact absurd rfl hl

/-! ## The sender-side wake: where the code deviates (F14, F2) -/

/-- a thread is parked inside a blocking `send` with no wake-up token pending -/
def SendBlocked (s : State) (t : Tid) : Prop := (s.th t).pc = .pkPark ∧ s.token t = false

/-- C05, sender clause, at full strength (safety form): in a state where no thread can move any more,
no thread is still parked in `send` while there is room in the channel. -/
def C05_sender_statement : Prop :=
  ∀ (c : Cfg) (p : Tid → List Op) (N : Nat) (s : State), Reach c p s → Quiescent c s N →
    ∀ t, t < N → SendBlocked s t → c.cap ≤ (bufferedOf s).length

def cfgF14 : Cfg := { cap := 2, k0 := 2, chunkCap := 4, nChunks := 5, spinLimit := 1 }
def progF14 : Tid → List Op :=
  fun t => if t = 1 then [.send 0 1, .send 0 2, .send 0 3] else if t = 2 then [.recv] else []
/-- thread 1 runs until it parks in its third `send` (cap 2 is full), then thread 2 runs one `recv` -/
def schedF14 : List Tid := List.replicate 47 1 ++ List.replicate 9 2

theorem F14_trace :
    (runT cfgF14 (init cfgF14 progF14) schedF14).map
      (fun s => ((s.th 1).pc, s.token 1, (bufferedOf s).length, (s.th 2).res, s.hUnpub, quiescentB cfgF14 s 3)) =
    some (.pkPark, false, 1, .okv 1, 1, true) := by decide +kernel

/-- **F14 (known finding), C05 is false of the code.** cap = 2 (K = 2): a producer fills the channel
and parks in a third `send`; the consumer's `recv` returns the first value but does NOT publish the
freed credit (`unpublished = 1 < K`) and wakes nobody.  Every thread is now finished or parked: the
sender waits forever although only 1 of 2 slots is occupied.
Replay: `/verif/findings/Mpsc3B_F14.case` (`chanh run`; monitor `mpsc_b:send:blocked-with-space-available`). -/
theorem C05_fails_F14 : ¬ C05_sender_statement := by
  intro hst
  obtain ⟨s, hr, h⟩ := Option.map_eq_some_iff.1 F14_trace
  simp only [Prod.mk.injEq] at h
  obtain ⟨h1, h2, h3, -, -, h6⟩ := h
  have := hst cfgF14 progF14 3 s (reach_runT _ _ _ Reach.init hr) (quiescentB_spec h6) 1 (by omega) ⟨h1, h2⟩
  rw [h3] at this; simp [cfgF14] at this

/-- a manually polled `SendFuture` returned `Pending` (it keeps its item and its registration) and
its waker has not been invoked since -/
def SendFutUnwoken (s : State) (f : Fid) : Prop :=
  (s.fut f).kind = .send ∧ (s.fut f).item.isSome = true ∧ (s.fut f).myId.isSome = true ∧ s.wakes f = 0

/-- C06, sender clause (safety form, with "able to complete" read GENEROUSLY as: the PUBLISHED send
window `g_tail - progress < cap` is open): in a state where no thread can move, no pending send future
is left un-woken while the window is open. -/
def C06_sender_statement : Prop :=
  ∀ (c : Cfg) (p : Tid → List Op) (N : Nat) (s : State), Reach c p s → Quiescent c s N →
    ∀ f, SendFutUnwoken s f → c.cap ≤ s.gtail - s.progress

def cfgF2 : Cfg := { cap := 1, k0 := 1, chunkCap := 4, nChunks := 5, spinLimit := 1 }
def progF2 : Tid → List Op :=
  fun t => if t = 1 then [.trySend 0 1, .futSend 0 0 2, .poll 0, .futSend 1 0 3, .poll 1, .tryRecv, .dropFut 0, .tryRecv] else []

theorem F2_trace_a :
    (runT cfgF2 (init cfgF2 progF2) (List.replicate 76 1)).map
      (fun s => ((s.fut 1).kind, (s.fut 1).item, (s.fut 1).myId, s.wakes 1)) = some (.send, some 3, some 1, 0) := by decide +kernel

theorem F2_trace_b :
    (runT cfgF2 (init cfgF2 progF2) (List.replicate 76 1)).map
      (fun s => (s.gtail, s.progress, (bufferedOf s).length, (s.th 1).res, quiescentB cfgF2 s 2)) =
    some (1, 1, 0, .errEmpty, true) := by decide +kernel

/-- **F2 (known finding), C06 is false of the code even for the published window.** Async, cap = 1
(K = 1), one thread polling by hand: `try_send` fills the channel; send futures f0 and f1 both return
Pending (registered in that order); `try_recv` drains the value and publishes progress, the drip
wakes exactly ONE waiter, f0; f0 is dropped (cancelled) — the wake it consumed is not forwarded.
f1 stays Pending and un-woken although the channel is empty and the published window is open;
a further `try_recv` (Empty) does not publish again.
Replay: `/verif/findings/Mpsc3B_F2.case`. -/
theorem C06_fails_F2_mpsc3 : ¬ C06_sender_statement := by
  intro hst
  obtain ⟨s, hr, ha⟩ := Option.map_eq_some_iff.1 F2_trace_a
  have hb := F2_trace_b; rw [hr] at hb
  simp only [Option.map_some, Option.some.injEq, Prod.mk.injEq] at ha hb
  obtain ⟨h1, h2, h3, h4⟩ := ha
  obtain ⟨h5, h6, -, -, h9⟩ := hb
  have := hst cfgF2 progF2 2 s (reach_runT _ _ _ Reach.init hr) (quiescentB_spec h9) 1
    ⟨h1, by rw [h2]; rfl, by rw [h3]; rfl, h4⟩
  rw [h5, h6] at this; simp [cfgF2] at this

end Fv.Props.Mpsc3B
