import Fv.Props.CacheConc
/-!
# C12 under interleavings — no expired entry is served

Model: `Fv.Cache.Conc` with a virtual clock (`State.now`, advanced by the environment label `advance` at
any point of any interleaving), a global TTL and TTI (`Cfg.ttl`, `Cfg.tti`), per-insert TTL
(`insert_with_ttl`), and the code's placement of its clock reads relative to its locks:
`get`/`fetch`/`peek` evaluate `is_expired` (which reads the clock) INSIDE the shard read-lock section;
`insert` builds its entry — deadline = clock + TTL — before taking any lock (at the call);
`entry().or_insert` builds it inside the write-lock section. The tie checks that placement on every
step (footprint: acquisitions and clock reads in program order).

Every theorem below quantifies over programs that mix calls on the sync and on the async handle
(`Fv.Props.CacheConc`, `Fv.Props.CacheConcAsync`).
-/
namespace Fv.Props.C12Conc
open Fv.Cache.Conc

/-- the key a value-returning step looks up -/
def keyOf : PC → Option Nat
  | .rd k _ => some k
  | .oi k _ _ => some k
  | _ => none

/-- "a step with label `l` that returns a value returns it from a binding that is unexpired at that
moment" -/
def ServesOnlyUnexpired (l : Label) : Prop :=
  ∀ (c : Cfg) (s s' : State) (t v : Nat), Reach c s → step c s t l = some s' →
    s'.pc t = .done (some v) → (∀ r, s.pc t ≠ .done r) →
    ∀ k e, keyOf (s.pc t) = some k → s.map k = some e → expired c s.now e = false

/-- **get / fetch / peek never serve an expired entry**, for every interleaving of operations,
maintenance and clock advances: a read that returns a value returns it from a binding whose TTL deadline
is unset or in the future and which has not been idle for the TTI, at the time of its critical section. -/
theorem C12c_read_serves_only_unexpired : ServesOnlyUnexpired .read := by
  intro c s s' t v _ h hd _ k e hk hm
  generalize hpc : s.pc t = a at hk
  cases Step.of_step h hpc with
  | readMiss | readExpired => simp at hd
  | readHit hm' hx | readRefresh hm' hx => cases hk; cases hm.symm.trans hm'; exact hx

/-- spelled out: TTL deadline not reached and not idle for the TTI -/
theorem C12c_read_unexpired_spelled {c : Cfg} {s s' : State} {t v k : Nat} {e : Entry} (hr : Reach c s)
    (h : step c s t .read = some s') (hd : s'.pc t = .done (some v)) (hn : ∀ r, s.pc t ≠ .done r)
    (hk : keyOf (s.pc t) = some k) (hm : s.map k = some e) :
    (e.exp = 0 ∨ s.now < e.exp) ∧ (c.tti = 0 ∨ s.now < e.la + c.tti) := by
  have := C12c_read_serves_only_unexpired c s s' t v hr h hd hn k e hk hm
  simp only [expired, Bool.or_eq_false_iff, Bool.and_eq_false_iff, decide_eq_false_iff_not] at this
  omega

/-- a read of a resident but expired binding returns `none` and is recorded as such (`rdExp`) -/
theorem C12c_expired_read_returns_none {c : Cfg} {s s' : State} {t k : Nat} {pk : Bool} {e : Entry}
    (hpc : s.pc t = .rd k pk) (hm : s.map k = some e) (he : expired c s.now e = true)
    (h : step c s t .read = some s') : s'.pc t = .done none ∧ s'.hist = s.hist ++ [.rdExp t k, .ret t none] ∧ s'.map = s.map := by
  cases Step.of_step h hpc with
  | readMiss hm' => simp [hm] at hm'
  | readExpired => simp
  | readHit hm' hx | readRefresh hm' hx => cases hm.symm.trans hm'; simp [he] at hx

/-- an `rdExp` event in the history had a binding in the register: the miss was due to expiry -/
theorem C12c_expired_read_had_binding {c : Cfg} {s : State} (h : Reach c s) {pre post : List HEv} {t k : Nat}
    (hs : s.hist = pre ++ .rdExp t k :: post) : (regOf emptyReg pre k).isSome = true := by
  simpa [evOk] using (Fv.Props.CacheConc.lin_point h hs).2

/-- **peek does not refresh the idle time** (nor anything else in the map) -/
theorem C12c_peek_no_refresh {c : Cfg} {s s' : State} {t k : Nat} (hpc : s.pc t = .rd k true)
    (h : step c s t .read = some s') (j : Nat) : s'.map j = s.map j := by
  cases Step.of_step h hpc with
  | readMiss | readExpired => rfl
  | readHit hm' => simp only [upd_apply]; split <;> simp [*]
  | readRefresh _ _ hp => cases hp

/-- a hit of get / fetch refreshes exactly the idle time of the binding it served -/
theorem C12c_get_refreshes_idle_time {c : Cfg} {s s' : State} {t k : Nat} {e : Entry} (hpc : s.pc t = .rd k false)
    (hm : s.map k = some e) (he : expired c s.now e = false) (htti : c.tti ≠ 0)
    (h : step c s t .read = some s') : s'.map k = some { e with la := s.now } ∧ s'.pc t = .done (some e.val) := by
  cases Step.of_step h hpc with
  | readMiss hm' => simp [hm] at hm'
  | readExpired hm' hx => cases hm.symm.trans hm'; simp [he] at hx
  | readHit _ _ hp => simp [htti] at hp
  | readRefresh hm' => cases hm.symm.trans hm'; simp

theorem insert_deadline_from_call {c : Cfg} {s s' : State} {t k v co : Nat} {o : Option Nat} {async : Bool}
    (h : step c s t (.call (.insert k v co o) async) = some s') :
    s'.pc t = .ins k v co (deadline c s.now o) (if c.tti = 0 then 0 else s.now) := by
  generalize hpc : s.pc t = a
  cases Step.of_step h hpc <;> simp [startPC]

/-- `insert` fixes the deadline when it is CALLED (the entry is built before any lock is taken):
deadline = clock at the call + TTL (per-insert TTL if given, else the global one; none if neither) -/
theorem C12c_insert_deadline_from_call {c : Cfg} {s s' : State} {t k v co : Nat} {o : Option Nat}
    (h : step c s t (.call (.insert k v co o) false) = some s') :
    s'.pc t = .ins k v co (deadline c s.now o) (if c.tti = 0 then 0 else s.now) :=
  insert_deadline_from_call h

/-- `entry().or_insert` fixes the deadline inside its write-lock section -/
theorem C12c_or_insert_deadline_in_section {c : Cfg} {s s' : State} {t k v co : Nat}
    (hpc : s.pc t = .oi k v co) (hm : s.map k = none) (h : step c s t .oiMap = some s') :
    s'.map k = some ⟨v, co, deadline c s.now none, if c.tti = 0 then 0 else s.now⟩ := by
  cases Step.of_step h hpc with
  | oiOccupied hm' => simp [hm] at hm'
  | oiVacant _ hla => simp [hla]

/-- the TTI cleanup removes only expired entries: what it leaves out of the map was expired -/
theorem C12c_tti_cleanup_removes_only_expired {c : Cfg} {s : State} (vs : List Nat) :
    ∀ k ∈ expiredOf c s vs, ∃ e, s.map k = some e ∧ expired c s.now e = true := by
  intro k hk
  simp only [expiredOf, List.mem_filter] at hk
  cases hm : s.map k with
  | none => simp [hm] at hk
  | some e => exact ⟨e, rfl, by simpa [hm] using hk.2⟩

def cfgTtl : Cfg := { nThreads := 2, nShards := 1, capacity := 100, ttl := 10 }

/-- thread 0 inserts key 1 (TTL 10), the clock advances by 10; each witness below appends one call of thread 1 on
key 1: a `get`, an `entry().or_insert`, a `compute` -/
def prefixExpired : List (Nat × Label) :=
  [(0, .call (.insert 1 10 1 none) false), (0, .insMap), (0, .insEv), (0, .insAdd), (0, .coopSkip), (1, .advance 10)]

/-- non-vacuity of `C12c_read_serves_only_unexpired` / `C12c_expired_read_returns_none`: the `get`
returns `none` although the binding is resident -/
example : (run cfgTtl init (prefixExpired ++ [(1, .call (.get 1) false), (1, .read)])).map
    (fun s => (s.pc 1, (s.map 1).map (·.val))) = some (.done none, some 10) := by decide

/-- **F6**: `entry()` tests `contains_key` only, so `or_insert` hands out the expired value:
`ServesOnlyUnexpired` is false for the `oiMap` step. -/
theorem C12c_or_insert_serves_expired_fails_F6 : ¬ ServesOnlyUnexpired .oiMap := by
  intro hst
  have h1 : (run cfgTtl init (prefixExpired ++ [(1, .call (.orInsert 1 11 1) false)])).map
      (fun s => (s.pc 1, s.map 1, s.now, blocked cfgTtl s 1 .oiMap)) =
      some (.oi 1 11 1, some ⟨10, 1, 10, 0⟩, 10, false) := by decide
  obtain ⟨s, hreach, e⟩ := Fv.Props.CacheConc.run_witness h1
  simp only [Prod.mk.injEq] at e
  obtain ⟨hpc, hm, hnow, hb⟩ := e
  have hex : ∃ s', step cfgTtl s 1 .oiMap = some s' ∧ s'.pc 1 = .done (some 10) := by
    simp [step, hb, step0, stepOiMap, hpc, hm]
  obtain ⟨s', hstep, hd⟩ := hex
  have := hst cfgTtl s s' 1 10 hreach hstep hd (by rw [hpc]; simp) 1 ⟨10, 1, 10, 0⟩ (by rw [hpc]; rfl) hm
  rw [hnow] at this
  exact absurd this (by decide)

/-- **F17**: `compute` / `try_compute` look the key up without an expiry check: they modify an expired
entry and report success. -/
theorem C12c_compute_on_expired_fails_F17 :
    (run cfgTtl init (prefixExpired ++ [(1, .call (.compute 1 1000) false), (1, .compute false)])).map
      (fun s => (s.pc 1, (s.map 1).map (fun e => (e.val, expired cfgTtl s.now e)))) =
      some (.done (some 1), some (1010, true)) := by decide

end Fv.Props.C12Conc
