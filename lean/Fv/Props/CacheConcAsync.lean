import Fv.Lemmas.CacheConcLock
import Fv.Props.CacheConc
/-!
# The async handle in the concurrent model; `clear`'s lock acquisition

`Fv.Cache.Conc` covers programs that MIX calls on the sync handle (`Cache`) and on the async handle
(`AsyncCache`): `Label.call op async` records per call which handle is used (`State.amode`). The async
paths of get / fetch / peek / insert / insert_with_ttl / remove / compute / try_compute /
entry().or_insert / run_maintenance have the same critical sections in the same order as the sync
ones (the tie checks it: same named points, lock kinds `ra` / `wa` / `la` / batcher `tl` in the
footprint), so they share the model's steps, and every theorem of `Fv.Props.CacheConc`, `C11Conc`,
`C12Conc`, `C13Conc`, `C16Conc` quantifies over such mixed programs. Two differences are modelled:
the async `insert` never runs cooperative maintenance inline (`stepCoopLock` is disabled), and
`clear` acquires the shard write locks differently.

`clear` holds every shard's write lock until it returns. The sync handle takes them in index order,
blocking. The async handle polls `join_all(write_async)`: a shard that is held is SKIPPED (the future
stays pending) and the next shard is still tried — so two clears, at least one of them async, can each
hold a shard the other waits for.
-/
namespace Fv.Props.CacheConcAsync
open Fv.Cache.Conc

/-- a shard's map lock is held across steps by at most one `clear`, and `sheld` says exactly which -/
theorem clear_holds_exclusively {c : Cfg} {s : State} (h : Reach c s) {t1 t2 i : Nat}
    (h1 : i ∈ holdsShards (s.pc t1)) (h2 : i ∈ holdsShards (s.pc t2)) : t1 = t2 :=
  Owns.unique (invS_reach h) h1 h2

/-- no lock is leaked: at quiescence no shard is held -/
theorem no_shard_held_at_quiescence {c : Cfg} {s : State} (h : Reach c s) (hq : Quiescent c s) (i : Nat) :
    s.sheld i = none :=
  Owns.free (invS_reach h) fun t => by
    rcases isRest_iff.1 (rest_of_quiescent (invA_reach h) hq t) with e | ⟨r, e⟩ <;> simp [e]

/-- a step that takes the map lock of a shard held by a `clear` is disabled (the sync caller blocks,
the async caller's future stays pending) -/
theorem step_on_held_shard_disabled {c : Cfg} {s : State} {t : Nat} {l : Label}
    (hb : blocked c s t l = true) : step c s t l = none := by
  simp [step, hb]

theorem clear_thread_steps {c : Cfg} {s s' : State} {t : Nat} {l : Label} {a p : List Nat}
    (hpc : s.pc t = .clr a p) (h : step c s t l = some s') :
    (∃ i, l = .clrAcq i) ∨ (∃ i, l = .clrGet i) ∨ l = .clear ∨ (∃ d, l = .advance d) := by
  cases Step.of_step h hpc with
  | clrAcq | clrSkip => exact .inl ⟨_, rfl⟩
  | clrGet => exact .inr (.inl ⟨_, rfl⟩)
  | clear => exact .inr (.inr (.inl rfl))
  | advance => exact .inr (.inr (.inr ⟨_, rfl⟩))

/-- a `clear` that has polled every shard, with at least one pending and all its pending shards held, has no
enabled step (other than watching the clock) -/
theorem clear_stuck {c : Cfg} {s s' : State} {t : Nat} {l : Label} {a p : List Nat} (hpc : s.pc t = .clr a p)
    (hall : a.length + p.length = c.nShards) (hne : p ≠ []) (hheld : ∀ i ∈ p, s.sheld i ≠ none)
    (h : step c s t l = some s') : ∃ d, l = .advance d := by
  cases Step.of_step h hpc with
  | advance => exact ⟨_, rfl⟩
  -- every shard has been polled
  | clrAcq _ hi | clrSkip _ hi => omega
  -- a pending shard is still held
  | clrGet _ hi hfree => exact absurd hfree (hheld _ hi)
  -- a shard is pending
  | clear _ hp => exact absurd hp hne

def cfgTwoShards : Cfg := { nThreads := 2, nShards := 2, capacity := 100 }

/-- two async clears on a 2-shard cache: thread 0 takes shard 0; thread 1 finds shard 0 held, skips it
(pending) and takes shard 1; thread 0 finds shard 1 held (pending). -/
def traceClearDeadlock : List (Nat × Label) :=
  [(0, .call .clear true), (1, .call .clear true), (0, .clrAcq 0), (1, .clrAcq 0), (1, .clrAcq 1), (0, .clrAcq 1)]

theorem run_clearDeadlock :
    (run cfgTwoShards init traceClearDeadlock).map
        (fun s => ((s.pc 0, s.pc 1), (s.sheld 0, s.sheld 1), (s.amode 0, s.amode 1))) =
      some ((.clr [0] [1], .clr [1] [0]), (some 0, some 1), (true, true)) := by decide

/-- **`AsyncCache::clear` can deadlock** (`join_all` acquires the shard write locks in no fixed order):
a reachable state in which both threads are inside `clear`, each holding the shard the other waits for,
and NEITHER has any enabled step (other than watching the clock) — so neither ever releases. -/
theorem async_clear_deadlock_reachable :
    ∃ s, Reach cfgTwoShards s ∧ ¬ Quiescent cfgTwoShards s ∧
      ∀ t, t < 2 → ∀ l s', step cfgTwoShards s t l = some s' → ∃ d, l = .advance d := by
  obtain ⟨s, hr, e⟩ := Fv.Props.CacheConc.run_witness run_clearDeadlock
  simp only [Prod.mk.injEq] at e
  obtain ⟨⟨hp0, hp1⟩, ⟨hs0, hs1⟩, -⟩ := e
  refine ⟨s, hr, ?_, ?_⟩
  · intro hq
    have := hq 0 (by decide)
    rw [hp0] at this; simp [isRest] at this
  · intro t ht l s' hstep
    have ht' : t = 0 ∨ t = 1 := by omega
    rcases ht' with rfl | rfl
    · exact clear_stuck hp0 rfl (by simp) (by simp [hs1]) hstep
    · exact clear_stuck hp1 rfl (by simp) (by simp [hs0]) hstep

/-- the sync `clear` takes the shards in index order: it never tries shard `i` before holding `0..i-1` -/
theorem sync_clear_acquires_in_order {c : Cfg} {s s' : State} {t i : Nat} {a p : List Nat}
    (hpc : s.pc t = .clr a p) (hs : s.amode t = false) (h : step c s t (.clrAcq i) = some s') :
    i = a.length + p.length ∧ s.sheld i = none ∧ s'.pc t = .clr (a ++ [i]) p := by
  cases Step.of_step h hpc with
  | clrAcq _ hi hfree => exact ⟨hi, hfree, by simp⟩
  | clrSkip _ _ _ ha => simp [hs] at ha

/-- non-vacuity of the mixed sync/async setting: an async `or_insert` and a sync `or_insert` race on one
absent key; exactly one inserts (`C11c_or_insert_once` applies to this history). -/
example : (run Fv.Props.CacheConc.cfg2 init
    [(0, .call (.orInsert 1 10 1) true), (1, .call (.orInsert 1 11 1) false), (1, .oiMap), (0, .oiMap)]).map
    (fun s => (s.pc 0, (s.map 1).map (·.val))) = some (.done (some 11), some 11) := by decide

end Fv.Props.CacheConcAsync
