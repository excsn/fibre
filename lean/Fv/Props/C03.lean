import Fv.Lemmas.ChanClose
import Fv.Props.C01
/-!
# C03 — bounded channels never exceed capacity; sends wait instead of dropping

`capOk`: a bounded channel buffers at most `cap` values, a rendezvous channel nothing, a oneshot accepts at most one
value ever. Missing in `C03_linearizable_capacity_partial`: the quantification over every prefix of the history (the
checker accepts prefixes too, not exported as a theorem) and the elimination of `pf` for complete histories.
The one place where the concurrent specification lets a non-blocking send on the bounded mpsc stop short (Full) below
capacity: another send is in flight, or SKIP tombstones of an overshooting claim may still occupy the ticket window
(`tomb > 0`).
-/
namespace Fv.Props.C03
open Fv.Chan List

/-- Capacity is respected after every sequential program, for every flavour and capacity. -/
theorem C03_capacity_invariant (fl : Flavour) (ops : List Op) : capOk fl (runOps fl (init fl) ops) :=
  (runOps_inv ops (init_inv fl)).cap

/-- … and after every atomic step of any thread in the concurrent model. -/
theorem C03_capacity_invariant_step {fl : Flavour} {cfg : Cfg} {s s' : St} {p p' : P}
    (hi : Inv fl s) (hs : (s', p') ∈ micro fl cfg s p) : capOk fl s' :=
  (micro_inv hs hi).cap

theorem C03_bounded (fl : Flavour) (ops : List Op) (hb : fl.fam = .sb ∨ fl.fam = .mb ∨ fl.fam = .pb) :
    (runOps fl (init fl) ops).buf.length ≤ fl.cap :=
  (capOk_bounded hb _).mp (C03_capacity_invariant fl ops)

theorem C03_rendezvous_never_buffers (fl : Flavour) (ops : List Op) (hb : fl.fam = .rv) :
    (runOps fl (init fl) ops).buf = [] :=
  (capOk_rv hb _).mp (C03_capacity_invariant fl ops)

theorem C03_oneshot_at_most_one_send (fl : Flavour) (ops : List Op) (hb : fl.fam = .os) :
    (runOps fl (init fl) ops).sentOk.length ≤ 1 :=
  ((capOk_os hb _).mp (C03_capacity_invariant fl ops)).2.1

example : (runOps ⟨.sb, .spsc, 1, false⟩ (init ⟨.sb, .spsc, 1, false⟩)
    [.snd .trySend ⟨.tx, 0⟩ [1], .snd .trySend ⟨.tx, 0⟩ [2]]).buf = [1] := by decide

/-- **`try_send` Ok ⇔ ¬full ∧ ¬closed** (non-overlapping histories, buffered families; "closed" = the
handle's own flag or all receivers gone), Full ⇔ full ∧ ¬closed, and the value comes back in both
error cases. -/
theorem C03_try_send_ok_iff {fl : Flavour} (hrv : fl.fam ≠ .rv) (hos : fl.fam ≠ .os) (s : St) (h : HName) (v : Val)
    (hd : Handle) (hf : findH s.hs h = some hd) (hside : hd.name.side = .tx) :
    let o := (stepOp fl s (.snd .trySend h [v])).2
    (o.tag = .ok ↔ (full fl s = false ∧ hd.closed = false ∧ receiversGone fl s = false)) ∧
    (o.tag = .full ↔ (full fl s = true ∧ hd.closed = false ∧ receiversGone fl s = false)) ∧
    (o.tag ≠ .ok → o.back = [v]) := by
  intro o
  have ho : o = _ := congrArg Prod.snd (stepOp_trySend hrv hos s h v hd hf hside)
  rw [ho]
  cases hd.closed <;> cases receiversGone fl s <;> cases full fl s <;> simp

/-- **Sends never overwrite or drop what is buffered**: whatever a send form does (blocking, async,
batch, partial, failing), the old buffer is a prefix of the new one; and the new one respects the
capacity whenever the old one did. -/
theorem C03_send_never_overwrites {fl : Flavour} (hrv : fl.fam ≠ .rv) (hos : fl.fam ≠ .os) {s : St} (hi : Inv fl s)
    (f : Form) (h : HName) (vs : List Val) :
    s.buf <+: (stepOp fl s (.snd f h vs)).1.buf ∧ capOk fl (stepOp fl s (.snd f h vs)).1 := by
  obtain ⟨⟨γ, a, _, _⟩, _⟩ := Fv.Props.C01.C01_send_effect hrv hos s f h vs
  exact ⟨⟨γ, a.symm⟩, (stepOp_inv hi _).cap⟩

/-- `len()` never exceeds `capacity()` on the bounded families (the probes read the abstract state). -/
theorem C03_len_le_capacity (fl : Flavour) (ops : List Op) (hb : fl.fam = .sb ∨ fl.fam = .mb ∨ fl.fam = .pb)
    (hd : Handle) :
    match probeVal fl (runOps fl (init fl) ops) hd .len, probeVal fl (runOps fl (init fl) ops) hd .capacity with
    | .n l, .n c => l ≤ c
    | _, _ => True := by
  have hle := C03_bounded fl ops hb
  rcases hb with e | e | e <;> simp [probeVal, e] <;> exact hle

/-- Every accepted concurrent history has a witnessing linearization whose final state respects the
capacity, with every accepted value accounted for (`_partial`, see header). -/
theorem C03_linearizable_capacity_partial (fl : Flavour) (cfg : Cfg) (h : History) (q : Bool) (sf : St)
    (hl : linearize fl cfg h q = some sf) :
    capOk fl sf ∧ ∃ pf : LinCore.Pend PL, ∀ v, count v (accepted h) ≤
      count v (received h) + pendSum gotOf v pf + count v sf.owed + count v sf.buf + count v sf.chanDropped := by
  obtain ⟨pf, ha, _⟩ := linearize_acc hl
  exact ⟨ha.inv.cap, Fv.Props.C01.C01_accepted_accounted fl cfg h q sf hl⟩

/-- Concurrent specification: the extra (concurrent-only) steps of a pending send form are a short stop
(`Full`) of a NON-blocking form on the bounded mpsc — admitted only while another send is in flight or
tombstones may occupy the window — and the `Closed` of a blocking form that finds the receivers gone. -/
theorem C03_spurious_full_needs_overlap {fl : Flavour} {cfg : Cfg} {s s' : St} {t : Nat} {f : Form} {h : HName}
    {sent rest : List Val} {q : Nat} {p' : P}
    (hm : (s', p') ∈ microSpur fl cfg s (.bsend t f h sent rest q)) :
    (fl.fam = .mb ∧ f.blocking = false ∧ (s.inflight > 1 ∨ s.tomb > 0)) ∨
      (f.blocking = true ∧ receiversGone fl s = true) := by
  simp only [microSpur, mem_append, mem_ite_nil_right] at hm
  rcases hm with ⟨hc, _⟩ | ⟨hc, _⟩
  · exact .inl ⟨hc.1, by simpa using hc.2.1, hc.2.2⟩
  · exact .inr hc

/-- `tomb` changes at a return event only on the bounded mpsc, when the returning send overlapped another one. -/
theorem C03_tomb_raised_only_by_overlap (fl : Flavour) (cfg : Cfg) (s : St) (op : Op)
    (hne : (retire fl cfg s op).tomb ≠ s.tomb) : fl.fam = .mb ∧ s.inflight > 1 := by
  unfold retire at hne
  split at hne
  · split at hne
    · simp only at hne
      split at hne
      · assumption
      · exact absurd rfl hne
    · exact absurd rfl hne
  · exact absurd rfl hne

/-- … and the consumer's walk to the end of the ring with no send in flight clears it. -/
theorem C03_tomb_cleared_by_walk (fl : Flavour) (s : St) (hf : fl.fam = .mb) (h0 : s.inflight = 0) :
    (mbFlush fl s).tomb = 0 := by
  simp [mbFlush, hf, h0]

/-- non-vacuity: a state with a tombstone flag in which the short stop is offered -/
example : (microSpur ⟨.mb, .mpsc, 5, false⟩ linCfg { (init ⟨.mb, .mpsc, 5, false⟩) with tomb := 1, inflight := 1 }
    (.bsend 1 .trySend ⟨.tx, 0⟩ [] [9] 0)).length = 1 := by decide

end Fv.Props.C03
