import Fv.Lemmas.ChanClose
import Fv.Props.C01
/-!
# C02 — per-producer FIFO; sequential FIFO; batches keep order

All from the sequence equation of C01 (`sentOk = consumed ++ buf`, `recvOk` a subsequence of `consumed`).
`C02_linearizable_fifo_partial` gives every accepted concurrent history a witnessing linearization whose final
state satisfies the FIFO equations. Missing for the full raw-history statement: the embedding of each receiver's
observed order into the linearization order (real-time order of returns), which the checker enforces but `Lin`
does not yet export as a theorem.
-/
namespace Fv.Props.C02
open Fv.Chan List

/-- FIFO: the values taken out of the channel are a prefix of the accepted sequence, and the delivered
values are a subsequence of that prefix — after every sequential program. -/
theorem C02_fifo_prefix (fl : Flavour) (ops : List Op) :
    let s := runOps fl (init fl) ops
    s.consumed <+: s.sentOk ∧ s.recvOk.Sublist s.sentOk ∧ (s.chanDropped = [] → s.recvOk <+: s.sentOk) := by
  have h := runOps_inv ops (init_inv fl)
  refine ⟨h.fifo.1, h.fifo.2, fun hd => ?_⟩
  rw [← h.nodrop hd]; exact h.fifo.1

/-- The same after every atomic step of any thread (any interleaving). -/
theorem C02_fifo_prefix_step {fl : Flavour} {cfg : Cfg} {s s' : St} {p p' : P}
    (hi : Inv fl s) (hs : (s', p') ∈ micro fl cfg s p) :
    s'.consumed <+: s'.sentOk ∧ s'.recvOk.Sublist s'.sentOk :=
  (micro_inv hs hi).fifo

/-- Per-producer FIFO: for any class `q` of values — e.g. `fun v => (p, v) ∈ s.sentBy`, "sent through
sender handle `p`" — the delivered values of that class are a subsequence of the accepted values of
that class (order preserved), and a prefix of them while the channel destroyed nothing. -/
theorem C02_per_producer_fifo (fl : Flavour) (ops : List Op) (q : Val → Bool) :
    let s := runOps fl (init fl) ops
    (s.recvOk.filter q).Sublist (s.sentOk.filter q) ∧
      (s.chanDropped = [] → s.recvOk.filter q <+: s.sentOk.filter q) := by
  obtain ⟨_, h2, h3⟩ := C02_fifo_prefix fl ops
  refine ⟨h2.filter q, fun hd => ?_⟩
  obtain ⟨t, ht⟩ := h3 hd
  exact ⟨t.filter q, by rw [← ht, filter_append]⟩

/-- the per-handle tags really describe the accepted / delivered sequences -/
theorem C02_tags_consistent (fl : Flavour) (ops : List Op) :
    let s := runOps fl (init fl) ops
    s.sentBy.map (·.2) = s.sentOk ∧ s.recvBy.map (·.2) = s.recvOk := by
  have h := runOps_inv ops (init_inv fl)
  exact ⟨h.tagS, h.tagR⟩

def exProg : List Op :=
  [.clone ⟨.tx, 0⟩ ⟨.tx, 1⟩, .snd .trySend ⟨.tx, 0⟩ [1], .snd .trySend ⟨.tx, 1⟩ [2], .snd .trySend ⟨.tx, 0⟩ [3],
   .rcv .recvBatch ⟨.rx, 0⟩ 2]

example : (runOps ⟨.pb, .mpmc, 4, false⟩ (init ⟨.pb, .mpmc, 4, false⟩) exProg).sentBy = [(0, 1), (1, 2), (0, 3)] ∧
    (runOps ⟨.pb, .mpmc, 4, false⟩ (init ⟨.pb, .mpmc, 4, false⟩) exProg).recvOk = [1, 2] ∧
    (runOps ⟨.pb, .mpmc, 4, false⟩ (init ⟨.pb, .mpmc, 4, false⟩) exProg).buf = [3] := by decide

/-- Batches keep order: a batch send appends its accepted values contiguously, in input order
(`sent` is a prefix of the input), a batch receive returns a contiguous prefix of the buffer. -/
theorem C02_batch_keeps_order {fl : Flavour} (hrv : fl.fam ≠ .rv) (hos : fl.fam ≠ .os) (s : St) (f : Form)
    (h : HName) (vs : List Val) (n : Nat) :
    (∃ γ, (stepOpS fl s (.snd f h vs)).1.buf = s.buf ++ γ ∧ γ <+: vs ∨
          (stepOpS fl s (.snd f h vs)).1.buf = s.buf ++ γ ∧ γ = []) ∧
    (∃ γ, s.buf = γ ++ (stepOpS fl s (.rcv f h n)).1.buf ∧ gotOf (stepOpS fl s (.rcv f h n)).2 = γ) := by
  refine ⟨?_, ?_⟩
  · obtain ⟨⟨γ, a, _, c⟩, _⟩ := Fv.Props.C01.C01_send_effect hrv hos s f h vs
    obtain ⟨_, _, hst⟩ := stepOpS_step fl s (.snd f h vs)
    -- the operation state knows `sent ++ rest = input`
    exact ⟨γ, .inl ⟨a, c ▸ hst.pinv.sent_prefix rfl⟩⟩
  · obtain ⟨⟨γ, a, _, _, d⟩, _⟩ := Fv.Props.C01.C01_recv_effect hrv hos s f h n
    exact ⟨γ, a, d⟩

def enqueue (q : List Val) (v : Val) : List Val := q ++ [v]
def dequeue : List Val → Option (Val × List Val)
  | [] => none
  | x :: r => some (x, r)

/-- **Sequential FIFO refinement, send side**: on an open channel with a live receiver, `try_send`
succeeds exactly when the queue is not full, and then the buffer is the enqueue of the abstract
queue; otherwise the buffer is unchanged. -/
theorem C02_try_send_refines_enqueue {fl : Flavour} (hrv : fl.fam ≠ .rv) (hos : fl.fam ≠ .os) (s : St) (h : HName)
    (v : Val) (hd : Handle) (hf : findH s.hs h = some hd) (hside : hd.name.side = .tx)
    (hopen : hd.closed = false) (hlive : receiversGone fl s = false) :
    ((stepOp fl s (.snd .trySend h [v])).2.tag = .ok ↔ full fl s = false) ∧
    (stepOp fl s (.snd .trySend h [v])).1.buf = (if full fl s then s.buf else enqueue s.buf v) := by
  have ho := stepOp_trySend hrv hos s h v hd hf hside
  simp only [hopen, hlive, Bool.false_eq_true, or_self, if_false] at ho
  rw [ho]
  cases full fl s <;> simp [enqueue, St.push, St.create, St.giveBack]

/-- **Sequential FIFO refinement, receive side**: on an open receiver, `try_recv` returns exactly the
head of the abstract queue and leaves its tail; on an empty queue it returns nothing and changes
nothing. -/
theorem C02_try_recv_refines_dequeue {fl : Flavour} (hrv : fl.fam ≠ .rv) (hos : fl.fam ≠ .os) (s : St) (h : HName)
    (hd : Handle) (hf : findH s.hs h = some hd) (hside : hd.name.side = .rx) (hopen : hd.closed = false) :
    match dequeue s.buf with
    | some (x, r) => (stepOp fl s (.rcv .tryRecv h 0)).2 = { tag := .ok, got := [x] } ∧
        (stepOp fl s (.rcv .tryRecv h 0)).1.buf = r
    | none => (stepOp fl s (.rcv .tryRecv h 0)).2.got = [] ∧ (stepOp fl s (.rcv .tryRecv h 0)).1.buf = s.buf := by
  have ho := stepOp_tryRecv hrv hos s h hd hf hside
  simp only [hopen, Bool.false_eq_true, if_false] at ho
  rw [ho]
  cases hb : s.buf with
  | nil => exact ⟨by simp only []; split <;> rfl, (mbFlush_still fl s).same.buf.trans hb⟩
  | cons x r => exact ⟨rfl, (mbGot_still fl _ 1 false).same.buf.trans (by simp [St.pop, hb])⟩

/-- Every accepted concurrent history has a witnessing linearization whose final state satisfies the
FIFO equations (`_partial`: see the header for what is missing). -/
theorem C02_linearizable_fifo_partial (fl : Flavour) (cfg : Cfg) (h : History) (q : Bool) (sf : St)
    (hl : linearize fl cfg h q = some sf) :
    sf.consumed <+: sf.sentOk ∧ sf.recvOk.Sublist sf.sentOk ∧
      (∀ v, count v (received h) ≤ count v sf.recvOk) ∧ (∀ v, count v (accepted h) ≤ count v sf.sentOk) := by
  obtain ⟨pf, ha, _⟩ := linearize_acc hl
  refine ⟨ha.inv.fifo.1, ha.inv.fifo.2, ?_, ?_⟩
  · intro v; have := ha.recv v; omega
  · intro v; have := ha.sent v; omega

end Fv.Props.C02
