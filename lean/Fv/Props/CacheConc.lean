import Fv.Lemmas.CacheConcReg
import Fv.Lemmas.CacheConcAcct
/-!
# C11 / C13 under interleavings — the concurrent layer

Model: `Fv.Cache.Conc` (critical-section-granularity small-step model of the sync handle paths,
maintenance passes and the `current_cost` counter). Every theorem quantifies over every
configuration (thread count, shard count, capacity, buffer sizes), every program (the environment
`call`s any operation on any idle thread), every key/value/cost, every policy behaviour (admission
decisions, victims and released costs are oracle parameters of the labels) and every interleaving.

`s.hist` is the ghost concurrent history: `inv`/`ret` events bracket each call, the other events are
linearization points appended by the critical section in which the call takes effect.

Programs may MIX calls on the sync handle (`Cache`) and on the async handle (`AsyncCache`): the environment
label `call op async` chooses the handle per call, and every theorem below quantifies over such mixed
programs (see `Fv.Props.CacheConcAsync` for what differs between the two handles).
-/
namespace Fv.Props.CacheConc
open Fv.Cache.Conc

theorem reach_of_run {c : Cfg} (tr : List (Nat × Label)) : ∀ (s0 s : State), Reach c s0 → run c s0 tr = some s → Reach c s :=
  Fv.run_closed (fun _ => rfl) (fun _ _ _ _ => rfl) Reach.step tr

theorem run_witness {α : Type} {c : Cfg} {f : State → α} {x : α} {tr : List (Nat × Label)}
    (h : (run c init tr).map f = some x) : ∃ s, Reach c s ∧ f s = x := by
  obtain ⟨s, hr, e⟩ := Option.map_eq_some_iff.1 h
  exact ⟨s, reach_of_run tr _ _ .init hr, e⟩

/-- **The linearization history is accepted by the sequential specification and replays to the
current map**: every read / remove / compute / or_insert observed exactly the register content
at its linearization point, and the map holds exactly what the history says. -/
theorem C11c_history_linearizable {c : Cfg} {s : State} (h : Reach c s) :
    histOk emptyReg s.hist = true ∧ regOf emptyReg s.hist = vals s.map :=
  ⟨(invR_reach h).ok, (invR_reach h).reg⟩

theorem prefix_ok {r : Reg} {pre post : List HEv} {e : HEv} (h : histOk r (pre ++ e :: post) = true) :
    histOk r pre = true ∧ evOk (regOf r pre) e = true :=
  ⟨(histOk_split.1 h).1, (histOk_split.1 h).2.1⟩

theorem lin_point {c : Cfg} {s : State} (h : Reach c s) {pre post : List HEv} {e : HEv} (hs : s.hist = pre ++ e :: post) :
    histOk emptyReg pre = true ∧ evOk (regOf emptyReg pre) e = true :=
  prefix_ok (hs ▸ (invR_reach h).ok)

/-- a read returns the register content of ITS key at its linearization point -/
theorem C11c_read_returns_register {c : Cfg} {s : State} (h : Reach c s) {pre post : List HEv} {t k : Nat}
    {r : Option Nat} (hs : s.hist = pre ++ .rd t k r :: post) : regOf emptyReg pre k = r := by
  simpa [evOk] using (lin_point h hs).2

/-- **Every read that returns a value returns the value of the latest linearized write of THAT key,
not followed by a linearized removal of it, plus the increments `compute` applied since.** -/
theorem C11c_read_latest_write {c : Cfg} {s : State} (h : Reach c s) {pre post : List HEv} {t k x : Nat}
    (hs : s.hist = pre ++ .rd t k (some x) :: post) :
    ∃ pre' e mid v, pre = pre' ++ e :: mid ∧ isWriteOf k e = some v ∧ Stable k mid ∧ x = v + incs k mid := by
  exact regOf_some_origin k pre x (lin_point h hs).1 (C11c_read_returns_register h hs)

/-- **No resurrection, no stale value**: a read linearized after a removal of its key (remove,
eviction, expiry, clear) with no write of that key in between returns `none`. -/
theorem C11c_no_resurrection {c : Cfg} {s : State} (h : Reach c s) {pre mid post : List HEv} {e : HEv} {t k : Nat}
    {r : Option Nat} (hs : s.hist = pre ++ e :: (mid ++ .rd t k r :: post)) (hk : kills k e = true)
    (hnw : ∀ e' ∈ mid, isWriteOf k e' = none) : r = none := by
  obtain ⟨hp, hr⟩ := lin_point h (pre := pre ++ e :: mid) (e := .rd t k r) (post := post) (by simp [hs])
  simp only [evOk, regOf_after_kill k _ pre mid e hp hk hnw] at hr
  exact (by simpa using hr : none = r).symm

/-- the value `remove` returns is the register content at its linearization point -/
theorem C11c_remove_returns_register {c : Cfg} {s : State} (h : Reach c s) {pre post : List HEv} {t k : Nat}
    {r : Option Nat} (hs : s.hist = pre ++ .rm t k r :: post) : regOf emptyReg pre k = r := by
  simpa [evOk] using (lin_point h hs).2

/-- a successful `compute` read-modify-writes the CURRENT binding -/
theorem C11c_compute_on_current {c : Cfg} {s : State} (h : Reach c s) {pre post : List HEv} {t k old d : Nat}
    (hs : s.hist = pre ++ .upd t k old d :: post) : regOf emptyReg pre k = some old := by
  simpa [evOk] using (lin_point h hs).2

/-- **No lost update**: after a write of `v` to `k`, as long as `k` is neither rebound nor removed
(evicted, expired, cleared), the resident value is `v` plus EVERY increment linearized since —
`n` concurrent `compute(+d)` from `v` yield `v + n·d`. -/
theorem C11c_no_lost_update {c : Cfg} {s : State} (h : Reach c s) {pre mid : List HEv} {e : HEv} {k v : Nat}
    (hs : s.hist = pre ++ e :: mid) (hw : isWriteOf k e = some v) (hst : Stable k mid) :
    (s.map k).map (·.val) = some (v + incs k mid) := by
  have hi := invR_reach h
  rw [← regOf_after_write k emptyReg pre mid e v (hs ▸ hi.ok) hw hst, ← hs, hi.reg]; rfl

/-- **`entry().or_insert` inserts at most once per absent period**: between two inserting
`or_insert`s of the same key there is a removal of that key. -/
theorem C11c_or_insert_once {c : Cfg} {s : State} (h : Reach c s) {a mid post : List HEv} {t1 t2 k v1 v2 : Nat}
    (hs : s.hist = a ++ .oiIns t1 k v1 :: (mid ++ .oiIns t2 k v2 :: post)) : ∃ e ∈ mid, kills k e = true := by
  exact oiIns_twice_needs_kill emptyReg a mid post t1 t2 k v1 v2 (hs ▸ (invR_reach h).ok)

/-- an `or_insert` that finds the entry occupied returns the current binding -/
theorem C11c_or_insert_occupied {c : Cfg} {s : State} (h : Reach c s) {pre post : List HEv} {t k v : Nat}
    (hs : s.hist = pre ++ .oiOcc t k v :: post) : regOf emptyReg pre k = some v := by
  simpa [evOk] using (lin_point h hs).2

/-- **Accounting identity, every reachable state**: `current_cost` plus the adjustments in-flight
operations still owe equals the resident cost plus the ghost `drift`. -/
theorem C13c_accounting_identity {c : Cfg} {s : State} (h : Reach c s) :
    s.cur + pendingAdj c s = residentCost s + s.drift := (invA_reach h).acct

theorem pending_zero_of_quiescent {c : Cfg} {s : State} (hq : Quiescent c s) : pendingAdj c s = 0 :=
  sumF_zero fun t ht => by rcases isRest_iff.1 (hq t (by simpa using ht)) with e | ⟨r, e⟩ <;> simp [e]

/-- at quiescence `current_cost` is off by exactly `drift` -/
theorem C13c_quiescent_exact {c : Cfg} {s : State} (h : Reach c s) (hq : Quiescent c s) :
    s.cur = residentCost s + s.drift := by
  have := C13c_accounting_identity h
  rw [pending_zero_of_quiescent hq] at this; omega

/-- `drift` changes only in the capacity pass's map section -/
theorem C13c_drift_frame {c : Cfg} {s s' : State} {t : Nat} {l : Label} (h : step c s t l = some s')
    (h2 : ∀ b, l ≠ .capMap b) : s'.drift = s.drift ∧ s'.dirty = s.dirty := by
  generalize hpc : s.pc t = a
  cases Step.of_step h hpc with
  | capMap => exact absurd rfl (h2 _)
  | _ => exact ⟨rfl, rfl⟩

/-- **`clear` is exact** (since /repo 7e5c084): it takes out every resident entry and subtracts exactly
their cost in the same critical section; the adjustments other threads still owe are untouched. -/
theorem C13c_clear_exact {c : Cfg} {s s' : State} {t : Nat} (h : step c s t .clear = some s') :
    s'.cur = s.cur - residentCost s ∧ residentCost s' = 0 ∧ s'.drift = s.drift ∧ s'.dirty = s.dirty := by
  generalize hpc : s.pc t = a
  cases Step.of_step h hpc
  exact ⟨rfl, sumF_zero (by intros; rfl), rfl, rfl⟩

/-- what the capacity pass's map section does to `drift`: it moves by (cost actually removed) −
(cost the policy reported as released) -/
theorem C13c_drift_capMap {c : Cfg} {s s' : State} {t : Nat} {b : Bool} (h : step c s t (.capMap b) = some s') :
    ∃ m victims released, s.pc t = .mCapMap m victims released ∧
      s'.drift = s.drift + removedCost (removeKeys c.nShards m.sh s.map victims).2 - released := by
  generalize hpc : s.pc t = a
  cases Step.of_step h hpc
  exact ⟨_, _, _, rfl, rfl⟩

/-- **C13 accounting, partial**: in every QUIESCENT reachable state, `current_cost` equals the sum
of the costs of the resident entries — PROVIDED every capacity pass was told by its policy exactly
the cost of what it removed (`dirty = false`; `dirty` is set by `capMap` steps only, see
`C13c_drift_frame` / `C13c_drift_capMap`). Every other path — insert, overwrite with another cost,
remove, or_insert, admission-driven eviction, TTL cleanup, `clear` — under every interleaving adds each
entry's cost exactly once and subtracts it exactly once. -/
theorem C13c_quiescent_accounting_partial {c : Cfg} {s : State} (h : Reach c s) (hq : Quiescent c s)
    (hc : s.dirty = false) : s.cur = residentCost s := by
  have := C13c_quiescent_exact h hq
  rw [(invA_reach h).clean hc] at this; omega

/-- the `u64` the implementation reports, under the same hypotheses -/
theorem C13c_quiescent_obs_partial {c : Cfg} {s : State} (h : Reach c s) (hq : Quiescent c s)
    (hc : s.dirty = false) (hb : residentCost s < two64) (h0 : 0 ≤ residentCost s) :
    (obs s : Int) = residentCost s := by
  unfold obs
  rw [C13c_quiescent_accounting_partial h hq hc]
  rw [Int.emod_eq_of_lt h0 hb]
  omega

/-- the full statement of the accounting clause of C13 on this model -/
def C13c_accounting_statement : Prop :=
  ∀ (c : Cfg) (s : State), Reach c s → Quiescent c s → s.cur = residentCost s

def cfg2 : Cfg := { nThreads := 2, nShards := 1, capacity := 100 }
def cfg3 : Cfg := { nThreads := 2, nShards := 1, capacity := 3 }

/-- the schedule on which accounting failed in /repo before 7e5c084 (`clear` stored 0): thread 0 inserts key 1
(cost 5), the map write is done, the cost not yet added; thread 1 clears; thread 0 then adds 5.
With `clear` subtracting the removed cost the counter passes through −5 (the `u64` wraps) and ends at
0 = resident cost. -/
def traceClearOverlap : List (Nat × Label) :=
  [(0, .call (.insert 1 10 5 none) false), (0, .insMap), (1, .call .clear false), (1, .clrAcq 0), (1, .clear),
   (0, .insEv), (0, .insAdd), (0, .coopSkip)]

/-- capacity 3; thread 0 inserts keys 0 and 1 (cost 2 each); thread 1's maintenance pass admits
both, loads `current_cost = 4`, asks the policy, which names key 0 (released 2); thread 0 removes key 0
(and subtracts 2); the pass finds key 0 gone, removes nothing, and subtracts 2 all the same.
Quiescent, key 1 resident (cost 2), `current_cost = 0`. -/
def traceCapacityRace : List (Nat × Label) :=
  [(0, .call (.insert 0 10 2 none) false), (0, .insMap), (0, .insEv), (0, .insAdd), (0, .coopSkip),
   (0, .call (.insert 1 11 2 none) false), (0, .insMap), (0, .insEv), (0, .insAdd), (0, .coopSkip),
   (1, .call (.maint 0 16 true) false), (1, .mLock), (1, .recv), (1, .recv), (1, .recv),
   (1, .admit .admit), (1, .admit .admit), (1, .ttlAdvance []), (1, .ttiMap [] true), (1, .capLoad), (1, .capEvict [0] 2),
   (0, .call (.remove 0) false), (0, .rmMap), (0, .rmPol), (0, .rmSub), (0, .rmNote true),
   (1, .capMap true), (1, .capSub), (1, .unlock)]

theorem run_clearOverlap :
    (run cfg2 init traceClearOverlap).map (fun s => (s.cur, residentCost s, decide (Quiescent cfg2 s), s.dirty)) = some (0, 0, true, false) := by
  decide

theorem run_capacityRace :
    (run cfg3 init traceCapacityRace).map (fun s => (s.cur, residentCost s, decide (Quiescent cfg3 s))) = some (0, 2, true) := by
  decide

theorem fails_of_run {c : Cfg} {tr : List (Nat × Label)} {a b : Int}
    (h : (run c init tr).map (fun s => (s.cur, residentCost s, decide (Quiescent c s))) = some (a, b, true))
    (hab : a ≠ b) : ¬ C13c_accounting_statement := by
  intro hst
  obtain ⟨s, hr, e⟩ := run_witness h
  simp only [Prod.mk.injEq, decide_eq_true_eq] at e
  exact hab (e.1 ▸ e.2.1 ▸ hst c s hr e.2.2)

/-- **`remove ‖ capacity pass`** (F8c under interleaving): the cost of one removal is subtracted twice. -/
theorem C13c_accounting_fails_capacity_race : ¬ C13c_accounting_statement :=
  fails_of_run run_capacityRace (by decide)

/-- **Observation (not a violation of C13's quiescent clause)**: `insert` subtracts the old cost before
it adds the new one, and another thread's overwrite can subtract a cost that has not been added yet, so
the counter is transiently negative — the `u64` wraps — while entries are resident. A capacity pass that
loads the counter in that window sees 2^64 − 5, concludes the cache is over capacity and asks the policy
to free 2^64 − 5 − capacity: everything the policy tracks is evicted. -/
def traceTransientWrap : List (Nat × Label) :=
  [(0, .call (.insert 1 10 5 none) false), (0, .insMap), (1, .call (.insert 1 11 3 none) false), (1, .insMap), (1, .insSub)]

theorem C13c_transient_wrap_reachable :
    (run cfg2 init traceTransientWrap).map (fun s => (s.cur, obs s, residentCost s)) =
      some (-5, 18446744073709551611, 3) := by decide

/-- two concurrent increments from 10 on key 1 with a concurrent reader: hypotheses of
`C11c_no_lost_update` hold with two `upd` events in `mid`; the resident value is 10 + 2·1000. -/
def traceTwoComputes : List (Nat × Label) :=
  [(0, .call (.insert 1 10 1 none) false), (0, .insMap), (1, .call (.compute 1 1000) false), (0, .insEv),
   (1, .compute false), (0, .insAdd), (0, .coopSkip), (0, .call (.compute 1 1000) false), (0, .compute false)]

example : (run cfg2 init traceTwoComputes).map (fun s => ((s.map 1).map (·.val), s.cur, s.dirty)) = some (some 2010, 1, false) := by
  decide

/-- a quiescent reachable clean state with a resident entry (hypotheses of the partial theorem) -/
example : ∃ s, Reach cfg2 s ∧ Quiescent cfg2 s ∧ s.dirty = false ∧ s.cur = 1 := by
  have h : (run cfg2 init traceTwoComputes).map (fun s => (decide (Quiescent cfg2 s), s.dirty, s.cur)) =
      some (true, false, 1) := by decide
  obtain ⟨s, hr, e⟩ := run_witness h
  simp only [Prod.mk.injEq, decide_eq_true_eq] at e
  exact ⟨s, hr, e⟩

end Fv.Props.CacheConc
