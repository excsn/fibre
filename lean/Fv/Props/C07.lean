import Fv.Lemmas.Bcast
/-!
# C07 — broadcast spmc: each receiver gets every value once, in order, with backpressure (spec level)

On the sequential model Q of the broadcast channel (`Fv/Chan/Bcast.lean`, tied to `fibre::spmc` by the
sequential differential run of `chanh --flavours spmc,spmc_async`). The sender writes only while
`head − min registered cursor < cap` (`room`), so `BInv` (every registered cursor within `cap` of the head: no
unread value is ever overwritten) holds initially and is kept by every operation except the clone of an
unregistered (closed) receiver, for which `C07_fails_stale_clone` is the witness (finding SpmcB-N1). Preservation
is `BInv.of_eff` applied to what the call does to the records, the sent sequence and the capacity (`BEff`,
`stepB'_eff` in `Fv/Lemmas/Bcast.lean`). The interleaving part (cursor registration vs. producer minimum, park
flag hand-shake) is the step-level model `Fv/Chan/SpmcB.lean` of another module.
-/
namespace Fv.Props.C07
open Fv.Chan List

def BInv (b : BSt) : Prop :=
  (b.rxs.map (·.idx)).Nodup ∧
  ∀ r ∈ b.rxs, r.cursor ≤ b.head ∧ (r.registered = true → b.head - r.cursor ≤ b.cap)

/-- **Each receive returns the next contiguous segment of the sent sequence** (open handle, not
lapped): every value exactly once and in send order. -/
theorem C07_recv_returns_next_segment (b : BSt) (r : BHandle) (f : Form) (n : Nat) (hr : r.closed = false)
    (hle : r.cursor ≤ b.head) (hcap : b.head - r.cursor ≤ b.cap) :
    (bRecv b r f n).2.got = (b.sent.drop r.cursor).take (bRecv b r f n).2.got.length := by
  rcases bRecv_cases b r f n with ⟨-, hg⟩ | ⟨k, -, hk, -, hg⟩ <;> rw [hg]
  · rfl
  · simp only [length_map, length_range]
    refine Fv.map_range_eq_take_drop (d := 0) hk fun i hi => ?_
    rw [slotIdx_of_not_lapped b _ (by omega) (by omega)]

/-- a clone starts at its parent's current position -/
theorem C07_clone_starts_at_parent_cursor (b : BSt) (h h' : Nat) (r : BHandle) (hf : bfind b h = some r)
    (hn : bfind b h' = none) :
    ∃ r', (stepB' b (.clone ⟨.rx, h⟩ ⟨.rx, h'⟩)).1.rxs = b.rxs ++ [r'] ∧ r'.cursor = r.cursor ∧ r'.idx = h' ∧
      r'.registered = true := by
  simp [stepB', stepB, hf, hn]

/-- the `try_recv` of an open, not lapped receiver reports Disconnected exactly when the producer is gone and it
has drained its view -/
theorem C07_disconnected_iff (b : BSt) (r : BHandle) (hr : r.closed = false) (hle : r.cursor ≤ b.head)
    (hcap : b.head - r.cursor ≤ b.cap) :
    (bRecv b r .tryRecv 0).2.tag = .disconnected ↔ (b.producerGone = true ∧ r.cursor = b.head) := by
  unfold bRecv bRecvOne
  simp only [Form.isBatch, Bool.not_false, if_true, hr, Bool.false_eq_true, if_false]
  by_cases hlt : r.cursor < b.head
  · have : b.readable r.cursor = true := by simp [BSt.readable, hlt, hcap]
    simp [this]; omega
  · have hne : b.readable r.cursor = false := by simp [BSt.readable, hlt]
    have he : r.cursor = b.head := by omega
    simp only [hne, Bool.false_eq_true, if_false]
    by_cases hp : b.producerGone = true
    · simp [hp, he]
    · simp [hp]

/-- closing a receiver removes its cursor from the producer's minimum (and unblocks it): the cursors
the producer looks at afterwards are those of the *other* registered receivers -/
theorem C07_close_releases_backpressure (b : BSt) (i : Nat) (r : BHandle) (hf : bfind b i = some r)
    (hr : r.closed = false) :
    (stepB' b (.close ⟨.rx, i⟩)).2.tag = .ok ∧
      (stepB' b (.close ⟨.rx, i⟩)).1.cursors = ((b.rxs.filter (fun x => x.registered && x.idx != i)).map (·.cursor)) := by
  simp only [stepB', stepB, hf, hr, Bool.false_eq_true, if_false, true_and]
  simp only [BroadcastSpec.cursors, bset, List.filter_map, List.map_map]
  induction b.rxs with
  | nil => rfl
  | cons a l ih =>
    simp only [List.filter_cons, Function.comp]
    by_cases ha : a.idx = i
    · simp [ha, ih]
    · by_cases hreg : a.registered = true
      · simp [ha, hreg, ih]
      · simp [ha, hreg, ih]

theorem BInv.map {b b' : BSt} (hi : BInv b) (g : BHandle → BHandle) (hr : b'.rxs = b.rxs.map g)
    (hs : b'.sent = b.sent) (hc : b'.cap = b.cap) (hidx : ∀ r, (g r).idx = r.idx)
    (hg : ∀ r ∈ b.rxs, r.cursor ≤ (g r).cursor ∧ (g r).cursor ≤ b.head ∧ ((g r).registered = true → r.registered = true)) :
    BInv b' := by
  refine ⟨?_, fun r hm => ?_⟩
  · rw [hr, map_map]
    have : ((fun x : BHandle => x.idx) ∘ g) = (fun x => x.idx) := by funext r; exact hidx r
    rw [this]; exact hi.1
  · rw [hr, mem_map] at hm
    obtain ⟨r0, hr0, rfl⟩ := hm
    obtain ⟨a, c⟩ := hi.2 r0 hr0
    obtain ⟨g1, g2, g3⟩ := hg r0 hr0
    have hh : b'.head = b.head := by simp [BroadcastSpec.head, hs]
    rw [hh, hc]
    exact ⟨g2, fun h => by have := c (g3 h); omega⟩

theorem BInv.of_eff {b b' : BSt} {op : Op} (hi : BInv b) (h : BEff b op b')
    (hclone : ∀ h h' r, op = .clone ⟨.rx, h⟩ ⟨.rx, h'⟩ → bfind b h = some r → r.registered = true) : BInv b' := by
  cases h with
  | wrote ws hk hs hr hc =>
    -- a registered cursor is at least `minCursor`, and the head moved by at most `room = cap − (head − minCursor)`
    refine ⟨by rw [hr]; exact hi.1, fun r hm => ?_⟩
    rw [hr] at hm
    obtain ⟨a, c⟩ := hi.2 r hm
    have hh : b'.head = b.head + ws.length := by simp [BroadcastSpec.head, hs]
    refine ⟨by omega, fun hreg => ?_⟩
    have hmin : b.minCursor ≤ r.cursor := minList_le_of_mem (mem_map.2 ⟨r, mem_filter.2 ⟨hm, hreg⟩, rfl⟩)
    have hmh : b.minCursor ≤ b.head := minList_le_default _ _
    have := c hreg
    unfold BroadcastSpec.room at hk
    rw [hh, hc]; omega
  | advanced r k hm hk hr hs hc =>
    refine hi.map _ hr hs hc (fun x => by split <;> rfl) fun x hx => ?_
    obtain ⟨a, _⟩ := hi.2 x hx
    by_cases hxi : x.idx = r.idx
    · -- names are unique: `x` is the reader itself
      cases Fv.eq_of_nodup_map _ hi.1 hx hm hxi
      simp only [if_true]; exact ⟨by omega, hk, id⟩
    · simp only [hxi, if_false]; exact ⟨Nat.le_refl _, a, id⟩
  | flagged i g hr hs hc hidx hcur hreg =>
    refine hi.map _ hr hs hc (fun x => by split; exact hidx x; rfl) fun x hx => ?_
    obtain ⟨a, _⟩ := hi.2 x hx
    split
    · rw [hcur]; exact ⟨Nat.le_refl _, a, hreg x⟩
    · exact ⟨Nat.le_refl _, a, id⟩
  | cloned h i r r' hop hf hn hi' hcur hr hs hc =>
    obtain ⟨a, c⟩ := hi.2 r (bfind_mem hf).1
    have hh : b'.head = b.head := by simp [BroadcastSpec.head, hs]
    refine ⟨?_, fun x hx => ?_⟩
    · rw [hr, map_append, map_singleton, Fv.nodup_snoc]
      exact ⟨hi.1, hi' ▸ bfind_none hn⟩
    · rw [hr] at hx; rw [hh, hc]
      rcases mem_append.mp hx with hx | hx
      · exact hi.2 x hx
      · cases mem_singleton.mp hx; rw [hcur]; exact ⟨a, fun _ => c (hclone h i r hop hf)⟩
  | dropped p hr hs hc =>
    have hh : b'.head = b.head := by simp [BroadcastSpec.head, hs]
    unfold BInv; rw [hr, hh, hc]
    exact ⟨Nodup.sublist (Sublist.map _ filter_sublist) hi.1, fun x hx => hi.2 x (mem_filter.mp hx).1⟩

/-- **The sender is held back by the slowest registered receiver**: after any send form every registered
cursor is still within `cap` of the head — no unread value was overwritten. -/
theorem C07_send_respects_slowest_receiver (b : BSt) (f : Form) (vs : List Val) (hi : BInv b) :
    BInv (bSend b f vs).1 := by
  exact hi.of_eff (bSend_eff b (.snd f ⟨.tx, 0⟩ vs) f vs) (fun _ _ _ e => nomatch e)

def staleProg : List Op :=
  [.snd .trySend ⟨.tx, 0⟩ [1], .clone ⟨.rx, 0⟩ ⟨.rx, 1⟩, .close ⟨.rx, 0⟩,
   .rcv .tryRecv ⟨.rx, 1⟩ 0, .snd .trySend ⟨.tx, 0⟩ [2], .rcv .tryRecv ⟨.rx, 1⟩ 0,
   .snd .trySend ⟨.tx, 0⟩ [3], .rcv .tryRecv ⟨.rx, 1⟩ 0, .clone ⟨.rx, 0⟩ ⟨.rx, 2⟩]

/-- SpmcB-N1: `clone` of a closed (unregistered) receiver registers a cursor that is more than `cap`
behind the head: the backpressure invariant is broken (`len() > capacity()`), the next `try_send`
reports Full forever and the stale cursor can no longer read (its slot was overwritten). -/
theorem C07_fails_stale_clone :
    let b := runB (binit 2 false) staleProg
    ¬ BInv b ∧ b.head - b.minCursor = 3 ∧ (stepB' b (.snd .trySend ⟨.tx, 0⟩ [4])).2.tag = .full ∧
      (stepB' b (.rcv .tryRecv ⟨.rx, 2⟩ 0)).2.tag = .empty := by
  refine ⟨fun h => ?_, by decide, by decide, by decide⟩
  have := h.2 ⟨2, 0, false, true, false⟩ (by decide)
  exact absurd (this.2 rfl) (by decide)

/-- **`BInv` is preserved by every operation except the clone of an unregistered receiver**: the
sender never overwrites a value a registered receiver has not read yet. -/
theorem C07_backpressure_invariant_partial (b : BSt) (op : Op) (hi : BInv b)
    (hclone : ∀ h h' r, op = .clone ⟨.rx, h⟩ ⟨.rx, h'⟩ → bfind b h = some r → r.registered = true) :
    BInv (stepB' b op).1 := by
  exact hi.of_eff (stepB'_eff b op) hclone

theorem C07_init_inv (cap : Nat) (a : Bool) : BInv (binit cap a) := by
  refine ⟨by simp [binit], fun r hr => ?_⟩
  simp only [binit, mem_singleton] at hr
  subst hr
  simp [BroadcastSpec.head, binit]

end Fv.Props.C07
