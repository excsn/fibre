import Fv.Lemmas.TopicDisc
/-!
C04 (disconnect protocol) — the topic channel's part, on the model `Fv.Chan.Topic`.
What holds is proved for every state; what the code violates is shown false by `decide`
witnesses that are also replayed on the implementation (findings/C04_topic.case).
The sender-side Disconnected clauses (drain then Disconnected, final, one-of-several handles)
are in `Fv.Props.C08` (`C08_disc_*`, `C08_fails_F4*`).
-/
namespace Fv.Props.C04Topic
open Fv.Chan.Topic

/-- (vi) sender: `close` on a handle whose flag is set reports `CloseError` and changes nothing -/
theorem sender_close_twice (s : St) (h : Nat) (x : Tx) (hx : txLive s h = some x) (hc : x.closed = true) :
    step s (.sClose h) = (s, .closeErr) := by
  simp [step, sClose, hx, hc]

/-- (v) sender: a handle that was itself closed rejects `send`, touching nothing -/
theorem send_on_closed_sender (s : St) (h : Nat) (x : Tx) (t : Topic) (v : Val) (hx : txLive s h = some x)
    (hc : x.closed = true) : step s (.send h t v) = (s, .closed) := by
  simp [step, send, hx, hc]

/-- (iii) after `receiver_count` reached zero every send is refused with Closed and reaches no mailbox
(the value is dropped with the call: `SendError::Closed` carries no payload in this flavour) -/
theorem send_without_receivers (s : St) (h : Nat) (x : Tx) (t : Topic) (v : Val) (hx : txLive s h = some x)
    (hc : s.rcount = 0) : step s (.send h t v) = (s, .closed) := by
  simp [step, send, hx, hc]

/-- (vi) receiver: `close` on a handle whose flag is set reports `CloseError` -/
theorem receiver_close_twice (s : St) (r : Nat) (x : Rx) (hx : rxLive s r = some x) (hc : x.closed = true) :
    step s (.rClose r) = (s, .closeErr) := by
  simp [step, rClose, hx, hc]

/-- drain-then-Disconnected at the mailbox: a receive form never answers Disconnected while the
mailbox holds a value -/
theorem drain_before_disconnected (s : St) (op : Op) (r : Nat) (ht : recvTarget op = some r)
    (hres : (step s op).2 = .disc ∨ (step s op).2 = .none) : bufOf s r = [] := by
  obtain ⟨x, hx, _, hb, _⟩ := recv_disc_cases s op r ht hres
  simp [bufOf, hx, hb]

/-- (iv)/(vi) dropping a receiver handle (either flavour) whose `close()` already succeeded gives up
nothing a second time: `receiver_count` and the topic lists are untouched -/
theorem drop_after_close_keeps_count (s : St) (r : Nat) (x : Rx) (hx : rxLive s r = some x) (hc : x.closed = true) :
    (step s (.rDrop r)).1.rcount = s.rcount ∧ (step s (.rDrop r)).1.regs = s.regs := by
  simp [step, rDrop, hx, hc]

/-- regression of the fixed double decrement: async `close()` then drop, a second receiver stays
reachable for `send` -/
theorem async_close_then_drop_ok :
    results (init 2 .async) [Op.rClone 0, .subscribe 1 1, .rClose 0, .rDrop 0, .send 0 1 1, .tryRecv 1]
      = [.handle 1, .unit, .ok, .unit, .ok, .msg 1 1] := by
  decide

/-- F3 (topic): `try_recv` and `recv` hand out values on a receiver handle whose `close()`
succeeded; the second `close` correctly reports `CloseError` -/
theorem fails_F3_recv_on_closed_receiver :
    results (init 2 .sync) [Op.subscribe 0 1, .send 0 1 5, .send 0 1 6, .rClose 0, .rClose 0, .tryRecv 0, .recv 0]
      = [.unit, .ok, .ok, .ok, .closeErr, .msg 1 5, .msg 1 6] := by
  decide

/-- `to_async`/`to_sync` of a receiver reset its `closed` flag: `is_closed()` turns false, the
drop decrements again, `send` is refused while receiver 1 is alive -/
theorem fails_convert_resets_closed :
    results (init 2 .sync) [Op.rClone 0, .subscribe 1 1, .rClose 0, .rConv 0, .rIsClosed 0, .rDrop 0, .send 0 1 1]
      = [.handle 1, .unit, .ok, .unit, .bool false, .unit, .closed] := by
  decide

/-- … and `close()` succeeds a second time after the conversion -/
theorem fails_convert_close_twice_ok :
    results (init 2 .sync) [Op.rClose 0, .rConv 0, .rClose 0, .send 0 1 1] = [.ok, .unit, .ok, .ok] := by
  decide

end Fv.Props.C04Topic
