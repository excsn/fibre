import Fv.Chan.OneshotB
/-!
Witnesses of the STEP-LEVEL oneshot model `Fv.Chan.OneshotB` on concrete programs and schedules
(`decide` on `run`): the known defect F18, the two-load races of `is_closed` and `try_recv`, the teardown
orders (non-vacuity of the theorems in `Fv.Props.OneshotB`).
-/
namespace Fv.Props.OneshotB
open Fv.Chan.OneshotB

/-- a whole operation of handle `a` with `n` actions between call and return -/
def opS (a : Ag) (n : Nat) : List (Ag × Label) := (a, .call) :: (List.replicate n (a, .act) ++ [(a, .ret)])
/-- call + the first `n` actions of an operation -/
def opP (a : Ag) (n : Nat) : List (Ag × Label) := (a, .call) :: List.replicate n (a, .act)
def acts (a : Ag) (n : Nat) : List (Ag × Label) := List.replicate n (a, .act)

/-- F18 program: `s1 = s0.clone(); s0.send(1); rx.try_recv(); block_on(rx.recv())` ‖ `drop(s1)` -/
def f18S : Nat → List Op
  | 0 => [.clone, .send 1]
  | 1 => [.drop]
  | _ => []
def f18R : List Op := [.tryRecv, .recv 7]
/-- clone; send (Ok); try_recv takes the value (state TAKEN); recv polls, registers, answers Pending and
parks; THEN the last sender handle is dropped: `decrement_senders` finds TAKEN and wakes nobody. -/
def f18Sched : List (Ag × Label) :=
  opS (.S 0) 1 ++ opS (.S 0) 12 ++ opS .R 5 ++ opP .R 6 ++ opS (.S 1) 6

/-- C05 / C06 FAILS on the code as it is (known finding F18, `oneshot:recv:blocked-after-all-senders-gone`;
replay: /verif/findings/OneshotB_F18.case): a reachable state in which the receiver is parked in
`recv()` with no park token, its waker still registered and armed, nobody about to wake it (every sender
handle is gone and idle), although the state is TAKEN and `sender_count` is 0 — the next poll would
answer `Disconnected`, but it never happens. -/
theorem C05_fails_F18_recv_parked_in_TAKEN_never_woken :
    (run (init f18S f18R) f18Sched).map (fun s =>
      decide ((s.loc .R).m = .park ∧ s.tok 7 = false ∧ s.waker = some (.task 7) ∧ s.armed = true ∧
        s.st = .taken ∧ s.scount = 0 ∧ s.closer = none ∧
        s.gone (.S 0) = true ∧ s.gone (.S 1) = true ∧ (s.loc (.S 0)).m = .idle ∧ (s.loc (.S 1)).m = .idle ∧
        s.received = [1])) = some true := by decide

/-- `Receiver::is_closed` is not atomic (state word, then `sender_count`): it answers `true` from a stale
EMPTY and a fresh count 0 while a value is SENT and waiting to be received. Program: `tx.send(1)` ‖
`rx.is_closed()`; schedule: the probe loads EMPTY, the whole send (and the drop of the sender) runs, the
probe loads count 0. (This is why the linearizability tie does not compare that probe.) -/
theorem receiver_is_closed_stale_true :
    (run (init (fun i => if i = 0 then [.send 1] else []) [.isClosed])
      (opP .R 1 ++ opS (.S 0) 17 ++ acts .R 1)).map (fun s =>
      decide ((s.loc .R).m = .ret (.b true) ∧ s.st = .sent ∧ s.slot = some 1 ∧ s.sres 0 = some .ok)) = some true := by decide

/-- reopen program: two handles are closed, the second closed handle is cloned -/
def reopenS : Nat → List Op
  | 0 => [.clone, .close]
  | 1 => [.close, .clone]
  | _ => []
def reopenSched : List (Ag × Label) :=
  opS (.S 0) 1 ++ opS (.S 1) 2 ++ opP (.S 0) 2 ++          -- s1 = s0.clone(); s1.close(); s0.close() up to the fetch_sub (count 0)
  opP .R 2 ++                                               -- try_recv CALLED with EMPTY + count 0 (`q`); it loads EMPTY
  opS (.S 1) 1 ++                                           -- s2 = s1.clone(): a CLOSED handle is cloned, count 1 again
  acts .R 1                                                 -- try_recv loads count 1 → Empty

/-- C04 "all senders gone and nothing sent ⇒ Disconnected" needs the hypothesis of
`senders_gone_recv_disconnected_partial`: once a CLOSED sender handle is cloned (the known
clone-of-closed-handle family) a `try_recv` that was called with state EMPTY and `sender_count = 0`
answers `Empty`. (Since fix a886a91 this is all a reopen can do: `Disconnected` itself is final,
`disconnected_is_final`.) -/
theorem C04_fails_senders_gone_empty_after_reopen :
    (run (init reopenS [.tryRecv]) reopenSched).map (fun s =>
      decide ((s.loc .R).q = true ∧ (s.loc .R).m = .ret .empty ∧ s.reopened = true)) = some true := by decide

/-- the schedule of the defect fixed by a886a91 (no clone involved): `try_recv` loads EMPTY, the whole
`send(1)` and the drop of the only sender run (SENT, count 0), `try_recv` loads count 0, its CAS
EMPTY→CLOSED fails — and the code looks again and returns the value (before the fix it answered
`Disconnected` here with the value SENT). -/
theorem fixed_disconnected_before_drain_returns_value :
    (run (init (fun i => if i = 0 then [.send 1] else []) [.tryRecv])
      (opP .R 2 ++ opS (.S 0) 17 ++ acts .R 6 ++ [(.R, .ret)])).map (fun s =>
      decide (s.results .R = [.okV 1] ∧ s.received = [1] ∧ s.sres 0 = some .ok)) = some true := by decide

/-! ### teardown orders (non-vacuity of `teardown_no_leak`: `freed` is reached with the value in each place) -/

def oneSend : Nat → List Op := fun i => if i = 0 then [.send 1] else []

/-- value never taken, sender gone first: the receiver's Drop claims SENT→TAKEN and drops the value. -/
example : (run (init oneSend [.drop]) (opS (.S 0) 17 ++ opS .R 8)).map (fun s =>
    decide (s.freed = true ∧ s.dropped = [1] ∧ s.received = [] ∧ s.slot = none ∧ s.sres 0 = some .ok)) = some true := by decide

/-- receiver dropped first, while the sender is between its CAS and the slot write ("drop race"): the send
still reports Ok, the last sender's `decrement_senders` claims SENT→TAKEN and drops the value. -/
example : (run (init oneSend [.drop]) (opP (.S 0) 5 ++ opS .R 5 ++ acts (.S 0) 14 ++ [(.S 0, .ret)])).map (fun s =>
    decide (s.freed = true ∧ s.dropped = [1] ∧ s.received = [] ∧ s.slot = none ∧ s.sres 0 = some .ok ∧
      s.results (.S 0) = [.ok])) = some true := by decide

/-- value taken by the receiver, then both sides go: nothing is dropped by the channel. -/
example : (run (init oneSend [.tryRecv, .drop]) (opS (.S 0) 17 ++ opS .R 5 ++ opS .R 6)).map (fun s =>
    decide (s.freed = true ∧ s.dropped = [] ∧ s.received = [1] ∧ s.slot = none)) = some true := by decide

/-- receiver gone before the send starts: the send fails with `Closed(1)`, nothing enters the channel. -/
example : (run (init oneSend [.drop]) (opS .R 5 ++ opS (.S 0) 11)).map (fun s =>
    decide (s.freed = true ∧ s.moved = [] ∧ s.sres 0 = some (.closedV 1) ∧ s.results (.S 0) = [.closedV 1])) = some true := by decide

/-- two senders race: exactly one `Ok`, the other gets its value back (`send_ok_unique`, `token_fate`). -/
example : (run (init (fun i => if i = 0 then [.clone, .send 1] else if i = 1 then [.send 2] else []) [])
    (opS (.S 0) 1 ++ opP (.S 0) 4 ++ opS (.S 1) 7 ++ acts (.S 0) 13 ++ [(.S 0, .ret)])).map (fun s =>
    decide (s.sres 0 = some .ok ∧ s.sres 1 = some (.sentV 2) ∧ s.moved = [1] ∧ s.slot = some 1)) = some true := by decide

end Fv.Props.OneshotB
