import Fv.Lemmas.SpmcBWake
import Fv.Lemmas.SpmcBDrop
/-!
# SpmcB — step-level theorems about the broadcast SPMC channel (feeds C07; spmc parts of C03/C04/C05/C09)

Model: `Fv.Chan.SpmcB` (one step = one visible action of `spmc/ring_buffer.rs` / `spmc/mod.rs`, with
`internal/left_right.rs` embedded through `Fv.Chan.LeftRightB`). Every theorem quantifies over every
capacity `cap > 0`, every program (calls are environment choices), every number of threads and of
receivers (cloned / closed / dropped at any time), single and batch forms, and every interleaving
(`Reach cap s`). "Untainted" (`s.taint = false`) excludes exactly two uses of the API in which the code
forgets a handle's `closed` flag (`clone` of a closed receiver, `to_async`/`to_sync` of a closed
handle); for those the statements are FALSE of the code — see the `…_fails_…` witnesses below.
-/
namespace Fv.Props.SpmcB
open Fv.Chan Fv.Chan.SpmcB
open Fv.Chan.LeftRightB (upd)

section LeftRight
variable {α Op : Type} (ap : Op → α → α) {a : α} {s : LeftRightB.Sys α Op}

/-- **A guard dereferences to a stable, consistent copy**: while a reader holds a guard on copy `i`,
copy `i` is exactly what the reader saw when it committed — it has not been mutated since. -/
theorem LR_snapshot_stable (h : LeftRightB.Reach ap a s) {t i : Nat} {v : α}
    (hg : s.pcs t = .rHold i v) : s.sh.data i = v := by
  have := (LeftRightB.inv_reach ap h).stage t
  rw [hg] at this; exact this.2

/-- **A copy is mutated only while no guard is on it** (first mutation of `modify`: the stale copy). -/
theorem LR_mut1_exclusive (h : LeftRightB.Reach ap a s) {w l : Nat} {o : Op}
    (hw : s.pcs w = .wMut1 o l) (t : Nat) (v : α) : s.pcs t ≠ .rHold (1 - l) v := by
  have hi := LeftRightB.inv_reach ap h
  intro hg
  have hst := hi.stage w; rw [hw] at hst
  have hl : l = s.sh.live := hst.1
  have h2 := hi.live2
  have := hi.waits_for_writer hg (by omega) (show LeftRightB.inW (s.pcs w) = true by rw [hw]; rfl)
  rw [hw] at this; exact this

/-- … second mutation of `modify`: the old live copy, after the readers drained. -/
theorem LR_mut2_exclusive (h : LeftRightB.Reach ap a s) {w l : Nat} {o : Op}
    (hw : s.pcs w = .wMut2 o l) (t : Nat) (v : α) : s.pcs t ≠ .rHold l v := by
  have hi := LeftRightB.inv_reach ap h
  intro hg
  have hst := hi.stage w; rw [hw] at hst
  obtain ⟨hl, hl2, _⟩ := hst
  have := hi.waits_for_writer hg (by omega) (show LeftRightB.inW (s.pcs w) = true by rw [hw]; rfl)
  rw [hw] at this; exact this

/-- **Both copies are equal outside `modify`.** -/
theorem LR_copies_equal (h : LeftRightB.Reach ap a s) (hw : s.sh.wlock = none) : s.sh.data 0 = s.sh.data 1 :=
  (LeftRightB.inv_reach ap h).free hw

/-- **A reader's snapshot is one of the two consistent copies**: it is the published copy, or the
published copy is exactly one mutation ahead of it and the writer of that mutation is still waiting
for this reader to leave. -/
theorem LR_snapshot_one_of_two (h : LeftRightB.Reach ap a s) {t i : Nat} {v : α} (hg : s.pcs t = .rHold i v) :
    s.sh.data s.sh.live = v ∨
    ∃ w o, (s.pcs w = .wWait o i ∨ s.pcs w = .wSpin o i) ∧ s.sh.data s.sh.live = ap o v :=
  (LeftRightB.inv_reach ap h).snapshot hg

end LeftRight

/-- The embedded left-right instance satisfies the component invariant in every reachable state
(tainted or not). -/
theorem lr_embedded {cap : Nat} {s : State} (h : Reach cap s) : LRI s := lri_reach h

/-- **One thread per handle**: the sender handle is inside at most one operation at a time (for a receiver handle:
`InvA.unique`) — the premise "single producer" of the ring is a theorem of the model's API discipline. -/
theorem single_producer {cap : Nat} {s : State} (h : Reach cap s) {t u : Nat} {p q : SPC}
    (ht : s.pc t = .snd p) (hu : s.pc u = .snd q) : t = u :=
  (invA_reach h).unique (ρ := .snd) (by rw [ht]; rfl) (by rw [hu]; rfl)

/-- a receiver handle that exists and has not been closed -/
def Registered (s : State) (r : Nat) : Prop := s.rAlive r = true ∧ s.rclosed r = false

theorem registered_base {cap : Nat} {s : State} (hc : 0 < cap) (h : Reach cap s) (hnt : s.taint = false)
    {r : Nat} (hr : Registered s r) : rBase s.core r := by
  have hs := safe_reach hc h hnt
  exact ⟨hs.g.alive_lt r hr.1, resv_none_of_alive hs.g (r := r) hr.1, hr.2⟩

/-- **Every open receiver is in the published cursor list.** -/
theorem registered_published {cap : Nat} {s : State} (hc : 0 < cap) (h : Reach cap s) (hnt : s.taint = false)
    {r : Nat} (hr : Registered s r) : r ∈ s.pub :=
  (safe_reach hc h hnt).g.mem_pub (lri_reach h).live2 (registered_base hc h hnt hr)

/-- **B1 — backpressure window.** For every open receiver `r`: its cursor never passes what has been
published, the producer is never more than `cap` ahead of it (counting sequence numbers already
published, which is ≥ `head`), hence `head − cursor ≤ cap`. -/
theorem B1_window {cap : Nat} {s : State} (hc : 0 < cap) (h : Reach cap s) (hnt : s.taint = false)
    {r : Nat} (hr : Registered s r) :
    s.cur r ≤ s.sent.length ∧ s.sent.length ≤ s.cur r + s.cap ∧ s.head ≤ s.sent.length ∧ s.head - s.cur r ≤ s.cap := by
  have hs := safe_reach hc h hnt
  have hm := registered_published hc h hnt hr
  have h1 := hs.g.lim_pub r hm
  have h2 := hs.g.n_le_lim
  have h3 := hs.g.cur_le r
  have h4 := hs.g.head_le
  simp only [State.core] at h1 h2 h3 h4
  exact ⟨h3, by omega, h4, by omega⟩

/-- … and whenever no slot write is in progress (`head` published), `cursor ≤ head` literally. -/
theorem cursor_le_head {cap : Nat} {s : State} (hc : 0 < cap) (h : Reach cap s) (hnt : s.taint = false)
    (hw : ∀ p q, s.pc p = .snd q → inWr q = false) (r : Nat) : s.cur r ≤ s.head := by
  have hs := safe_reach hc h hnt
  rcases idle_or_writing (invA_reach h) hs with hi | ⟨p, q, hq, hw'⟩
  · have h3 := hs.g.cur_le r
    simp only [State.core] at h3
    omega
  · rw [hw p q hq] at hw'; cases hw'

/-- … in particular while no thread is inside an operation on the sender handle -/
theorem B1_cursor_le_head {cap : Nat} {s : State} (hc : 0 < cap) (h : Reach cap s) (hnt : s.taint = false)
    (hidle : s.sOwner = none) (r : Nat) : s.cur r ≤ s.head :=
  cursor_le_head hc h hnt (fun p q hq => by have := (invA_reach h).sown hq; rw [hidle] at this; cases this) r

/-- **The minimum over a SNAPSHOT of the cursor list is a lower bound of every cursor published NOW**
(cursors only grow; a clone starts at its parent's cursor and its `modify` cannot finish while the
producer still holds the guard of the older snapshot; a drop only removes a cursor). -/
theorem snapshot_min_is_lower_bound {cap : Nat} {s : State} (hc : 0 < cap) (h : Reach cap s) (hnt : s.taint = false)
    {t : Nat} {k : ScanK} {h0 i : Nat} {done : List Nat} {r : Nat} {m : Option Nat}
    (hpc : s.pc t = .snd (.sScan k h0 i done [r] m)) :
    ∀ x, x ∈ s.pub → omin m (s.cur r) ≤ s.cur x :=
  lb_all (lri_reach h) (safe_reach hc h hnt) hpc

/-- **The producer's subtraction `head − min` never underflows**: the minimum it computed is ≤ head. -/
theorem no_underflow {cap : Nat} {s : State} (hc : 0 < cap) (h : Reach cap s) (hnt : s.taint = false)
    {t : Nat} {k : ScanK} {h0 i : Nat} {L : List Nat} {m : Nat}
    (hpc : s.pc t = .snd (.sExit k h0 i L (some m))) (hk : sendK k = true) : m ≤ h0 ∧ h0 = s.head := by
  have hs := safe_reach hc h hnt
  obtain ⟨sc, f3⟩ := hs.sf t _ hpc
  have f1 := sc.idle.1
  obtain ⟨a, _, c⟩ := f3 m rfl
  exact ⟨by have := a hk; omega, a hk⟩

/-- **C03 / C07 backpressure: an unread value is never overwritten.** When the producer is about to
overwrite the slot of index `h+j` (which still holds index `h+j−cap`), every open receiver has
already moved past that old index. -/
theorem no_overwrite_unread {cap : Nat} {s : State} (hc : 0 < cap) (h : Reach cap s) (hnt : s.taint = false)
    {t : Nat} {x : SCtx} {h0 j k q : Nat} (hpc : s.pc t = .snd (.wVal x h0 j k q))
    {r : Nat} (hr : Registered s r) : h0 + j < s.cur r + s.cap := by
  have hs := safe_reach hc h hnt
  have w := (hs.sf t _ hpc).1
  have f3 := w.lt
  have f4 := w.lim
  have h1 := hs.g.lim_pub r (registered_published hc h hnt hr)
  simp only [State.core] at h1 f4
  omega

theorem write_slot_ne {s : State} (hl : LRI s) (hs : Safe s) {t : Nat} {x : SCtx} {h0 j k q : Nat}
    (hpc : s.pc t = .snd (.wVal x h0 j k q)) {r : Nat} (hb : rBase s.core r) {i : Nat} (hi : s.cur r ≤ i)
    (hlt : i < s.sent.length) : i % s.cap ≠ (h0 + j) % s.cap := by
  have w := (hs.sf t _ hpc).1
  have f2 := w.len
  have f3 := w.lt
  have f4 := w.lim
  have h1 := hs.g.lim_pub r (hs.g.mem_pub hl.live2 hb)
  simp only [State.core] at h1 f2 f4
  exact mod_ne_of_lt (by omega) (by omega)

/-- **Data-race freedom of the slot payloads**: the producer's non-atomic write of a slot never
coincides with a receiver's non-atomic read of the same slot (single-item form). -/
theorem slot_write_read_disjoint {cap : Nat} {s : State} (hc : 0 < cap) (h : Reach cap s) (hnt : s.taint = false)
    {t u : Nat} {x : SCtx} {h0 j k q : Nat} (hpc : s.pc t = .snd (.wVal x h0 j k q))
    {r : Nat} {y : RCtx} {c : Nat} (hu : s.pc u = .rcv r (.rVal y c)) :
    c % s.cap ≠ (h0 + j) % s.cap := by
  have hs := safe_reach hc h hnt
  obtain ⟨hb, hcu, hlt⟩ := hs.rf u r _ hu
  exact write_slot_ne (lri_reach h) hs hpc hb (Nat.le_of_eq hcu.symm) hlt

/-- … batch form: none of the `n` slots a `recv_batch` is cloning out is the one being written. -/
theorem slot_write_read_disjoint_batch {cap : Nat} {s : State} (hc : 0 < cap) (h : Reach cap s) (hnt : s.taint = false)
    {t u : Nat} {x : SCtx} {h0 j k q : Nat} (hpc : s.pc t = .snd (.wVal x h0 j k q))
    {r : Nat} {y : RCtx} {c n : Nat} (hu : s.pc u = .rcv r (.bVals y c n)) (i : Nat) (hi : i < n) :
    (c + i) % s.cap ≠ (h0 + j) % s.cap := by
  have hs := safe_reach hc h hnt
  obtain ⟨hb, hcu, hle⟩ := hs.rf u r _ hu
  have hhd : s.head ≤ s.sent.length := hs.g.head_le
  have e1 : c = s.cur r := hcu
  have e2 : c + n ≤ s.head := hle
  exact write_slot_ne (lri_reach h) hs hpc hb (by omega) (by omega)

/-- **B2 — slot contents.** Every index of the live window `[sent−cap, sent)` has its sequence number
`2i+1` in slot `i % cap`, and its payload too unless it is the single oldest one whose slot the
producer is overwriting right now. -/
theorem B2_slots {cap : Nat} {s : State} (hc : 0 < cap) (h : Reach cap s) (hnt : s.taint = false)
    (i : Nat) (hi : i < s.sent.length) (hw : s.sent.length ≤ i + s.cap) :
    s.seq (i % s.cap) = 2 * i + 1 ∧
    ((s.sent.length = i + s.cap → s.dirty = false) → s.val (i % s.cap) = s.sent.getD i 0) := by
  have hs := safe_reach hc h hnt
  exact ⟨hs.g.b2s i hi hw, hs.g.b2v i hi hw⟩

/-- **A receiver reads what was sent**: at the moment an open receiver clones the payload at its
cursor `c` out of slot `c % cap`, that slot holds exactly the `c`-th value ever sent. -/
theorem read_is_sent {cap : Nat} {s : State} (hc : 0 < cap) (h : Reach cap s) (hnt : s.taint = false)
    {u r : Nat} {y : RCtx} {c : Nat} (hu : s.pc u = .rcv r (.rVal y c)) :
    c = s.cur r ∧ c < s.sent.length ∧ s.val (c % s.cap) = s.sent.getD c 0 := by
  have hs := safe_reach hc h hnt
  have hg := hs.rf u r _ hu
  simp only [rFact] at hg
  obtain ⟨hb, hcu, hlt⟩ := hg
  exact ⟨hcu, hlt, read_ok (lri_reach h) hs hb (i := c) (by omega) hlt⟩

/-- **B3 — every value once, in order.** What the handle on cell `r` has returned so far is exactly the
contiguous segment `sent[c₀ r .. cursor r)` of the values sent: every value sent from its creation
point on, exactly once, in send order, nothing else. -/
theorem B3_exactly_once_in_order {cap : Nat} {s : State} (hc : 0 < cap) (h : Reach cap s) (hnt : s.taint = false)
    (r : Nat) : s.c0 r ≤ s.cur r ∧ s.got r = (s.sent.drop (s.c0 r)).take (s.cur r - s.c0 r) :=
  (safe_reach hc h hnt).g.got_ok r

/-- **A clone starts at its parent's current position**: the cell allocated by `clone` holds the
parent's cursor, which cannot move until the clone is registered and `clone` returns. -/
theorem clone_starts_at_parent {cap : Nat} {s : State} (hc : 0 < cap) (h : Reach cap s) (hnt : s.taint = false)
    {t r n : Nat} {p : LPC} (hpc : s.pc t = .rcv r (.mMod (.clone n) p)) :
    s.cur n = s.cur r ∧ s.c0 n = s.cur r ∧ s.got n = [] := by
  have cl := ((safe_reach hc h hnt).rf t r _ hpc).2.1
  exact ⟨cl.cur, cl.c0, cl.got⟩

/-- **Disconnected ⇒ sender gone ∧ drained.** When a receive is about to answer `Disconnected` from
the shared state (three of the four places that compare the cursor with `head` after reading
`producer_dropped`; the lock-free re-check of `recv_batch_mut`, `eCur` with a bound, is not covered), the
producer has been dropped/closed, nothing is being written, and the receiver's cursor is at (or past) the final
`head = |sent|`. -/
theorem disconnected_means_drained {cap : Nat} {s : State} (hc : 0 < cap) (h : Reach cap s) (hnt : s.taint = false)
    {u r : Nat} {y : RCtx} {c : Nat}
    (hu : s.pc u = .rcv r (.rHead y c) ∨ s.pc u = .rcv r (.bHd2 y c) ∨ s.pc u = .rcv r (.eUnlock y c))
    (hge : c ≥ s.head) :
    s.pdropped = true ∧ s.cur r = c ∧ s.head = s.sent.length ∧ s.cur r = s.sent.length := by
  have hs := safe_reach hc h hnt
  have hcl := hs.g.cur_le r
  have key : s.pdropped = true ∧ c = s.cur r := by
    rcases hu with hu | hu | hu <;> have hg := hs.rf u r _ hu <;> simp only [rFact] at hg
    · exact ⟨hg.2.2, hg.2.1⟩
    · exact ⟨hg.2.2, hg.2.1⟩
    · exact ⟨hg.2.2.1, hg.2.1⟩
  obtain ⟨hp, hcu⟩ := key
  -- the producer is not writing: its handle is closed
  have hclosed : s.sclosed = true := hs.g.pd_closed hp
  have hidle : s.head = s.sent.length := by
    rcases idle_or_writing (invA_reach h) hs with hi | ⟨w, q, hq, hw⟩
    · exact hi.1
    · have : sendQ q = true := by cases q <;> simp_all [inWr, sendQ]
      have := open_of_sFact (hs.sf w q hq) this
      rw [show s.core.sclosed = s.sclosed from rfl, hclosed] at this; cases this
  simp only [State.core] at hcl
  exact ⟨hp, hcu.symm, hidle, by omega⟩

/-- **Disconnected is final**: once `producer_dropped` is set, nothing is ever sent again and the flag
stays set, whatever any thread does next. -/
theorem sender_gone_is_final {cap : Nat} {s s' : State} (hc : 0 < cap) (h : Reach cap s) {t : Nat} {l : Label}
    (hst : step s t l = some s') (hnt : s'.taint = false) (hp : s.pdropped = true) :
    s'.pdropped = true ∧ s'.sent = s.sent := by
  have hnt0 := taint_mono hst hnt
  have hs := safe_reach hc h hnt0
  have hclosed : s.sclosed = true := hs.g.pd_closed hp
  cases l <;> simp only [step] at hst
  case call op => cases (call_eff hst).2 <;> exact ⟨hp, rfl⟩
  case spurious =>
    unfold stepSpurious at hst
    split at hst <;> cases hst <;> exact ⟨hp, rfl⟩
  case teardown =>
    cases (teardown_eff hst).1; exact ⟨hp, rfl⟩
  case act =>
    rcases act_cases hst with ⟨q, hq, hst⟩ | ⟨r, q, _, hst⟩
    · have hf := hs.sf t q hq
      cases q
      case wSeqSt x h0 j k =>
        have := hf.1.opn
        rw [show s.core.sclosed = s.sclosed from rfl, hclosed] at this; cases this
      case cStore => cases hst; exact ⟨rfl, rfl⟩
      all_goals open_actS hst <;> exact ⟨hp, rfl⟩
    · obtain ⟨_, fr⟩ := actR_frame hst
      exact ⟨fr.pdropped ▸ hp, fr.sent⟩

/-! ## Blocked threads are always woken (C05, safety form) -/

/-- the ring is genuinely full for some published receiver -/
def StillFull (s : State) : Prop := ∃ r, r ∈ s.pub ∧ s.cur r + s.cap ≤ s.head

/-- **Producer: no lost wake-up (three-state park flag).** If the producer is parked in `send` /
`park_until_not_full` without a token, then

* the flag is PARKED and either the ring is still genuinely full for a published cursor, or some
  consumer that advanced its cursor / published its unregistration has not yet tested the flag
  (it will find PARKED and win or lose the CAS to another consumer);
* or the flag is CONSUMING and the consumer that took the thread handle is about to store IDLE and unpark;
* or the flag is IDLE and a consumer is at its `unpark(producer)` call.

Closing or dropping a receiver is covered: from the publication of the removal until its
`wake_producer` has tested the flag the dropping thread is one of the "consumers" of the first case
(see `unregister_owes_wake`). -/
theorem producer_no_lost_wakeup {cap : Nat} {s : State} (hc : 0 < cap) (h : Reach cap s) (hnt : s.taint = false)
    {p : Nat} {x : SCtx} (hp : s.pc p = .snd (.pPark x)) (htok : s.token p = false) :
    (s.flag = 1 ∧ (StillFull s ∨ ∃ u r q, s.pc u = .rcv r q ∧ preCas q = true)) ∨
    (s.flag = 2 ∧ ∃ u r k, s.pc u = .rcv r (.wpIdle k (some p))) ∨
    (s.flag = 0 ∧ ∃ u r k, s.pc u = .rcv r (.wpUnpark k p)) := by
  have ha := invA_reach h
  have hw := wake_reach hc h hnt
  have hf2 := ha.flag2
  have h012 : s.flag = 0 ∨ s.flag = 1 ∨ s.flag = 2 := by omega
  rcases h012 with h0 | h1 | h2
  · right; right
    refine ⟨h0, ?_⟩
    rcases hw.w2.handed p _ hp rfl h0 with ht | ⟨u, hu⟩
    · rw [htok] at ht; cases ht
    · obtain ⟨r, k, hq⟩ := of_upkPC ((hw.w1.upk_iff u p).1 hu)
      exact ⟨u, r, k, hq⟩
  · left
    refine ⟨h1, ?_⟩
    rcases hw.w2.wit p _ hp h1 with ⟨a, b⟩ | hne
    · exact Or.inl ⟨s.argm, a, b⟩
    · obtain ⟨u, hu⟩ := List.exists_mem_of_ne_nil _ hne
      obtain ⟨r, q, hq, hc⟩ := of_preCasPC ((hw.w1.wq_iff u).1 hu)
      exact Or.inr ⟨u, r, q, hq, hc⟩
  · right; left
    refine ⟨h2, ?_⟩
    obtain ⟨u, hcs⟩ := Option.ne_none_iff_exists'.1 (hw.w1.flag_csm.1 h2)
    obtain ⟨r, k, th, hq⟩ := of_csmPC ((hw.w1.csm_iff u).1 hcs)
    have e := hw.w2.idle_th u r k th p _ hq hp
    subst e; exact ⟨u, r, k, hq⟩

/-- **Dropping / closing a receiver releases the backpressure it caused and owes the producer a
wake**: from the step that publishes the removal of its cursor, the cursor is out of the published
list (so out of every later minimum) and the thread counts as a consumer that still has to test the
park flag. -/
theorem unregister_owes_wake {cap : Nat} {s : State} (hc : 0 < cap) (h : Reach cap s) (hnt : s.taint = false)
    {u r : Nat} {o : LOp} {l : Nat} (hu : s.pc u = .rcv r (.mMod .unreg (.wWait o l))) :
    r ∉ s.pub ∧ u ∈ s.wq ∧ preCas (.mMod .unreg (.wWait o l)) = true := by
  have hs := safe_reach hc h hnt
  have hw := wake_reach hc h hnt
  have hl := lri_reach h
  have hst := hl.stage u
  simp only [hu, lrpc, lrpcR, LeftRightB.stageOK] at hst
  obtain ⟨hlv, _, hd⟩ := hst
  cases rFact_modOp (hs.rf u r _ hu) (o := o) rfl
  refine ⟨?_, (hw.w1.wq_iff u).2 (by rw [hu]; rfl), rfl⟩
  show r ∉ s.lr.data s.lr.live
  rw [hlv, hd]; simp [apL]

/-- **Receivers: no lost wake-up (slot waker lists).** If a blocking receive is parked without a token
while its next item has been published (or the sender is gone), then the sender-side thread either
already holds this thread's waker in its to-wake list, or is still before the drain of the slot
list in which the waker sits (it publishes `head` / `producer_dropped` first, then drains). -/
theorem receiver_no_lost_wakeup {cap : Nat} {s : State} (hc : 0 < cap) (h : Reach cap s) (hnt : s.taint = false)
    {t r : Nat} {x : RCtx} (hp : s.pc t = .rcv r (.kPark x)) (htok : s.token t = false)
    (hen : s.cur r < s.sent.length ∨ s.pdropped = true) :
    ∃ p q, s.pc p = .snd q ∧
      (t ∈ accOf q ∨ (t ∈ s.wk (s.cur r % s.cap) ∧ (willDrain q (s.cur r) ∨ willDrainC q (s.cur r % s.cap)))) := by
  have hw := wake_reach hc h hnt
  obtain ⟨_, h2, h3⟩ := hw.w3.all t r _ hp
  have owed : OwedL s t → ∃ p q, s.pc p = .snd q ∧ t ∈ accOf q := by
    rintro (a | ⟨p, q, hpq, hm⟩)
    · rw [htok] at a; cases a
    · exact ⟨p, q, hpq, hm⟩
  rcases hen with hlt | hpd
  · rcases h2 2 rfl (by omega) hlt with a | ⟨a, p, q, hpq, hd⟩
    · obtain ⟨p, q, hpq, hm⟩ := owed a; exact ⟨p, q, hpq, Or.inl hm⟩
    · exact ⟨p, q, hpq, Or.inr ⟨a, Or.inl hd⟩⟩
  · rcases h3 rfl hpd with a | ⟨a, p, q, hpq, hd⟩
    · obtain ⟨p, q, hpq, hm⟩ := owed a; exact ⟨p, q, hpq, Or.inl hm⟩
    · exact ⟨p, q, hpq, Or.inr ⟨a, Or.inr hd⟩⟩

theorem waker_holder_cold {q : SPC} {t c j : Nat} (h : t ∈ accOf q ∨ willDrain q c ∨ willDrainC q j) :
    armed2 q = false := by
  cases q <;> first | rfl | simp [accOf, willDrain, willDrainC] at h

/-- The sender-side thread named by the two theorems above is not parked: the control states that hold wakers or
owe a drain (`lock` of a slot mutex, `unpark`, stores) lie outside the producer's park protocol. That the thread
gets on, a slot mutex being released in the end, is not part of the statement. -/
theorem waker_holder_not_parked {q : SPC} {t c j : Nat} (h : t ∈ accOf q ∨ willDrain q c ∨ willDrainC q j) :
    ∀ x, q ≠ .pPark x :=
  fun x e => by subst e; cases waker_holder_cold h

/-! ## Every payload is dropped exactly once (C09, ring payloads) -/

/-- While the channel lives, the payloads it has dropped are exactly those more than a lap behind
what has been written (each dropped by the overwrite `assume_init_drop` of the next lap). -/
theorem overwritten_payloads_dropped {cap : Nat} {s : State} (hc : 0 < cap) (h : Reach cap s) (hnt : s.taint = false)
    (ht : s.torn = false) : s.dropped = List.range (s.sent.length + (if s.dirty then 1 else 0) - s.cap) :=
  dropInv_reach hc h hnt ht

/-- **At teardown (`Slot::drop` of every odd-sequence slot) every value ever written into the ring has
been dropped by the channel exactly once.** (The clones handed to receivers are owned by the callers.) -/
theorem C09_ring_payload_dropped_exactly_once {cap : Nat} {s s' : State} (hc : 0 < cap) (h : Reach cap s)
    (hnt : s.taint = false) (ht : stepTeardown s = some s') :
    s'.dropped.Nodup ∧ ∀ i, i ∈ s'.dropped ↔ i < s'.sent.length := by
  have hs := safe_reach hc h hnt
  have hd := dropInv_reach hc h hnt
  obtain ⟨rfl, htorn, hown⟩ := teardown_eff ht
  have hidle := hs.idle hown
  have hdf : s.dirty = false := hidle.2
  have hdrop := hd htorn
  rw [hdf] at hdrop; simp only [Bool.false_eq_true, if_false, Nat.add_zero] at hdrop
  have hcp : 0 < s.cap := hs.g.cap_pos
  have odd : ∀ j, j < s.cap → s.seq j % 2 = 1 →
      s.seq j / 2 < s.sent.length ∧ s.sent.length ≤ s.seq j / 2 + s.cap ∧ (s.seq j / 2) % s.cap = j := by
    intro j hj ho
    have e : s.core.seq j = s.seq j := rfl
    exact hs.g.b2r j (s.seq j / 2) hj (by rw [e]; omega)
  show (s.dropped ++ slotDrops s.seq 0 s.cap).Nodup ∧ ∀ i, i ∈ s.dropped ++ slotDrops s.seq 0 s.cap ↔ i < s.sent.length
  rw [hdrop]
  refine ⟨List.nodup_append.2 ⟨List.nodup_range, ?_, ?_⟩, ?_⟩
  · -- distinct slots hold distinct indices
    refine nodup_slotDrops _ _ _ fun j1 j2 _ c1 _ c2 h1 h2 he => ?_
    rw [← (odd j1 (by omega) h1).2.2, ← (odd j2 (by omega) h2).2.2, he]
  · intro x hx y hy
    simp at hx
    obtain ⟨j, _, hj, ho, hv⟩ := (mem_slotDrops s.seq y s.cap 0).1 hy
    have := (odd j (by omega) ho).2.1
    omega
  · intro i
    simp only [List.mem_append, List.mem_range]
    constructor
    · rintro (hi | hi)
      · omega
      · obtain ⟨j, _, hj, ho, hv⟩ := (mem_slotDrops s.seq i s.cap 0).1 hi
        have := (odd j (by omega) ho).1
        omega
    · intro hi
      by_cases hw : i < s.sent.length - s.cap
      · exact Or.inl hw
      · right
        have hseq := hs.g.b2s i hi (by show s.sent.length ≤ i + s.cap; omega)
        exact (mem_slotDrops s.seq i s.cap 0).2
          ⟨i % s.cap, Nat.zero_le _, by have := Nat.mod_lt i hcp; omega, by show s.seq (i % s.cap) % 2 = 1; rw [show s.seq (i % s.cap) = 2 * i + 1 from hseq]; omega,
           by show s.seq (i % s.cap) / 2 = i; rw [show s.seq (i % s.cap) = 2 * i + 1 from hseq]; omega⟩

/-- run one operation of thread `t` to completion with nobody else running (`fuel` actions) -/
def runOp (s : State) (t : Nat) (op : Op) (fuel : Nat) : Option State :=
  (stepCall s t op).bind (fun s1 =>
    (List.range fuel).foldl (fun (o : Option State) _ => o.bind (fun s => match act s t with | some s' => some s' | none => some s)) (some s1))

def runOps (s : State) : List (Nat × Op) → Option State
  | [] => some s
  | (t, op) :: rest => (runOp s t op 40).bind (fun s' => runOps s' rest)

/-- the finding's program: cap 1; `clone r0 → r1; close r0; send 1; recv r1; send 2; recv r1; clone r0 → r2` -/
def staleCloneProg : List (Nat × Op) :=
  [(0, .clone 0), (0, .rClose 0), (0, .send 1), (0, .recv 1 .try none), (0, .send 2), (0, .recv 1 .try none),
   (0, .clone 0)]

/-- **B1 is FALSE of the code when a closed receiver is cloned** (`Clone` does not look at `closed`): the
clone `r2` is registered with the parent's stale cursor 0 while `head = 2 > cursor + cap = 1`; then
`try_send` answers Full although every other receiver has drained, `try_recv r2` answers Empty (its
slot was overwritten), `len()` of the sender exceeds the capacity, and a blocking `send` parks
forever. Replay: `/verif/findings/SpmcB_stale_clone.case`. -/
theorem B1_fails_stale_clone :
    ((runOps (init 1) staleCloneProg).map (fun s => (s.taint, s.rAlive 2, s.rclosed 2, decide (2 ∈ s.pub)))
      = some (true, true, false, true)) ∧
    ((runOps (init 1) staleCloneProg).map (fun s => (s.cur 2, s.head, s.cap)) = some (0, 2, 1)) := by
  constructor <;> decide

theorem stale_clone_try_send_full :
    ((runOps (init 1) (staleCloneProg ++ [(0, .trySend 3)])).map (fun s => s.pc 0)) = some (.ret .sFull) := by decide

theorem stale_clone_try_recv_empty :
    ((runOps (init 1) (staleCloneProg ++ [(0, .recv 2 .try none)])).map (fun s => s.pc 0)) = some (.ret .rEmpty) := by decide

theorem stale_clone_len_exceeds_cap :
    ((runOps (init 1) (staleCloneProg ++ [(0, .sProbe .len)])).map (fun s => s.pc 0)) = some (.ret (.num 2)) := by decide

/-- … and the blocking `send` ends parked with nobody left to wake it (all receivers idle, r1 drained). -/
theorem stale_clone_send_parks_forever :
    ((runOps (init 1) (staleCloneProg ++ [(0, .send 3)])).map (fun s => (s.pc 0, s.token 0, s.flag)))
      = some (.snd (.pPark { items := [3], done := 0, batch := false, blk := true }), false, 1) := by decide

/-- **"Disconnected is final" is FALSE of the code when a closed sender is converted**
(`to_async`/`to_sync` build the new handle with `closed = false`): after `close s; to_async s; to_sync s`
the sender sends again although `producer_dropped` is set; a receiver that had observed
Disconnected then receives a value. -/
theorem disconnected_final_fails_reopened_sender :
    ((runOps (init 2) [(0, .sClose), (0, .recv 0 .try none)]).map (fun s => s.pc 0) = some (.ret .rDisc)) ∧
    ((runOps (init 2) [(0, .sClose), (0, .recv 0 .try none), (0, .sConv), (0, .trySend 7), (0, .recv 0 .try none)]).map
        (fun s => (s.pc 0, s.pdropped, s.taint)) = some (.ret (.rOk [7]), true, true)) := by
  constructor <;> decide

/-- non-vacuity: a complete life cycle with wrap-around ends in a teardown after which the indices 0, 1, 2 have each been dropped once
(0 by the overwrite of its slot, 2 and 1 by `Slot::drop` of slots 0 and 1) -/
example : ((runOps (init 2) [(0, .send 7), (0, .recv 0 .try none), (0, .send 8), (0, .recv 0 .try none), (0, .send 9),
      (0, .rDrop 0), (0, .sDrop)]).bind stepTeardown).map (fun s => (s.dropped, s.sent)) = some ([0, 2, 1], [7, 8, 9]) := by
  decide

/-- a reachable untainted state with two registered receivers, a value in flight and a full ring -/
example : ∃ s, Reach 1 s ∧ s.taint = false ∧ Registered s 0 ∧ Registered s 1 ∧ s.sent = [5] ∧ s.head = 1 := by
  let tr : List (Nat × Label) :=
    (0, .call (.clone 0)) :: (List.replicate 10 (0, Label.act)) ++ (0, .call (.send 5)) :: List.replicate 13 (0, Label.act)
  cases hr : run (init 1) tr with
  | none => exact absurd hr (by decide)
  | some s =>
    refine ⟨s, Fv.run_closed (fun _ => rfl) (fun _ _ _ _ => rfl) (fun h hs => Reach.step h hs) tr _ s Reach.init hr, ?_⟩
    have h1 : (run (init 1) tr).map (fun s => (s.taint, s.rAlive 0, s.rclosed 0)) = some (false, true, false) := by decide
    have h2 : (run (init 1) tr).map (fun s => (s.rAlive 1, s.rclosed 1, s.sent, s.head)) = some (true, false, [5], 1) := by decide
    rw [hr] at h1 h2
    simp only [Option.map_some, Option.some.injEq, Prod.mk.injEq] at h1 h2
    obtain ⟨a, b, c⟩ := h1
    obtain ⟨d, e, f, g⟩ := h2
    exact ⟨a, ⟨b, c⟩, ⟨d, e⟩, f, g⟩

end Fv.Props.SpmcB
