import Fv.Lemmas.ChanHist
import Fv.Lemmas.ChanSeq
/-!
# C01 — point-to-point channels deliver every sent value exactly once; failed operations have no effect

All statements are for every flavour (`fl : Flavour` — family, kind, capacity, sync/async), every
checker configuration, every operation list / history: no bounds. `offered`, `received`, `handedBack`,
`accepted` (`Fv/Lemmas/ChanHist.lean`) are read off the raw history, results only.
-/
namespace Fv.Props.C01
open Fv.Chan List

/-- **Sequence equation** (order and exactly-once together) after every sequential program: the
accepted values are, in order, those taken out of the buffer followed by those still buffered; the
delivered ones are a subsequence of the former, and all of them as long as the channel itself
destroyed nothing (no receiver-close drain, no teardown). -/
theorem C01_sequence_equation (fl : Flavour) (ops : List Op) :
    let s := runOps fl (init fl) ops
    s.sentOk = s.consumed ++ s.buf ∧ s.recvOk.Sublist s.consumed ∧
      (s.chanDropped = [] → s.sentOk = s.recvOk ++ s.buf) := by
  have h := runOps_inv ops (init_inv fl)
  exact ⟨h.seq, h.sub, fun hd => by rw [h.seq, h.nodrop hd]⟩

/-- The same equation is preserved by every single atomic step of any thread's operation in the
concurrent model (any interleaving, any configuration, including the concurrent-only branches). -/
theorem C01_sequence_equation_step {fl : Flavour} {cfg : Cfg} {s s' : St} {p p' : P}
    (hi : Inv fl s) (hs : (s', p') ∈ micro fl cfg s p) :
    s'.sentOk = s'.consumed ++ s'.buf ∧ s'.recvOk.Sublist s'.consumed ∧
      (s'.chanDropped = [] → s'.sentOk = s'.recvOk ++ s'.buf) := by
  have h := micro_inv hs hi
  exact ⟨h.seq, h.sub, fun hd => by rw [h.seq, h.nodrop hd]⟩

example : (runOps ⟨.sb, .spsc, 2, false⟩ (init ⟨.sb, .spsc, 2, false⟩)
    [.snd .trySend ⟨.tx, 0⟩ [1], .snd .trySend ⟨.tx, 0⟩ [2], .rcv .tryRecv ⟨.rx, 0⟩ 0]).sentOk = [1, 2] := by decide

/-- No value is received twice, none that was not sent, and none that was handed back in an error,
in any sequential program whose offered values are pairwise distinct. -/
theorem C01_received_were_sent_once (fl : Flavour) (ops : List Op) (hn : (ops.flatMap Op.vals).Nodup) :
    let s := runOps fl (init fl) ops
    s.recvOk.Nodup ∧ (∀ v ∈ s.recvOk, v ∈ s.sentOk ∧ v ∈ ops.flatMap Op.vals) ∧
      (∀ v ∈ s.recvOk, v ∉ s.returned ∧ v ∉ s.lost) := by
  intro s
  have hinv : Inv fl s := runOps_inv ops (init_inv fl)
  have hled : Ledger s ([] ++ stranded fl (init fl) ops) := runOps_ledger fl ops (init_ledger fl)
  have hle : ∀ v, count v s.created ≤ count v (ops.flatMap Op.vals) := created_le_offered fl ops
  obtain ⟨h1, h2, h3⟩ := exactly_once_of_count_le (A := s.recvOk) (B := s.returned ++ s.lost) hn fun v => by
    have a := hled v
    have b := hle v
    simp only [St.placed, count_append] at a ⊢
    omega
  refine ⟨h1, fun v hv => ⟨?_, h2 v hv⟩, fun v hv => ?_⟩
  · rw [hinv.seq]; exact mem_append_left _ (hinv.sub.subset hv)
  · simpa [not_or] using h3 v hv

example : ([Op.snd .trySend ⟨.tx, 0⟩ [1], .snd .send ⟨.tx, 0⟩ [2]].flatMap Op.vals).Nodup := by decide

/-- What a send form does on a buffered channel, success or failure, single or batch, sync or async: it
appends exactly the values it reports as accepted (a prefix of the input) to the buffer and to the
accepted sequence, and changes nothing else. -/
theorem C01_send_effect {fl : Flavour} (hrv : fl.fam ≠ .rv) (hos : fl.fam ≠ .os) (s : St) (f : Form) (h : HName)
    (vs : List Val) :
    let r := stepOpS fl s (.snd f h vs)
    (∃ γ, r.1.buf = s.buf ++ γ ∧ r.1.sentOk = s.sentOk ++ γ ∧ sentOf r.2 = γ) ∧
      r.1.shell = s.shell ∧ r.1.recvOk = s.recvOk ∧ r.1.consumed = s.consumed := by
  have hp := stepOpS_send_pushed hrv hos s f h vs
  obtain ⟨γ, a, b, c⟩ := hp.ex
  exact ⟨⟨γ, a, b, by simpa using c⟩, hp.shell, hp.recvOk, hp.consumed⟩

/-- **Batch errors partition the input**: whatever a send form returns (other than "no such handle"
/ "form not offered by this handle type"), `sent ++ handed back ++ dropped = input`, in input order;
`dropped` is non-empty only for the value-less `SendError` of a failing `send`. -/
theorem C01_batch_partition (fl : Flavour) (s : St) (f : Form) (h : HName) (vs : List Val) (o : Out)
    (ho : (stepOpS fl s (.snd f h vs)).2 = .fin o) (h1 : o.tag ≠ .noHandle) (h2 : o.tag ≠ .unsupported) :
    vs = o.sent ++ o.back ++ o.lost ∧ o.got = [] := by
  obtain ⟨_, _, hst⟩ := stepOpS_step fl s (.snd f h vs)
  have hp := hst.pinv
  rw [ho] at hp
  simp only [PInv] at hp
  obtain ⟨hh, hg⟩ := hp.1 rfl
  rcases hh with e | e
  · exact ⟨e, hg⟩
  · rcases e.1 with t | t
    · exact absurd t h1
    · exact absurd t h2

example : (stepOpS ⟨.pb, .mpmc, 2, false⟩ (init ⟨.pb, .mpmc, 2, false⟩) (.snd .trySendBatch ⟨.tx, 0⟩ [1, 2, 3])).2
    = .fin { tag := .full, sent := [1, 2], back := [3] } := by decide

/-- **A failed send has no effect** on a buffered channel: if nothing was accepted (`try_send` →
Full / Closed, `send` → Closed, batch forms with `sent = []`), buffer, accepted sequence, handle
table, counters and flags are all unchanged and every input value is handed back (or, for `send`,
dropped: its error type carries no value). -/
theorem C01_failed_send_no_effect {fl : Flavour} (hrv : fl.fam ≠ .rv) (hos : fl.fam ≠ .os) (s : St) (f : Form)
    (h : HName) (vs : List Val) (o : Out) (ho : (stepOpS fl s (.snd f h vs)).2 = .fin o) (hs : o.sent = [])
    (h1 : o.tag ≠ .noHandle) (h2 : o.tag ≠ .unsupported) :
    (stepOpS fl s (.snd f h vs)).1.buf = s.buf ∧ (stepOpS fl s (.snd f h vs)).1.sentOk = s.sentOk ∧
      (stepOpS fl s (.snd f h vs)).1.shell = s.shell ∧ vs = o.back ++ o.lost := by
  obtain ⟨⟨γ, a, b, c⟩, d, _, _⟩ := C01_send_effect hrv hos s f h vs
  have hγ : γ = [] := by rw [← c, ho]; simpa [sentOf] using hs
  subst hγ
  have hp := (C01_batch_partition fl s f h vs o ho h1 h2).1
  exact ⟨by simpa using a, by simpa using b, d, by simpa [hs] using hp⟩

/-- What a receive form does on a buffered channel: it removes exactly the values it returns from
the front of the buffer, in order, and changes nothing else. -/
theorem C01_recv_effect {fl : Flavour} (hrv : fl.fam ≠ .rv) (hos : fl.fam ≠ .os) (s : St) (f : Form) (h : HName)
    (n : Nat) :
    let r := stepOpS fl s (.rcv f h n)
    (∃ γ, s.buf = γ ++ r.1.buf ∧ r.1.recvOk = s.recvOk ++ γ ∧ r.1.consumed = s.consumed ++ γ ∧ gotOf r.2 = γ) ∧
      r.1.shell = s.shell ∧ r.1.sentOk = s.sentOk := by
  have hp := stepOpS_recv_popped hrv hos s f h n
  obtain ⟨γ, a, b, c, d⟩ := hp.ex
  exact ⟨⟨γ, a, b, c, by simpa using d⟩, hp.shell, hp.sentOk⟩

/-- **A failed receive consumes nothing** (Empty / Timeout / Disconnected, or blocked). -/
theorem C01_failed_recv_no_effect {fl : Flavour} (hrv : fl.fam ≠ .rv) (hos : fl.fam ≠ .os) (s : St) (f : Form)
    (h : HName) (n : Nat) (hg : gotOf (stepOpS fl s (.rcv f h n)).2 = []) :
    (stepOpS fl s (.rcv f h n)).1.buf = s.buf ∧ (stepOpS fl s (.rcv f h n)).1.recvOk = s.recvOk ∧
      (stepOpS fl s (.rcv f h n)).1.shell = s.shell := by
  obtain ⟨⟨γ, a, b, _, d⟩, e, _⟩ := C01_recv_effect hrv hos s f h n
  have : γ = [] := by rw [← d]; exact hg
  subst this
  exact ⟨by simpa using a.symm, by simpa using b, e⟩

example : (stepOp ⟨.mb, .mpsc, 1, false⟩ (init ⟨.mb, .mpsc, 1, false⟩) (.rcv .tryRecv ⟨.rx, 0⟩ 0)).2.tag = .empty := by
  decide

/-- exactly-once on the raw history (results of operations only) -/
def ExactlyOnce (h : History) : Prop :=
  (received h).Nodup ∧ (∀ v ∈ received h, v ∈ offered h) ∧ (∀ v ∈ received h, v ∉ handedBack h)

/-- **Every concurrent history the checker accepts satisfies exactly-once**, for every flavour,
configuration, number of threads and history length (values offered once each, as the harness does). -/
theorem C01_linearizable_exactly_once (fl : Flavour) (cfg : Cfg) (h : History) (q : Bool)
    (hn : (offered h).Nodup) (hl : linearizable fl cfg h q = true) : ExactlyOnce h := by
  obtain ⟨sf, pf, _, ha⟩ := linearizable_acc hl
  exact exactly_once_of_count_le hn fun v => by have := ha.bounds v; omega

/-- Every value some completed send reported as accepted is, in the final state of the witnessing
linearization, received (by a completed or pending receive, or owed to a parked receiver), still buffered,
or destroyed by the channel itself. -/
theorem C01_accepted_accounted (fl : Flavour) (cfg : Cfg) (h : History) (q : Bool) (sf : St)
    (hl : linearize fl cfg h q = some sf) :
    ∃ pf : LinCore.Pend PL, ∀ v, count v (accepted h) ≤
      count v (received h) + pendSum gotOf v pf + count v sf.owed + count v sf.buf + count v sf.chanDropped := by
  obtain ⟨pf, ha, _⟩ := linearize_acc hl
  refine ⟨pf, fun v => ?_⟩
  have a := ha.sent v
  have b := ha.recv v
  have c := ha.inv.cons v
  have d : count v sf.sentOk = count v sf.consumed + count v sf.buf := by rw [ha.inv.seq, count_append]
  omega

/-- **Every Ok send is delivered** once the receivers have drained the channel — provided the channel
itself destroyed nothing. (`pf = []`: every operation returned; `buf = []`: drained.) The hypothesis
`chanDropped = []` is what finding F1 violates. -/
theorem C01_ok_send_delivered_partial (fl : Flavour) (cfg : Cfg) (h : History) (q : Bool) (sf : St)
    (hl : linearize fl cfg h q = some sf) (hnd : sf.chanDropped = []) (hbuf : sf.buf = [])
    (howed : sf.owed = []) :
    ∃ pf : LinCore.Pend PL, ∀ v, count v (accepted h) ≤ count v (received h) + pendSum gotOf v pf := by
  obtain ⟨pf, hacc⟩ := C01_accepted_accounted fl cfg h q sf hl
  exact ⟨pf, fun v => by have := hacc v; simp [hnd, hbuf, howed] at this; omega⟩

/-! ### F1 — rendezvous: cancel CAS outside the lock

A timed receiver that has already CASed its record `WAITING → CANCELLED` but not yet unlinked it is
still served by a sender (`fulfill_receiver` never looks at the record's state): the sender is told
Ok, the receiver returns Timeout and drops the value. -/

def f1Run : St × P × P :=
  let fl : Flavour := ⟨.rv, .mpmc, 0, false⟩
  let s0 := init fl
  let (s1, r1) := start fl linCfg s0 1 (.rcv .recvTimeout0 ⟨.rx, 0⟩ 0)     -- registered
  let (s2, r2) := (microDet fl linCfg s1 r1).getD (s1, r1)                  -- CAS WAITING→CANCELLED
  let (s3, t1) := start fl linCfg s2 2 (.snd .trySend ⟨.tx, 0⟩ [1])         -- sender serves the cancelled record
  let (s4, r3) := (microDet fl linCfg s3 r2).getD (s3, r2)                  -- unlink, Timeout
  (s4, t1, r3)

theorem C01_fails_F1 :
    f1Run.2.1 = .fin { tag := .ok, sent := [1] } ∧ f1Run.2.2 = .fin { tag := .timeout } ∧
      f1Run.1.sentOk = [1] ∧ f1Run.1.recvOk = [] ∧ f1Run.1.chanDropped = [1] ∧ f1Run.1.buf = [] := by
  decide

end Fv.Props.C01
