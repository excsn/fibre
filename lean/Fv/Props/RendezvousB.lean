import Fv.Lemmas.RendezvousBNoLoss
/-!
# rendezvous core — B-model theorems (feed C01, C03, C05, C06 for the rdv_* flavours)

Model: `Fv.Chan.RendezvousB` (critical-section granularity small-step model of `internal/rendezvous.rs`).
Every theorem quantifies over every number of threads/tasks, every program and every interleaving.
-/
namespace Fv.Props.RendezvousB
open Fv.Chan.RendezvousB

/-! ## every reachable state -/

/-- **R1** a parked sender and a parked receiver never coexist (each arrival serves the opposite queue first). -/
theorem rdv_R1 {s} (h : Reach s) : s.sq = [] ∨ s.rq = [] := (invR_reach h).glob.2.2.1

/-- **R2** a parked sender's record holds its item. -/
theorem rdv_R2 {s} (h : Reach s) {r : Nat} (hr : r ∈ s.sq) : s.slot r ≠ none := ((invR_reach h).sq r hr).1

/-- **R3** DONE implies the sender wrote the item: a receiver that is about to read its record in state DONE finds its
destination filled; hence neither `expect` of the core can fire. -/
theorem rdv_R3 {s} (h : Reach s) {t r : Nat} (hw : recvWait (s.pc t) = some r) (hd : s.st r = .done) : s.slot r ≠ none :=
  (((invR_reach h).thr t).of_recvWait hw).2.2.2 hd

theorem rdv_no_panic {s} (h : Reach s) (t : Nat) : s.pc t ≠ .done .panicked := by
  intro hp; have ht := (invR_reach h).thr t; rw [hp] at ht; exact ht.1 rfl

/-- **R4, the form that does hold**: a linked record is WAITING, or it is CANCELLED and its owner is exactly in the
window between its cancel CAS and its unlink under the lock. -/
theorem rdv_R4_weak {s} (h : Reach s) {r : Nat} (hr : r ∈ s.rq) :
    s.st r = .waiting ∨ (s.st r = .cancelled ∧ (s.pc (s.owner r) = .toUnl r ∨ s.pc (s.owner r) = .fdUnlR r)) := by
  have hk := invR_reach h
  obtain ⟨hw | hc, ho⟩ := hk.rq r hr
  · exact Or.inl hw
  · rcases (hk.thr _).of_recvIn ho with h1 | h1
    · exact absurd hc h1.2
    · exact Or.inr ⟨hc, h1.1⟩

/-- **R4 as intended** (every linked record is WAITING) — FALSE on the code as it stands: `cancel_receiver` /
`cancel_sender` CAS `WAITING→CANCELLED` before taking the lock. -/
def R4_rdv_statement : Prop := ∀ s, Reach s → ∀ r, r ∈ s.rq → s.st r = .waiting

theorem reach_of_run (tr : List (Nat × Label)) (s0 s : State) (h0 : Reach s0) (h : run s0 tr = some s) : Reach s :=
  Fv.run_closed (fun _ => rfl) (fun _ _ _ _ => rfl) (fun h hs => .step h hs) tr s0 s h0 h

theorem run_witness {α : Type} {f : State → α} {x : α} {tr : List (Nat × Label)}
    (h : (run init tr).map f = some x) : ∃ s, run init tr = some s ∧ Reach s ∧ f s = x :=
  have ⟨s, hr, e⟩ := Option.map_eq_some_iff.1 h
  ⟨s, hr, reach_of_run _ _ s .init hr, e⟩

theorem R4_rdv_fails : ¬ R4_rdv_statement := by
  intro hC
  have h1 : (run init [(1, .call .recvTimeout0), (1, .adv), (1, .adv), (1, .adv)]).map (fun s => (s.rq, s.st 0)) =
      some ([0], .cancelled) := by decide
  obtain ⟨s, -, hr, e⟩ := run_witness h1
  simp at e
  have := hC s hr 0 (by rw [e.1]; simp)
  rw [e.2] at this; cases this

/-- **C03** a send reports Ok only after its token was handed over: the sender-initiated form decides Ok in the very
lock section that writes the receiver's destination, a parked sender reads DONE only after a receiver's lock section
took the item out of its slot. -/
theorem rdv_send_ok_only_by_handoff {s} (h : Reach s) {t v : Nat}
    (hp : s.pc t = .done (.sendOk v) ∨ ∃ a, s.pc t = .wakeThen a (.sendOk v)) : v ∈ s.handed := by
  have ht := (invR_reach h).thr t
  rcases hp with hp | ⟨a, hp⟩ <;> rw [hp] at ht <;> exact ht.2 v rfl

/-- a parked / Pending sender whose record reads DONE has had its token handed over; while the record is WAITING
its slot still holds exactly that token. -/
theorem rdv_parked_sender {s} (h : Reach s) {t r v : Nat} (hr : sendReg (s.pc t) = some r) (hv : sendTok (s.pc t) = some v) :
    (s.st r = .done → v ∈ s.handed) ∧ (s.slot r = none ∨ s.slot r = some v) := by
  obtain ⟨-, h1, h2⟩ := ((invR_reach h).thr t).of_sendReg hr hv
  exact ⟨h2, h1⟩

/-! ## C01: no loss — FALSE on the code as it stands (F1), true outside the F1 window -/

/-- Full statement: a send that reported Ok has been received, or its token sits in the destination of a
receiver that is going to return it. -/
def C01_rdv_statement : Prop :=
  ∀ s, Reach s → ∀ t v, s.pc t = .done (.sendOk v) → v ∈ s.recvd ∨ Pending s v

/-- **F1**: thread 1 is parked in `recv_timeout(0)`; its deadline passes and `cancel_receiver` CASes
WAITING→CANCELLED (outside the lock); before it gets the lock, `try_send(7)` pops the record, writes 7 into the
destination, stores DONE over CANCELLED and returns Ok; thread 1 then unlinks nothing and returns Timeout, dropping 7. -/
def trF1 : List (Nat × Label) :=
  [(1, .call .recvTimeout0), (1, .adv), (1, .adv), (1, .adv),
   (0, .call (.trySend 7)), (0, .adv), (0, .adv),
   (1, .adv)]

theorem F1_run : (run init trF1).map (fun s => (s.pc 0, s.pc 1, s.recvd, s.dropped)) =
    some (.done (.sendOk 7), .done .recvTimeout, [], [7]) := by decide
theorem F1_run_b : (run init trF1).map (fun s => (s.slot (s.destOf 7), s.handed)) = some (none, [7]) := by decide

theorem C01_fails_F1 : ¬ C01_rdv_statement := by
  intro hC
  obtain ⟨s, hs, hr, ha⟩ := run_witness F1_run
  have hb := F1_run_b
  rw [hs] at hb; simp at ha hb
  rcases hC s hr 0 7 ha.1 with h | h
  · rw [ha.2.2.1] at h; simp at h
  · unfold Pending at h; rw [hb.1] at h; simp at h

/-- **F1, future shape (C06)**: the same race with a `RecvFuture` that is dropped while Pending. -/
def trF1fut : List (Nat × Label) :=
  [(1, .call .recvFut), (1, .poll), (1, .adv),
   (1, .dropFut),
   (0, .call (.trySend 7)), (0, .adv), (0, .adv),
   (1, .adv)]

theorem C06_fails_F1_rdv_dropped_recv_future :
    (run init trF1fut).map (fun s => (s.pc 0, s.pc 1, s.recvd, s.dropped)) =
    some (.done (.sendOk 7), .done .futDropped, [], [7]) := by decide

/-- **F1, third shape**: a `RecvFuture` dropped after the hand-off committed and before it was polled abandons the
item (by the code's own comment). -/
theorem C06_fails_F1_rdv_done_future_dropped :
    (run init [(1, .call .recvFut), (1, .poll), (1, .adv), (0, .call (.trySend 7)), (0, .adv), (0, .adv), (1, .dropFut)]).map
      (fun s => (s.pc 0, s.pc 1, s.recvd, s.dropped)) =
    some (.done (.sendOk 7), .done .futDropped, [], [7]) := by decide

/-- **C01 for rendezvous, partial**: on every run in which no lock section pops a record that is no longer WAITING
(the window between a canceller's CAS and its unlink) and no `RecvFuture` is dropped after its hand-off committed,
a send that reported Ok has been received or sits in the destination of a receiver that will return it. -/
theorem C01_rdv_partial {s} (h : ReachB s) {t v : Nat} (hp : s.pc t = .done (.sendOk v)) : v ∈ s.recvd ∨ Pending s v :=
  (invRB_reach h).nl v (rdv_send_ok_only_by_handoff h.reach (Or.inl hp))

/-- every handed-over token (committed send) is accounted for, on the same runs -/
theorem rdv_no_loss_partial {s} (h : ReachB s) {v : Nat} (hv : v ∈ s.handed) : v ∈ s.recvd ∨ Pending s v :=
  (invRB_reach h).nl v hv

/-! ## C05 / C06: wake-ups -/

/-- **wake delivery**: a thread parked / a task Pending on a record whose state is already terminal (DONE,
DISCONNECTED) has a park token / a counted wake, or the peer that matched it (or the closing thread) has left the
lock and is about to issue that wake. -/
theorem rdv_wake_owed {s} (h : Reach s) {t r : Nat} (hw : waitish (s.pc t) = some r) (hf : s.st r ≠ .waiting) :
    0 < s.wakes t ∨ t ∈ owes (s.pc (s.wakeBy r)) := by
  by_cases h0 : s.wakes t = 0
  · exact Or.inr (((invR_reach h).thr t).of_waitish hw hf h0)
  · exact Or.inl (Nat.pos_of_ne_zero h0)

/-- **no missed partner**: a receiver that is parked / Pending on a WAITING record is linked in the receiver store,
no sender is parked at the same time, and a sender handle is still alive — so it sleeps only while its
operation is impossible. -/
theorem rdv_no_missed_partner {s} (h : Reach s) {t r : Nat}
    (hb : s.pc t = .rPark r ∨ s.pc t = .arPend r) (hw : s.st r = .waiting) :
    r ∈ s.rq ∧ s.sq = [] ∧ s.senders ≠ 0 := by
  have hk := invR_reach h
  have ht := hk.thr t
  have hm : r ∈ s.rq := by
    rcases hb with hb | hb <;> rw [hb] at ht <;> exact ht.1.2.2.1 hw
  obtain ⟨-, -, r1, d1, -⟩ := hk.glob
  refine ⟨hm, ?_, ?_⟩
  · rcases r1 with h1 | h1
    · exact h1
    · rw [h1] at hm; simp at hm
  · intro h0; rw [d1 h0] at hm; simp at hm

/-- a reachable hand-off: blocking send parked first, receiver takes the item, both return Ok -/
example : (run init [(0, .call (.send 7)), (0, .adv), (0, .adv), (1, .call .recv), (1, .adv), (1, .adv), (0, .spurious), (0, .adv)]).map
    (fun s => (s.pc 0, s.pc 1, s.handed, s.recvd, s.sq)) =
    some (.done (.sendOk 7), .done (.recvOk 7), [7], [7], []) := by decide

instance (s : State) (t : Nat) (l : Label) : Decidable (Benign s t l) := by
  unfold Benign
  cases l
  case adv =>
    simp only []
    cases hp : popTarget s t with
    | none => exact isTrue (by simp)
    | some r => exact decidable_of_iff (s.st r = .waiting) (by simp)
  case dropFut =>
    simp only []
    cases hp : s.pc t
    case arPend r' => exact decidable_of_iff (s.st r' ≠ .done) (by simp)
    all_goals exact isTrue (by simp)
  all_goals exact isTrue trivial

def runB (s : State) : List (Nat × Label) → Option State
  | [] => some s
  | (t, l) :: rest => if Benign s t l then (step s t l).bind (fun s' => runB s' rest) else none

theorem reachB_of_runB (tr : List (Nat × Label)) (s0 s : State) (h0 : ReachB s0) (h : runB s0 tr = some s) : ReachB s :=
  Fv.run_closed_guarded (G := Benign) (fun _ => rfl) (fun _ _ _ _ => rfl) (fun h hb hs => .step h hb hs) tr s0 s h0 h

/-- non-vacuity of `C01_rdv_partial`: a benign run in which a send returned Ok while its token still sits in the
receiver's destination (the receiver has not been scheduled yet). -/
example : ∃ s, ReachB s ∧ s.pc 0 = .done (.sendOk 7) ∧ s.recvd = [] ∧ Pending s 7 := by
  let tr : List (Nat × Label) :=
    [(1, .call .recv), (1, .adv), (1, .adv), (0, .call (.trySend 7)), (0, .adv), (0, .adv)]
  have h1 : (runB init tr).map (fun s => (s.pc 0, s.recvd, s.slot (s.destOf 7), s.st (s.destOf 7),
      recvWait (s.pc (s.owner (s.destOf 7))), s.destOf 7)) = some (.done (.sendOk 7), [], some 7, .done, some 0, 0) := by
    decide
  obtain ⟨s, hr, e⟩ := Option.map_eq_some_iff.1 h1
  simp only [Prod.mk.injEq] at e
  obtain ⟨e1, e2, e3, e4, e5, e6⟩ := e
  refine ⟨s, reachB_of_runB tr _ s .init hr, e1, e2, ?_⟩
  unfold Pending; rw [e3, e4, e5, e6]; simp

/-- the F1 run is (of course) not benign -/
example : runB init trF1 = none := by decide

end Fv.Props.RendezvousB
