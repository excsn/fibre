import Fv.Lemmas.TopicB
/-!
C08 on model B (`Fv.Chan.TopicB`): `send` split into its snapshot and one step per visited
mailbox, interleaved arbitrarily with every other API call and with other publishers' sends.
All statements are for EVERY schedule (list of `BOp`) unless marked `_partial`.
The step structure of B is tied to the code by the real-thread stress monitors only.
-/
namespace Fv.Props.C08B
open Fv.Chan.Topic Fv.Chan.TopicB

/-- **Order and at most once under interleaving.** What receiver `m` obtained plus what is in its
mailbox is the image of `acc m`, a duplicate-free list of publish ids in which the ids of any one
publishing thread increase: per publisher in publish order, each publish at most once. (Across
publishers racing on different threads there is no publish order to respect.) -/
theorem C08B_order_once (cap : Nat) (k : Kind) (os : List BOp) (m : Nat) :
    let b := brun (binit cap k) os
    b.got m ++ bufOf b.q m = (b.acc m).map (msgAtB b.pubs) ∧
    (b.acc m).Pairwise (fun i j => tidAt b.pubs i = tidAt b.pubs j → i < j) ∧
    (b.acc m).Nodup ∧ (∀ i, i ∈ b.acc m → i < b.pubs.length) := by
  have h := BI_brun _ os (BI_binit cap k)
  exact ⟨h.hist m, h.order m, h.once m, h.bnd m⟩

/-- **Only subscribers, at the snapshot instant.** A publish enters mailbox `m` only if `m` was in
the topic's subscriber list when that `send` took its snapshot. -/
theorem C08B_window (cap : Nat) (k : Kind) (os : List BOp) (m i : Nat)
    (hi : i ∈ (brun (binit cap k) os).acc m) : m ∈ snapshotAt (brun (binit cap k) os).pubs i :=
  (BI_brun _ os (BI_binit cap k)).window m i hi

/-- … and, for schedules that never call `subscribe` on a closed handle, being in the list then means being
subscribed in the sense of the API contract at that instant of the publish call: never a message
of a topic the receiver was not subscribed to during the call. -/
theorem C08B_window_partial (cap : Nat) (k : Kind) (os : List BOp) (hos : OkSubsB (binit cap k) os) (m i : Nat)
    (hi : i ∈ (brun (binit cap k) os).acc m) : subscribedAt (brun (binit cap k) os).pubs i m = true :=
  (BW_brun _ os hos (BW_binit cap k)).acc m i hi

/-- **The snapshot misses nobody** (same restriction): a receiver subscribed when the snapshot is
taken is in it. -/
theorem C08B_snapshot_complete_partial (cap : Nat) (k : Kind) (os : List BOp) (hos : OkSubsB (binit cap k) os)
    (h : Nat) (x : Tx) (t : Topic) (m : Nat)
    (hx : txLive (brun (binit cap k) os).q h = some x)
    (hs : subscribedTo (brun (binit cap k) os).q m t = true) :
    m ∈ subsOf (brun (binit cap k) os).q t := by
  have hw := BW_brun _ os hos (BW_binit cap k)
  have := (routed_iff _ hw.ri (dispAlive_of_txLive hx) t m).2 hs
  exact (mem_subsOf _ t m).2 this.1

/-- **One visit.** When a send visits mailbox `m`: if the receiver is alive and the mailbox has
room the message is appended at the back, otherwise (mailbox full: drop-newest; receiver
dropped meanwhile) nothing changes; no other mailbox is touched. -/
theorem C08B_visit (b : BSt) (tid : Nat) (f : Flight) (m : Nat) (rest : List Nat)
    (hf : flightOf b.flights tid = some f) (hrem : f.rem = m :: rest) (hfree : b.held.contains m = false) (x : Nat) :
    bufOf (bdeliver b tid).q x =
      match b.q.rxs[x]? with
      | some y => if x = m ∧ y.live = true ∧ y.buf.length < y.cap then y.buf ++ [(f.t, f.v)] else y.buf
      | none => [] := by
  unfold bdeliver
  simp only [hf, hrem, hfree, Bool.false_eq_true, if_false]
  exact bufOf_visit b.q m (f.t, f.v) x

/-- **Publishing never blocks — provided no mailbox mutex is held across steps.** A send in progress
whose next mailbox is not locked is enabled: its own step visits one more mailbox or returns, whatever the
mailboxes' occupancy. The hypothesis is the release of the mutex before parking (`C08B_lock_never_held`);
without it the step is not enabled (`C08B_blocked_while_lock_held`). -/
theorem C08B_send_progress (b : BSt) (tid : Nat) (f : Flight) (hf : flightOf b.flights tid = some f)
    (hfree : ∀ m rest, f.rem = m :: rest → b.held.contains m = false) :
    (f.rem = [] ∧ flightOf (bdeliver b tid).flights tid = none) ∨
    (∃ m rest, f.rem = m :: rest ∧ flightOf (bdeliver b tid).flights tid = some { f with rem := rest }) := by
  rcases bdeliver_cases b tid with ⟨_, hn | ⟨f', m, rest, hf', hrem, hh⟩⟩ | ⟨f', hf', hrem, e⟩ |
      ⟨f', m, rest, hf', hrem, _, e⟩
  · rw [hf] at hn; cases hn
  · cases hf.symm.trans hf'
    rw [hfree m rest hrem] at hh; cases hh
  · cases hf.symm.trans hf'
    refine .inl ⟨hrem, ?_⟩
    rw [e]
    exact List.find?_eq_none.2 fun g hg => by simpa using (List.mem_filter.1 hg).2
  · cases hf.symm.trans hf'
    refine .inr ⟨m, rest, hrem, ?_⟩
    rw [e]
    simp only []
    rw [flightOf_map _ _ _ (fun g => by split <;> rfl), hf]
    simp [(flightOf_some hf).2]

/-- the code's steps never leave a mailbox mutex held: a receiver unlocks before it parks -/
theorem C08B_lock_never_held (b : BSt) (os : List BOp) (hcode : ∀ o, o ∈ os → o.isCode = true) (h0 : b.held = []) :
    (brun b os).held = [] := by
  induction os generalizing b with
  | nil => exact h0
  | cons o os ih =>
    refine ih _ (fun o' h' => hcode o' (List.mem_cons_of_mem _ h')) ?_
    have hc := hcode o List.mem_cons_self
    cases o with
    | api op => simp only [bstep, bapi]; split <;> exact h0
    | begin tid h t v =>
      rcases bbegin_cases b tid h t v with e | ⟨_, _, _, e⟩ <;> simp only [bstep, e] <;> exact h0
    | deliver tid =>
      rcases bdeliver_cases b tid with ⟨e, _⟩ | ⟨_, _, _, e⟩ | ⟨_, _, _, _, _, _, e⟩ <;> simp only [bstep, e] <;> exact h0
    | park r =>
      simp only [bstep, bpark]; split
      · exact h0
      · split <;> simpa using h0
    | wake r => simp [bstep, bwake, h0]
    | parkHolding r => cases hc

/-- hence, on every schedule of the code's steps, a send in progress is always enabled -/
theorem C08B_send_progress_code (cap : Nat) (k : Kind) (os : List BOp) (hcode : ∀ o, o ∈ os → o.isCode = true)
    (tid : Nat) (f : Flight) (hf : flightOf (brun (binit cap k) os).flights tid = some f) :
    (f.rem = [] ∧ flightOf (bdeliver (brun (binit cap k) os) tid).flights tid = none) ∨
    (∃ m rest, f.rem = m :: rest ∧
      flightOf (bdeliver (brun (binit cap k) os) tid).flights tid = some { f with rem := rest }) := by
  apply C08B_send_progress _ tid f hf
  intro m rest _
  rw [C08B_lock_never_held (binit cap k) os hcode rfl]; rfl

/-- … and it does depend on that release: while the mutex of the next mailbox is held (a
receiver parked WITHOUT unlocking — not a step of the code, but what the code becomes if the
`drop(guard)` before `park` is lost), the send's step changes nothing: the publisher waits. -/
theorem C08B_blocked_while_lock_held (b : BSt) (tid : Nat) (f : Flight) (m : Nat) (rest : List Nat)
    (hf : flightOf b.flights tid = some f) (hrem : f.rem = m :: rest) (hheld : b.held.contains m = true) :
    bdeliver b tid = b := by
  unfold bdeliver
  simp only [hf, hrem, hheld, if_true]

/-- concrete: receiver 0 parks holding its mutex; the send stays in flight however often the
publisher is scheduled, until the receiver wakes -/
theorem C08B_blocked_witness :
    let os := [BOp.api (.subscribe 0 1), .parkHolding 0, .begin 7 0 1 10, .deliver 7, .deliver 7, .deliver 7]
    (brun (binit 2 .sync) os).flights = [{ tid := 7, pid := 0, t := 1, v := 10, rem := [0] }] ∧
    bufOf (brun (binit 2 .sync) os).q 0 = [] ∧
    (brun (binit 2 .sync) (os ++ [.wake 0, .deliver 7, .deliver 7])).flights = [] ∧
    bufOf (brun (binit 2 .sync) (os ++ [.wake 0, .deliver 7, .deliver 7])).q 0 = [(1, 10)] := by
  decide

/-- other threads' steps do not touch a send in progress -/
theorem C08B_flight_untouched (b : BSt) (o : BOp) (tid : Nat) (f : Flight) (hf : flightOf b.flights tid = some f)
    (ho : o ≠ .deliver tid) :
    flightOf (bstep b o).flights tid = some f := by
  have hft := (flightOf_some hf).2
  cases o with
  | api op => simp only [bstep, bapi]; split <;> exact hf
  | begin tid' h t v =>
    rcases bbegin_cases b tid' h t v with e | ⟨_, _, _, e⟩ <;> simp only [bstep, e]
    · exact hf
    · unfold flightOf at hf ⊢
      rw [List.find?_append, hf]; rfl
  | wake r => exact hf
  | park r | parkHolding r =>
    obtain ⟨_, _, e⟩ := bpark_eq b r _
    rw [bstep, e]; exact hf
  | deliver tid' =>
    have hne : tid ≠ tid' := fun he => ho (by rw [he])
    rcases bdeliver_cases b tid' with ⟨e, _⟩ | ⟨_, _, _, e⟩ | ⟨_, _, rest, _, _, _, e⟩ <;> simp only [bstep, e]
    · exact hf
    · unfold flightOf at hf ⊢
      rw [List.find?_filter, ← hf]
      congr 1; funext a
      by_cases ha : a.tid = tid <;> simp [ha, hne]
    · rw [flightOf_map _ _ _ (fun g => by split <;> rfl), hf]
      simp [hft, hne]

/-- executable form of `OkSubsB` for concrete schedules -/
def okSubsB : BSt → List BOp → Bool
  | _, [] => true
  | b, o :: os =>
    (match o with
     | .api (.subscribe r _) => (match b.q.rxs[r]? with | some x => !x.closed | none => true)
     | _ => true) && okSubsB (bstep b o) os

theorem okSubsB_spec (b : BSt) (os : List BOp) (h : okSubsB b os = true) : OkSubsB b os := by
  induction os generalizing b with
  | nil => trivial
  | cons o os ih =>
    simp only [okSubsB, Bool.and_eq_true] at h
    refine ⟨?_, ih _ h.2⟩
    intro op he r t x hop hx
    subst he; subst hop
    simpa [hx] using h.1

/-! ## Non-vacuity: two publisher threads racing with a subscriber, a closing receiver and a receiver -/

example :
    let os := [BOp.api (.subscribe 0 1), .api (.sClone 0), .api (.rClone 0),
               .begin 7 0 1 10, .begin 8 1 1 20,          -- both sends have taken their snapshot [0, 1]
               .deliver 8, .deliver 7,                    -- thread 8 reaches mailbox 0 first
               .api (.rClose 1),                          -- receiver 1 closes while both sends are in flight
               .begin 7 0 1 11,                           -- refused: thread 7 is still inside its send
               .deliver 7, .deliver 8, .deliver 7, .deliver 8,   -- both visit mailbox 1 (still alive: delivered) and return
               .begin 7 0 1 12, .deliver 7, .deliver 7,   -- after the close: snapshot [0] only
               .api (.tryRecv 0), .api (.tryRecv 0), .api (.tryRecv 0), .api (.tryRecv 1)]
    let b := brun (binit 4 .sync) os
    okSubsB (binit 4 .sync) os = true ∧ b.pubs.length = 3 ∧ b.acc 0 = [1, 0, 2] ∧ b.acc 1 = [0, 1] ∧
      b.got 0 = [(1, 20), (1, 10), (1, 12)] ∧ b.got 1 = [(1, 10)] ∧ b.flights = [] := by
  decide

end Fv.Props.C08B
