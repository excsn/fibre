import Fv.Lemmas.Route
import Fv.Lemmas.Pipeline
/-!
# C19 — log events reach exactly the configured appenders, in order, none lost

`RouteSpec` is the statement made formal, `route` what the code builds and evaluates (`Fv/Log/Route.lean`).
Routing: for ALL configurations satisfying the HashMap/validation invariants `Config.WF`, all targets, all
event levels ERROR..TRACE, every iteration order of the hash maps. The full statement is FALSE of the code
(`C19_fails_F12a`, `C19_fails_F12c`), hence the hypothesis `WinnerWired`; "every non-additive logger names an
appender" is not a sufficient one.
Pipeline (`Fv/Log/Pipeline.lean`): every step sequence of emitters, consumer and shutdown, any capacity. The one
hypothesis of the no-loss statements is `graceEarly = false`: real time is not modelled.
-/
namespace Fv.Props.C19
open Fv.Log

/-- **Routing clause, partial.** For every well-formed configuration, every target and every
event level ≥ ERROR: if the most specific matching logger overall (when one exists) names at
least one appender, the code delivers to exactly the appenders the property selects. -/
theorem C19_route_eq_spec_partial (cfg : Config) (wf : cfg.WF) (ev : Event) (hev : 0 < ev.level)
    (hF12a : WinnerWired cfg ev) (a : Appender) :
    a ∈ route cfg ev ↔ RouteSpec cfg ev a := by
  rw [mem_route_iff_codeSpec wf hev, CodeSpec, RouteSpec, gateOk_iff_gateOkWired hF12a]

/-- Configuration-wide form: if every logger other than `root` names at least one appender then
routing is exactly the specification for all events. -/
theorem C19_route_eq_spec_allWired_partial (cfg : Config) (wf : cfg.WF) (hall : AllWired cfg)
    (ev : Event) (hev : 0 < ev.level) (a : Appender) :
    a ∈ route cfg ev ↔ RouteSpec cfg ev a :=
  C19_route_eq_spec_partial cfg wf ev hev (fun w hw _ _ => hall w hw) a

/-- the configuration of the repository's additivity-matrix test, in model form -/
def exCfg : Config :=
  { appenders := [0, 1, 2]
    loggers := [ { name := ['a'], level := 4, appenders := [1], additive := true },
                 { name := ['a', ':', ':', 'b'], level := 2, appenders := [2], additive := false } ]
    rootLevel := 3, rootAppenders := [0] }

example : exCfg.WF := ⟨by decide, by decide, by decide⟩
example : AllWired exCfg := by decide
example : WinnerWired exCfg { target := ['a', ':', ':', 'b', ':', ':', 'c'], level := 2 } := by decide
-- additive `a`: root's appender and `a`'s appender; non-additive `a::b`: only its own appender
example : route exCfg { target := ['a', ':', ':', 'x'], level := 3 } = [0, 1] := by decide
example : route exCfg { target := ['a', ':', ':', 'b', ':', ':', 'c'], level := 2 } = [2] := by decide
example : RouteSpec exCfg { target := ['a', ':', ':', 'b', ':', ':', 'c'], level := 2 } 2 := by decide
example : ¬ RouteSpec exCfg { target := ['a', ':', ':', 'b', ':', ':', 'c'], level := 2 } 0 := by decide
-- `a::bc` is not under `a::b` (no `::` boundary): it falls to `a`
example : route exCfg { target := ['a', ':', ':', 'b', 'c'], level := 3 } = [0, 1] := by decide

/-- **What the code does, exactly** (no hypothesis on appender-less loggers): `route` selects `a`
iff `a`'s most specific logger admits the level and the most specific matching logger *among those
that name at least one appender* — the only ones `process_event` can see — does not gate it. The
difference to `RouteSpec` is precisely the words "among those that name at least one appender". -/
theorem C19_route_eq_codeSpec (cfg : Config) (wf : cfg.WF) (ev : Event) (hev : 0 < ev.level) (a : Appender) :
    a ∈ route cfg ev ↔ CodeSpec cfg ev a :=
  mem_route_iff_codeSpec wf hev a

/-- **Hash-map iteration order is irrelevant**: two configurations with the same appender set,
logger set and root (in any list order) route every event identically. (The differential feeds
the model declaration order while the implementation iterates `HashMap`s.) -/
theorem C19_route_order_independent (cfg cfg' : Config) (wf : cfg.WF) (wf' : cfg'.WF)
    (happ : ∀ x, x ∈ cfg'.appenders ↔ x ∈ cfg.appenders)
    (hlog : ∀ l, l ∈ cfg'.loggers ↔ l ∈ cfg.loggers)
    (hroot : cfg'.rootLevel = cfg.rootLevel ∧ ∀ x, x ∈ cfg'.rootAppenders ↔ x ∈ cfg.rootAppenders)
    (ev : Event) (hev : 0 < ev.level) (a : Appender) :
    a ∈ route cfg' ev ↔ a ∈ route cfg ev := by
  rw [mem_route_iff_codeSpec wf' hev, mem_route_iff_codeSpec wf hev]
  exact codeSpec_congr happ hlog hroot.1 hroot.2 ev a

example : route { exCfg with appenders := [2, 0, 1], loggers := exCfg.loggers.reverse }
    { target := ['a', ':', ':', 'x'], level := 3 } = [0, 1] := by decide

/-- **F12a on the model.** root → appender 0; non-additive logger `q` names no appender. Target
`q::i` at INFO: the property selects nobody, the code delivers to appender 0. Every non-additive
logger naming ≥ 1 appender is exactly what this configuration violates. -/
theorem C19_fails_F12a :
    ∃ (cfg : Config) (ev : Event) (a : Appender),
      cfg.WF ∧ 0 < ev.level ∧ ¬ NonAdditiveWired cfg ∧ a ∈ route cfg ev ∧ ¬ RouteSpec cfg ev a :=
  ⟨{ appenders := [0], loggers := [{ name := ['q'], level := 3, appenders := [], additive := false }],
     rootLevel := 3, rootAppenders := [0] },
   { target := ['q', ':', ':', 'i'], level := 3 }, 0,
   ⟨by decide, by decide, by decide⟩, by decide, by decide, by decide, by decide⟩

/-- **F12c on the model** (same root cause, opposite direction). Every non-additive logger names
an appender, yet routing differs from the property: `a` (non-additive → appender 1), `a::b`
(ADDITIVE, no appenders), root → appender 0. Target `a::b::c`: the most specific matching logger
is additive, so root's appender 0 must receive the event; the code gates it on `a`. -/
theorem C19_fails_F12c :
    ∃ (cfg : Config) (ev : Event) (a : Appender),
      cfg.WF ∧ 0 < ev.level ∧ NonAdditiveWired cfg ∧ RouteSpec cfg ev a ∧ a ∉ route cfg ev :=
  ⟨{ appenders := [0, 1],
     loggers := [ { name := ['a'], level := 3, appenders := [1], additive := false },
                  { name := ['a', ':', ':', 'b'], level := 3, appenders := [], additive := true } ],
     rootLevel := 3, rootAppenders := [0] },
   { target := ['a', ':', ':', 'b', ':', ':', 'c'], level := 3 }, 0,
   ⟨by decide, by decide, by decide⟩, by decide, by decide, by decide, by decide⟩

/-- **Pre-filters are sound.** Whatever `process_event` would deliver passes `event_enabled`
(the `tracing` layer's `enabled`), the `max_level_hint`, and `log::max_level()` as set by init. -/
theorem C19_prefilters_never_reject (cfg : Config) (ev : Event) (a : Appender) (h : a ∈ route cfg ev) :
    eventEnabled cfg ev = true ∧ ev.level ≤ maxLevel cfg ∧
      (ev.level ≤ 5 → ev.level ≤ logMaxLevel cfg) := by
  refine ⟨route_eventEnabled h, route_le_maxLevel h, fun h5 => ?_⟩
  have := route_le_maxLevel h
  rw [logMaxLevel, tracingFilterToLogFilter_eq]
  omega

example : 1 ∈ route exCfg { target := ['a'], level := 4 } := by decide

/-- **`log` and `tracing` entry points agree**: a `log::Record` and a `tracing` event with the
same target and corresponding level reach the same appenders, namely `route cfg (target, level)`
(the per-API pre-filters change nothing). -/
theorem C19_log_tracing_same (cfg : Config) (target : Name) (lvl : LogLevel) :
    emitLog cfg target lvl = route cfg { target := target, level := logLevelToTracing lvl } ∧
    emitTracing cfg target (logLevelToTracing lvl) = route cfg { target := target, level := logLevelToTracing lvl } := by
  constructor
  · unfold emitLog
    split
    · next hlt =>
      refine (route_eq_nil_of_prefilter (Or.inl ?_)).symm
      obtain ⟨he, hle⟩ := logLevelToTracing_eq lvl
      rw [logMaxLevel, tracingFilterToLogFilter_eq] at hlt
      show maxLevel cfg < logLevelToTracing lvl
      omega
    · rfl
  · unfold emitTracing
    simp only []
    split
    · next hlt => exact (route_eq_nil_of_prefilter (Or.inl hlt)).symm
    · split
      · next hne => exact (route_eq_nil_of_prefilter (Or.inr (by simpa using hne))).symm
      · rfl

example : emitLog exCfg ['a', ':', ':', 'x'] .info = [0, 1] ∧ emitTracing exCfg ['a', ':', ':', 'x'] 3 = [0, 1] := by decide
example : emitLog exCfg ['a', ':', ':', 'x'] .trace = [] ∧ emitTracing exCfg ['a', ':', ':', 'x'] 5 = [] := by decide

/-- **Exactly once**: no appender is selected twice for one event (and each selected appender
gets one send in `process_event`). -/
theorem C19_exactly_once (cfg : Config) (wf : cfg.WF) (ev : Event) : (route cfg ev).Nodup := by
  rw [route_eq_filter]; exact wf.appenders_nodup.filter _

open Fv.Log.Pipeline

/-- **FIFO / no loss while running**: after any step sequence, what the consumer has taken
followed by what is still visible in the channel is exactly the accepted sequence. -/
theorem C19_fifo (cap : Nat) (pol : Overflow) (c : Consumer) (tr : List Step) (s : State)
    (h : run (init cap pol c) tr = some s) : s.out ++ s.buf = s.accepted :=
  (inv_run (inv_init cap pol c) h).fifo

/-- **Per-thread order**: per emitting thread, the delivered sequence is a prefix of the accepted
sequence, which is a prefix of the sequence in which that thread issued its sends. -/
theorem C19_per_thread_order (cap : Nat) (pol : Overflow) (c : Consumer) (tr : List Step) (s : State)
    (h : run (init cap pol c) tr = some s) (t : Nat) :
    ofThread t s.out <+: ofThread t s.accepted ∧ ofThread t s.accepted <+: ofThread t s.claimed := by
  have inv := inv_run (inv_init cap pol c) h
  constructor
  · rw [← inv.fifo, ofThread_append]; exact List.prefix_append _ _
  · rw [← inv.order t]; exact List.prefix_append _ _

/-- **Delivered exactly once**: the consumer never takes a message more often than it claimed a
slot; in particular, if every emitted event is sent once (distinct `(thread, seq)`), the delivered
sequence has no duplicates. -/
theorem C19_delivered_exactly_once (cap : Nat) (pol : Overflow) (c : Consumer) (tr : List Step) (s : State)
    (h : run (init cap pol c) tr = some s) :
    (∀ m, s.out.count m ≤ s.claimed.count m) ∧ ((∀ m, s.claimed.count m ≤ 1) → s.out.Nodup) := by
  have inv := inv_run (inv_init cap pol c) h
  have h1 : ∀ m, s.out.count m ≤ s.claimed.count m := by
    intro m
    rw [← inv.count m, ← inv.fifo]
    simp only [List.count_append]
    omega
  exact ⟨h1, fun hone => List.nodup_iff_count.2 fun m => Nat.le_trans (h1 m) (hone m)⟩

/-- **Disconnect only after shutdown, and only when drained**: a consumer that has left its loop
did so after the flag was set or the sender closed; a stream receiver that saw `Disconnected`
saw it on an empty, closed channel (what the step requires). -/
theorem C19_disconnect_only_after_shutdown (cap : Nat) (pol : Overflow) (c : Consumer) (tr : List Step) (s : State)
    (h : run (init cap pol c) tr = some s) (hleft : s.phase ≠ .running) :
    s.flag = true ∨ s.closed = true :=
  (inv_run (inv_init cap pol c) h).phase hleft

example (s : State) (h : (seeDisconnected s).isSome = true) :
    s.closed = true ∧ s.buf = [] ∧ s.inflight = [] := by
  obtain ⟨s', hs⟩ := Option.isSome_iff_exists.1 h
  cases steps_of_step (st := .seeDisconnected) hs with | sawDisconnected _ hd => exact hd

/-- **Block never drops**: with the blocking overflow policy no event is discarded for lack of
room (a sender waits instead). -/
theorem C19_block_never_drops (cap : Nat) (c : Consumer) (tr : List Step) (s : State)
    (h : run (init cap .block c) tr = some s) : s.dropped = [] :=
  (inv_run (inv_init cap .block c) h).noDrop <|
    run_induction (P := (·.policy = .block)) (Q := fun _ => True) (fun _ hp hs => (step_frame hs).1.trans hp)
      (fun _ _ => trivial) rfl h

/-- **DropNewest never blocks**: a thread that is not already inside a send can always start one. -/
theorem C19_drop_never_blocks (s : State) (m : Msg) (hp : s.policy = .dropNewest)
    (hidle : threadBusy s m.thread = false) : (step s (.sendBegin m)).isSome = true := by
  simp only [step, sendBegin, hidle, hp, Bool.false_eq_true, if_false]
  repeat' split
  all_goals rfl

/-- **No loss at shutdown, partial** (the model of the repaired `run_byte_appender_writer`).
For EVERY step sequence — any number of emitting threads, sends begun before, during and after
`setFlag` / `close`, any capacity and policy — once the consumer has exited (the writer thread
left its final drain, or the stream receiver saw `Disconnected`):
every accepted event (its `send` returned `Ok`) has been taken by the consumer (`out = accepted`);
no send is left in flight and the channel is closed, so nothing can be accepted afterwards;
per emitting thread the delivered sequence is exactly the sequence in which that thread obtained
its slots; and each event is delivered exactly as often as it was sent.
Hypothesis (the part that is not proved, hence `_partial`): `graceEarly = false` — the writer's
`FINAL_DRAIN_GRACE` deadline, the environment step `graceExpired`, did not fire before the sender
handles were closed and the in-flight sends had landed. Real time is outside the model. -/
theorem C19_no_loss_at_shutdown_partial (cap : Nat) (pol : Overflow) (c : Consumer)
    (tr : List Step) (s : State)
    (hrun : run (init cap pol c) tr = some s)
    (hexit : s.phase = .exited)
    (hgrace_notEarly : s.graceEarly = false) :
    s.out = s.accepted ∧ s.inflight = [] ∧ s.buf = [] ∧ s.closed = true ∧
      (∀ t, ofThread t s.out = ofThread t s.claimed) ∧
      (∀ m, s.out.count m = s.claimed.count m) := by
  have inv := inv_run (inv_init cap pol c) hrun
  obtain ⟨hcl, hbuf, hinf⟩ := inv.settled hexit hgrace_notEarly
  have hout : s.out = s.accepted := by simpa [hbuf] using inv.fifo
  refine ⟨hout, hinf, hbuf, hcl, fun t => ?_, fun m => ?_⟩
  · simpa [hout, hinf, ofThread] using inv.order t
  · simpa [hout, hinf] using inv.count m

/-- With the blocking policy "accepted" is everything that was emitted before the channel was
closed: under the hypotheses of `C19_no_loss_at_shutdown_partial` nothing was dropped, so every
emit that was not refused by the closed channel has been written. -/
theorem C19_no_loss_at_shutdown_block_partial (cap : Nat) (c : Consumer)
    (tr : List Step) (s : State)
    (hrun : run (init cap .block c) tr = some s)
    (hexit : s.phase = .exited)
    (hgrace_notEarly : s.graceEarly = false) :
    s.dropped = [] ∧ s.out = s.accepted ∧ ∀ t, ofThread t s.out = ofThread t s.claimed := by
  have h := C19_no_loss_at_shutdown_partial cap .block c tr s hrun hexit hgrace_notEarly
  exact ⟨C19_block_never_drops cap c tr s hrun, h.1, h.2.2.2.2.1⟩

/-- The same for every step sequence in which the grace deadline never expires: the hypothesis
on the ghost `graceEarly` follows from `graceExpired ∉ tr`. -/
theorem C19_no_loss_without_graceExpired_partial (cap : Nat) (pol : Overflow) (c : Consumer)
    (tr : List Step) (s : State)
    (hrun : run (init cap pol c) tr = some s)
    (hexit : s.phase = .exited)
    (hgrace_never : Step.graceExpired ∉ tr) :
    s.out = s.accepted ∧ s.inflight = [] ∧ s.buf = [] ∧ s.closed = true ∧
      (∀ t, ofThread t s.out = ofThread t s.claimed) ∧
      (∀ m, s.out.count m = s.claimed.count m) :=
  C19_no_loss_at_shutdown_partial cap pol c tr s hrun hexit <|
    run_induction (P := (·.graceEarly = false)) (fun hne hg hs => ((step_frame hs).2 hne).trans hg)
      (fun _ hst he => hgrace_never (he ▸ hst)) rfl hrun

/-- **No loss at a quiescent shutdown, partial** (independent of the grace deadline). No send is in
flight when shutdown begins (`s1.inflight = []`) and none starts between `setFlag` and `close` (`mid`);
sends after `close` are refused and not "accepted". Then for every continuation — including ones in which
`graceExpired` fires, e.g. because `close` comes late — an exited consumer has taken exactly the events
accepted before shutdown began. -/
theorem C19_no_loss_quiescent_shutdown_partial (cap : Nat) (pol : Overflow) (c : Consumer)
    (pre mid rest : List Step) (s1 s2 : State)
    (hpre : run (init cap pol c) pre = some s1)
    (hfresh : s1.flag = false ∧ s1.closed = false)
    (hquiet_noInflight : s1.inflight = [])
    (hquiet_noNewSend : ∀ st ∈ mid, st.isSendBegin = false)
    (hrun : run s1 (.setFlag :: mid ++ .close :: rest) = some s2)
    (hexit : s2.phase = .exited) :
    s2.out = s1.accepted ∧ s2.accepted = s1.accepted ∧
      ∀ t, ofThread t s2.out = ofThread t s1.accepted := by
  have inv1 := inv_run (inv_init cap pol c) hpre
  have hq1 : Quiet s1.accepted s1 :=
    ⟨hquiet_noInflight, rfl, fun hex => by simpa [hfresh.1, hfresh.2] using inv1.phase (by simp [hex])⟩
  rw [run_append] at hrun
  obtain ⟨sa, hsa, hrun⟩ := Option.bind_eq_some_iff.1 hrun
  have hqa : Quiet s1.accepted sa :=
    quiet_run hq1 (List.forall_mem_cons.2 ⟨rfl, hquiet_noNewSend⟩) hsa
  have hq2 : Quiet s1.accepted s2 :=
    quiet_run_closed (s := { sa with closed := true }) { hqa with } rfl hrun
  have hout : s2.out = s1.accepted := by
    simpa [hq2.exitedEmpty hexit, hq2.acc] using (inv_run (inv_run inv1 hsa) hrun).fifo
  exact ⟨hout, hq2.acc, fun t => by rw [hout]⟩

/-- **Every end of the guard shuts down.** Explicit `shutdown`, a drop on any thread, and a drop
while the owning thread unwinds from a panic all run `shutdown_impl` (flag, then close): the
no-loss / disconnect statement below therefore applies to each of them. -/
theorem C19_every_guard_end_shuts_down (g : GuardEnd) : shutdownSteps g = [.setFlag, .close] := by
  cases g <;> rfl

/-- `C19_no_loss_at_shutdown_partial` instantiated for any way the guard ends, with emits
concurrent with it (`pre` may leave sends in flight, `rest` may begin new ones): afterwards an
exited consumer has taken exactly what was accepted, unless the grace deadline fired early. -/
theorem C19_no_loss_any_guard_end_partial (cap : Nat) (pol : Overflow) (c : Consumer) (g : GuardEnd)
    (pre rest : List Step) (s1 s2 : State)
    (hpre : run (init cap pol c) pre = some s1)
    (hrun : run s1 (shutdownSteps g ++ rest) = some s2)
    (hexit : s2.phase = .exited)
    (hgrace_notEarly : s2.graceEarly = false) :
    s2.out = s2.accepted ∧ s2.inflight = [] ∧ ∀ t, ofThread t s2.out = ofThread t s2.claimed := by
  have hall : run (init cap pol c) (pre ++ (shutdownSteps g ++ rest)) = some s2 := by
    rw [run_append, hpre]; exact hrun
  have h := C19_no_loss_at_shutdown_partial cap pol c _ s2 hall hexit hgrace_notEarly
  exact ⟨h.1, h.2.1, h.2.2.2.2.1⟩

/-- the quiescent form for any way the guard ends (no emit concurrent with it, grace deadline
irrelevant): an exited consumer has taken exactly what was accepted before. -/
theorem C19_no_loss_any_guard_end_quiescent_partial (cap : Nat) (pol : Overflow) (c : Consumer) (g : GuardEnd)
    (pre rest : List Step) (s1 s2 : State)
    (hpre : run (init cap pol c) pre = some s1)
    (hfresh : s1.flag = false ∧ s1.closed = false)
    (hquiet_noInflight : s1.inflight = [])
    (hrun : run s1 (shutdownSteps g ++ rest) = some s2)
    (hexit : s2.phase = .exited) :
    s2.out = s1.accepted ∧ s2.accepted = s1.accepted := by
  rw [C19_every_guard_end_shuts_down g] at hrun
  have := C19_no_loss_quiescent_shutdown_partial cap pol c pre [] rest s1 s2 hpre hfresh hquiet_noInflight
    (by intro st hst; cases hst) (by simpa using hrun) hexit
  exact ⟨this.1, this.2.1⟩

example :
    (run (init 4 .block .stream)
        ([.sendBegin ⟨0, 0⟩, .sendEnd ⟨0, 0⟩] ++ shutdownSteps (.drop true true) ++ [.consume, .seeDisconnected])).map
      (fun s => (s.phase, s.out, s.accepted)) = some (.exited, [⟨0, 0⟩], [⟨0, 0⟩]) := by decide

/-- non-vacuity: two threads emit, shutdown with nothing in flight, the writer drains and exits on `Disconnected`. -/
example :
    let pre : List Step := [.sendBegin ⟨0, 0⟩, .sendBegin ⟨1, 0⟩, .sendEnd ⟨1, 0⟩, .sendEnd ⟨0, 0⟩, .consume, .sendBegin ⟨0, 1⟩, .sendEnd ⟨0, 1⟩]
    let post : List Step := [.setFlag, .seeFlag, .close, .sendBegin ⟨1, 1⟩, .consume, .consume, .drainDisconnected]
    (run (init 2 .block .writer) (pre ++ post)).map (fun s => (s.phase, s.out, s.accepted, s.refused)) =
      some (.exited, [⟨1, 0⟩, ⟨0, 0⟩, ⟨0, 1⟩], [⟨1, 0⟩, ⟨0, 0⟩, ⟨0, 1⟩], [⟨1, 1⟩]) := by decide

/-- same for a custom stream: the receiver drains and then sees `Disconnected`. -/
example :
    (run (init 4 .block .stream)
        [.sendBegin ⟨0, 0⟩, .sendEnd ⟨0, 0⟩, .setFlag, .close, .consume, .seeDisconnected]).map
      (fun s => (s.phase, s.out, s.accepted)) = some (.exited, [⟨0, 0⟩], [⟨0, 0⟩]) := by decide

/-- non-vacuity with a send in flight across shutdown: thread 0's send is in flight across `setFlag`,
`seeFlag` AND `close`, thread 1 has an accepted event queued; the writer's final drain writes
thread 1's event, keeps polling (`Empty`, no step) until thread 0's send lands, writes it, and only
then sees `Disconnected`. A send begun after `close` is refused. -/
example :
    (run (init 4 .block .writer)
        [.sendBegin ⟨0, 0⟩, .sendBegin ⟨1, 0⟩, .sendEnd ⟨1, 0⟩, .setFlag, .seeFlag, .close, .consume,
         .sendBegin ⟨1, 1⟩, .sendEnd ⟨0, 0⟩, .consume, .drainDisconnected]).map
      (fun s => (s.phase, s.graceEarly, s.out, s.accepted, s.refused)) =
      some (.exited, false, [⟨1, 0⟩, ⟨0, 0⟩], [⟨1, 0⟩, ⟨0, 0⟩], [⟨1, 1⟩]) := by decide

/-- while a send is in flight the final drain cannot end on `Disconnected`, closed or not -/
example : run (init 4 .block .writer) [.sendBegin ⟨0, 0⟩, .setFlag, .seeFlag, .close, .drainDisconnected] = none := by decide

/-- **The F12b schedule.** Before the `fix:` commit the schedule
`sendBegin m, setFlag, seeFlag, ⟨writer exits: final try_recv found nothing visible⟩, close,
sendEnd m` ended with `m` accepted and never written. On the
model of the repaired writer (i) the writer cannot leave its final drain on `Disconnected` at that point, nor
after `close` while the send is still in flight, and (ii) the same schedule continued to the writer's exit
delivers `m`: nothing is lost. -/
theorem C19_F12b_schedule_nothing_lost :
    run (init 4 .block .writer) [.sendBegin ⟨0, 0⟩, .setFlag, .seeFlag, .drainDisconnected] = none ∧
    run (init 4 .block .writer) [.sendBegin ⟨0, 0⟩, .setFlag, .seeFlag, .close, .drainDisconnected] = none ∧
    ∃ s, run (init 4 .block .writer)
          [.sendBegin ⟨0, 0⟩, .setFlag, .seeFlag, .close, .sendEnd ⟨0, 0⟩, .consume, .drainDisconnected] = some s ∧
        s.phase = .exited ∧ s.graceEarly = false ∧ s.accepted = [⟨0, 0⟩] ∧ s.out = [⟨0, 0⟩] ∧
        s.dropped = [] ∧ s.refused = [] :=
  ⟨by decide, by decide, _, rfl, by decide, by decide, by decide, by decide, by decide, by decide⟩

/-- **Residual limit: the grace deadline.** If `FINAL_DRAIN_GRACE` expires while a send is still
in flight (the emitting thread is descheduled for more than 200 ms between claiming its slot and
publishing it, or `close_channels` is that late), the writer exits as before the repair and the
event — accepted, Block policy, nothing dropped or refused — is never written. `graceEarly`
records it: the hypothesis of `C19_no_loss_at_shutdown_partial` cannot be dropped. -/
theorem C19_residual_graceExpired_early_loses :
    ∃ (tr : List Step) (s : State),
      run (init 4 .block .writer) tr = some s ∧ s.phase = .exited ∧ s.graceEarly = true ∧
        s.accepted = [⟨0, 0⟩] ∧ s.out = [] ∧ s.dropped = [] ∧ s.refused = [] :=
  ⟨[.sendBegin ⟨0, 0⟩, .setFlag, .seeFlag, .graceExpired, .close, .sendEnd ⟨0, 0⟩], _, rfl,
    by decide, by decide, by decide, by decide, by decide, by decide⟩

/-- the shape of the observed F12b history under an early grace expiry: thread 1's completed send
is queued behind thread 0's unwritten slot, `try_recv` answers `Empty`, the deadline fires: both
accepted events are lost. Without `graceExpired` the writer cannot exit here. -/
example :
    (run (init 4 .block .writer)
        [.sendBegin ⟨0, 0⟩, .sendBegin ⟨1, 0⟩, .sendEnd ⟨1, 0⟩, .setFlag, .seeFlag, .graceExpired, .close, .sendEnd ⟨0, 0⟩]).map
      (fun s => (s.phase, s.graceEarly, s.out, s.accepted)) = some (.exited, true, [], [⟨1, 0⟩, ⟨0, 0⟩]) := by decide

/-- a grace expiry on an already drained, closed channel is harmless (`graceEarly` stays false) -/
example :
    (run (init 4 .block .writer)
        [.sendBegin ⟨0, 0⟩, .sendEnd ⟨0, 0⟩, .setFlag, .close, .seeFlag, .consume, .graceExpired]).map
      (fun s => (s.phase, s.graceEarly, s.out, s.accepted)) = some (.exited, false, [⟨0, 0⟩], [⟨0, 0⟩]) := by decide

/-- senders never closed (the crate's unit tests set only the flag): the writer still terminates,
by the grace deadline, and with no emit in flight nothing is lost (quiescent theorem) -/
example :
    (run (init 4 .block .writer)
        [.sendBegin ⟨0, 0⟩, .sendEnd ⟨0, 0⟩, .setFlag, .seeFlag, .consume, .graceExpired]).map
      (fun s => (s.phase, s.graceEarly, s.out, s.accepted)) = some (.exited, true, [⟨0, 0⟩], [⟨0, 0⟩]) := by decide

end Fv.Props.C19
