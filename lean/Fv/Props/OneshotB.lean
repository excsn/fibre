import Fv.Lemmas.OneshotBReach
import Fv.Lemmas.Common
import Fv.Props.OneshotBWit
/-!
Property theorems of the STEP-LEVEL oneshot model `Fv.Chan.OneshotB` — over ALL programs (any number of
sender handles / clones, any op lists), all interleavings of single atomic actions, spurious park
returns included. They feed C01 / C03 / C04 / C05 / C06 / C09 for flavour `oneshot`.
Names are listed in /verif/props/oneshotb.theorems.
-/
namespace Fv.Props.OneshotB
open Fv.Chan.OneshotB

variable {progS : Nat → List Op} {progR : List Op} {s : State}

/-! ## (a) C01 / C03: at most one send ever succeeds; a failed send hands its value back -/

/-- C03: only one sender handle ever gets `Ok(())` from `send`. -/
theorem send_ok_unique (h : Reach progS progR s) {i j : Nat}
    (hi : s.sres i = some .ok) (hj : s.sres j = some .ok) : i = j := by
  have h4 := (reach_ainv h).i4b
  have a := h4.g.resOk i hi
  have b := h4.g.resOk j hj
  rw [a] at b
  exact Option.some.inj b

/-- C01: the result of a send is `Ok`, or an error carrying exactly the value that was offered. -/
theorem failed_send_returns_value (h : Reach progS progR s) {i : Nat} {r : Res} (hr : s.sres i = some r) :
    r = .ok ∨ ∃ v, s.sval i = some v ∧ (r = .closedV v ∨ r = .sentV v) :=
  (reach_ainv h).i4b.g.resErr i r hr

/-- C01 / C09 token conservation, sequence form: what went into the slot is, in order, what is still in
the slot, what the receiver got and what the channel dropped — and it is at most one value. -/
theorem token_conservation (h : Reach progS progR s) :
    s.moved = s.slot.toList ++ s.received ++ s.dropped ∧ s.moved.length ≤ 1 := by
  rcases (reach_ainv h).i4.g.acct with ⟨a, b, c, d⟩ | ⟨v, a, ⟨b, c, d⟩ | ⟨b, c, d⟩ | ⟨b, c, d⟩⟩ <;>
    simp [a, b, c, d]

/-- C01 exactly-once, per send call (token = the sender handle `i`, each handle sends at most once):
a value that went into the channel comes from a send that reports `Ok` (or is one action before doing
so) and is the whole content of `moved`; a value handed back in an error never went into the channel. -/
theorem token_fate (h : Reach progS progR s) {i v : Nat} (hv : s.sval i = some v) :
    (s.mover = some i → s.moved = [v] ∧ (s.sres i = some .ok ∨ s.sres i = none)) ∧
    (∀ w, s.sres i = some (.closedV w) ∨ s.sres i = some (.sentV w) → w = v ∧ s.mover ≠ some i) := by
  have h4 := (reach_ainv h).i4b
  refine ⟨fun hm => ?_, fun w hw => ⟨?_, fun hm => ?_⟩⟩
  · obtain ⟨w, hw, hmv⟩ := h4.g.movedV i hm
    rw [hv] at hw
    cases hw
    exact ⟨hmv, (h4.mover_res hm).imp id And.left⟩
  · -- an error result carries the value that was offered
    rcases hw with hw | hw <;> rcases h4.g.resErr i _ hw with h1 | ⟨u, hu, h1 | h1⟩ <;> cases h1 <;>
      (rw [hv] at hu; cases hu; rfl)
  · rcases h4.mover_res hm with h1 | ⟨h1, _⟩ <;> rcases hw with hw | hw <;> simp [h1] at hw

/-! ## (b) C04 / C01: the receiver obtains the value iff a send succeeded, at most once -/

/-- whatever the receiver got was offered by the one send that reports `Ok`. -/
theorem received_from_ok_send (h : Reach progS progR s) {v : Nat} (hr : v ∈ s.received) :
    s.received = [v] ∧ ∃ i, s.mover = some i ∧ s.sval i = some v ∧ s.sres i = some .ok := by
  have hI := reach_ainv h
  have h4 := hI.i4
  have h4b := hI.i4b
  have h3 := hI.i3
  rcases h4.g.acct with ⟨a, b, c, d⟩ | ⟨w, a, ⟨b, c, d⟩ | ⟨b, c, d⟩ | ⟨b, c, d⟩⟩
  · simp [c] at hr
  · simp [c] at hr
  · simp [c] at hr
    subst hr
    refine ⟨c, ?_⟩
    have hm : s.mover ≠ none := by
      intro hn
      have := h4.g.movedE.mpr hn
      simp [a] at this
    obtain ⟨i, hi⟩ := Option.ne_none_iff_exists'.mp hm
    obtain ⟨u, hu, hmv⟩ := h4b.g.movedV i hi
    rw [a] at hmv
    cases hmv
    refine ⟨i, hi, hu, ?_⟩
    exact (h4b.mover_res hi).resolve_right fun h1 => (h3.each (.S i)).swapSl h1.2 b
  · simp [c] at hr

/-- the receiver gets at most one value, and a value is never both received and dropped by the channel. -/
theorem received_at_most_once (h : Reach progS progR s) :
    (s.received ++ s.dropped).length ≤ 1 := by
  rcases (reach_ainv h).i4.g.acct with ⟨a, b, c, d⟩ | ⟨v, a, ⟨b, c, d⟩ | ⟨b, c, d⟩ | ⟨b, c, d⟩⟩ <;>
    simp [c, d]

/-- nothing sent, nothing received: the receiver never invents a value. -/
theorem nothing_sent_nothing_received (h : Reach progS progR s) (hm : s.mover = none) :
    s.received = [] ∧ s.dropped = [] ∧ s.slot = none := by
  have h4 := (reach_ainv h).i4
  have := h4.g.movedE.mpr hm
  rcases h4.g.acct with ⟨a, b, c, d⟩ | ⟨v, a, _⟩
  · exact ⟨c, d, b⟩
  · simp [this] at a

/-! ## (d) C09: the slot's value is dropped exactly once in every teardown order -/

/-- once `OneShotShared::drop` has run the slot is empty: every value that went into the channel was
either handed to the receiver or dropped by the channel — exactly once (`token_conservation`). -/
theorem teardown_no_leak (h : Reach progS progR s) (hf : s.freed = true) :
    s.slot = none ∧ s.moved = s.received ++ s.dropped ∧ (s.received ++ s.dropped).length ≤ 1 := by
  have hs := (reach_ainv h).i3.g.freedSl hf
  have := token_conservation h
  refine ⟨hs, ?_, received_at_most_once h⟩
  simpa [hs] using this.1

/-- `OneShotShared::drop` runs only after every handle has released its reference, and nobody touches
the channel afterwards (every handle created so far is gone). -/
theorem freed_after_all_handles_gone (h : Reach progS progR s) (hf : s.freed = true) :
    s.gone .R = true ∧ ∀ i, i < s.nextH → s.gone (.S i) = true :=
  (allGone_iff _ _).mp ((reach_ainv h).j2b.g.freedG hf)

/-- the two unreachable arms of `try_recv` ("state was SENT but the slot is empty", "CAS SENT→TAKEN
failed") are dead code: no handle is ever there. -/
theorem try_recv_corrupt_arms_unreachable (h : Reach progS progR s) (a : Ag) :
    (s.loc a).m ≠ .tStClosed ∧ (s.loc a).m ≠ .tLdState2 ∧ (s.loc a).m ≠ .tLdCount2 :=
  have hd := (reach_ainv h).i3b.each a
  ⟨hd.dead1, hd.dead2, hd.dead3⟩

/-- mutual exclusion of the two critical sections on the state word: one writer, one taker. -/
theorem writer_taker_exclusive (h : Reach progS progR s) :
    (s.st = .writing ↔ s.writer ≠ none) ∧ (s.taker ≠ none → s.st = .taken ∧ s.slot ≠ none) :=
  ⟨(reach_ainv h).i2.g.stW, fun ht => ⟨(reach_ainv h).i3.g.tkSt ht, (reach_ainv h).i3.g.tkSl ht⟩⟩

/-! ## (b) C04: all senders gone and nothing sent ⇒ Disconnected; Disconnected is final -/

/-- `sender_count` is exactly the number of sender handles created so far that have not yet run their
`fetch_sub`; when it is 0 every handle has been closed / dropped / consumed. -/
theorem sender_count_is_live_handles (h : Reach progS progR s) :
    s.scount = cntF s.dec s.nextH ∧ (s.scount = 0 → ∀ i, i < s.nextH → s.dec i = true) :=
  ⟨(reach_ainv h).cnt.g.cntEq, count_zero_all_dec (reach_ainv h).cnt⟩

/-- C04, PARTIAL (hypothesis: no closed sender handle is ever cloned — `reopened = false`; with such a
clone the statement is false, see `C04_fails_senders_gone_empty_after_reopen`): a `try_recv` /
`recv` / poll that was CALLED when nothing had been sent and nothing could be (state CLOSED, or EMPTY with
`sender_count = 0`, i.e. every sender handle gone) can only return `Disconnected` — it never answers
Empty, never goes Pending, never parks; and that situation is stable until it returns. -/
theorem senders_gone_recv_disconnected_partial (h : Reach progS progR s) (hro : s.reopened = false)
    (hq : (s.loc .R).q = true) :
    (∀ r, (s.loc .R).m = .ret r → r = .disc) ∧ (s.loc .R).m ≠ .park ∧
    (s.st = .closed ∨ (s.scount = 0 ∧ s.st = .empty)) := by
  have he := (reach_ainv h).e7.each .R
  have hm := he.qMic rfl hro hq
  refine ⟨?_, ?_, he.qInv rfl hro hq⟩
  · intro r hr
    rcases hm with h1 | h1 | h1 | h1 | h1 <;> rw [hr] at h1 <;> cases h1
    rfl
  · intro hp
    rcases hm with h1 | h1 | h1 | h1 | h1 <;> rw [hp] at h1 <;> cases h1

/-- the C04 finality clause, at full strength (no hypothesis on the programs) -/
def disconnected_is_final_statement (progS : Nat → List Op) (progR : List Op) : Prop :=
  ∀ s, Reach progS progR s → Res.disc ∈ s.results .R →
    s.closed .R = true ∨ s.st = .closed ∨ s.st = .taken

/-- C04 (at full strength from fix a886a91 on — before it this was false without any clone: the
receiver answered Disconnected from a stale EMPTY + a fresh count 0 while the value was SENT): once the
receiver has been told `Disconnected`, its own handle is closed or the state word is CLOSED or TAKEN
— all three are permanent —, and it is not inside a claim of the value. -/
theorem disconnected_is_final (h : Reach progS progR s) (hd : Res.disc ∈ s.results .R) :
    (s.closed .R = true ∨ s.st = .closed ∨ s.st = .taken) ∧ (s.loc .R).m ≠ .tCasST ∧ (s.loc .R).m ≠ .tLock :=
  ⟨(reach_ainv h).d6.g.dDr hd, ((reach_ainv h).d6.each .R).dN rfl hd⟩

theorem disconnected_is_final_holds : disconnected_is_final_statement progS progR :=
  fun _ h hd => (disconnected_is_final h hd).1

/-- C04: … and from then on no step hands a value to the receiver: `received` is frozen. -/
theorem no_value_after_disconnected (h : Reach progS progR s)
    (hd : Res.disc ∈ s.results .R) {a : Ag} {s' : State} (hs : step s a .act = some s') :
    s'.received = s.received :=
  (step_tr hs).received.resolve_right fun ⟨ha, hm⟩ => (disconnected_is_final h hd).2.2 (ha ▸ hm)

/-- C04 "drain, then Disconnected" (full strength): when a receive answers `Disconnected` on a receiver
handle that was not itself closed, no value is sitting in the channel — the slot is empty and the state
is CLOSED (nothing was ever sent) or TAKEN (the value was handed out before). -/
theorem disconnected_only_after_drain (h : Reach progS progR s)
    (hd : (s.loc .R).m = .ret .disc ∨ Res.disc ∈ s.results .R) (hc : s.closed .R = false) :
    s.slot = none ∧ (s.st = .closed ∨ s.st = .taken) := by
  have hI := reach_ainv h
  have hst : s.st = .closed ∨ s.st = .taken := by
    have hD : s.closed .R = true ∨ s.st = .closed ∨ s.st = .taken :=
      hd.elim ((hI.d6.each .R).dDm rfl) hI.d6.g.dDr
    rcases hD with h1 | h1 | h1
    · rw [hc] at h1; cases h1
    · exact .inl h1
    · exact .inr h1
  refine ⟨?_, hst⟩
  cases hsl : s.slot with
  | none => rfl
  | some v =>
    exfalso
    have hne : s.slot ≠ none := by rw [hsl]; simp
    rcases hI.i3.g.slotU hne with h1 | h1 | hw
    · rcases hst with h2 | h2 <;> rw [h1] at h2 <;> cases h2
    · obtain ⟨b, hb⟩ := Option.ne_none_iff_exists'.mp h1
      rcases hI.d6.g.tkRd b hb with h2 | h2
      · subst h2
        have hT := hI.i3.takerAt .R hb
        simp only [inT] at hT
        rcases hT with h3 | h3
        · have := (hI.d6.each .R).ciR rfl (by simp [h3]); rw [hc] at this; cases this
        · rcases hd with h4 | h4
          · rw [h3] at h4; cases h4
          · exact ((hI.d6.each .R).dN rfl h4).2 h3
      · have := hI.j3.g.rdropCl h2; rw [hc] at this; cases this
    · have hw : s.st = .writing := hI.i2.g.stW.mpr hw
      rcases hst with h2 | h2 <;> rw [hw] at h2 <;> cases h2

/-! ## (c) C05 / C06: no lost wakeup, safety form -/

/-- a wake is in flight for executor thread `t`: some handle is about to take the waker, has taken the
executor waker of `t`, is in the tail of `decrement_senders` that ends in `wake`, or is the closer -/
def WakeInFlight (s : State) (t : Nat) : Prop :=
  (∃ b, (s.loc b).m = .wkUnpark t) ∨ (∃ b, inPW (s.loc b).m) ∨ s.closer ≠ none

/-- the FULL statement (false on the code: F18) -/
def no_lost_wakeup_statement (progS : Nat → List Op) (progR : List Op) : Prop :=
  ∀ s t, Reach progS progR s → (s.loc .R).m = .park → (s.loc .R).k = .recv t → s.tok t = false →
    ¬ WakeInFlight s t → s.st ≠ .sent ∧ s.st ≠ .closed ∧ s.scount ≠ 0

/-- C06, PARTIAL (excluded case: F18, as for `no_lost_wakeup_partial` below), manual-poll form: while the waker of a poll that answered
Pending is still registered (so no wake has been recorded for it) and no wake is in flight, the state is
not SENT, it is CLOSED only if the receiver closed it itself, and EMPTY only with a live sender. -/
theorem pending_future_no_lost_wakeup_partial (h : Reach progS progR s)
    (hw : s.waker ≠ none) (har : s.armed = true) (hcl : s.closed .R = false)
    (hn2 : ∀ b, ¬ inPW (s.loc b).m) (hn3 : s.closer = none) :
    s.st ≠ .sent ∧ (s.st = .closed → s.rClosedIt = true) ∧ (s.st = .empty → s.scount ≠ 0) := by
  have hI := reach_ainv h
  refine ⟨?_, ?_, ?_⟩
  · intro e
    obtain ⟨b, hb⟩ := hI.w8.c2s hw (.inl har) e
    exact hn2 b (by simp [inPW, hb])
  · intro e
    cases hr : s.rClosedIt with
    | true => rfl
    | false =>
      obtain ⟨b, hb⟩ := hI.w8.c2c hw (.inl har) ⟨hcl, e, hr⟩
      exact absurd hb (hn2 b)
  · intro e h0
    exact hI.cnt.g.c3 e h0 hn3

/-- C05 / C06, PARTIAL (the excluded case is exactly F18: state TAKEN with `sender_count = 0`, see
`C05_fails_F18_recv_parked_in_TAKEN_never_woken`): if the receiver is parked in `recv()` on thread `t`
with no park token and no wake is in flight, then its waker is still registered and armed, the state is
neither SENT nor CLOSED, and if every sender is gone (`sender_count = 0`) the state is TAKEN. -/
theorem no_lost_wakeup_partial (h : Reach progS progR s) {t : Nat}
    (hp : (s.loc .R).m = .park) (hk : (s.loc .R).k = .recv t) (ht : s.tok t = false)
    (hn : ¬ WakeInFlight s t) :
    s.waker = some (.task t) ∧ s.armed = true ∧ s.st ≠ .sent ∧ s.st ≠ .closed ∧
    (s.scount = 0 → s.st = .taken) := by
  have hI := reach_ainv h
  have hw := hI.w8
  simp only [WakeInFlight, not_or, not_exists] at hn
  obtain ⟨hn1, hn2, hn3⟩ := hn
  have hwk : s.waker = some (.task t) := by
    rcases hw.w1 t hk (.inr hp) with h1 | h1 | ⟨b, hb⟩
    · rw [ht] at h1; cases h1
    · exact h1
    · exact absurd hb (hn1 b)
  have hne : s.waker ≠ none := by rw [hwk]; simp
  have har := (hw.each .R).w1a rfl hp hne
  have hcl : s.closed .R = false := (hI.j3.each .R).recvOpen rfl (by simp [inRecvBody, hp])
  -- parked means the poll that registered the waker has answered Pending: the manual-poll form applies
  obtain ⟨hs, hc, he⟩ := pending_future_no_lost_wakeup_partial h hne har hcl hn2 (by simpa using hn3)
  have hc : s.st ≠ .closed := fun e => by
    have := (hw.each .R).pns rfl (.inl hp)
    rw [hc e] at this; cases this
  refine ⟨hwk, har, hs, hc, fun h0 => ?_⟩
  cases hst' : s.st with
  | empty => exact absurd h0 (he hst')
  | writing =>
    obtain ⟨i, hi⟩ := Option.ne_none_iff_exists'.mp (hI.i2.g.stW.mp hst')
    have := writer_counts hI.j2 hI.i2 hI.c5 hI.cnt i hi
    omega
  | sent => exact absurd hst' hs
  | taken => rfl
  | closed => exact absurd hst' hc

theorem run_reach {s s' : State} (h : Reach progS progR s) :
    ∀ (l : List (Ag × Label)), run s l = some s' → Reach progS progR s' :=
  fun l hr => Fv.run_closed (fun _ => rfl) (fun _ _ _ _ => rfl) (fun h hs => Reach.step h hs) l s s' h hr

/-- C05 / C06: the FULL no-lost-wakeup statement is FALSE on the code as it is (finding F18) — on the
program and schedule of `C05_fails_F18_recv_parked_in_TAKEN_never_woken` the receiver is parked without a
token, no wake is in flight, and `sender_count` is 0. -/
theorem no_lost_wakeup_fails_F18 : ¬ no_lost_wakeup_statement f18S f18R := by
  intro hst
  have hw : (run (init f18S f18R) f18Sched).map (fun s =>
      decide ((s.loc .R).m = .park ∧ (s.loc .R).k = .recv 7 ∧ s.tok 7 = false ∧ s.closer = none ∧ s.scount = 0 ∧
        s.nextH = 2 ∧ (s.loc (.S 0)).m = .idle ∧ (s.loc (.S 1)).m = .idle)) = some true := by decide
  cases hr : run (init f18S f18R) f18Sched with
  | none => simp [hr] at hw
  | some s =>
    simp only [hr, Option.map_some, Option.some.injEq, decide_eq_true_eq] at hw
    obtain ⟨hp, hk, ht, hc, h0, hn, hs0, hs1⟩ := hw
    have hreach : Reach f18S f18R s := run_reach Reach.init _ hr
    have hidle : ∀ b, (s.loc b).m = .park ∨ (s.loc b).m = .idle := by
      intro b
      cases b with
      | R => exact .inl hp
      | S i =>
        right
        match i with
        | 0 => exact hs0
        | 1 => exact hs1
        | n + 2 => exact ((reach_ainv hreach).j2.each (.S (n + 2))).freshM rfl (by show s.nextH ≤ n + 2; omega)
    have hnf : ¬ WakeInFlight s 7 := by
      simp only [WakeInFlight, not_or, not_exists]
      refine ⟨?_, ?_, by simp [hc]⟩
      · intro b hb; rcases hidle b with h1 | h1 <;> rw [h1] at hb <;> cases hb
      · intro b hb
        simp only [inPW] at hb
        rcases hidle b with h1 | h1 <;> rw [h1] at hb <;> simp at hb
    exact (hst s 7 hreach hp hk ht hnf).2.2 h0

-- `hp` is not needed: the call of any operation leaves these words alone (`Tr.of_idle`)
/-- C06: dropping a pending receive future touches nothing but the harness-level bookkeeping: the state
word, the slot, the waker registration, all counters, flags, tokens and the whole token history are
unchanged (so every invariant and theorem above survives it; `ReceiveFuture` has no `Drop`). -/
theorem dropfut_conserves_tokens {f : Nat} {rest : List Op} {s' : State}
    (hp : s.prog .R = .dropfut f :: rest) (hs : step s .R .call = some s') :
    s'.st = s.st ∧ s'.slot = s.slot ∧ s'.waker = s.waker ∧ s'.armed = s.armed ∧ s'.scount = s.scount ∧
    s'.rdrop = s.rdrop ∧ s'.closed = s.closed ∧ s'.tok = s.tok ∧ s'.moved = s.moved ∧
    s'.received = s.received ∧ s'.dropped = s.dropped ∧ s'.sres = s.sres ∧ s'.mover = s.mover := by
  rw [(step_tr hs).of_idle (stepCall_idle hs)]
  exact ⟨rfl, rfl, rfl, rfl, rfl, rfl, rfl, rfl, rfl, rfl, rfl, rfl, rfl⟩

end Fv.Props.OneshotB
