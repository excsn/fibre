import Fv.Lemmas.LogJsonEvent
import Fv.Lemmas.LogPattern
import Fv.Lemmas.LogRun
/-!
# C20 — log encoders are total and lossless; file rolling never loses or tears records
-/
namespace Fv.Props.C20
open Fv.Log

/-- serde_json's escaping is lossless for every string: the decoder returns exactly the input. -/
theorem json_string_roundtrip (s : Text) : Json.decodeString (Json.encodeString s) = some s := by
  simp only [Json.encodeString, Json.decodeString, if_true]
  rw [Json.parseStrBody_escape]

example : Json.decodeString (Json.encodeString "a\"\\\n\x01é".toList) = some "a\"\\\n\x01é".toList := json_string_roundtrip _

/-- An encoded string contains no character below 0x20 — in particular no raw newline. -/
theorem json_string_no_control (s : Text) : ∀ c ∈ Json.encodeString s, 0x20 ≤ c.toNat :=
  Json.encodeString_no_control s

/-! ## JSON-lines records

`Json.FloatsOk ev`: the renderings supplied for *finite* float fields are number tokens that are not
integer tokens (serde_json/ryu always prints a `.` or an exponent; trusted, and checked by the engine on
every generated case). `Json.KeysDistinct ev`: `fields` is a `HashMap`. Nothing is assumed about any string. -/

/-- The decoder reads back exactly the key/value map that `format_event` serialised — for every
event content (arbitrary strings, ints, bools, non-finite floats), nested or flattened. -/
theorem json_record_roundtrip (flatten : Bool) (ev : Event) (hf : Json.FloatsOk ev) :
    Json.parseLine (Json.formatEvent flatten ev) = some (Json.record flatten ev) :=
  Json.parseLine_formatEvent flatten ev hf

/-- A JSON-lines record is one line: `body ++ "\n"` where `body` has no character below 0x20
(no raw newline, carriage return or other control character). -/
theorem json_record_one_line (flatten : Bool) (ev : Event) (hf : Json.FloatsOk ev) :
    ∃ body, Json.formatEvent flatten ev = body ++ ['\n'] ∧ ∀ c ∈ body, 0x20 ≤ c.toNat :=
  ⟨Json.serObj (Json.record flatten ev), rfl, Json.serObjWith_no_control Json.serValue _
    fun e he => Json.serValue_no_control e.2 (Json.clean_record flatten ev hf e he)⟩

open Json in
/-- Nested (default) layout: decoding the record yields the event's level, target and message, and
under every custom field name exactly the field's JSON image (`toJson`: strings/ints/bools/debug
strings as themselves, finite floats as their number token) — and nothing under any other name. -/
theorem json_event_roundtrip (ev : Event) (hk : Json.KeysDistinct ev) (hf : Json.FloatsOk ev) :
    ∃ v, Json.decodeEvent false (Json.formatEvent false ev) = some v ∧ v.level = ev.level.text ∧
      v.target = ev.target ∧ v.message = ev.message ∧
      ∀ k, lookup k v.fields = (lookup k ev.fields).map Json.toJson := by
  obtain ⟨v, hv, hl, ht, hm, hfields⟩ := viewOf_record (fl := false) (ev := ev) hk nofun
  refine ⟨v, by simp only [decodeEvent, parseLine_formatEvent false ev hf, hv], hl, ht, hm, fun k => ?_⟩
  -- the `fields` object holds the nested fields (none when there are no custom fields)
  have : v.fields = nestedFields ev.fields [] := by
    rw [hfields]
    by_cases h : ev.fields.isEmpty = true
    · simp (decide := true) [record, lookup_coreMap, coreList, lookup, strValue, List.isEmpty_iff.1 h, nestedFields]
    · simp [record, h, lookup_insertKV]
  rw [this, nestedFields_eq, lookup_addAll _ _ _ hk]
  cases lookup k ev.fields <;> rfl

/-- strings, ints and bools are their own JSON image (definitionally) -/
theorem json_toJson_faithful (s : Text) (i : Int) (b : Bool) :
    Json.toJson (.str s) = .str s ∧ Json.toJson (.int i) = .int i ∧ Json.toJson (.bool b) = .bool b ∧
      Json.toJson (.debug s) = .str s :=
  ⟨rfl, rfl, rfl, rfl⟩

open Json in
/-- Flattened layout, partial: the same round trip holds when no custom field uses one of the nine
reserved core names (false without that hypothesis: `C20_fails_F13b`). -/
theorem json_event_roundtrip_flat_partial (ev : Event) (hk : Json.KeysDistinct ev) (hf : Json.FloatsOk ev)
    (hres : ∀ k ∈ ev.fields.map (·.1), Json.coreKeys.contains k = false) :
    ∃ v, Json.decodeEvent true (Json.formatEvent true ev) = some v ∧ v.level = ev.level.text ∧
      v.target = ev.target ∧ v.message = ev.message ∧
      ∀ k, lookup k v.fields = (lookup k ev.fields).map Json.toJson := by
  have hnot : ∀ k ∈ coreKeys, k ∉ ev.fields.map (·.1) := fun k hc hm => by simpa [hc] using hres k hm
  obtain ⟨v, hv, hl, ht, hm, hfields⟩ := viewOf_record (fl := true) (ev := ev) hk fun _ => hnot
  refine ⟨v, by simp only [decodeEvent, parseLine_formatEvent true ev hf, hv], hl, ht, hm, fun k => ?_⟩
  -- the record is the core map with every custom field added as a scalar
  have hrec : record true ev = flattenInto (coreMap ev) ev.fields := by
    simp only [record, if_true]
    split
    · next h => rw [List.isEmpty_iff.1 h]; rfl
    · rfl
  have hscal : ∀ e ∈ flattenInto (coreMap ev) ev.fields, ∃ s, e.2 = Value.scalar s :=
    flattenInto_eq .. ▸ forall_addAll (P := fun e => ∃ s, e.2 = Value.scalar s) _ _ _ _
      (fun e he => let ⟨_, s, h⟩ := mem_coreMap he; ⟨_, h⟩) fun k x v _ hv => ⟨_, (Option.some.inj hv).symm⟩
  rw [hfields, if_pos rfl, hrec, lookup_flatFields _ hscal, flattenInto_eq, lookup_addAll _ _ _ hk]
  by_cases hc : k ∈ coreKeys
  · simp [hc, lookup_eq_none_of_not_mem _ _ (hnot k hc)]
  · have : lookup k (coreMap ev) = none := lookup_eq_none_of_not_mem _ _ fun hm =>
      let ⟨_, he, hk⟩ := List.mem_map.1 hm; hc (hk ▸ (mem_coreMap he).1)
    simp only [List.contains_iff_mem, hc, if_false, this]
    cases lookup k ev.fields <;> rfl


/-! ## pattern encoder

All statements are about an *arbitrary* pattern string `pat` (parsed by the leftmost-first regex grammar of
`PatternFormatter::parse`) and an arbitrary event. `none` is the panic outcome of the one partial primitive
on the path, `{:>width$}` with a width above `u16::MAX` (`Pattern.fmtPad`). -/

/-- Totality: `format_event` never panics — for every pattern (hence every padding the parser can
produce, including `i32::MIN` and values above 65 535) and every event. -/
theorem pattern_total (pat : Text) (ev : Event) : ∃ out, Pattern.formatEvent pat ev = some out := by
  obtain ⟨out, ho⟩ := Pattern.renderSegs_total ev (Pattern.parse pat)
  exact ⟨Pattern.ensureNewline out, by simp only [Pattern.formatEvent, ho, Option.map_some]⟩

example : Pattern.formatEvent "%-2147483648m|%65536p".toList { timestamp := [], level := .info, target := [], name := [], message := some ['x'] } ≠ none := by
  intro h; obtain ⟨o, ho⟩ := pattern_total "%-2147483648m|%65536p".toList { timestamp := [], level := .info, target := [], name := [], message := some ['x'] }
  rw [h] at ho; cases ho

/-- What padding does: content at least `min(|p|, 65535)` bytes long is written unchanged, otherwise
spaces are added on the left (`p > 0`) or right up to `min(|p|, 65535)` characters. -/
theorem pattern_padding_spec (content : Text) (p : Int) :
    Pattern.applyPadding content p = some
      (if Pattern.padWidth p ≤ utf8Len content then content
       else if 0 < p then spaces (Pattern.padWidth p - content.length) ++ content
       else content ++ spaces (Pattern.padWidth p - content.length)) :=
  Pattern.applyPadding_eq content p

/-- every padding the parser produces fits an `i32` (a padding text outside that range means "no padding") -/
theorem pattern_padding_in_i32 (pat : Text) : ∀ s ∈ Pattern.parse pat, Pattern.SpecInRange s :=
  Pattern.parseGo_inRange _ _ _

/-- `%m` reproduces the message verbatim: whenever the pattern contains an `m` specifier (with or
without padding/options), the output contains the message as a contiguous substring (padding only
adds spaces around it). -/
theorem pattern_message_verbatim (pat : Text) (ev : Event) (p : Option Int) (o : Option Text)
    (hm : Pattern.Segment.spec 'm' p o ∈ Pattern.parse pat) :
    ∃ out, Pattern.formatEvent pat ev = some out ∧ ev.message.getD [] <:+: out := by
  obtain ⟨raw, hr⟩ := Pattern.renderSegs_total ev (Pattern.parse pat)
  refine ⟨Pattern.ensureNewline raw, by simp only [Pattern.formatEvent, hr, Option.map_some], ?_⟩
  exact Pattern.infix_ensureNewline _ _ (Pattern.message_verbatim_segs hr hm)

example : Pattern.Segment.spec 'm' (some 20) none ∈ Pattern.parse "[%d] %-5p %t - %20m%n".toList := by decide

/-- every rendered record ends with a newline -/
theorem pattern_ends_with_newline (pat : Text) (ev : Event) (out : Text) (h : Pattern.formatEvent pat ev = some out) :
    out.getLast? = some '\n' := by
  simp only [Pattern.formatEvent, Option.map_eq_some_iff] at h
  obtain ⟨raw, _, rfl⟩ := h
  exact Pattern.ensureNewline_last raw


/-! ## rolling file appender

`Run.run p r ops` performs any sequence of `write id len` / `advance secs` / `restart` (a new `CustomRoller` over the
existing directory); `r.written` is the ghost sequence of records handed to `write`. `Roller.canon p rolled active` is
the directory holding exactly the active file `prefix++suffix` with content `active` and, per entry of `rolled`, the
file `prefix.PERIOD.SEQ suffix[gz]` with that entry's records. `Roller.WF p` restricts the *names* only; every size
limit, granularity, retention count and compression setting is allowed.
`Run.Bounded`: clock before September 9994 (`tMax`) and fewer than 2^31-1 writes (u32 sequence numbers, four-digit years). -/

/- The three theorems below carry the hypothesis `WF p` on the *name* configuration and are therefore `_partial`
with respect to "every rolling policy": the code does not validate prefix / suffix / compressed suffix, and without
`WF` the statements are false of the code (`C20_fails_F17a`, `C20_fails_F17b`); they are also about one roller in its
own directory (`C20_fails_F15`). -/

open Roller in
/-- For every policy with well-formed names and every history of writes, clock steps and restarts:
the directory consists of exactly the active file and rolled files whose (period, sequence) keys are
strictly ascending; the rolled files' records in that order followed by the active file's are a *suffix*
of the written sequence (nothing lost in the middle, duplicated or reordered; only whole oldest files
disappear); and at most `max_retained_sequences` rolled files remain. -/
theorem roller_retained_suffix_partial (p : Roller.Policy) (hw : WF p) (t0 : Nat) (ops : List ROp)
    (hb : ((Run.init p t0).run p ops).Bounded) :
    ∃ rolled active,
      ((Run.init p t0).run p ops).fs.Perm (canon p rolled active) ∧
      rolled.Pairwise entryLt ∧
      (recsOf rolled ++ active) <:+ ((Run.init p t0).run p ops).written ∧
      (∀ n, p.maxRetained = some n → rolled.length ≤ n) := by
  obtain ⟨rolled, active, h⟩ := Run.run_inv hw (Run.init p t0) (init_inv p t0) ops hb
  exact ⟨rolled, active, h.perm, h.dir.asc, h.suffix, h.retained⟩

open Roller in
/-- Consequence: if the written records are pairwise distinct, no record occurs twice in the directory. -/
theorem roller_no_duplicates_partial (p : Roller.Policy) (hw : WF p) (t0 : Nat) (ops : List ROp)
    (hb : ((Run.init p t0).run p ops).Bounded) (hnd : ((Run.init p t0).run p ops).written.Nodup) :
    ∃ rolled active, ((Run.init p t0).run p ops).fs.Perm (canon p rolled active) ∧ (recsOf rolled ++ active).Nodup := by
  obtain ⟨rolled, active, h1, _, h3, _⟩ := roller_retained_suffix_partial p hw t0 ops hb
  exact ⟨rolled, active, h1, hnd.sublist h3.sublist⟩

open Roller in
/-- `rolled_path` never equals an existing name — for *any* directory content: the name `roll` renames
the active file to (period of the current period start, sequence `nextSeq` = 1 + highest discovered sequence
of that period) is not the name of any existing file. -/
theorem roller_no_clobber_partial (p : Roller.Policy) (hw : WF p) (fs : FS) (pstart : Nat)
    (hps : periodStart p.gran pstart = pstart) (hpr : pstart < tMax) (hseq : nextSeq p fs pstart < 4294967296) :
    rolledName p (stampOfSecs pstart) (nextSeq p fs pstart) ∉ fs.map (·.1) := by
  intro hmem
  obtain ⟨e, he, hn⟩ := List.mem_map.mp hmem
  -- a file of that name would have been discovered, with a sequence number below `nextSeq`
  have hparse : parseRolledName p (rolledName p (stampOfSecs pstart) (nextSeq p fs pstart)) = _ :=
    parse_entry p hw ⟨pstart, nextSeq p fs pstart, [], false⟩ ⟨hps, hpr, hseq⟩
  have hin := (List.mem_filterMap.2 ⟨e, he, hn ▸ hparse⟩ : _ ∈ fs.filterMap fun e => parseRolledName p e.1)
  have := (maxSeq_spec p (stampOfSecs pstart) _).1 _ ((sortRolled_spec _).1.mem_iff.2 hin) rfl
  simp only [nextSeq, toRF, findRolled] at this
  omega

open Roller in
/-- the file `roll` creates is named with `nextSeq` — the name `roller_no_clobber_partial` speaks about -/
theorem roller_roll_uses_nextSeq (p : Roller.Policy) (fs : FS) (st : RState) (now : Nat) :
    ∃ rest, (roll p fs st now).1 =
      cleanup p (fsOpen (fsRename fs (baseName p) (rolledName p (stampOfSecs st.pstart) (nextSeq p fs st.pstart))) (baseName p)).1 rest :=
  ⟨_, rfl⟩

section examples
open Roller
def polEx : Roller.Policy :=
  { pfx := "app".toList, sfx := ".log".toList, gran := .minutely, maxSize := some 40, maxRetained := some 2,
    compression := some { suffix := ".gz".toList, keep := 1 } }

example : WF polEx :=
  { clean := by decide, sfxHead := by decide, gzNe := by decide, gzNoDigit := by decide, sfxNotGz := by decide }

example : ((Run.init polEx 0).run polEx [.write 1 30, .write 2 30, .advance 70, .write 3 8, .restart, .write 4 50]).Bounded := by
  unfold Run.Bounded; decide +kernel
end examples


/-! ### F15: two rolling appenders in one directory whose prefixes are prefixes of each other -/

section F15
open Roller
def polA : Roller.Policy := { pfx := "app".toList, sfx := ".log".toList, gran := .daily, maxSize := some 20, maxRetained := some 1 }
def polB : Roller.Policy := { pfx := "app2".toList, sfx := ".log".toList, gran := .daily, maxSize := some 20, maxRetained := none }

example : WF polA := { clean := by decide, sfxHead := by decide, gzNe := by decide, gzNoDigit := by decide, sfxNotGz := by decide }
example : WF polB := { clean := by decide, sfxHead := by decide, gzNe := by decide, gzNoDigit := by decide, sfxNotGz := by decide }

/-- the shared directory after: A and B open, B writes records 1 and 2 (each write reaches B's size limit and rolls) -/
def f15Before : FS × RState :=
  let a := openRoller polA [] 0
  let b := openRoller polB a.1 0
  let b1 := write polB b.1 b.2 (1, 30) 0
  let b2 := write polB b1.1 b1.2 (2, 30) 0
  (b2.1, a.2)

/-- ... and then A writes record 3 (reaches A's size limit and rolls, retention `Some(1)`) -/
def f15After : FS := (write polA f15Before.1 f15Before.2 (3, 30) 0).1

def holdsRecord (fs : FS) (id : Nat) : Bool := fs.any (fun e => e.2.recs.any (fun r => r.1 = id))

/-- F15: both well-formed rollers alone satisfy `roller_retained_suffix_partial`; together, A's retention pass deletes
B's rolled files although B has no retention limit (records 1 and 2 of B vanish), and A's sequence number is
computed from the union (A's first rolled file gets sequence 3). -/
theorem C20_fails_F15 :
    polB.maxRetained = none ∧
    holdsRecord f15Before.1 1 = true ∧ holdsRecord f15Before.1 2 = true ∧
    holdsRecord f15After 1 = false ∧ holdsRecord f15After 2 = false ∧
    (fsGet f15After "app.1970-01-01.3.log".toList).isSome = true := by
  decide +kernel
end F15


/-! ### F17: name configurations the code accepts but its own file-name scheme cannot handle -/

section F17
open Roller
/-- prefix containing text the date/sequence regex matches -/
def polStamp : Roller.Policy := { pfx := "a.2020-01-01.7x".toList, sfx := ".log".toList, gran := .daily, maxSize := some 20 }
/-- empty `compressed_file_suffix`, compress everything -/
def polNoGz : Roller.Policy :=
  { pfx := "app".toList, sfx := ".log".toList, gran := .daily, maxSize := some 20, compression := some { suffix := [], keep := 0 } }

def runWrites (p : Roller.Policy) (ids : List Nat) : Run := (Run.init p 0).run p (ids.map (fun i => ROp.write i 30))

/-- F17a: with the prefix `a.2020-01-01.7x` every rolled file is "discovered" as (2020-01-01, 7), the sequence of the
current period is never found, every roll uses sequence 1 and renames over the previous rolled file: after two
writes (each reaches the size limit) record 1 is gone although there is no retention limit. -/
theorem C20_fails_F17a :
    polStamp.maxRetained = none ∧ holdsRecord (runWrites polStamp [1]).fs 1 = true ∧
      holdsRecord (runWrites polStamp [1, 2]).fs 1 = false ∧ holdsRecord (runWrites polStamp [1, 2]).fs 2 = true := by
  decide +kernel

/-- F17b: with an empty compressed suffix `compress_file` truncates and then removes the rolled file itself:
the record written is in no file afterwards although there is no retention limit. -/
theorem C20_fails_F17b :
    polNoGz.maxRetained = none ∧ (runWrites polNoGz [1]).written = [(1, 30)] ∧ holdsRecord (runWrites polNoGz [1]).fs 1 = false := by
  decide +kernel
end F17

def evF13 : Event :=
  { timestamp := "t".toList, level := .info, target := "a".toList, name := "n".toList, message := some "m".toList }

def evEx : Event :=
  { evF13 with fields := [("k\n".toList, .str "v\"".toList), ("n".toList, .int (-3)), ("f".toList, .float (some "1.5".toList) "1.5".toList),
                          ("inf".toList, .float none "inf".toList)] }

example : Json.KeysDistinct evEx := by unfold Json.KeysDistinct; decide
example : Json.FloatsOk evEx := by
  intro k r d h
  simp [evEx, evF13] at h
  obtain ⟨_, rfl, _⟩ := h
  exact ⟨by decide, by decide, by decide⟩

/-- F13a: a non-finite float field is written as `null`; what is decoded is not the field's value. -/
theorem C20_fails_F13a :
    let ev := { evF13 with fields := [("r".toList, LogValue.float none "NaN".toList)] }
    (Json.decodeEvent false (Json.formatEvent false ev)).map (·.fields) = some [("r".toList, Json.Scalar.null)] := by
  decide +kernel

/-- F13b: with `flatten_fields` a custom field named like a present core key is dropped. -/
theorem C20_fails_F13b :
    let ev := { evF13 with fields := [("level".toList, LogValue.str "custom".toList)] }
    (Json.decodeEvent true (Json.formatEvent true ev)).map (·.fields) = some []
    ∧ (Json.decodeEvent true (Json.formatEvent true ev)).map (·.level) = some "INFO".toList := by
  decide +kernel

end Fv.Props.C20
