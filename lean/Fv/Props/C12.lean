import Fv.Lemmas.CacheExpiry
/-
C12 — no expired entry is ever served.
-/
namespace Fv.Props.C12
open Fv.Cache
variable {P : Type}

/-- `get` / `fetch`: a returned value is the value of the resident entry of that key and that
    entry has reached neither its TTL deadline nor its idle deadline. -/
theorem get_serves_unexpired (cfg : Cfg) (s : State P) (k v : Nat) (h : (s.get cfg k).2 = some v) :
    ∃ e, (k, e) ∈ s.map ∧ e.vid = v ∧
      (e.expiresAt = 0 ∨ s.now < e.expiresAt) ∧ (∀ d, cfg.tti = some d → s.now < e.lastAccessed + d) := by
  obtain ⟨e, he, rfl, hx⟩ := get_some cfg s k v h
  exact Served.of_lookup he hx

theorem peek_serves_unexpired (cfg : Cfg) (s : State P) (k v : Nat) (h : s.peek cfg k = some v) :
    ∃ e, (k, e) ∈ s.map ∧ e.vid = v ∧
      (e.expiresAt = 0 ∨ s.now < e.expiresAt) ∧ (∀ d, cfg.tti = some d → s.now < e.lastAccessed + d) :=
  get_serves_unexpired cfg s k v ((get_snd cfg s k).trans h)

/-- non-vacuity: a fresh entry is served -/
example : (State.get (P := Unit) { ttl := some 10 } { map := [(1, { vid := 7, cost := 1, expiresAt := 15 })], now := 14 } 1).2 = some 7 := by decide

def cfgTtl : Cfg := { ttl := some 1000 }

/-- history of the F6 witness: insert at t0, wait for the TTL, `entry(k).or_insert` -/
def f6Run : State Unit × List Ret :=
  run cfgTtl nullOps () (State.fresh cfgTtl () 5000)
    [(.insert false 1 101 1, {}), (.advance 1000, {}), (.peek 1, {}), (.orInsert 1 102 1, {})]

/-- F6: `peek` reports the entry expired, `entry().or_insert` hands the expired value out. -/
theorem C12_fails_F6 : f6Run.2 = [.unit, .unit, .val none, .val (some 101)] := by decide

def cfgF7 : Cfg := { ttl := some 3000 }

/-- history of the F7 witness: one insert with a 3 s TTL, four `run_maintenance` calls without
    any time passing, then a read. -/
def f7Run : State Unit × List Ret :=
  run cfgF7 nullOps () (State.fresh cfgF7 () 5000)
    [(.insert false 1 101 1, {}), (.runMaintenance, {}), (.runMaintenance, {}), (.runMaintenance, {}),
     (.peek 1, {}), (.runMaintenance, {}), (.peek 1, {})]

/-- F7: the entry (deadline 8000, now 5000) is served after three maintenance calls and reported
    missing after the fourth — the wheel advanced a tick per call, not per elapsed second. The
    cache is unbounded, so "an unexpired entry of an unbounded cache is not reported missing" fails. -/
theorem C12_fails_F7 :
    f7Run.2 = [.unit, .unit, .unit, .unit, .val (some 101), .unit, .val none] ∧ f7Run.1.now = 5000 := by decide

def cfgF17 : Cfg := { ttl := some 1000 }

/-- history of the F17 witness: insert at t0, wait for the TTL, `compute` -/
def f17Run : State Unit × List Ret :=
  run cfgF17 nullOps () (State.fresh cfgF17 () 5000)
    [(.insert false 1 101 1, {}), (.advance 1000, {}), (.peek 1, {}), (.compute 1 102, {}), (.peek 1, {})]

/-- F17: `peek` reports the entry expired, `compute` runs its closure on the expired value and
    returns it (`Ok(old)`); the overwritten entry keeps the old deadline. -/
theorem C12_fails_F17 :
    f17Run.2 = [.unit, .unit, .val none, .computed (some (some 101)), .val none] := by decide

def cfgF18 : Cfg := { ttl := some 3000, tti := some 500, swr := some 1000 }

/-- history of the F18 witness: TTL 3 s, idle timeout 0.5 s, grace 1 s; insert, wait 3 s
    without touching the entry, `fetch_with` -/
def f18Run : State Unit × List Ret :=
  run cfgF18 nullOps () (State.fresh cfgF18 () 5000)
    [(.insert false 1 101 1, {}), (.advance 3000, {}), (.peek 1, {}), (.fetchWith 1 102 1, {})]

/-- F18: the entry has been idle for 3000 ≥ 500 (and `peek` reports it expired) but the
    stale-while-revalidate branch of `fetch_with` serves it: the branch never looks at the TTI. -/
theorem C12_fails_F18 : f18Run.2 = [.unit, .unit, .val none, .loaded 101 true true] := by decide

def cfgF19 : Cfg := { ttl := some 2000 }

/-- history of the F19 witness: insert k (timer in slot 2), `clear` (timer not cancelled), two
    seconds and two maintenance ticks later a fresh `entry(k).or_insert`, one more tick -/
def f19Run : State Unit × List Ret :=
  run cfgF19 nullOps () (State.fresh cfgF19 () 5000)
    [(.insert false 1 101 1, {}), (.clear, {}), (.advance 2000, {}), (.runMaintenance, {}), (.runMaintenance, {}),
     (.orInsert 1 102 1, {}), (.peek 1, {}), (.runMaintenance, {}), (.peek 1, {})]

/-- the same history up to (excluding) the last maintenance call -/
def f19Pre : State Unit × List Ret :=
  run cfgF19 nullOps () (State.fresh cfgF19 () 5000)
    [(.insert false 1 101 1, {}), (.clear, {}), (.advance 2000, {}), (.runMaintenance, {}), (.runMaintenance, {}),
     (.orInsert 1 102 1, {})]

/-- F19: the timer of the binding dropped by `clear` fires on the NEW binding of the same key
    (value 102, written at 7000, deadline 9000): it is served, then one maintenance call later — the
    clock still at 7000 — it is gone, in an unbounded cache. -/
theorem C12_fails_F19 :
    f19Run.2 = [.unit, .unit, .unit, .unit, .unit, .val (some 102), .val (some 102), .unit, .val none] ∧
    f19Run.1.now = 7000 ∧
    lookup f19Pre.1.map 1 = some { vid := 102, cost := 1, expiresAt := 9000 } := by decide

/-- the `(key, value id)` pairs an API call hands to its caller, for the read calls covered by
    `C12_reads_partial` -/
def readsOf (op : Op) (r : Ret) : List (Nat × Nat) :=
  match op with
  | .get k => (match r with | .val (some v) => [(k, v)] | _ => [])
  | .peek k => (match r with | .val (some v) => [(k, v)] | _ => [])
  | .hold k => (match r with | .val (some v) => [(k, v)] | _ => [])
  | .multiget _ _ => (match r with | .pairs l => l | _ => [])
  | .iter _ none => (match r with | .pairs l => l | _ => [])
  | .iterSnapshot none => (match r with | .pairs l => l | _ => [])
  | .snapshot => (match r with | .snap sn => sn.entries.map (fun q => (q.key, q.vid)) | _ => [])
  | .fetchWith k _ _ => (match r with | .loaded v false false => [(k, v)] | _ => [])
  | _ => []

/-- a fresh hit of `fetch_with` (not stale, loader not invoked) is the value of an unexpired binding -/
theorem fetchWith_fresh_served (cfg : Cfg) (s : State P) (k v c r : Nat)
    (h : (s.fetchWith cfg k v c).2 = .loaded r false false) : Served s.map s.now cfg.tti (k, r) := by
  rcases fetchWith_cases cfg s k v c with ⟨e, he, hx, heq⟩ | ⟨_, heq⟩ | ⟨e, g, _, _, _, _, heq⟩ <;> rw [heq] at h <;>
    cases h
  exact Served.of_lookup he hx

/-- **C12, read paths.**  For every configuration, policy, oracle and state, every `(key, value)`
    pair handed out by `get`/`fetch`, `peek`, `hold` (a `fetch` keeping the `Arc`), `multiget`
    (sync and async), the batching iterator and the snapshot iterator run without interleaving,
    `to_snapshot`, and a fresh hit of `fetch_with`, is the value of a binding that was in the map
    when the call started and that was `Unexpired` at the time of the call (TTL deadline — also a
    per-item one set by `insert_with_ttl` — not reached, idle deadline not reached).

    `_partial`: the calls NOT covered, because the code serves expired values there, are exactly
    `entry().or_insert` (F6, `C12_fails_F6`), `compute` (F17, `C12_fails_F17`) and the
    stale-while-revalidate branch of `fetch_with` (F18, `C12_fails_F18`; what that branch does
    guarantee is `fetchWith_stale_window`).  Calls that hand out values they REMOVE (`remove`,
    `multi_remove`) are not reads.  The batching iterator with a clock advance between two
    batches is `C12_iter_interleaved`. -/
theorem C12_reads_partial (cfg : Cfg) (ops : PolicyOps P) (p0 : P) (o : Oracle) (s : State P) (op : Op) :
    ∀ p ∈ readsOf op (stepOp cfg ops p0 o s op).2,
      ∃ e, (p.1, e) ∈ s.map ∧ e.vid = p.2 ∧ Unexpired e s.now cfg.tti := by
  intro p hp
  show Served s.map s.now cfg.tti p
  have single : ∀ (k : Nat) (v : Option Nat), (∀ x, v = some x → Served s.map s.now cfg.tti (k, x)) →
      p ∈ readsOf (.get k) (.val v) → Served s.map s.now cfg.tti p := by
    intro k v h hp
    cases v with
    | none => simp [readsOf] at hp
    | some x => simp [readsOf] at hp; subst hp; exact h x rfl
  cases op with
  | get k => exact single k _ (get_serves_unexpired cfg s.resetLogs k) hp
  | peek k => exact single k _ (peek_serves_unexpired cfg s.resetLogs k) hp
  | hold k =>
    rw [stepOp_hold, holdOf_ret] at hp
    exact single k _ (get_serves_unexpired cfg s.resetLogs k) hp
  | multiget a ks =>
    obtain ⟨found, hf, _, h⟩ := multiget_lift ops o (Fresh.rel cfg s.map) p0 s a ks
    rw [hf] at hp
    exact (h p hp).elim (fun h => nomatch h)
      (fun h => Served.of_hit (s := s.resetLogs) (RelM.of_sub (fun _ h => h)) h.2)
  | iter b inter =>
    cases inter with
    | some ad => simp [readsOf] at hp
    | none =>
      exact iterAll_good cfg ops o s.resetLogs b none (Served s.map s.now cfg.tti) (fun _ h => h)
        (fun a d h => by cases h) p hp
  | iterSnapshot inter =>
    cases inter with
    | some ad => simp [readsOf] at hp
    | none => exact iterSnapshotAll_served cfg ops o s.resetLogs p hp
  | snapshot =>
    obtain ⟨q, hq, rfl⟩ := List.mem_map.1 (show p ∈ (s.resetLogs.toSnapshot cfg ops o).2.entries.map _ from hp)
    exact toSnapshot_served cfg ops o s.resetLogs q hq
  | fetchWith k v c =>
    change p ∈ readsOf (.fetchWith k v c) (s.resetLogs.fetchWith cfg k v c).2 at hp
    generalize hr : (s.resetLogs.fetchWith cfg k v c).2 = r at hp
    cases r with
    | loaded x st ld =>
      cases st <;> cases ld <;> simp [readsOf] at hp
      subst hp
      exact fetchWith_fresh_served cfg s.resetLogs k v c x hr
    | _ => simp [readsOf] at hp
  | _ => simp [readsOf] at hp

/-- non-vacuity of `fetchWith_fresh_served`: a hit one time unit before the TTL deadline -/
example : (State.fetchWith (P := Unit) { ttl := some 3000 }
    { map := [(1, { vid := 101, cost := 1, expiresAt := 8000 })], now := 7999 } 1 102 1).2 = .loaded 101 false false := by
  decide

/-- a state with one live and one TTL-expired binding -/
def exSt : State Unit :=
  { map := [(1, { vid := 101, cost := 1, expiresAt := 9000 }), (2, { vid := 102, cost := 1, expiresAt := 6000 })],
    aux := freshAux cfgTtl (), now := 7000 }

/-- non-vacuity: the read calls do hand out pairs, and only the live one -/
example : readsOf (.multiget false [1, 2]) (stepOp cfgTtl nullOps () {} exSt (.multiget false [1, 2])).2 = [(1, 101)] := by
  decide
example : readsOf (.iter 1 none) (stepOp cfgTtl nullOps () { ord := [2, 1] } exSt (.iter 1 none)).2 = [(1, 101)] := by
  decide
example : readsOf (.iterSnapshot none) (stepOp cfgTtl nullOps () {} exSt (.iterSnapshot none)).2 = [(1, 101)] := by
  decide
example : readsOf .snapshot (stepOp cfgTtl nullOps () {} exSt .snapshot).2 = [(1, 101)] := by decide
example : readsOf (.fetchWith 1 7 1) (stepOp cfgTtl nullOps () {} exSt (.fetchWith 1 7 1)).2 = [(1, 101)] := by decide

/-- `Iter::refill_buffer` performed at time `now` only appends to the buffer, and every item it
    appends is the value of a binding of the map that is unexpired at `now`. -/
theorem refill_serves_unexpired (nshards batch : Nat) (keysOf : Nat → List Nat) (m : List (Nat × Entry))
    (now : Nat) (tti : Option Nat) (it : IterSt) :
    ∃ added, (refill nshards batch keysOf m now tti it).buffer = it.buffer ++ added ∧
      ∀ p ∈ added, ∃ e, (p.1, e) ∈ m ∧ e.vid = p.2 ∧ Unexpired e now tti :=
  refill_appends nshards batch keysOf m now tti it

/-- non-vacuity: a refill of batch size 2 over the keys `[2, 1]` buffers the live entry only -/
example : (refill 1 2 (fun _ => [2, 1]) exSt.map 7000 none {}).buffer = [(1, 101)] := by decide

/-- the batching iterator with the clock advanced by `d` between two `next()` calls: every
    yielded pair is the value of a binding of the map at the start of the call that was unexpired
    at one of the two times at which a batch can have been fetched — the clock at the start of
    the call or the advanced clock.  (An item buffered before the advance may be yielded after
    it: the read happens at the refill.) -/
theorem C12_iter_interleaved (cfg : Cfg) (ops : PolicyOps P) (p0 : P) (o : Oracle) (s : State P)
    (batch after d : Nat) (l : List (Nat × Nat))
    (h : (stepOp cfg ops p0 o s (.iter batch (some (after, d)))).2 = .pairs l) :
    ∀ p ∈ l, ∃ e, (p.1, e) ∈ s.map ∧ e.vid = p.2 ∧
      (Unexpired e s.now cfg.tti ∨ Unexpired e (s.now + d) cfg.tti) := by
  change Ret.pairs (s.resetLogs.iterAll cfg ops o batch (some (after, d))).2 = .pairs l at h
  injection h with h
  subst h
  refine iterAll_good cfg ops o s.resetLogs batch (some (after, d))
    (fun p => ∃ e, (p.1, e) ∈ s.map ∧ e.vid = p.2 ∧ (Unexpired e s.now cfg.tti ∨ Unexpired e (s.now + d) cfg.tti))
    ?_ ?_
  · rintro p ⟨e, h1, h2, h3⟩; exact ⟨e, h1, h2, Or.inl h3⟩
  · intro a d' hi p hp
    cases hi
    obtain ⟨e, h1, h2, h3⟩ := hp
    exact ⟨e, h1, h2, Or.inr h3⟩

/-- non-vacuity: batch size 1, clock advanced by 2500 after the first item: key 1 (deadline 9000)
    is fetched at 7000 and yielded; the second batch is fetched at 9500, when everything is expired -/
example : (stepOp cfgTtl nullOps () { ord := [1, 2] } exSt (.iter 1 (some (1, 2500)))).2 = .pairs [(1, 101)] := by
  decide

/-- `peek` changes nothing but the per-call ghost logs: it does not refresh the idle clock of the
    entry (the map is unchanged), records no access (batchers / policies unchanged) and counts
    neither a hit nor a miss. -/
theorem peek_does_not_refresh (cfg : Cfg) (ops : PolicyOps P) (p0 : P) (o : Oracle) (s : State P) (k : Nat) :
    (stepOp cfg ops p0 o s (.peek k)).1.map = s.map ∧ (stepOp cfg ops p0 o s (.peek k)).1.aux = s.aux ∧
    (stepOp cfg ops p0 o s (.peek k)).1.met = s.met ∧ (stepOp cfg ops p0 o s (.peek k)).1.now = s.now :=
  ⟨rfl, rfl, rfl, rfl⟩

def cfgTti : Cfg := { tti := some 500 }

/-- a state of a TTI cache: key 1 last accessed at 6800, key 2 at 6000 (idle-expired at 7000) -/
def exStTti : State Unit :=
  { map := [(1, { vid := 101, cost := 1, lastAccessed := 6800 }), (2, { vid := 102, cost := 1, lastAccessed := 6000 })],
    aux := freshAux cfgTti (), now := 7000 }

/-- non-vacuity: a `peek` hit -/
example : (stepOp cfgTti nullOps () {} exStTti (.peek 1)).2 = .val (some 101) := by decide

/-- a `get` hit in a cache with an idle timeout sets `last_accessed` of that entry to the current
    time and changes nothing else of it; the bindings of all other keys are untouched. -/
theorem get_refreshes_idle_clock (cfg : Cfg) (ops : PolicyOps P) (p0 : P) (o : Oracle) (s : State P)
    (k v d : Nat) (htti : cfg.tti = some d) (h : (stepOp cfg ops p0 o s (.get k)).2 = .val (some v)) :
    ∃ e, lookup s.map k = some e ∧ e.vid = v ∧
      lookup (stepOp cfg ops p0 o s (.get k)).1.map k = some { e with lastAccessed := s.now } ∧
      ∀ k', k' ≠ k → lookup (stepOp cfg ops p0 o s (.get k)).1.map k' = lookup s.map k' := by
  change Ret.val (s.resetLogs.get cfg k).2 = .val (some v) at h
  change ∃ e, lookup s.map k = some e ∧ e.vid = v ∧
      lookup (s.resetLogs.get cfg k).1.map k = some { e with lastAccessed := s.now } ∧
      ∀ k', k' ≠ k → lookup (s.resetLogs.get cfg k).1.map k' = lookup s.map k'
  rcases get_cases cfg s.resetLogs k with ⟨hg, _⟩ | ⟨e, he, _, hg⟩
  · rw [hg] at h; simp at h
  · rw [hg] at h ⊢
    simp at h
    refine ⟨e, he, h, ?_, ?_⟩
    · simp only [hit_map, onHit_map, lookup_put_self, Entry.touch, htti, resetLogs_now]
    · intro k' hk
      simp only [hit_map, onHit_map, resetLogs_map]
      exact lookup_put_ne _ _ hk

/-- non-vacuity: the hypotheses hold for key 1 of `exStTti` -/
example : (stepOp cfgTti nullOps () {} exStTti (.get 1)).2 = .val (some 101) ∧
    lookup (stepOp cfgTti nullOps () {} exStTti (.get 1)).1.map 1 = some { vid := 101, cost := 1, lastAccessed := 7000 } := by
  decide

/-- `fetch_with` serves a STALE value only inside the grace window: the cache has a grace period
    `g`, the value is the one bound to the key, its TTL deadline has passed by less than `g`; the
    loader runs exactly once (the refresh, which the model runs inside the call) and afterwards the
    key is bound to the freshly loaded value.  What is NOT guaranteed (F18, `C12_fails_F18`) is
    that the served binding has not idled out. -/
theorem fetchWith_stale_window (cfg : Cfg) (s : State P) (k v c r : Nat) (l : Bool)
    (h : (s.fetchWith cfg k v c).2 = .loaded r true l) :
    ∃ e g, cfg.swr = some g ∧ lookup s.map k = some e ∧ (k, e) ∈ s.map ∧ e.vid = r ∧
      e.expiresAt ≠ 0 ∧ e.expiresAt ≤ s.now ∧ s.now < e.expiresAt + g ∧ l = true ∧
      ∃ e', lookup (s.fetchWith cfg k v c).1.map k = some e' ∧ e'.vid = v := by
  rcases fetchWith_cases cfg s k v c with ⟨e, _, _, heq⟩ | ⟨_, heq⟩ | ⟨e, g, he, hg, hf, hlt, heq⟩ <;> rw [heq] at h ⊢ <;>
    cases h
  refine ⟨e, g, hg, he, lookup_mem he, rfl, fun h0 => hf (Or.inl h0), ?_, hlt, rfl, _, lookup_put_self _ _ _, rfl⟩
  exact Nat.le_of_not_lt (fun h0 => hf (Or.inr h0))

/-- non-vacuity: TTL deadline 8000 passed by 500 < grace 1000 -/
example : (State.fetchWith (P := Unit) { ttl := some 3000, swr := some 1000 }
    { map := [(1, { vid := 101, cost := 1, expiresAt := 8000 })], now := 8500 } 1 102 1).2 = .loaded 101 true true := by
  decide

/-- `fetch_with` invoking the loader without serving a stale value: the value returned is the
    freshly loaded one, the key had no unexpired binding, and afterwards the key is bound to the
    loaded value. -/
theorem fetchWith_miss_loads (cfg : Cfg) (s : State P) (k v c r : Nat)
    (h : (s.fetchWith cfg k v c).2 = .loaded r false true) :
    r = v ∧ (∀ e, lookup s.map k = some e → ¬ Unexpired e s.now cfg.tti) ∧
      ∃ e', lookup (s.fetchWith cfg k v c).1.map k = some e' ∧ e'.vid = v := by
  rcases fetchWith_cases cfg s k v c with ⟨e, _, _, heq⟩ | ⟨hdead, heq⟩ | ⟨e, g, _, _, _, _, heq⟩ <;> rw [heq] at h ⊢ <;>
    cases h
  refine ⟨rfl, fun e he hu => ?_, _, lookup_put_self _ _ _, rfl⟩
  rcases hdead e he with hx | hx
  · exact (not_unexpired_iff e s.now cfg.tti).1 hx hu
  · exact hx hu.1

/-- non-vacuity: a miss on an expired binding outside the grace window -/
example : (State.fetchWith (P := Unit) { ttl := some 3000, swr := some 1000 }
    { map := [(1, { vid := 101, cost := 1, expiresAt := 8000 })], now := 9000 } 1 102 1).2 = .loaded 102 false true := by
  decide

/-- the opportunistic maintenance of a synchronous insert cannot remove the entry when the policy names no victims -/
theorem insert_binds (cfg : Cfg) (ops : PolicyOps P) (o : Oracle) (s : State P) (a : Bool) (k : Nat) (e : Entry)
    (td : Option Nat) (h : a = true ∨ NoVictims ops) :
    ∃ t, lookup (if a then s.insertCore cfg k e td true
                 else (s.insertCore cfg k e td true).opportunistic cfg ops o k).map k = some { e with timer := t } := by
  obtain ⟨t, hp⟩ := insertCore_put cfg s k e td true
  have hl : lookup (s.insertCore cfg k e td true).map k = some { e with timer := t } := by
    rw [hp.map]; exact lookup_put_self _ _ _
  refine ⟨t, ?_⟩
  cases a with
  | true => exact hl
  | false =>
    have hnv := h.resolve_left (fun h => nomatch h)
    rcases (opportunistic_mstep cfg ops o (s.insertCore cfg k e td true) k).look k with h' | ⟨_, hc⟩
    · exact h'.trans hl
    · exact absurd hc (hnv.not_nominates k)

/-- `insert_with_ttl(k, v, cost, ttl)` at time `now` binds `k` to `v` with the PER-ITEM deadline
    `now + ttl` (whatever the cache-wide TTL is) and, in a TTI cache, a fresh idle clock; so by
    `Unexpired` the binding counts as unexpired at `t` exactly when `t < now + ttl` and
    `t < now + tti`, and by `C12_reads_partial` it is served by the read paths only then.
    Stated for the async handle (no maintenance inside the call) and, for the sync handle, for a
    policy that names no victims (the opportunistic maintenance then removes nothing). -/
theorem insertTtl_sets_deadline (cfg : Cfg) (ops : PolicyOps P) (p0 : P) (o : Oracle) (s : State P)
    (a : Bool) (k vid cost ttl : Nat) (h : a = true ∨ NoVictims ops) :
    ∃ e', lookup (stepOp cfg ops p0 o s (.insertTtl a k vid cost ttl)).1.map k = some e' ∧ e'.vid = vid ∧
      e'.cost = cost ∧ e'.expiresAt = s.now + ttl ∧ (∀ d, cfg.tti = some d → e'.lastAccessed = s.now) := by
  obtain ⟨t, ht⟩ := insert_binds cfg ops o s.resetLogs a k (Entry.mkCustom vid cost s.now (s.now + ttl) cfg.tti) (some ttl) h
  refine ⟨_, ht, rfl, rfl, rfl, fun d hd => ?_⟩
  simp [Entry.mkCustom, hd]

/-- `insert(k, v, cost)`: the deadline is `now + cache TTL`, or none (`0`) without a cache TTL. -/
theorem insert_sets_deadline (cfg : Cfg) (ops : PolicyOps P) (p0 : P) (o : Oracle) (s : State P)
    (a : Bool) (k vid cost : Nat) (h : a = true ∨ NoVictims ops) :
    ∃ e', lookup (stepOp cfg ops p0 o s (.insert a k vid cost)).1.map k = some e' ∧ e'.vid = vid ∧
      e'.cost = cost ∧ e'.expiresAt = (match cfg.ttl with | some d => s.now + d | none => 0) ∧
      (∀ d, cfg.tti = some d → e'.lastAccessed = s.now) := by
  obtain ⟨t, ht⟩ := insert_binds cfg ops o s.resetLogs a k (Entry.mk' vid cost s.now cfg.ttl cfg.tti) cfg.ttl h
  refine ⟨_, ht, rfl, rfl, rfl, fun d hd => ?_⟩
  simp [Entry.mk', hd]

/-- non-vacuity: a per-item TTL of 300 in a cache whose TTL is 1000: served at +299, not at +300 -/
example : (run cfgTtl nullOps () (State.fresh cfgTtl () 5000)
    [(.insertTtl false 1 101 1 300, {}), (.advance 299, {}), (.get 1, {}), (.advance 1, {}), (.get 1, {})]).2
    = [.unit, .unit, .val (some 101), .unit, .val none] := by decide

/-- the calls whose job is to remove bindings, and `run_maintenance` (treated separately below) -/
def removalOp : Op → Bool
  | .runMaintenance => true
  | .remove _ => true
  | .invalidate _ => true
  | .multiRemove _ => true
  | .clear => true
  | .restore => true
  | _ => false

/-- **C12, unbounded cache, every call but `run_maintenance`.**  If the policy never names a
    victim when it admits a key (`NoVictims`: the policy of an unbounded cache), then no call other
    than the removal calls (`remove`, `invalidate`, `multi_remove`, `clear`, rebuilding the cache
    from a snapshot) and `run_maintenance` unbinds a key: every key visibly bound before the call
    is visibly bound after it, to an entry with the same value or with a value written by this call.
    (So a key whose entry is unexpired cannot start being reported missing by such a call; by
    `peek_serves_unexpired`/`get_serves_unexpired` read the other way round, a bound unexpired key
    IS served.)

    `_partial`: `run_maintenance` is excluded — for it the clause is FALSE on the code (F7,
    `C12_fails_F7`; F19, `C12_fails_F19`); what holds there is `runMaintenance_removes_only` and
    `runMaintenance_unbounded_partial`. -/
theorem C12_unbounded_partial (cfg : Cfg) (ops : PolicyOps P) (p0 : P) (o : Oracle) (s : State P) (op : Op)
    (hnv : NoVictims ops) (hop : removalOp op = false) :
    ∀ k e, lookup s.map k = some e →
      ∃ e', lookup (stepOp cfg ops p0 o s op).1.map k = some e' ∧ (e'.vid = e.vid ∨ e'.vid ∈ writesOf op) := by
  refine stepOp_lift ops o (Kept.rel cfg (writesOf op)) p0 s op (fun hp h => Kept.of_put hp h)
    (fun he _ hv ht => ht.map ▸ Kept.put (fun e0 h0 => by rw [he] at h0; cases h0; exact hv))
    (fun _ hk => ?_)
    (fun _ s vs hv => (evictAll_mstep cfg ops s vs hv).kept hnv.not_nominates)
    (fun _ _ => Kept.refl _ _) (fun hs => ?_)
  · cases op <;> first | exact hk.elim | cases hop
  · cases op <;> first | exact hs.elim | exact Bool.noConfusion hop | skip
    case snapshot => exact (flush_mstep cfg ops o _).kept hnv.not_nominates
    case release =>
      intro k e (he : lookup s.map k = some e)
      refine ⟨{ e with pinned := false }, ?_, Or.inl rfl⟩
      show lookup (s.map.map (fun (p : Nat × Entry) => (p.1, { p.2 with pinned := false }))) k = _
      rw [lookup_map_fst (fun (p : Nat × Entry) => (p.1, { p.2 with pinned := false })) (fun _ => rfl), he]
      rfl
    case gate closed => cases closed <;> exact Kept.refl _ _

/-- the same in terms of membership: no binding disappears -/
theorem C12_unbounded_mem_partial (cfg : Cfg) (ops : PolicyOps P) (p0 : P) (o : Oracle) (s : State P) (op : Op)
    (hnv : NoVictims ops) (hop : removalOp op = false) :
    ∀ k e, (k, e) ∈ s.map → ∃ e', (k, e') ∈ (stepOp cfg ops p0 o s op).1.map := by
  intro k e hm
  obtain ⟨e0, h0⟩ := lookup_isSome_of_mem hm
  obtain ⟨e', h', _⟩ := C12_unbounded_partial cfg ops p0 o s op hnv hop k e0 h0
  exact ⟨e', lookup_mem h'⟩

/-- non-vacuity: the null policy has no victims, `insert` is not a removal call, `exSt` has bindings -/
example : NoVictims nullOps ∧ removalOp (.insert false 2 7 1) = false ∧
    lookup exSt.map 1 = some { vid := 101, cost := 1, expiresAt := 9000 } ∧
    lookup (stepOp cfgTtl nullOps () {} exSt (.insert false 2 7 1)).1.map 1 = some { vid := 101, cost := 1, expiresAt := 9000 } :=
  ⟨nullOps_noVictims, rfl, by decide, by decide⟩

theorem runMaintenance_never_rebinds (cfg : Cfg) (ops : PolicyOps P) (p0 : P) (o : Oracle) (s : State P) (k : Nat) :
    lookup (stepOp cfg ops p0 o s .runMaintenance).1.map k = lookup s.map k ∨
    lookup (stepOp cfg ops p0 o s .runMaintenance).1.map k = none := by
  rcases (runMaintenance_mstep cfg ops o s.resetLogs).look k with h | ⟨h, _⟩
  · exact Or.inl h
  · exact Or.inr h

/-- **What `run_maintenance` removes.**  A key bound to `e` before the call and unbound after it
    falls under one of:
    * the cache has a TTI (the only configuration in which the expiry sampling pass runs) and `e`
      was expired at the time of the call;
    * the timer wheel of some shard, as it stood when the call started, fires the key on its next
      tick (`cleanup_ttl_for_shard`);
    * the policy nominated it: as a victim of an admission (`AdmitAndEvict`), or in the capacity pass.

    A wheel firing is NOT an expiry: the wheel advances one tick per call whatever the clock says
    (F7, `C12_fails_F7`) and timers outlive the binding they were set for (F19, `C12_fails_F19`), so
    the second disjunct does not imply that `e` was expired — that is the hypothesis
    `runMaintenance_unbounded_partial` needs. -/
theorem runMaintenance_removes_only (cfg : Cfg) (ops : PolicyOps P) (p0 : P) (o : Oracle) (s : State P)
    (k : Nat) (e : Entry) (hb : lookup s.map k = some e)
    (hg : lookup (stepOp cfg ops p0 o s .runMaintenance).1.map k = none) :
    (cfg.tti.isSome ∧ ¬ Unexpired e s.now cfg.tti) ∨
    (∃ i w, i < cfg.nshards ∧ whL s.aux i = some w ∧ k ∈ w.advance.2) ∨
    AdmitNominates ops k ∨ EvictNominates ops k := by
  rcases (runMaintenance_mstep cfg ops o s.resetLogs).look k with h | ⟨_, hc⟩
  · have h' : lookup (stepOp cfg ops p0 o s .runMaintenance).1.map k = lookup s.map k := h
    rw [hg, hb] at h'; cases h'
  · rcases hc with ⟨h1, e', he', hx⟩ | hc
    · left
      have : e' = e := by
        have he2 : lookup s.map k = some e' := he'
        rw [hb] at he2; cases he2; rfl
      subst this
      exact ⟨h1, (not_unexpired_iff e' s.now cfg.tti).1 hx⟩
    · exact Or.inr hc

/-- non-vacuity (this is the F7 situation): the fourth maintenance call removes key 1 -/
def f7Pre : State Unit × List Ret :=
  run cfgF7 nullOps () (State.fresh cfgF7 () 5000)
    [(.insert false 1 101 1, {}), (.runMaintenance, {}), (.runMaintenance, {}), (.runMaintenance, {})]
example : (lookup f7Pre.1.map 1).isSome = true ∧
    lookup (stepOp cfgF7 nullOps () {} f7Pre.1 .runMaintenance).1.map 1 = none := by decide

/-- **C12, unbounded cache, `run_maintenance`.**  With a policy that never nominates a victim, an
    UNEXPIRED binding survives `run_maintenance` unchanged —

    `_partial`: — PROVIDED no shard's timer wheel fires the key on its next tick.  That hypothesis
    is what the code fails to derive from "unexpired" (F7: one tick per call, not per elapsed tick
    duration; F19: timers of bindings dropped by `clear`/eviction/loader overwrite are never
    cancelled): `C12_fails_F7`, `C12_fails_F19`. -/
theorem runMaintenance_unbounded_partial (cfg : Cfg) (ops : PolicyOps P) (p0 : P) (o : Oracle) (s : State P)
    (k : Nat) (e : Entry) (hnv : NoVictims ops) (hne : ∀ k, ¬ EvictNominates ops k)
    (hb : lookup s.map k = some e) (hu : Unexpired e s.now cfg.tti)
    (hwheel : ∀ i w, i < cfg.nshards → whL s.aux i = some w → k ∉ w.advance.2) :
    lookup (stepOp cfg ops p0 o s .runMaintenance).1.map k = some e := by
  rcases runMaintenance_never_rebinds cfg ops p0 o s k with h | h
  · rw [h, hb]
  · rcases runMaintenance_removes_only cfg ops p0 o s k e hb h with ⟨_, h1⟩ | ⟨i, w, h1, h2, h3⟩ | h1 | h1
    · exact absurd hu h1
    · exact absurd h3 (hwheel i w h1 h2)
    · exact absurd h1 (hnv.not_nominates k)
    · exact absurd h1 (hne k)

/-- non-vacuity: in `exSt` (fresh wheels: nothing scheduled) key 1 is unexpired and no wheel fires it -/
example : NoVictims nullOps ∧ (∀ k, ¬ EvictNominates nullOps k) ∧
    lookup exSt.map 1 = some { vid := 101, cost := 1, expiresAt := 9000 } ∧
    Unexpired { vid := 101, cost := 1, expiresAt := 9000 } exSt.now cfgTtl.tti ∧
    (∀ i w, i < cfgTtl.nshards → whL exSt.aux i = some w → 1 ∉ w.advance.2) := by
  refine ⟨nullOps_noVictims, nullOps_noEvict, by decide, ⟨Or.inr (by decide), fun d h => by cases h⟩, ?_⟩
  intro i w hi hw
  have hi0 : i = 0 := by
    have : cfgTtl.nshards = 1 := rfl
    omega
  subst hi0
  have : w = Wheel.new 60 1000 := by
    have h2 : whL exSt.aux 0 = some (Wheel.new 60 1000) := by decide
    rw [h2] at hw; cases hw; rfl
  subst this
  decide

end Fv.Props.C12
