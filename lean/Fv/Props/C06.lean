import Fv.Chan.Fut
import Fv.Lemmas.ChanLinCore
/-!
# C06 — async: woken when enabled; cancellation harmless (history level)

Futures are the same operation state machines as the blocking forms, moved only by `poll`
(`Fv/Chan/Fut.lean`).  The waker itself is not modelled at this level; what the history shows of it
(`wakes f => n:0`, `dropfut f => ok` rather than `ok:woken`) is judged against enabledness on the
abstract state.

`wakeHeld` (wake-ONE): at least as many other live, registered, enabled futures of the same direction as free
slots / items, so the wake-up for every unit the future could take may sit with another one. `busy`: an operation
of another thread is still in flight (the notification is the last step of the enabling operation). A pending,
enabled, unwoken future outside these cases is not explainable: it is reported as `pending-enabled-not-woken`
(F2, F14-async, F18 in the code as it stands).
-/
namespace Fv.Props.C06
open Fv.Chan List LinCore

/-- `poll` reports `pending` only where the future is unfinished and cannot move, or — wake-one — for a
registered future polled again while its wake-up may sit with another registered future (third disjunct,
`wakeHeld`). (The second disjunct — a finished operation whose own result tag is `pending` — never occurs:
no operation of the model produces that tag; it is kept to avoid a pass over every operation here.) -/
theorem C06_poll_pending_only_when_stuck {fl : Flavour} {cfg : Cfg} {x x' : StF} {t f : Nat}
    (h : (x', PF.fin { tag := .pending }) ∈ microF fl cfg x (.poll f, .polling t f)) :
    ∃ e, findF x.futs f = some e ∧
      ((e.p.out? = none ∧ micro fl cfg x.s e.p = []) ∨ (∃ o, e.p.out? = some o ∧ (observe e.op o).tag = .pending) ∨
        (e.polled = true ∧ wakeHeld fl cfg x e = true)) := by
  simp only [microF] at h
  split at h
  · simp at h
  · rename_i e he
    refine ⟨e, he, ?_⟩
    split at h
    · rename_i o ho
      simp only [mem_singleton, Prod.mk.injEq, PF.fin.injEq] at h
      right; left
      exact ⟨o, ho, by rw [← h.2]⟩
    · rename_i ho
      split at h
      · rename_i hemp
        left
        exact ⟨ho, by simpa [List.isEmpty_iff] using hemp⟩
      · simp only [mem_append, mem_map, Prod.mk.injEq, mem_ite_nil_right] at h
        rcases h with ⟨_, _, _, hbad⟩ | ⟨hc, _⟩
        · cases hbad
        · exact .inr (.inr (by simpa using hc))

/-- "No wake-up since the last poll" is admitted for a polled, unresolved future only if it is disabled
(unfinished and without a step under the exact window), or its wake-up may sit with another registered
future (`wakeHeld`), or an operation of another thread is in flight (`busy`). -/
theorem C06_no_wake_only_when_disabled {fl : Flavour} {cfg : Cfg} (hw : cfg.wakeRule = true) {x x' : StF} {t f : Nat}
    (h : (x', PF.fin { tag := .ok, val := .b false }) ∈ microF fl cfg x (.wakes f, .start t)) :
    ∃ e, findF x.futs f = some e ∧ (e.done = true ∨ e.polled = false ∨ stuckFut fl cfg x.s e = true ∨
      wakeHeld fl cfg x e = true ∨ x.busy > 0) := by
  simp only [microF] at h
  split at h
  · simp at h
  · rename_i e he
    refine ⟨e, he, ?_⟩
    simp only [mem_append, mem_singleton, Prod.mk.injEq, PF.fin.injEq, mem_ite_nil_right] at h
    rcases h with h | ⟨hc, _⟩
    · have := h.2; simp [Res.mk.injEq] at this
    · simpa only [noWakeOk, hw, Bool.not_true, Bool.false_or, Bool.or_eq_true, Bool.not_eq_true', decide_eq_true_eq,
        or_assoc] using hc

/-- **Soundness of the checker for liveness (safety form), with futures.** -/
theorem C06_checker_sound_quiescent (fl : Flavour) (cfg : Cfg) (h : HistoryF) (xf : StF) (pf : Pend PLF)
    (hl : linearizeF fl cfg h true = some (xf, pf)) :
    Lin (semF fl cfg) { s := init fl } [] h xf pf ∧
      ∀ y ∈ pf, (semF fl cfg).fin y.2 = none ∧ (semF fl cfg).micro xf y.2 = [] := by
  obtain ⟨hlin, hq⟩ := search_sound_init (semF fl cfg) hl
  exact ⟨hlin, fun y hy => hq rfl y hy⟩

/-- the progress states a pending future of a buffered channel can be in -/
def BufferedFut : P → Prop
  | .fresh .. | .bsend .. | .bsendEnd .. | .brecv .. | .osRecv .. | .fin _ => True
  | _ => False

/-- **Dropping a pending future is a no-op on the abstract state** (buffer, handles, counters, flags,
oneshot word). -/
theorem C06_dropfut_is_noop_on_abstract_state (s : St) (e : FutE) (t : Nat) (hb : BufferedFut e.p) :
    (dropFutState s e t).abs = s.abs := by
  unfold dropFutState
  cases hp : e.p <;> simp [hp, BufferedFut] at hb ⊢ <;> rfl

/-- … and it conserves tokens: exactly the values the future still held are dropped with it. -/
theorem C06_dropfut_conserves_tokens (s : St) (e : FutE) (t : Nat) (hb : BufferedFut e.p) (v : Val) :
    count v (dropFutState s e t).placed + count v s.created =
      count v s.placed + count v e.p.inHand + count v (dropFutState s e t).created := by
  unfold dropFutState
  cases hp : e.p <;> simp [hp, BufferedFut] at hb ⊢ <;>
    simp [St.create, St.lose, St.placed, St.parked, P.inHand, count_append] <;> omega

def mbA : Flavour := ⟨.mb, .mpsc, 2, true⟩
def f14x : StF :=
  { s := runOps mbA (init mbA) [.snd .trySend ⟨.tx, 0⟩ [1], .snd .trySend ⟨.tx, 0⟩ [2], .rcv .tryRecv ⟨.rx, 0⟩ 0],
    futs := [{ id := 0, op := .snd .send ⟨.tx, 0⟩ [3], p := .fresh 1000 (.snd .send ⟨.tx, 0⟩ [3]) }] }

def cfgH : Cfg := { hot := true, granular := true }
/-- the state after the first step of `poll f0` (the future's early checks) -/
def f14x1 : StF := ((microF mbA cfgH f14x (.poll 0, .polling 0 0)).headD (f14x, .fin { tag := .noFut })).1
/-- … and after `poll f0` answered -/
def f14x2 : StF := ((microF mbA cfgH f14x1 (.poll 0, .polling 0 0)).headD (f14x, .fin { tag := .noFut })).1

/-- F14 (async shape): with one of two slots free (`full = false`) `poll` of a `send_fut` answers
`pending` — the stale hot window is closed (`unpub = 1`) — although the future is enabled by the exact
occupancy (`stuckFut = false`): a later `wakes f => n:0` cannot be explained by the model. -/
theorem C06_fails_F14_async :
    (microF mbA cfgH f14x (.poll 0, .polling 0 0)).map (·.2) = [PF.polling 0 0] ∧
    (microF mbA cfgH f14x1 (.poll 0, .polling 0 0)).map (·.2) = [PF.fin { tag := .pending }] ∧
    full mbA f14x2.s = false ∧ f14x2.s.unpub = 1 ∧
    (f14x2.futs.map (fun e => stuckFut mbA cfgH f14x2.s e)) = [false] := by decide

end Fv.Props.C06
