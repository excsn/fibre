import Fv.Lemmas.ChanClose
import Fv.Props.C01
/-!
# C04 — disconnect protocol: drain then Disconnected; Closed returns the value

Q-level statements are for the buffered families (spsc / mpsc / mpmc, bounded or unbounded); all of
them for every state, capacity, sync/async handle, single/batch/in-place form.

Partial where the code does not honour the protocol (F3): some call sites never read the handle's own flag
(`checksOwn`; the three sync sites were repaired in /repo), and `to_async` / `to_sync` rebuild the handle with
`closed = false` (spsc, mpmc bounded, all rendezvous wrappers), which re-opens the channel.
History level: the checker accepts exactly the histories explained by this model, including the
explicit defect branches; a raw-history formulation of the protocol is not exported.
-/
namespace Fv.Props.C04
open Fv.Chan List

/-- **Drain, then Disconnected.** -/
theorem C04_disconnected_only_after_drain {fl : Flavour} (hrv : fl.fam ≠ .rv) (hos : fl.fam ≠ .os) (s : St)
    (f : Form) (h : HName) (n : Nat) (hd : Handle) (hf : findH s.hs h = some hd)
    (ht : (stepOp fl s (.rcv f h n)).2.tag = .disconnected) :
    hd.closed = true ∨ (s.buf = [] ∧ s.sc = 0) := by
  -- sequentially the call step decides (`stepOp_rcv_start`); on an open handle it says Disconnected
  -- only after finding the buffer empty and the sender count zero
  rw [stepOp_rcv_start hrv hos hf] at ht
  cases hc : hd.closed
  · right
    cases hst : start fl seqCfg s 0 (.rcv f h n) with
    | mk s' p' =>
      cases p' <;> simp [hst, P.outOrBlocks, blocksOut] at ht
      exact startRecv_disconnected_any hrv hos hf seqCfg 0 f n hc hst ht
  · exact .inl rfl

example : (stepOp ⟨.mu, .mpsc, 0, false⟩
    (runOps ⟨.mu, .mpsc, 0, false⟩ (init ⟨.mu, .mpsc, 0, false⟩) [.snd .send ⟨.tx, 0⟩ [1], .drop ⟨.tx, 0⟩, .rcv .recv ⟨.rx, 0⟩ 0])
    (.rcv .recv ⟨.rx, 0⟩ 0)).2.tag = .disconnected := by decide

/-- Disconnected is final as long as only receives happen: `senders = 0 ∧ buffered = []` is preserved
by every receive form (partial — conversions and clones of closed handles break it, see below). -/
theorem C04_disconnected_final_partial {fl : Flavour} (hrv : fl.fam ≠ .rv) (hos : fl.fam ≠ .os) (s : St)
    (f : Form) (h : HName) (n : Nat) (hsc : s.sc = 0) (hb : s.buf = []) :
    (stepOp fl s (.rcv f h n)).1.sc = 0 ∧ (stepOp fl s (.rcv f h n)).1.buf = [] ∧
      gotOf (stepOpS fl s (.rcv f h n)).2 = [] := by
  obtain ⟨⟨γ, a, _, _, d⟩, e, _⟩ := Fv.Props.C01.C01_recv_effect hrv hos s f h n
  rw [hb] at a
  have hg := append_eq_nil_iff.mp a.symm
  refine ⟨?_, hg.2, by rw [d]; exact hg.1⟩
  have : (stepOpS fl s (.rcv f h n)).1.shell.sc = s.shell.sc := by rw [e]
  show (stepOpS fl s (.rcv f h n)).1.sc = 0
  simpa [St.shell, hsc] using this

/-- **After the last receiver is gone every send form fails with Closed**, accepts nothing, hands every
value back (or drops it: `send`'s error carries none) and leaves buffer, handles and counters
untouched. -/
theorem C04_send_fails_closed_after_receivers_gone {fl : Flavour} (hrv : fl.fam ≠ .rv) (hos : fl.fam ≠ .os)
    (s : St) (f : Form) (h : HName) (vs : List Val) (hd : Handle) (hf : findH s.hs h = some hd)
    (hside : hd.name.side = .tx) (hform : f.isSend = true) (hsup : supportsForm fl.fam hd.isAsync f = true)
    (hne : vs ≠ []) (hgone : receiversGone fl s = true) :
    let o := (stepOp fl s (.snd f h vs)).2
    o.tag = .closed ∧ o.sent = [] ∧ ((o.back = vs ∧ o.lost = []) ∨ (o.back = [] ∧ o.lost = vs)) ∧
      (stepOp fl s (.snd f h vs)).1.buf = s.buf ∧ (stepOp fl s (.snd f h vs)).1.shell = s.shell := by
  intro o
  have hst := stepOp_send_closed hrv hos hf hside hform hsup hne (Or.inr hgone)
  obtain ⟨o', ho', h1, h2, h3⟩ := failSend_out fl (s.create vs) f .closed [] vs
  rw [ho'] at hst
  simp only [o, hst]
  refine ⟨h1, h2, h3, ?_, ?_⟩ <;> (unfold failSend; split <;> rfl)

/-- **Operations on a handle that was itself closed are rejected without effect** — at every call site
that checks the flag. Send forms: Closed, everything returned; receive forms: Disconnected. -/
theorem C04_own_closed_rejected_partial {fl : Flavour} (hrv : fl.fam ≠ .rv) (hos : fl.fam ≠ .os) (s : St)
    (f : Form) (h : HName) (hd : Handle) (hf : findH s.hs h = some hd) (hc : hd.closed = true)
    (hsup : supportsForm fl.fam hd.isAsync f = true) (hchk : checksOwn fl.fam hd.isAsync f = true) :
    (∀ vs, hd.name.side = .tx → f.isSend = true → vs ≠ [] →
      (stepOp fl s (.snd f h vs)).2.tag = .closed ∧ (stepOp fl s (.snd f h vs)).2.sent = []) ∧
    (∀ n, hd.name.side = .rx → f.isSend = false → n ≠ 0 →
      stepOp fl s (.rcv f h n) = (s, { tag := .disconnected })) := by
  refine ⟨fun vs hside hform hne => ?_, fun n hside hform hn => ?_⟩
  · obtain ⟨o, ho, h1, h2, _⟩ := failSend_out fl (s.create vs) f .closed [] vs
    rw [stepOp_send_closed hrv hos hf hside hform hsup hne (Or.inl ⟨hc, hchk⟩), ho]
    exact ⟨h1, h2⟩
  · exact stepOp_recv_own_closed hrv hos hf hside hform hsup (fun _ => hn) hc hchk

/-- **`close` twice ⇒ CloseError**, and the failed close changes nothing. -/
theorem C04_close_twice (fl : Flavour) (s : St) (h : HName) (hd : Handle) (hf : findH s.hs h = some hd)
    (hc : hd.closed = true) : stepOp fl s (.close h) = (s, { tag := .closeErr }) := by
  unfold stepOp stepOpS
  unfold runPS
  simp only [microDet, seqCfg, start]
  unfold startClose
  simp [hf, hc, runPS_fin, P.outOrBlocks]

example : (stepOp ⟨.pb, .mpmc, 1, false⟩ (stepOp ⟨.pb, .mpmc, 1, false⟩ (init ⟨.pb, .mpmc, 1, false⟩) (.close ⟨.tx, 0⟩)).1
    (.close ⟨.tx, 0⟩)).2.tag = .closeErr := by decide

/-- **Closing one of several cloned handles changes only the count**: buffer, flags and the other
side's counter are untouched and the side is not reported gone, in every family with cloneable
handles of that side. -/
theorem C04_close_one_of_several (fl : Flavour) (s : St) (hn : s.sc ≥ 2) (hw : s.sc < WORD)
    (hf : fl.fam = .mb ∨ fl.fam = .mu ∨ fl.fam = .pb ∨ fl.fam = .pu) :
    let s' := closeEffect fl s .tx
    s'.sc = s.sc - 1 ∧ s'.buf = s.buf ∧ s'.rc = s.rc ∧ s'.rd = s.rd ∧ sendersGone s' = false := by
  intro s'
  have hd : wdec s.sc = s.sc - 1 := by unfold wdec; split <;> omega
  rcases hf with e | e | e | e <;>
    simp [s', closeEffect, e, hd, sendersGone] <;> omega

/-! ### what the code does not honour (sequential witnesses, replayed on the implementation) -/

def pbA : Flavour := ⟨.pb, .mpmc, 2, true⟩

/-- F3: the mpmc async send futures never read the handle's `closed` flag. -/
theorem C04_fails_F3_mpmc_async_send :
    (stepOp pbA (stepOp pbA (init pbA) (.close ⟨.tx, 0⟩)).1 (.snd .send ⟨.tx, 0⟩ [1])).2.tag = .ok := by decide

/-- F3: … nor do the mpmc async receive futures. -/
theorem C04_fails_F3_mpmc_async_recv :
    (stepOp pbA (runOps pbA (init pbA) [.snd .trySend ⟨.tx, 0⟩ [1], .close ⟨.rx, 0⟩]) (.rcv .recv ⟨.rx, 0⟩ 0)).2
      = { tag := .ok, got := [1] } := by decide

def sbS : Flavour := ⟨.sb, .spsc, 2, false⟩

/-- F3: `to_async` rebuilds the handle with `closed = false`: the closed spsc sender sends again. -/
theorem C04_fails_F3_conversion_resurrects :
    (stepOp sbS (runOps sbS (init sbS) [.close ⟨.tx, 0⟩, .toAsync ⟨.tx, 0⟩]) (.snd .trySend ⟨.tx, 0⟩ [1])).2.tag = .ok := by
  decide

/-- F3: … and its drop decrements `sender_count` a second time: it wraps to 2^64 − 1, so the receiver
sees Empty instead of Disconnected forever after. -/
theorem C04_fails_F3_conversion_wraps_count :
    (runOps sbS (init sbS) [.close ⟨.tx, 0⟩, .toAsync ⟨.tx, 0⟩, .drop ⟨.tx, 0⟩]).sc = WORD - 1 ∧
    (stepOp sbS (runOps sbS (init sbS) [.close ⟨.tx, 0⟩, .toAsync ⟨.tx, 0⟩, .drop ⟨.tx, 0⟩]) (.rcv .tryRecv ⟨.rx, 0⟩ 0)).2.tag
      = .empty := by decide

def pbS : Flavour := ⟨.pb, .mpmc, 2, false⟩

/-- F17 (mpmc bounded): receiver `r1` is parked; a sender pushes 1 and the last sender closes; the woken
`r1` may return Disconnected although 1 is buffered. The state below is reached by
`clone r0 r1 ; (r1 parks in recv) ; try_send s0 1 ; close s0`. -/
def f17State : St :=
  runOps pbS (init pbS) [.clone ⟨.rx, 0⟩ ⟨.rx, 1⟩, .snd .trySend ⟨.tx, 0⟩ [1], .close ⟨.tx, 0⟩]

theorem C04_fails_F17 :
    f17State.buf = [1] ∧
      (f17State, P.fin { tag := .disconnected }) ∈ micro pbS linCfg f17State (.brecv 3 .recv ⟨.rx, 1⟩ 0 []) := by
  decide

def sbA : Flavour := ⟨.sb, .spsc, 2, true⟩

/-- The spsc close window (finding N6, repaired in /repo by 23f212c): `close_internal` of the sender stores
`producer_dropped` and decrements `sender_count` in two steps (bounded_async.rs:37-40, bounded_sync.rs:51-54); the
concurrent specification keeps the two steps (`startCloseSb` / `startDropSb`, then `stgStep` 10 / 11).  The state
between the two is the first step of `drop s0`. -/
def closeWindow : St := (start sbA linCfg (init sbA) 1 (.drop ⟨.tx, 0⟩)).1

/-- **Disconnected needs the sender COUNT to be zero** — every receive form, every buffered family, every
configuration (sequential model and concurrent specification), every state: a receive on an open handle answers
Disconnected only when the buffer is empty and `sender_count = 0`.  No receive form observes `producer_dropped`:
in particular the first half of a two-step spsc close cannot produce a Disconnected that a later receive
contradicts.  (Until 23f212c in /repo the spsc async batch receives tested the flag: finding N6.) -/
theorem C04_disconnected_needs_count_zero {fl : Flavour} (hrv : fl.fam ≠ .rv) (hos : fl.fam ≠ .os) (cfg : Cfg)
    (s : St) (t : Nat) (f : Form) (h : HName) (n : Nat) (hd : Handle) (hf : findH s.hs h = some hd)
    (hopen : hd.closed = false) {s' : St} {o : Out} (hs : start fl cfg s t (.rcv f h n) = (s', .fin o))
    (ht : o.tag = .disconnected) : s.buf = [] ∧ s.sc = 0 :=
  startRecv_disconnected_any hrv hos hf cfg t f n hopen hs ht

/-- … and the same for a receive that was parked and is re-run (`.brecv`), spsc: all behaviours of the concurrent
specification (`micro`, spurious branches included). -/
theorem C04_spsc_parked_disconnected_needs_count_zero {fl : Flavour} (hsb : fl.fam = .sb) (cfg : Cfg) (s : St)
    (t : Nat) (f : Form) (h : HName) (n : Nat) (hn : recvWant f n [] > 0) {s' : St} {o : Out}
    (hs : (s', P.fin o) ∈ micro fl cfg s (.brecv t f h n [])) (ht : o.tag = .disconnected) :
    s.buf = [] ∧ s.sc = 0 := by
  rw [mem_micro] at hs
  rcases hs with hs | ⟨_, hs⟩
  · simp only [microDet] at hs
    split at hs
    · cases hs
    · rename_i hd hf
      split at hs
      · rename_i r hr
        obtain ⟨r1, r2⟩ := r
        cases hs
        exact recvStep_disconnected_any hn hr ht
      · simp [hsb] at hs
  · -- nothing hides behind an in-flight send in spsc, and the parked-receiver branch is mpmc only
    simp only [microSpur, hidesBehindInflight, hsb] at hs
    simp at hs
    split at hs <;> simp at hs

/-- **N6 repaired — Disconnected is final for spsc across the close window.**  In the window (`producer_dropped`
set, `sender_count` still 1) the async batch receive does not answer Disconnected any more: it waits (`.brecv`,
exactly like `recv`), `try_recv` / `try_recv_batch` answer Empty; once the second step has run (`sender_count = 0`)
the parked batch receive and every later receive answer Disconnected, and the count stays 0
(`C04_disconnected_final_partial`).  Regression schedule: corpus/chan/C04_N6_fixed_spsc_async_close_window.case. -/
theorem C04_N6_fixed_spsc_close_window :
    closeWindow.pd = true ∧ closeWindow.sc = 1 ∧
    (start sbA linCfg closeWindow 2 (.rcv .recvBatch ⟨.rx, 0⟩ 1)).2 = P.brecv 2 .recvBatch ⟨.rx, 0⟩ 1 [] ∧
    (start sbA linCfg closeWindow 2 (.rcv .recvBatchMut ⟨.rx, 0⟩ 1)).2 = P.brecv 2 .recvBatchMut ⟨.rx, 0⟩ 1 [] ∧
    (start sbA linCfg closeWindow 2 (.rcv .tryRecv ⟨.rx, 0⟩ 0)).2 = P.fin { tag := .empty } ∧
    (start sbA linCfg closeWindow 2 (.rcv .tryRecvBatch ⟨.rx, 0⟩ 1)).2 = P.fin { tag := .empty } ∧
    micro sbA linCfg closeWindow (.brecv 2 .recvBatch ⟨.rx, 0⟩ 1 []) = [] ∧
    (microDet sbA linCfg closeWindow (.stg 1 11 ⟨.tx, 0⟩ [] [])).map (fun r => (r.1.sc, r.2)) =
      some (0, P.fin { tag := .ok }) ∧
    ((microDet sbA linCfg closeWindow (.stg 1 11 ⟨.tx, 0⟩ [] [])).map (fun r =>
        ((micro sbA linCfg r.1 (.brecv 2 .recvBatch ⟨.rx, 0⟩ 1 [])).map (·.2),
         (start sbA linCfg r.1 2 (.rcv .tryRecv ⟨.rx, 0⟩ 0)).2))) =
      some ([P.fin { tag := .disconnected }], P.fin { tag := .disconnected }) := by
  decide

example : (start sbA linCfg (runOps sbA (init sbA) [.drop ⟨.tx, 0⟩]) 2 (.rcv .recvBatch ⟨.rx, 0⟩ 1)).2
    = .fin { tag := .disconnected } := by decide

end Fv.Props.C04
