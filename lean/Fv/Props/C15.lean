import Fv.Lemmas.Loader
import Fv.Lemmas.Common
/-!
# C15 — loader single-flight: one load per miss, shared by all callers

Model: `Fv.Cache.Loader` (critical-section granularity small-step model of `fetch_with`,
`load_value_blocking`, `trigger_background_load`, `spawn_loader_task`, `LoadFuture`).
All theorems quantify over every number of callers, every program of `fetch_with` calls,
every key, every interleaving (schedule) of the modelled steps, spurious park returns,
and environment invalidations / expirations at any point.
-/
namespace Fv.Props.C15
open Fv.Cache.Loader

/-- A thread is "loading key k" from the moment it is elected leader until its loader task has
removed the pending marker. -/
def Loading (s : State) (t k : Nat) : Prop := ∃ f, ownerOf (s.pc t) = some (k, f)

/-- **At most one load of a key is in flight at any time**, under every schedule. -/
theorem C15_one_load_in_flight {n g s} (h : Reach n g s) (t1 t2 k : Nat)
    (h1 : Loading s t1 k) (h2 : Loading s t2 k) : t1 = t2 := by
  have hi := (inv_reach h).owners
  obtain ⟨f1, h1⟩ := h1
  obtain ⟨f2, h2⟩ := h2
  -- the marker of `k` names one future, and a marker has one owner
  obtain rfl : f1 = f2 := Option.some.inj ((hi.mem _ _ h1).symm.trans (hi.mem _ _ h2))
  exact hi.uniq _ _ _ h1 h2

/-- While a marker for `k` is pending, a caller that reaches the pending-loads critical section
joins the existing load instead of starting one (it becomes a waiter on that very future). -/
theorem C15_joins_pending_load {s s' : State} {t k f : Nat}
    (hpc : s.pc t = .atPending k) (hp : s.pending k = some f)
    (h : step s t .pendingCS = some s') : s'.pc t = .waitFut f ∧ s'.loads = s.loads ∧ s'.nextFut = s.nextFut := by
  simp [step, stepPendingCS, hpc, hp] at h
  subst h; simp

/-- A completed future never changes its value: **every caller that joined one load gets that one
loaded value**. -/
theorem C15_future_value_stable {n g s s'} (hr : Reach n g s) {t l f v}
    (hv : (s.futs f).value = some v) (h : step s t l = some s') : (s'.futs f).value = some v := by
  have hi := inv_reach hr
  rcases step_value h f with e | e | ⟨k, w, hpc⟩
  · rw [e, hv]
  -- a new future is not `f`
  · exact absurd (hi.valued_known f v hv) (by omega)
  -- `complete` writes a future that had no value
  · have := (hi.completers.mem t f (by rw [hpc]; rfl)).2
    rw [hv] at this; cases this

/-- A caller leaves the wait loop only with the value of the future it joined. -/
theorem C15_returns_joined_value {s s' : State} {t f : Nat}
    (hpc : s.pc t = .waitFut f) (h : step s t .futCS = some s') :
    (∃ v, (s.futs f).value = some v ∧ s'.pc t = .done v) ∨ s'.pc t = .parking f := by
  simp only [step, stepFutCS, hpc] at h
  split at h <;> (simp at h; subst h; simp_all)

/-- **No lost wakeup**: in every reachable state a caller that is parked without a wake token is
registered on a future that is still computing, and some thread is committed to completing that
future (all of that thread's remaining steps are non-blocking). -/
theorem C15_no_lost_wakeup {n g s} (h : Reach n g s) (t f : Nat)
    (hp : s.pc t = .parking f) (ht : s.token t = false) :
    (s.futs f).value = none ∧ t ∈ (s.futs f).waiters ∧ ∃ u, completerOf (s.pc u) = some f := by
  have hi := inv_reach h
  obtain ⟨hv, hm⟩ := hi.parked_registered t f hp ht
  exact ⟨hv, hm, hi.completers.ex f ⟨hi.waiting_known t f (Or.inr hp), hv⟩⟩

/-- A protocol (non-environment) step of thread `t` is enabled. -/
def Enabled (s : State) (t : Nat) : Prop :=
  ∃ l, (∀ k, l ≠ .call k ∧ l ≠ .invalidate k ∧ l ≠ .expire k) ∧ l ≠ .spurious ∧ (step s t l).isSome = true

theorem completer_enabled {s : State} {u f : Nat} (h : completerOf (s.pc u) = some f) : Enabled s u := by
  unfold Enabled
  cases hpc : s.pc u <;> simp [hpc, completerOf] at h
  case spawning k f' => exact ⟨.spawn, by simp, by simp, by simp [step, stepSpawn, hpc]⟩
  case ldStart k f' => exact ⟨.load, by simp, by simp, by simp [step, stepLoad, hpc]⟩
  case ldInsert k f' v => exact ⟨.mapInsert, by simp, by simp, by simp [step, stepMapInsert, hpc]⟩
  case ldRemove k f' v => exact ⟨.pendRemove, by simp, by simp, by simp [step, stepPendRemove, hpc]⟩
  case ldComplete k f' v => exact ⟨.complete, by simp, by simp, by simp [step, stepComplete, hpc]⟩

/-- **Progress**: while some thread has neither returned nor never started, some thread has an enabled protocol
step (no spurious wakeup needed): the thread itself, or, if it is parked without a token, the completer of its future. -/
theorem progress {n g s} (h : Reach n g s) {t : Nat}
    (ht : ¬ (s.pc t = .idle ∨ (∃ v, s.pc t = .done v) ∨ s.pc t = .ldDone)) : ∃ u, Enabled s u := by
  -- the steps below are enabled whatever the state
  have en : ∀ l, (∀ k, l ≠ .call k ∧ l ≠ .invalidate k ∧ l ≠ .expire k) → l ≠ .spurious →
      (step s t l).isSome = true → ∃ u, Enabled s u := fun l h1 h2 h3 => ⟨t, l, h1, h2, h3⟩
  cases hc : completerOf (s.pc t) with
  | some f => exact ⟨t, completer_enabled hc⟩
  | none =>
    cases hpc : s.pc t <;> simp [hpc, completerOf] at hc ht
    case start k =>
      exact en .mapRead (by simp) (by simp) (by simp only [step, stepMapRead, hpc]; (repeat' split) <;> rfl)
    case atPending k =>
      exact en .pendingCS (by simp) (by simp) (by simp only [step, stepPendingCS, hpc]; (repeat' split) <;> rfl)
    case waitFut f =>
      exact en .futCS (by simp) (by simp) (by simp only [step, stepFutCS, hpc]; (repeat' split) <;> rfl)
    case parking f =>
      cases htk : s.token t
      · obtain ⟨_, _, u, hu⟩ := C15_no_lost_wakeup h t f hpc htk
        exact ⟨u, completer_enabled hu⟩
      · exact en .park (by simp) (by simp) (by simp [step, stepPark, hpc, htk])

/-- **Deadlock freedom**: if no thread has an enabled protocol step (no spurious wakeups needed),
then every thread has returned (or never started): nobody is parked forever while the loader has
returned. -/
theorem C15_quiescent_all_returned {n g s} (h : Reach n g s) (hq : ∀ t, ¬ Enabled s t) (t : Nat) :
    s.pc t = .idle ∨ (∃ v, s.pc t = .done v) ∨ s.pc t = .ldDone :=
  Classical.byContradiction fun ht => (progress h ht).elim hq

/-- The loaded value is inserted into the map before the future is completed (program order of the
loader task): at the `complete` step the value was written by `mapInsert` two steps earlier. -/
theorem C15_insert_before_complete {s s' : State} {t k f v : Nat}
    (hpc : s.pc t = .ldInsert k f v) (h : step s t .mapInsert = some s') :
    s'.resident k = some (v, false) ∧ s'.pc t = .ldRemove k f v := by
  simp [step, stepMapInsert, hpc] at h; subst h; simp

/-- **F10 (known finding)**: "the loader runs exactly once per miss" is false of the code. Two callers
miss on key 7 before any value is resident; the first is elected, its loader task inserts the value
and removes the marker; the second caller, which had already missed, then takes the pending lock,
finds no marker and starts a second load of the same miss generation. -/
theorem C15_fails_F10 :
    ((run (init 2 false)
      [(0, .call 7), (1, .call 7), (0, .mapRead), (1, .mapRead), (0, .pendingCS), (0, .spawn),
       (2, .load), (2, .mapInsert), (2, .pendRemove), (1, .pendingCS), (1, .spawn), (3, .load)]).map
      (fun s => s.loads 7)) = some 2 := by decide

/-- Non-vacuity: a reachable state with a parked, unwoken caller (hypotheses of `C15_no_lost_wakeup`). -/
example : ∃ s, Reach 2 false s ∧ s.pc 1 = .parking 0 ∧ s.token 1 = false := by
  have h : (run (init 2 false) [(0, .call 7), (1, .call 7), (0, .mapRead), (1, .mapRead), (0, .pendingCS), (1, .pendingCS),
      (1, .futCS)]).map (fun s => (s.pc 1, s.token 1)) = some (.parking 0, false) := by decide
  obtain ⟨s, hr, e⟩ := Option.map_eq_some_iff.1 h
  simp only [Prod.mk.injEq] at e
  exact ⟨s, Fv.run_closed (fun _ => rfl) (fun _ _ _ _ => rfl) Reach.step _ _ s Reach.init hr, e⟩

end Fv.Props.C15
