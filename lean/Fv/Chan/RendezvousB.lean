/-
B-model (critical-section granularity, all interleavings) of the queued rendezvous core
  /repo/channels/src/internal/rendezvous.rs   (RendezvousShared: try_send / try_recv / send_blocking /
      recv_blocking / recv_timeout / poll_send / poll_recv / cancel_sender / cancel_receiver /
      drop_sender / drop_receiver, fulfill_receiver / fulfill_sender, park_until_terminal)
as used by spsc / mpsc / mpmc rendezvous handles and their futures
  (/repo/channels/src/{spsc,mpsc}/rendezvous.rs, /repo/channels/src/mpmc_v2/rendezvous.rs).

One step = one locked section of the core mutex (the hand-off through the waiter record happens
inside it), OR one out-of-lock visible action: the wake issued after the guard is dropped
(`wake.wake()`), a state-byte load, `park`, the cancel CAS `WAITING→CANCELLED` of
`cancel_receiver` / `cancel_sender` (which the code performs BEFORE taking the lock), a poll
boundary, a future drop.

Waiter records are fresh ids `r`; `st r` is the state byte, `slot r` the sender's payload slot
(`src`) resp. the receiver's destination (`dest`), `owner r` whom the wake handle reaches.
`fulfill_*` never looks at the record's state (it stores DONE over whatever is there) — the model
does the same; that is finding F1.

The receiver store is a FIFO list; the MPSC/SPSC single-slot `Option` store coincides with it as long
as at most one receiver is parked at a time (single consumer).

Ghost: `offered handed recvd returned dropped` token histories (`handed` = tokens moved from a
sender's slot into a receiver's hands or destination, i.e. sends that are / will be reported Ok),
`destOf v` = the receiver record a token was written into, `wakeBy r` = who owes the wake of `r`.
-/
namespace Fv.Chan.RendezvousB

/-- WAITING=0, DONE=1, CANCELLED=2, DISCONNECTED=3 -/
inductive RS where
  | waiting | done | cancelled | disconnected
deriving Repr, DecidableEq

inductive Res where
  | sendOk (v : Nat)
  | sendFull (v : Nat)          -- try_send: no receiver parked, token handed back
  | sendClosed (v : Nat)        -- try_send: Closed(v), token handed back
  | sendClosedDrop (v : Nat)    -- send / SendFuture: Err(Closed), token dropped by the callee
  | recvOk (v : Nat)
  | recvEmpty
  | recvDisc
  | recvTimeout
  | unit
  | futDropped
  | panicked                    -- `expect("DONE implies the sender wrote the item")` / `expect("a parked sender always holds an item")`
deriving Repr, DecidableEq

inductive Op where
  | send (v : Nat) | trySend (v : Nat) | recv | tryRecv | recvTimeout0
  | sendFut (v : Nat) | recvFut
  | cloneS | cloneR | closeS | closeR
deriving Repr, DecidableEq

inductive PC where
  | idle
  | done (r : Res)
  | wakeThen (a : Nat) (res : Res)   -- guard dropped: about to `wake.wake()` the matched peer, then return `res`
  -- send_blocking
  | sLock (v r : Nat)
  | sWait (v r : Nat)                -- park_until_terminal: about to load the state byte
  | sPark (v r : Nat)
  | tsLock (v : Nat)                 -- try_send
  -- recv_blocking
  | rLock (r : Nat)
  | rWait (r : Nat)
  | rPark (r : Nat)
  | trLock                           -- try_recv
  -- recv_timeout(0)
  | toLock (r : Nat)
  | toLoad (r : Nat)                 -- loop head: load state
  | toCas (r : Nat)                  -- deadline passed: cancel_receiver's CAS (outside the lock)
  | toUnl (r : Nat)                  -- CAS won: lock, remove_receiver, return Timeout
  | toFin (r : Nat)                  -- final load of the state byte
  -- SendFuture (poll_send)
  | asNew (v r : Nat)
  | asLock (v r : Nat)
  | asPend (v r : Nat)
  | asRef (v r : Nat)                -- re-polled while WAITING: lock, refresh the waker in place
  | asFin (v r : Nat)                -- record left the queue meanwhile: re-read the state
  | fdUnlS (v r : Nat)               -- Drop: cancel CAS won, about to lock and unlink
  -- RecvFuture (poll_recv)
  | arNew (r : Nat)
  | arLock (r : Nat)
  | arPend (r : Nat)
  | arRef (r : Nat)
  | arFin (r : Nat)
  | fdUnlR (r : Nat)
  -- handles
  | hCloneS | hCloneR | hCloseS | hCloseR
  | hWake (ws : List Nat)
deriving Repr, DecidableEq

/-- ghost: where a token currently is -/
inductive Loc where
  | nowhere | fresh (t : Nat) | slot (r : Nat) | received | returned | dropped
deriving Repr, DecidableEq

structure State where
  sq : List Nat                 -- sender_waiters (front first)
  rq : List Nat                 -- receivers
  senders : Nat
  receivers : Nat
  st : Nat → RS
  slot : Nat → Option Nat
  owner : Nat → Nat
  wakes : Nat → Nat
  pc : Nat → PC
  nextRec : Nat
  offered : List Nat
  handed : List Nat
  recvd : List Nat
  returned : List Nat
  dropped : List Nat
  destOf : Nat → Nat
  wakeBy : Nat → Nat
  loc : Nat → Loc               -- ghost: location of every token
  hand : Nat → Bool             -- ghost: the token was handed over (∈ handed)

def init : State :=
  { sq := [], rq := [], senders := 1, receivers := 1, st := fun _ => .waiting, slot := fun _ => none,
    owner := fun _ => 0, wakes := fun _ => 0, pc := fun _ => .idle, nextRec := 0,
    offered := [], handed := [], recvd := [], returned := [], dropped := [], destOf := fun _ => 0,
    wakeBy := fun _ => 0, loc := fun _ => .nowhere, hand := fun _ => false }

def upd {α} (f : Nat → α) (i : Nat) (a : α) : Nat → α := fun j => if j = i then a else f j
def bump (w : Nat → Nat) (a : Nat) : Nat → Nat := fun j => if j = a then w a + 1 else w j
def optL (o : Option Nat) : List Nat := match o with | some v => [v] | none => []
/-- ghost: the token (if any) in a slot that is being destroyed becomes `dropped` -/
def dropLoc (loc : Nat → Loc) (o : Option Nat) : Nat → Loc :=
  match o with | some v => upd loc v .dropped | none => loc

/-- `fulfill_receiver(rec, item)` on the popped front `rr`, by agent `t`: writes the destination, stores DONE,
whatever the record's state was. -/
def giveTo (s : State) (t rr v : Nat) (rest : List Nat) (res : Res) : State :=
  { s with rq := rest, slot := upd s.slot rr (some v), st := upd s.st rr .done, handed := s.handed ++ [v],
           destOf := upd s.destOf v rr, wakeBy := upd s.wakeBy rr t, loc := upd s.loc v (.slot rr), hand := upd s.hand v true,
           pc := upd s.pc t (.wakeThen (s.owner rr) res) }

/-- `fulfill_sender(rec)` on the popped front `rs`, by agent `t` -/
def takeFrom (s : State) (t rs : Nat) (rest : List Nat) : State :=
  match s.slot rs with
  | some v =>
    { s with sq := rest, slot := upd s.slot rs none, st := upd s.st rs .done, handed := s.handed ++ [v],
             recvd := s.recvd ++ [v], wakeBy := upd s.wakeBy rs t, loc := upd s.loc v .received, hand := upd s.hand v true,
             pc := upd s.pc t (.wakeThen (s.owner rs) (.recvOk v)) }
  | none => { s with sq := rest, pc := upd s.pc t (.done .panicked) }

/-! ### senders -/

def stepSLock (s : State) (t v r : Nat) : State :=
  if s.receivers = 0 then { s with dropped := s.dropped ++ [v], loc := upd s.loc v .dropped, pc := upd s.pc t (.done (.sendClosedDrop v)) }
  else
    match s.rq with
    | rr :: rest => giveTo s t rr v rest (.sendOk v)
    | [] => { s with sq := s.sq ++ [r], slot := upd s.slot r (some v), loc := upd s.loc v (.slot r), pc := upd s.pc t (.sWait v r) }

def stepSWait (s : State) (t v r : Nat) : State :=
  match s.st r with
  | .waiting => { s with pc := upd s.pc t (.sPark v r) }
  | .done => { s with pc := upd s.pc t (.done (.sendOk v)) }
  | .cancelled => { s with slot := upd s.slot r none, dropped := s.dropped ++ optL (s.slot r), loc := dropLoc s.loc (s.slot r),
                           pc := upd s.pc t (.done (.sendClosedDrop v)) }
  | .disconnected => { s with slot := upd s.slot r none, dropped := s.dropped ++ optL (s.slot r), loc := dropLoc s.loc (s.slot r),
                              pc := upd s.pc t (.done (.sendClosedDrop v)) }

def stepSPark (s : State) (t v r : Nat) : Option State :=
  if 0 < s.wakes t then some { s with wakes := upd s.wakes t 0, pc := upd s.pc t (.sWait v r) } else none

def stepTsLock (s : State) (t v : Nat) : State :=
  if s.receivers = 0 then { s with returned := s.returned ++ [v], loc := upd s.loc v .returned, pc := upd s.pc t (.done (.sendClosed v)) }
  else
    match s.rq with
    | rr :: rest => giveTo s t rr v rest (.sendOk v)
    | [] => { s with returned := s.returned ++ [v], loc := upd s.loc v .returned, pc := upd s.pc t (.done (.sendFull v)) }

def stepAsLock (s : State) (t v r : Nat) : State :=
  if s.receivers = 0 then { s with dropped := s.dropped ++ [v], loc := upd s.loc v .dropped, pc := upd s.pc t (.done (.sendClosedDrop v)) }
  else
    match s.rq with
    | rr :: rest => giveTo s t rr v rest (.sendOk v)
    | [] => { s with sq := s.sq ++ [r], st := upd s.st r .waiting, slot := upd s.slot r (some v), loc := upd s.loc v (.slot r),
                     pc := upd s.pc t (.asPend v r) }

def stepAsRef (s : State) (t v r : Nat) : State :=
  if r ∈ s.sq then { s with pc := upd s.pc t (.asPend v r) } else { s with pc := upd s.pc t (.asFin v r) }

def stepAsFin (s : State) (t v r : Nat) : State :=
  match s.st r with
  | .done => { s with pc := upd s.pc t (.done (.sendOk v)) }
  | .waiting => { s with slot := upd s.slot r none, dropped := s.dropped ++ optL (s.slot r), loc := dropLoc s.loc (s.slot r),
                         pc := upd s.pc t (.done (.sendClosedDrop v)) }
  | .cancelled => { s with slot := upd s.slot r none, dropped := s.dropped ++ optL (s.slot r), loc := dropLoc s.loc (s.slot r),
                           pc := upd s.pc t (.done (.sendClosedDrop v)) }
  | .disconnected => { s with slot := upd s.slot r none, dropped := s.dropped ++ optL (s.slot r), loc := dropLoc s.loc (s.slot r),
                              pc := upd s.pc t (.done (.sendClosedDrop v)) }

def stepFdUnlS (s : State) (t v r : Nat) : State :=
  { s with sq := s.sq.erase r, slot := upd s.slot r none, dropped := s.dropped ++ optL (s.slot r), loc := dropLoc s.loc (s.slot r),
           pc := upd s.pc t (.done .futDropped) }

/-! ### receivers -/

def stepRLock (s : State) (t r : Nat) : State :=
  match s.sq with
  | rs :: rest => takeFrom s t rs rest
  | [] =>
    if s.senders = 0 then { s with pc := upd s.pc t (.done .recvDisc) }
    else { s with rq := s.rq ++ [r], pc := upd s.pc t (.rWait r) }

/-- final read of a receiver's record: DONE ⇒ take the destination -/
def finishRecv (s : State) (t r : Nat) : State :=
  match s.slot r with
  | some v => { s with slot := upd s.slot r none, recvd := s.recvd ++ [v], loc := upd s.loc v .received,
                       pc := upd s.pc t (.done (.recvOk v)) }
  | none => { s with pc := upd s.pc t (.done .panicked) }

def stepRWait (s : State) (t r : Nat) : State :=
  match s.st r with
  | .waiting => { s with pc := upd s.pc t (.rPark r) }
  | .done => finishRecv s t r
  | .cancelled => { s with pc := upd s.pc t (.done .recvDisc) }
  | .disconnected => { s with pc := upd s.pc t (.done .recvDisc) }

def stepRPark (s : State) (t r : Nat) : Option State :=
  if 0 < s.wakes t then some { s with wakes := upd s.wakes t 0, pc := upd s.pc t (.rWait r) } else none

def stepTrLock (s : State) (t : Nat) : State :=
  match s.sq with
  | rs :: rest => takeFrom s t rs rest
  | [] =>
    if s.senders = 0 then { s with pc := upd s.pc t (.done .recvDisc) }
    else { s with pc := upd s.pc t (.done .recvEmpty) }

def stepToLock (s : State) (t r : Nat) : State :=
  match s.sq with
  | rs :: rest => takeFrom s t rs rest
  | [] =>
    if s.senders = 0 then { s with pc := upd s.pc t (.done .recvDisc) }
    else { s with rq := s.rq ++ [r], pc := upd s.pc t (.toLoad r) }

def stepToLoad (s : State) (t r : Nat) : State :=
  match s.st r with
  | .waiting => { s with pc := upd s.pc t (.toCas r) }
  | .done => { s with pc := upd s.pc t (.toFin r) }
  | .cancelled => { s with pc := upd s.pc t (.toFin r) }
  | .disconnected => { s with pc := upd s.pc t (.toFin r) }

/-- `cancel_receiver`: the CAS happens before the lock is taken -/
def stepToCas (s : State) (t r : Nat) : State :=
  match s.st r with
  | .waiting => { s with st := upd s.st r .cancelled, pc := upd s.pc t (.toUnl r) }
  | .done => { s with pc := upd s.pc t (.toFin r) }
  | .cancelled => { s with pc := upd s.pc t (.toFin r) }
  | .disconnected => { s with pc := upd s.pc t (.toFin r) }

/-- `remove_receiver` under the lock, then `return Err(Timeout)` — whatever a sender wrote into `dest`
in the meantime is dropped with the stack frame. -/
def stepToUnl (s : State) (t r : Nat) : State :=
  { s with rq := s.rq.erase r, slot := upd s.slot r none, dropped := s.dropped ++ optL (s.slot r), loc := dropLoc s.loc (s.slot r),
           pc := upd s.pc t (.done .recvTimeout) }

def stepToFin (s : State) (t r : Nat) : State :=
  match s.st r with
  | .done => finishRecv s t r
  | .cancelled => { s with slot := upd s.slot r none, dropped := s.dropped ++ optL (s.slot r), loc := dropLoc s.loc (s.slot r),
                           pc := upd s.pc t (.done .recvTimeout) }
  | .waiting => { s with pc := upd s.pc t (.done .recvDisc) }
  | .disconnected => { s with pc := upd s.pc t (.done .recvDisc) }

def stepArLock (s : State) (t r : Nat) : State :=
  match s.sq with
  | rs :: rest => takeFrom s t rs rest
  | [] =>
    if s.senders = 0 then { s with pc := upd s.pc t (.done .recvDisc) }
    else { s with rq := s.rq ++ [r], st := upd s.st r .waiting, pc := upd s.pc t (.arPend r) }

def stepArRef (s : State) (t r : Nat) : State :=
  if r ∈ s.rq then { s with pc := upd s.pc t (.arPend r) } else { s with pc := upd s.pc t (.arFin r) }

def stepArFin (s : State) (t r : Nat) : State :=
  match s.st r with
  | .done => finishRecv s t r
  | .waiting => { s with pc := upd s.pc t (.done .recvDisc) }
  | .cancelled => { s with pc := upd s.pc t (.done .recvDisc) }
  | .disconnected => { s with pc := upd s.pc t (.done .recvDisc) }

def stepFdUnlR (s : State) (t r : Nat) : State :=
  { s with rq := s.rq.erase r, slot := upd s.slot r none, dropped := s.dropped ++ optL (s.slot r), loc := dropLoc s.loc (s.slot r),
           pc := upd s.pc t (.done .futDropped) }

/-! ### wakes and handles -/

def stepWakeThen (s : State) (t a : Nat) (res : Res) : State :=
  { s with wakes := bump s.wakes a, pc := upd s.pc t (.done res) }

def stepCloseS (s : State) (t : Nat) : Option State :=
  if s.senders = 0 then none
  else if s.senders = 1 then
    some { s with senders := 0, rq := [],
                  st := fun r => if r ∈ s.rq then .disconnected else s.st r,
                  wakeBy := fun r => if r ∈ s.rq then t else s.wakeBy r,
                  pc := upd s.pc t (.hWake (s.rq.map s.owner)) }
  else some { s with senders := s.senders - 1, pc := upd s.pc t (.hWake []) }

def stepCloseR (s : State) (t : Nat) : Option State :=
  if s.receivers = 0 then none
  else if s.receivers = 1 then
    some { s with receivers := 0, sq := [],
                  st := fun r => if r ∈ s.sq then .disconnected else s.st r,
                  wakeBy := fun r => if r ∈ s.sq then t else s.wakeBy r,
                  pc := upd s.pc t (.hWake (s.sq.map s.owner)) }
  else some { s with receivers := s.receivers - 1, pc := upd s.pc t (.hWake []) }

def stepHWake (s : State) (t : Nat) (ws : List Nat) : State :=
  match ws with
  | [] => { s with pc := upd s.pc t (.done .unit) }
  | a :: rest => { s with wakes := bump s.wakes a, pc := upd s.pc t (.hWake rest) }

inductive Label where
  | call (op : Op)
  | adv
  | poll
  | dropFut
  | spurious
deriving Repr, DecidableEq

def PC.atRest : PC → Bool
  | .idle => true
  | .done _ => true
  | _ => false

def stepCall (s : State) (t : Nat) (op : Op) : Option State :=
  if (s.pc t).atRest then
    let r := s.nextRec
    match op with
    | .send v =>
      if v ∈ s.offered then none else
      some { s with offered := s.offered ++ [v], loc := upd s.loc v (.fresh t), nextRec := r + 1, st := upd s.st r .waiting, slot := upd s.slot r none,
                    owner := upd s.owner r t, pc := upd s.pc t (.sLock v r) }
    | .trySend v =>
      if v ∈ s.offered then none else some { s with offered := s.offered ++ [v], loc := upd s.loc v (.fresh t), pc := upd s.pc t (.tsLock v) }
    | .recv =>
      some { s with nextRec := r + 1, st := upd s.st r .waiting, slot := upd s.slot r none, owner := upd s.owner r t,
                    pc := upd s.pc t (.rLock r) }
    | .tryRecv => some { s with pc := upd s.pc t .trLock }
    | .recvTimeout0 =>
      some { s with nextRec := r + 1, st := upd s.st r .waiting, slot := upd s.slot r none, owner := upd s.owner r t,
                    pc := upd s.pc t (.toLock r) }
    | .sendFut v =>
      if v ∈ s.offered then none else
      some { s with offered := s.offered ++ [v], loc := upd s.loc v (.fresh t), nextRec := r + 1, st := upd s.st r .waiting, slot := upd s.slot r none,
                    owner := upd s.owner r t, pc := upd s.pc t (.asNew v r) }
    | .recvFut =>
      some { s with nextRec := r + 1, st := upd s.st r .waiting, slot := upd s.slot r none, owner := upd s.owner r t,
                    pc := upd s.pc t (.arNew r) }
    | .cloneS => if s.senders = 0 then none else some { s with pc := upd s.pc t .hCloneS }
    | .cloneR => if s.receivers = 0 then none else some { s with pc := upd s.pc t .hCloneR }
    | .closeS => some { s with pc := upd s.pc t .hCloseS }
    | .closeR => some { s with pc := upd s.pc t .hCloseR }
  else none

def stepAdv (s : State) (t : Nat) : Option State :=
  match s.pc t with
  | .wakeThen a res => some (stepWakeThen s t a res)
  | .sLock v r => some (stepSLock s t v r)
  | .sWait v r => some (stepSWait s t v r)
  | .sPark v r => stepSPark s t v r
  | .tsLock v => some (stepTsLock s t v)
  | .rLock r => some (stepRLock s t r)
  | .rWait r => some (stepRWait s t r)
  | .rPark r => stepRPark s t r
  | .trLock => some (stepTrLock s t)
  | .toLock r => some (stepToLock s t r)
  | .toLoad r => some (stepToLoad s t r)
  | .toCas r => some (stepToCas s t r)
  | .toUnl r => some (stepToUnl s t r)
  | .toFin r => some (stepToFin s t r)
  | .asLock v r => some (stepAsLock s t v r)
  | .asRef v r => some (stepAsRef s t v r)
  | .asFin v r => some (stepAsFin s t v r)
  | .fdUnlS v r => some (stepFdUnlS s t v r)
  | .arLock r => some (stepArLock s t r)
  | .arRef r => some (stepArRef s t r)
  | .arFin r => some (stepArFin s t r)
  | .fdUnlR r => some (stepFdUnlR s t r)
  | .hCloneS => some { s with senders := s.senders + 1, pc := upd s.pc t (.done .unit) }
  | .hCloneR => some { s with receivers := s.receivers + 1, pc := upd s.pc t (.done .unit) }
  | .hCloseS => stepCloseS s t
  | .hCloseR => stepCloseR s t
  | .hWake ws => some (stepHWake s t ws)
  | _ => none

/-- `poll`: a registered future first loads its state byte -/
def stepPoll (s : State) (t : Nat) : Option State :=
  match s.pc t with
  | .asNew v r => some { s with wakes := upd s.wakes t 0, pc := upd s.pc t (.asLock v r) }
  | .asPend v r =>
    match s.st r with
    | .waiting => some { s with wakes := upd s.wakes t 0, pc := upd s.pc t (.asRef v r) }
    | .done => some { s with wakes := upd s.wakes t 0, pc := upd s.pc t (.done (.sendOk v)) }
    | .cancelled => some { s with wakes := upd s.wakes t 0, slot := upd s.slot r none, dropped := s.dropped ++ optL (s.slot r), loc := dropLoc s.loc (s.slot r),
                                  pc := upd s.pc t (.done (.sendClosedDrop v)) }
    | .disconnected => some { s with wakes := upd s.wakes t 0, slot := upd s.slot r none, dropped := s.dropped ++ optL (s.slot r), loc := dropLoc s.loc (s.slot r),
                                     pc := upd s.pc t (.done (.sendClosedDrop v)) }
  | .arNew r => some { s with wakes := upd s.wakes t 0, pc := upd s.pc t (.arLock r) }
  | .arPend r =>
    match s.st r with
    | .waiting => some { s with wakes := upd s.wakes t 0, pc := upd s.pc t (.arRef r) }
    | .done => some (finishRecv { s with wakes := upd s.wakes t 0 } t r)
    | .cancelled => some { s with wakes := upd s.wakes t 0, pc := upd s.pc t (.done .recvDisc) }
    | .disconnected => some { s with wakes := upd s.wakes t 0, pc := upd s.pc t (.done .recvDisc) }
  | _ => none

/-- `Drop` of an unfinished future: `if registered { cancel_*() }`; `cancel_*` CASes first and takes the
lock only if the CAS won. Whatever the inline slot holds afterwards is dropped with the future. -/
def stepDropFut (s : State) (t : Nat) : Option State :=
  match s.pc t with
  | .asNew v _ => some { s with dropped := s.dropped ++ [v], loc := upd s.loc v .dropped, pc := upd s.pc t (.done .futDropped) }
  | .asPend v r =>
    match s.st r with
    | .waiting => some { s with st := upd s.st r .cancelled, pc := upd s.pc t (.fdUnlS v r) }
    | .done => some { s with slot := upd s.slot r none, dropped := s.dropped ++ optL (s.slot r), loc := dropLoc s.loc (s.slot r), pc := upd s.pc t (.done .futDropped) }
    | .cancelled => some { s with slot := upd s.slot r none, dropped := s.dropped ++ optL (s.slot r), loc := dropLoc s.loc (s.slot r), pc := upd s.pc t (.done .futDropped) }
    | .disconnected => some { s with slot := upd s.slot r none, dropped := s.dropped ++ optL (s.slot r), loc := dropLoc s.loc (s.slot r), pc := upd s.pc t (.done .futDropped) }
  | .arNew _ => some { s with pc := upd s.pc t (.done .futDropped) }
  | .arPend r =>
    match s.st r with
    | .waiting => some { s with st := upd s.st r .cancelled, pc := upd s.pc t (.fdUnlR r) }
    | .done => some { s with slot := upd s.slot r none, dropped := s.dropped ++ optL (s.slot r), loc := dropLoc s.loc (s.slot r), pc := upd s.pc t (.done .futDropped) }
    | .cancelled => some { s with slot := upd s.slot r none, dropped := s.dropped ++ optL (s.slot r), loc := dropLoc s.loc (s.slot r), pc := upd s.pc t (.done .futDropped) }
    | .disconnected => some { s with slot := upd s.slot r none, dropped := s.dropped ++ optL (s.slot r), loc := dropLoc s.loc (s.slot r), pc := upd s.pc t (.done .futDropped) }
  | _ => none

def stepSpurious (s : State) (t : Nat) : Option State :=
  match s.pc t with
  | .sPark v r => some { s with pc := upd s.pc t (.sWait v r) }
  | .rPark r => some { s with pc := upd s.pc t (.rWait r) }
  | _ => none

def step (s : State) (t : Nat) : Label → Option State
  | .call op => stepCall s t op
  | .adv => stepAdv s t
  | .poll => stepPoll s t
  | .dropFut => stepDropFut s t
  | .spurious => stepSpurious s t

def run (s : State) : List (Nat × Label) → Option State
  | [] => some s
  | (t, l) :: rest => (step s t l).bind (fun s' => run s' rest)

inductive Reach : State → Prop where
  | init : Reach init
  | step {s s' t l} : Reach s → step s t l = some s' → Reach s'

/-- the record a lock section of agent `t` is about to pop from the opposite queue (if any) -/
def popTarget (s : State) (t : Nat) : Option Nat :=
  match s.pc t with
  | .sLock _ _ => if s.receivers = 0 then none else s.rq.head?
  | .tsLock _ => if s.receivers = 0 then none else s.rq.head?
  | .asLock _ _ => if s.receivers = 0 then none else s.rq.head?
  | .rLock _ => s.sq.head?
  | .trLock => s.sq.head?
  | .toLock _ => s.sq.head?
  | .arLock _ => s.sq.head?
  | _ => none

/-- The hypothesis of the `_partial` theorems, per step — exactly the F1 window and its future shape:
* no lock section pops a record whose state byte is no longer WAITING (a canceller has CASed it to
  CANCELLED and has not yet unlinked it);
* no `RecvFuture` is dropped after the hand-off into it committed (state DONE) and before it was polled. -/
def Benign (s : State) (t : Nat) (l : Label) : Prop :=
  match l with
  | .adv => ∀ r, popTarget s t = some r → s.st r = .waiting
  | .dropFut => ∀ r, s.pc t = .arPend r → s.st r ≠ .done
  | _ => True

inductive ReachB : State → Prop where
  | init : ReachB init
  | step {s s' t l} : ReachB s → Benign s t l → step s t l = some s' → ReachB s'

theorem ReachB.reach {s} (h : ReachB s) : Reach s := by
  induction h with
  | init => exact .init
  | step _ _ hs ih => exact .step ih hs

end Fv.Chan.RendezvousB
