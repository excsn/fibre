/-
Generic linearizability search over a *micro-step* operational semantics.

An API call is a small state machine `P` (pending-operation state): created by `fresh op` at
its call event, advanced by one of `micro s p` (the atomic effects it can have on the shared
abstract state `σ` now; `[]` = it cannot move in this state, e.g. a blocking send on a full
channel), and `fin p = some out` once its result is determined.  Single-effect operations
take one micro-step; blocking batch operations and rendezvous hand-offs take several, which is
exactly why they are not atomic in the implementation either.

`search` decides whether a concurrent history (call / return events in real-time order) can be
explained: micro-steps of pending operations are interleaved arbitrarily, each operation's
steps lie between its call and its return, and the returned result must be the computed one.
Operations that never return may have taken any number of their steps (including none).
Steps are taken "just in time", immediately before a return event that needs them (steps commute
to the right over call events), so the search branches only there.  Over the return event of an
already finished operation a step commutes only if `retire` does not disable it: that event is
tried as it stands first, and only if this fails are the other pending operations' steps tried
before it.

With `quiesce = true` (the run ended in a deadlock: every thread that has not finished is
blocked) the search additionally demands a final state in which every operation that never
returned is *disabled*: not finished and without a possible step.  A blocked `recv` with an item
buffered is therefore a lost wakeup, not an accepted history.

Failed search states are memoised (`Memo`); memoisation can only turn `some` into `none`, so it
is irrelevant for soundness: `search … = (some s', _) → Lin …` (Fv/Lemmas/ChanLinCore.lean).
Import-free (linked into `fvdrv_chan`).
-/
namespace Fv.Chan.LinCore

inductive Event (Op Out : Type) where
  | call (t : Nat) (op : Op)
  | ret (t : Nat) (out : Out)
  deriving Repr

abbrev Pend (P : Type) := List (Nat × P)

structure Sem (σ Op Out P K : Type) where
  fresh : Nat → Op → P
  /-- the possible atomic steps of a pending operation (empty = it cannot move now) -/
  micro : σ → P → List (σ × P)
  fin : P → Option Out
  /-- bookkeeping at the return event (e.g. "one fewer send in flight") -/
  retire : σ → P → σ
  /-- memo key: everything future behaviour depends on -/
  key : σ → Pend P → K

def lookup {P} (t : Nat) : Pend P → Option P
  | [] => none
  | (u, p) :: r => if u = t then some p else lookup t r

def erase {P} (t : Nat) : Pend P → Pend P
  | [] => []
  | (u, p) :: r => if u = t then r else (u, p) :: erase t r

def setP {P} (t : Nat) (q : P) : Pend P → Pend P
  | [] => []
  | (u, p) :: r => if u = t then (u, q) :: r else (u, p) :: setP t q r

/-- first return event of thread `t` in the rest of the history (look-ahead used for pruning only) -/
def nextRet {Op Out} (t : Nat) : List (Event Op Out) → Option Out
  | [] => none
  | .ret u o :: r => if u = t then some o else nextRet t r
  | .call u _ :: r => if u = t then none else nextRet t r

/-! ### memo of failed states -/
structure Memo (K : Type) where
  buckets : Array (List (Nat × K)) := Array.replicate 257 []

def Memo.slot {K} [Hashable K] (n : Nat) (k : K) : Nat := ((hash (n, hash k)).toNat) % 257

def Memo.contains {K} [BEq K] [Hashable K] (m : Memo K) (n : Nat) (k : K) : Bool :=
  (m.buckets.getD (Memo.slot n k) []).any (fun x => x.1 == n && x.2 == k)

def Memo.insert {K} [Hashable K] (m : Memo K) (n : Nat) (k : K) : Memo K :=
  let i := Memo.slot n k
  { buckets := m.buckets.setIfInBounds i ((n, k) :: m.buckets.getD i []) }

/-- first success of a memo-threading function over a list of candidates -/
def firstSomeM {α β M} (f : α → M → Option β × M) : List α → M → Option β × M
  | [], m => (none, m)
  | a :: r, m =>
    match f a m with
    | (some b, m') => (some b, m')
    | (none, m') => firstSomeM f r m'

section
variable {σ Op Out P K : Type} [BEq Out] [BEq K] [Hashable K] (sem : Sem σ Op Out P K)

/-- admissible w.r.t. the look-ahead: a finished operation must show the result it will return -/
def pruneOk (u : Nat) (p : P) (evs : List (Event Op Out)) : Bool :=
  match sem.fin p, nextRet u evs with
  | some o, some o' => o == o'
  | _, _ => true

/-- every pending operation is unfinished and cannot move -/
def quiescent (s : σ) (pend : Pend P) : Bool :=
  pend.all fun x => (sem.fin x.2).isNone && (sem.micro s x.2).isEmpty

/-- all (thread, step) candidates in state `s` -/
def candidates (s : σ) (pend : Pend P) : List (Nat × σ × P) :=
  pend.flatMap fun x => (sem.micro s x.2).map fun r => (x.1, r.1, r.2)

/-- Returns the final abstract state (and the operations still pending) of some explaining interleaving. -/
def search (quiesce : Bool) : Nat → Memo K → σ → Pend P → List (Event Op Out) → Option (σ × Pend P) × Memo K
  | 0, m, _, _, _ => (none, m)
  | fuel + 1, m, s, pend, [] =>
    if !quiesce || quiescent sem s pend then (some (s, pend), m)
    else if m.contains 0 (sem.key s pend) then (none, m)
    else
      match firstSomeM (fun (c : Nat × σ × P) m => search quiesce fuel m c.2.1 (setP c.1 c.2.2 pend) [])
              (candidates sem s pend) m with
      | (some r, m') => (some r, m')
      | (none, m') => (none, m'.insert 0 (sem.key s pend))
  | fuel + 1, m, s, pend, .call t op :: rest =>
    match lookup t pend with
    | some _ => (none, m)     -- malformed: the thread already has an operation in flight
    | none => search quiesce fuel m s ((t, sem.fresh t op) :: pend) rest
  | fuel + 1, m, s, pend, .ret t out :: rest =>
    match lookup t pend with
    | none => (none, m)
    | some p =>
      match sem.fin p with
      | some o =>
        if o == out then
          match search quiesce fuel m (sem.retire s p) (erase t pend) rest with
          | (some r, m') => (some r, m')
          | (none, m') =>
            -- The return event itself changes the state (`retire`: "one fewer send in flight"), so steps of the
            -- OTHER pending operations that are enabled only before it (a receive that stops at the hole of an
            -- in-flight send) do not commute to the right over it: before giving up, try them first.
            let n := rest.length + 1
            if m'.contains n (sem.key s pend) then (none, m')
            else
              match firstSomeM (fun (c : Nat × σ × P) m =>
                      if pruneOk sem c.1 c.2.2 (.ret t out :: rest)
                      then search quiesce fuel m c.2.1 (setP c.1 c.2.2 pend) (.ret t out :: rest) else (none, m))
                    (candidates sem s pend) m' with
              | (some r, m'') => (some r, m'')
              | (none, m'') => (none, m''.insert n (sem.key s pend))
        else (none, m)
      | none =>
        let n := rest.length + 1
        if m.contains n (sem.key s pend) then (none, m)
        else
          match firstSomeM (fun (c : Nat × σ × P) m =>
                  if pruneOk sem c.1 c.2.2 (.ret t out :: rest)
                  then search quiesce fuel m c.2.1 (setP c.1 c.2.2 pend) (.ret t out :: rest) else (none, m))
                (candidates sem s pend) m with
          | (some r, m') => (some r, m')
          | (none, m') => (none, m'.insert n (sem.key s pend))

/-- Declarative linearizability: an interleaving of micro-steps explaining the history, ending in
state `sf` with the operations `pf` still pending. -/
inductive Lin : σ → Pend P → List (Event Op Out) → σ → Pend P → Prop where
  | nil (s pend) : Lin s pend [] s pend
  | call {s pend t op rest sf pf} : lookup t pend = none → Lin s ((t, sem.fresh t op) :: pend) rest sf pf →
      Lin s pend (.call t op :: rest) sf pf
  | ret {s pend t p out rest sf pf} : lookup t pend = some p → sem.fin p = some out →
      Lin (sem.retire s p) (erase t pend) rest sf pf → Lin s pend (.ret t out :: rest) sf pf
  | step {s pend u pu s' pu' evs sf pf} : lookup u pend = some pu → (s', pu') ∈ sem.micro s pu →
      Lin s' (setP u pu' pend) evs sf pf → Lin s pend evs sf pf

end

end Fv.Chan.LinCore
