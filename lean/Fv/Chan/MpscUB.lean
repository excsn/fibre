import Fv.Chan.ChainB
/-
B-level model of the unbounded mpsc channel `channels/src/mpsc/unbounded_v3/{shared,producer,consumer}.rs`
on top of the slab chain (`Fv.Chan.ChainB`): one visible action per step.

Structure.  A thread runs one API call at a time on one handle.  Sender-side program counters and
locals are indexed by SENDER HANDLE (`spc h`, `&mut self`), the receiver side has one program
counter `rpc` (the receiver is unique and `!Sync`); `tpc t` says which handle thread `t` is
operating.  Every step is `call` (environment: a thread starts an API call), `adv` (the thread
executes its next action: the action is determined by the program counter) or `ret`.
Chain actions are delegated: while `spc h = .chain` / `.closeChain` the handle executes the
producer labels of `ChainB`, while `rpc = .inPop` / `.fin` the consumer labels; each such step is
exactly one `ChainB.step` on the component `ch`.  Steps marked τ have no visible action
(`ChainB.pBump`, `pStart`, `pClose`, `cRet`, `cFinStart` and the result dispatch).

Code ↔ pc map (shared.rs unless noted):
  send_internal / send_batch_internal (producer.rs)   chk (receiver_dropped.load(Acquire)) → chain (bump … publish)
                                                      → rec_ (sent_shards[shard].fetch_add(n, Relaxed)) → notify
  notify_receiver                                     nFence (fence(SeqCst)) → nLoadS (sync count load Relaxed)
     sync slot                                        → [nLockS → (nCntS (store 0 Release) → nFlagS (notified.store(true, Release)))? → nUnlockS → nUnparkS?]
     async slot                                       → nLoadA → [nLockA → nCntA? → nUnlockA → nWakeA? (→ nUnparkA for an executor task)]
  Sender::close / Drop (producer.rs)                  closeChain (seal … ; sender_count.fetch_sub(1, AcqRel)) → if last: wake_all_receivers
  wake_all_receivers                                  wLockS → (wCntS → wFlagS → wUnparkS)? → wUnlockS → wLockA → (wCntA → wWakeA (→ wUnparkA))? → wUnlockA
                                                      (the guard temporary of `if let … = lock().take()` lives to the end of the statement)
  try_recv_internal / try_recv_batch_internal         pop (pop_node) → inPop (retire …) → cons (consumed.fetch_add(1, Relaxed)) …
                                                      → senders (sender_count.load(Acquire)) → pop … ; a single receive is a batch of max 1
  Receiver::recv / recv_batch_mut (consumer.rs)       closedLoad → [try] → register: gLockS → gUnlockS → gCntS (store 1 Release) → gFence (SeqCst)
                                                      → [try] → park → swapFlag (notified.swap(false, Acquire)) → …; on exit unregister: uLockS → uUnlockS → uCntS
  recv_timeout(0)                                     closedLoad → [try] → Timeout (the deadline has passed before the first wait)
  poll_recv_internal / poll_recv_batch_internal       [try] → gLockA → gUnlockA → gCntA → gFenceA → [try] → Pending; unregister uLockA → uUnlockA → uCntA
  harness executor (block_on)                         execPark (park) → next poll
  Receiver::close / Drop                              closeCas / closeSwap → dropStore (receiver_dropped.store(true, Release)) → drain ([try] until not Ok)
  Drop for MpscShared (last handle)                   fin (ChainB final walk)
  len                                                 lenShard 0 … 15 → lenCons;  is_empty (receiver): emptyLoad;  is_closed: iscSenders → emptyLoad
Parameters: `ChainB.Cfg` (SLAB_NODES, SLAB_POOL_CAP) and `shards` (LEN_SHARDS = 16).
Ghost: `taken` = values handed out of the chain to receive calls (returned or destroyed by the
close drain), in order; `ch.recvd = taken ++ rout ++` (the value a running `pop_node` holds) is an invariant.
-/
namespace Fv.Chan.MpscUB
open Fv.Chan

structure Cfg where
  chain : ChainB.Cfg := {}
  shards : Nat := 16
deriving Repr

inductive Waker where
  | task (t : Nat)      -- harness executor task of thread t (wake = unpark t)
  | fut (f : Nat)       -- counting waker of manual future f
deriving DecidableEq, Repr

/-- outcome of `try_recv_internal` / `try_recv_batch_internal` -/
inductive TRes where
  | ok (vs : List Nat)
  | empty
  | disc
deriving DecidableEq, Repr

inductive Res where
  | unit                     -- `ok`
  | sent (n : Nat)           -- send forms: n items sent
  | closed                   -- send forms: Closed (the input is handed back)
  | got (r : TRes)           -- receive forms
  | timeout
  | pending
  | bool (b : Bool)
  | nat (n : Nat)
  | closeErr
deriving DecidableEq, Repr

inductive SOp where
  | send (vals : List Nat)   -- every send form (single = one value); empty batch returns at once
  | close
  | drop
  | clone (h' : Nat)
  | len
  | isClosed
  | senderCount
  | convert                  -- to_async / to_sync: no visible action
deriving DecidableEq, Repr

inductive ROp where
  | tryRecv (max : Nat)                        -- try_recv (max 1) / try_recv_batch(_mut)
  | recv (max : Nat)                           -- sync recv (max 1) / recv_batch(_mut)
  | timeout0
  | recvAsync (max : Nat) (single : Bool)      -- async recv / recv_batch driven by the harness executor
  | mkFut (f : Nat) (max : Nat) (single : Bool) -- `fut f = recv_fut` / `recv_batch_fut`
  | poll                                       -- one manual poll of the live future
  | dropFut
  | close
  | drop
  | len
  | isEmpty
  | isClosed
  | senderCount
  | convert                                    -- to_async / to_sync: closed.load + a new flag
deriving DecidableEq, Repr

inductive SPC where
  | idle
  | chk | chain | rec_
  | nFence | nLoadS | nLockS | nCntS | nFlagS | nUnlockS | nUnparkS
  | nLoadA | nLockA | nCntA | nUnlockA | nWakeA | nUnparkA
  | closeChain
  | wLockS | wCntS | wFlagS | wUnparkS | wUnlockS | wLockA | wCntA | wWakeA | wUnparkA | wUnlockA
  | cloneCnt | cloneShard
  | lenShard (i : Nat) | lenCons
  | closedLoad | scLoad
  | afterClose                         -- τ: `close` returns / `drop` releases the handle
  | fin
  | done
deriving DecidableEq, Repr

inductive RForm where
  | try_ | blk | tmo | pollPre | pollPost | drainClose | drainDrop
deriving DecidableEq, Repr

inductive RPC where
  | idle
  | closedLoad
  | pop | inPop | cons | senders
  | gLockS | gUnlockS | gCntS | gFence
  | uLockS | uUnlockS | uCntS
  | park | swapFlag
  | gLockA | gUnlockA | gCntA | gFenceA
  | uLockA | uUnlockA | uCntA
  | execPark
  | closeCas | closeSwap | dropStore
  | lenShard (i : Nat) | lenCons
  | emptyLoad | iscSenders | scLoad | convLoad
  | release                            -- τ: the receiver handle is released
  | fin
  | done
deriving DecidableEq, Repr

inductive TPC where
  | idle
  | onS (h : Nat)
  | onR
deriving DecidableEq, Repr

structure FutSt where
  id : Nat
  max : Nat
  single : Bool
deriving DecidableEq, Repr

structure State where
  ch : ChainB.State
  -- shared atomics and mutex-protected cells
  rdrop : Bool := false               -- receiver_dropped
  swSlot : Option Nat := none         -- sync_recv_waiter (thread; its flag is `notif`)
  swLock : Option (Option Nat) := none  -- holder: `some (some h)` sender handle h, `some none` the receiver
  swCnt : Nat := 0
  awSlot : Option Waker := none       -- async_recv_waiter
  awLock : Option (Option Nat) := none
  awCnt : Nat := 0
  shard : Nat → Nat := fun _ => 0     -- sent_shards
  shardCur : Nat := 0
  consumed : Nat := 0
  token : Nat → Bool := fun _ => false  -- park tokens
  notif : Bool := false               -- the `notified` flag on the stack of the running `recv`
  wakes : Nat → Nat := fun _ => 0     -- manual futures: waker invocations
  -- threads
  tpc : Nat → TPC := fun _ => .idle
  -- sender handles
  spc : Nat → SPC := fun _ => .idle
  sthr : Nat → Nat := fun _ => 0
  sop : Nat → SOp := fun _ => .convert
  sclosed : Nat → Bool := fun _ => false
  sgone : Nat → Bool := fun _ => false    -- handle dropped
  sshard : Nat → Nat := fun _ => 0
  sres : Nat → Res := fun _ => .unit
  sn : Nat → Nat := fun _ => 0            -- number of items of the send in progress
  swk : Nat → Option Nat := fun _ => none     -- sync waiter taken by this notifier
  sawk : Nat → Option Waker := fun _ => none  -- async waiter taken by this notifier
  sacc : Nat → Nat := fun _ => 0          -- `len` accumulator
  slast : Nat → Bool := fun _ => false    -- this close saw sender_count == 1
  -- the receiver
  rpc : RPC := .idle
  rthr : Nat := 0
  rop : ROp := .convert
  rclosed : Bool := false
  rgone : Bool := false
  rform : RForm := .try_
  rmax : Nat := 1
  rsingle : Bool := true
  rexec : Bool := false
  rwaker : Waker := .task 0
  rround : Nat := 0
  rout : List Nat := []
  rreg : Bool := false                -- is_registered of the running recv / live future
  rres : Res := .unit
  racc : Nat := 0
  fut : Option FutSt := none
  -- Arc<MpscShared> strong count = live handles
  arcs : Nat := 2
  -- ghost
  taken : List Nat := []
  drained : List Nat := []
  gLinker : Nat := 0                  -- last handle that executed the link store of `publish`
  gCloser : Nat := 0                  -- last handle whose `drop_sender` took `sender_count` to 0
  gTaker : Nat := 0                   -- last handle that took the sync waiter out of its slot
  gTakerA : Nat := 0                  -- … the async waiter

def init : State :=
  { ch := ChainB.init, shardCur := 1, sshard := fun _ => 0 }

inductive Label where
  | callS (h : Nat) (op : SOp)
  | callR (op : ROp)
  | adv
  | ret
deriving DecidableEq, Repr

abbrev upd := @ChainB.upd

/-! ### helpers -/

def chainP (cfg : Cfg) (s : State) (h : Nat) (l : ChainB.Label) : Option State :=
  (ChainB.step cfg.chain s.ch h l).map (fun c => { s with ch := c })

/-- the producer label the chain pc of handle `h` dictates (deterministic) -/
def pNext (cfg : Cfg) (c : ChainB.State) (h : Nat) : Option ChainB.Label :=
  match c.ppc h with
  | .idle => none
  | .build =>
    if c.rlen h = (c.pvals h).length then some .pSwap
    else if c.ppos h < cfg.chain.N then some .pBump else some .pSealDec
  | .sealing => some .pSealDec
  | .relFence _ _ => some .pRelFence
  | .relLock _ _ => some .pRelLock
  | .relUnlock _ _ => some .pRelUnlock
  | .acqLock => some .pAcqLock
  | .acqUnlock => some .pAcqUnlock
  | .rearmRem _ => some .pRearmRem
  | .rearmNode _ _ => some .pRearmNode
  | .alloc => some .pAlloc
  | .prelink => some .pPrelink
  | .link _ _ _ => some .pLink
  | .dropDec => some .pDropDec

/-- the consumer label the chain pc dictates, while a pop / the final walk is running -/
def cNext (c : ChainB.State) : Option ChainB.Label :=
  match c.cpc with
  | .retDec _ _ => some .cRetDec
  | .relFence _ _ => some .cRelFence
  | .relLock _ _ => some .cRelLock
  | .relUnlock _ _ => some .cRelUnlock
  | .finLoad => some .cFinLoad
  | _ => none

/-- a handle is released: the last one runs `Drop for MpscShared` -/
def sArcRelease (cfg : Cfg) (s : State) (h : Nat) : Option State :=
  let s1 := { s with arcs := s.arcs - 1, sgone := upd s.sgone h true }
  if s.arcs = 1 then
    (ChainB.step cfg.chain s1.ch 0 .cFinStart).map (fun c => { s1 with ch := c, spc := upd s1.spc h .fin })
  else some { s1 with sres := upd s1.sres h .unit, spc := upd s1.spc h .done }

def rArcRelease (cfg : Cfg) (s : State) : Option State :=
  let s1 := { s with arcs := s.arcs - 1, rgone := true }
  if s.arcs = 1 then
    (ChainB.step cfg.chain s1.ch 0 .cFinStart).map (fun c => { s1 with ch := c, rpc := .fin })
  else some { s1 with rres := .unit, rpc := .done }

/-! ### environment: calls and returns -/

def stepCallS (cfg : Cfg) (s : State) (t h : Nat) (op : SOp) : Option State :=
  if s.tpc t = .idle ∧ s.spc h = .idle ∧ s.sgone h = false ∧ s.ch.hst h ≠ .unborn then
    let s0 := { s with tpc := upd s.tpc t (.onS h), sthr := upd s.sthr h t, sop := upd s.sop h op }
    match op with
    | .send vals =>
      if vals = [] then some { s0 with sres := upd s.sres h (.sent 0), spc := upd s.spc h .done }
      else if s.sclosed h then some { s0 with sres := upd s.sres h .closed, spc := upd s.spc h .done }
      else some { s0 with sn := upd s.sn h vals.length, spc := upd s.spc h .chk }
    | .close =>
      if s.sclosed h then some { s0 with sres := upd s.sres h .closeErr, spc := upd s.spc h .done }
      else
        (ChainB.step cfg.chain s.ch h .pClose).map (fun c =>
          { s0 with ch := c, sclosed := upd s.sclosed h true, spc := upd s.spc h .closeChain })
    | .drop =>
      if s.sclosed h then sArcRelease cfg s0 h
      else
        (ChainB.step cfg.chain s.ch h .pClose).map (fun c =>
          { s0 with ch := c, sclosed := upd s.sclosed h true, spc := upd s.spc h .closeChain })
    | .clone h' =>
      if s.ch.hst h' = .unborn then some { s0 with spc := upd s.spc h .cloneCnt } else none
    | .len => some { s0 with sacc := upd s.sacc h 0, spc := upd s.spc h (.lenShard 0) }
    | .isClosed =>
      if s.sclosed h then some { s0 with sres := upd s.sres h (.bool true), spc := upd s.spc h .done }
      else some { s0 with spc := upd s.spc h .closedLoad }
    | .senderCount => some { s0 with spc := upd s.spc h .scLoad }
    | .convert => some { s0 with sres := upd s.sres h .unit, spc := upd s.spc h .done }
  else none

def stepCallR (s : State) (t : Nat) (op : ROp) : Option State :=
  if s.tpc t = .idle ∧ s.rpc = .idle ∧ s.rgone = false then
    let s0 := { s with tpc := upd s.tpc t .onR, rthr := t, rop := op, rout := [], rround := 0 }
    match op with
    | .tryRecv max =>
      if max = 0 then some { s0 with rres := .got (.ok []), rpc := .done }
      else some { s0 with rform := .try_, rmax := max, rpc := .closedLoad }
    | .recv max =>
      if max = 0 then some { s0 with rres := .got (.ok []), rpc := .done }
      else some { s0 with rform := .blk, rmax := max, rpc := .closedLoad }
    | .timeout0 => some { s0 with rform := .tmo, rmax := 1, rpc := .closedLoad }
    | .recvAsync max single =>
      if s.fut = none then
        some { s0 with rform := .pollPre, rmax := max, rsingle := single, rexec := true, rwaker := .task t,
                       rreg := false, rpc := .closedLoad }
      else none
    | .mkFut f max single =>
      if s.fut = none then
        some { s0 with fut := some { id := f, max := max, single := single }, rreg := false,
                       wakes := upd s.wakes f 0, rres := .unit, rpc := .done }
      else none
    | .poll =>
      match s.fut with
      | some fu =>
        some { s0 with rform := .pollPre, rmax := fu.max, rsingle := fu.single, rexec := false,
                       rwaker := .fut fu.id, rpc := .closedLoad }
      | none => none
    | .dropFut =>
      match s.fut with
      | some _ =>
        if s.rreg then some { s0 with fut := none, rres := .unit, rpc := .uLockA }
        else some { s0 with fut := none, rres := .unit, rpc := .done }
      | none => none
    | .close => if s.fut = none then some { s0 with rpc := .closeCas } else none
    | .drop => if s.fut = none then some { s0 with rpc := .closeSwap } else none
    | .len => some { s0 with racc := 0, rpc := .lenShard 0 }
    | .isEmpty => some { s0 with rpc := .emptyLoad }
    | .isClosed => some { s0 with rpc := .iscSenders }
    | .senderCount => some { s0 with rpc := .scLoad }
    | .convert => if s.fut = none then some { s0 with rpc := .convLoad } else none
  else none

def stepRet (s : State) (t : Nat) : Option State :=
  match s.tpc t with
  | .onS h => if s.spc h = .done then some { s with tpc := upd s.tpc t .idle, spc := upd s.spc h .idle } else none
  | .onR => if s.rpc = .done then some { s with tpc := upd s.tpc t .idle, rpc := .idle } else none
  | .idle => none

/-! ### sender side -/

/-- after `publish` returned -/
def sAfterChain (s : State) (h : Nat) : State := { s with spc := upd s.spc h .rec_ }

def stepS_chk (cfg : Cfg) (s : State) (h : Nat) : Option State :=
  if s.rdrop then some { s with sres := upd s.sres h .closed, spc := upd s.spc h .done }
  else
    match s.sop h with
    | .send vals => (ChainB.step cfg.chain s.ch h (.pStart vals)).map (fun c => { s with ch := c, spc := upd s.spc h .chain })
    | _ => none

def stepS_chain (cfg : Cfg) (s : State) (h : Nat) : Option State :=
  match pNext cfg s.ch h with
  | some l =>
    (ChainB.step cfg.chain s.ch h l).map (fun c =>
      { s with ch := c, gLinker := if c.ppc h = .idle then h else s.gLinker,
               spc := upd s.spc h (if c.ppc h = .idle then .rec_ else .chain) })
  | none => none

def stepS_rec (cfg : Cfg) (s : State) (h : Nat) : Option State :=
  some { s with shard := upd s.shard (s.sshard h % cfg.shards) (s.shard (s.sshard h % cfg.shards) + s.sn h),
                sres := upd s.sres h (.sent (s.sn h)), spc := upd s.spc h .nFence }

def stepS_nLoadS (s : State) (h : Nat) : Option State :=
  some { s with spc := upd s.spc h (if s.swCnt ≠ 0 then .nLockS else .nLoadA) }

def stepS_nLockS (s : State) (h : Nat) : Option State :=
  match s.swLock with
  | none =>
    -- `g.take()` is folded into the lock step
    some { s with swLock := some (some h), swSlot := none, swk := upd s.swk h s.swSlot,
                  gTaker := if s.swSlot.isSome then h else s.gTaker,
                  spc := upd s.spc h (if s.swSlot.isSome then .nCntS else .nUnlockS) }
  | some _ => none

def stepS_nUnlockS (s : State) (h : Nat) : Option State :=
  some { s with swLock := none, spc := upd s.spc h (if (s.swk h).isSome then .nUnparkS else .nLoadA) }

def stepS_nUnparkS (s : State) (h : Nat) : Option State :=
  match s.swk h with
  | some w => some { s with token := upd s.token w true, swk := upd s.swk h none, spc := upd s.spc h .nLoadA }
  | none => none

def stepS_nLoadA (s : State) (h : Nat) : Option State :=
  some { s with spc := upd s.spc h (if s.awCnt ≠ 0 then .nLockA else .done) }

def stepS_nLockA (s : State) (h : Nat) : Option State :=
  match s.awLock with
  | none =>
    some { s with awLock := some (some h), awSlot := none, sawk := upd s.sawk h s.awSlot,
                  gTakerA := if s.awSlot.isSome then h else s.gTakerA,
                  spc := upd s.spc h (if s.awSlot.isSome then .nCntA else .nUnlockA) }
  | some _ => none

def stepS_nUnlockA (s : State) (h : Nat) : Option State :=
  some { s with awLock := none, spc := upd s.spc h (if (s.sawk h).isSome then .nWakeA else .done) }

/-- `waker.wake()`: a manual future's waker counts; an executor task's waker then unparks its thread -/
def stepS_wakeA (s : State) (h : Nat) (thenUnpark thenDone : SPC) : Option State :=
  match s.sawk h with
  | some (.fut f) => some { s with wakes := upd s.wakes f (s.wakes f + 1), sawk := upd s.sawk h none,
                                   spc := upd s.spc h thenDone }
  | some (.task _) => some { s with spc := upd s.spc h thenUnpark }
  | none => none

def stepS_unparkA (s : State) (h : Nat) (thenDone : SPC) : Option State :=
  match s.sawk h with
  | some (.task w) => some { s with token := upd s.token w true, sawk := upd s.sawk h none, spc := upd s.spc h thenDone }
  | _ => none

/-- what follows `close_internal`: `close` returns, `drop` releases the handle -/
def sAfterClose (cfg : Cfg) (s : State) (h : Nat) : Option State :=
  match s.sop h with
  | .drop => sArcRelease cfg s h
  | _ => some { s with sres := upd s.sres h .unit, spc := upd s.spc h .done }

def stepS_closeChain (cfg : Cfg) (s : State) (h : Nat) : Option State :=
  match pNext cfg s.ch h with
  | some l =>
    (ChainB.step cfg.chain s.ch h l).bind (fun c =>
      let s1 := { s with ch := c }
      if c.ppc h = .idle then
        -- that was `sender_count.fetch_sub`; `== 1` ⇒ wake_all_receivers
        some { s1 with gCloser := if s.ch.senders = 1 then h else s.gCloser,
                       spc := upd s.spc h (if s.ch.senders = 1 then .wLockS else .afterClose) }
      else some s1)
  | none => none

def stepS_wLockS (s : State) (h : Nat) : Option State :=
  match s.swLock with
  | none =>
    some { s with swLock := some (some h), swSlot := none, swk := upd s.swk h s.swSlot,
                  gTaker := if s.swSlot.isSome then h else s.gTaker,
                  spc := upd s.spc h (if s.swSlot.isSome then .wCntS else .wUnlockS) }
  | some _ => none

def stepS_wUnparkS (s : State) (h : Nat) : Option State :=
  match s.swk h with
  | some w => some { s with token := upd s.token w true, swk := upd s.swk h none, spc := upd s.spc h .wUnlockS }
  | none => none

def stepS_wLockA (s : State) (h : Nat) : Option State :=
  match s.awLock with
  | none =>
    some { s with awLock := some (some h), awSlot := none, sawk := upd s.sawk h s.awSlot,
                  gTakerA := if s.awSlot.isSome then h else s.gTakerA,
                  spc := upd s.spc h (if s.awSlot.isSome then .wCntA else .wUnlockA) }
  | some _ => none

def stepS_fin (cfg : Cfg) (s : State) (h : Nat) : Option State :=
  match cNext s.ch with
  | some l =>
    (ChainB.step cfg.chain s.ch 0 l).map (fun c =>
      if c.cpc = .finished then { s with ch := c, sres := upd s.sres h .unit, spc := upd s.spc h .done }
      else { s with ch := c })
  | none => none

def stepS (cfg : Cfg) (s : State) (h : Nat) : Option State :=
  match s.spc h with
  | .idle => none
  | .done => none
  | .chk => stepS_chk cfg s h
  | .chain => stepS_chain cfg s h
  | .rec_ => stepS_rec cfg s h
  | .nFence => some { s with spc := upd s.spc h .nLoadS }
  | .nLoadS => stepS_nLoadS s h
  | .nLockS => stepS_nLockS s h
  | .nCntS => some { s with swCnt := 0, spc := upd s.spc h .nFlagS }
  | .nFlagS => some { s with notif := true, spc := upd s.spc h .nUnlockS }
  | .nUnlockS => stepS_nUnlockS s h
  | .nUnparkS => stepS_nUnparkS s h
  | .nLoadA => stepS_nLoadA s h
  | .nLockA => stepS_nLockA s h
  | .nCntA => some { s with awCnt := 0, spc := upd s.spc h .nUnlockA }
  | .nUnlockA => stepS_nUnlockA s h
  | .nWakeA => stepS_wakeA s h .nUnparkA .done
  | .nUnparkA => stepS_unparkA s h .done
  | .closeChain => stepS_closeChain cfg s h
  | .wLockS => stepS_wLockS s h
  | .wCntS => some { s with swCnt := 0, spc := upd s.spc h .wFlagS }
  | .wFlagS => some { s with notif := true, spc := upd s.spc h .wUnparkS }
  | .wUnparkS => stepS_wUnparkS s h
  | .wUnlockS => some { s with swLock := none, spc := upd s.spc h .wLockA }
  | .wLockA => stepS_wLockA s h
  | .wCntA => some { s with awCnt := 0, spc := upd s.spc h .wWakeA }
  | .wWakeA => stepS_wakeA s h .wUnparkA .wUnlockA
  | .wUnparkA => stepS_unparkA s h .wUnlockA
  | .wUnlockA => some { s with awLock := none, spc := upd s.spc h .afterClose }
  | .afterClose => sAfterClose cfg s h
  | .cloneCnt =>
    match s.sop h with
    | .clone h' => (ChainB.step cfg.chain s.ch h (.pClone h')).map (fun c => { s with ch := c, spc := upd s.spc h .cloneShard })
    | _ => none
  | .cloneShard =>
    match s.sop h with
    | .clone h' => some { s with shardCur := s.shardCur + 1, sshard := upd s.sshard h' s.shardCur, arcs := s.arcs + 1,
                                 sres := upd s.sres h .unit, spc := upd s.spc h .done }
    | _ => none
  | .lenShard i =>
    some { s with sacc := upd s.sacc h (s.sacc h + s.shard i),
                  spc := upd s.spc h (if i + 1 < cfg.shards then .lenShard (i + 1) else .lenCons) }
  | .lenCons => some { s with sres := upd s.sres h (.nat (s.sacc h - s.consumed)), spc := upd s.spc h .done }
  | .closedLoad => some { s with sres := upd s.sres h (.bool s.rdrop), spc := upd s.spc h .done }
  | .scLoad => some { s with sres := upd s.sres h (.nat s.ch.senders), spc := upd s.spc h .done }
  | .fin => stepS_fin cfg s h

/-! ### receiver side -/

/-- start (or restart) `try_recv_internal` / `try_recv_batch_internal` -/
def rTry (s : State) (form : RForm) (round : Nat) : State :=
  { s with rform := form, rround := round, rout := [], rpc := .pop }

/-- dispatch on the outcome of the try-level receive, per calling form -/
def triDone (s : State) (res : TRes) : Option State :=
  let s := match res with | .ok vs => { s with taken := s.taken ++ vs, rout := [] } | _ => s
  match s.rform with
  | .try_ => some { s with rres := .got res, rpc := .done }
  | .tmo => some { s with rres := (match res with | .empty => .timeout | r => .got r), rpc := .done }
  | .blk =>
    match res with
    | .empty => some { s with rpc := if s.rreg then .park else .gLockS }
    | r => some { s with rres := .got r, rpc := if s.rreg then .uLockS else .done }
  | .pollPre =>
    match res with
    | .empty => some { s with rpc := .gLockA }
    | r => some { s with rres := .got r, rpc := if s.rreg then .uLockA else .done, fut := none }
  | .pollPost =>
    match res with
    | .empty => if s.rexec then some { s with rpc := .execPark } else some { s with rres := .pending, rpc := .done }
    | r => some { s with rres := .got r, rpc := .uLockA, fut := none }
  | .drainClose =>
    match res with
    | .ok vs => some (rTry { s with drained := s.drained ++ vs } .drainClose 0)
    | _ => some { s with rres := .unit, rpc := .done }
  | .drainDrop =>
    match res with
    | .ok vs => some (rTry { s with drained := s.drained ++ vs } .drainDrop 0)
    | _ => some { s with rpc := .release }

def stepR_closedLoad (s : State) : Option State :=
  if s.rclosed then
    some { s with rres := .got .disc, rpc := .done, fut := (if s.rform = .pollPre then none else s.fut) }
  else if s.rform = .pollPre ∧ s.rmax = 0 then some { s with rres := .got (.ok []), rpc := .done, fut := none }
  else if s.rform = .blk then some (rTry { s with rreg := false, notif := false } .blk 0)
  else some (rTry s s.rform 0)

def stepR_pop (cfg : Cfg) (s : State) : Option State :=
  (ChainB.step cfg.chain s.ch 0 .cPopLoad).map (fun c => { s with ch := c, rpc := .inPop })

/-- `inPop`: retire actions of the chain, then (τ) take the result of `pop_node` -/
def stepR_inPop (cfg : Cfg) (s : State) : Option State :=
  match s.ch.cpc with
  | .done r =>
    (ChainB.step cfg.chain s.ch 0 .cRet).bind (fun c =>
      let s1 := { s with ch := c }
      match r with
      | some v => some { s1 with rout := s.rout ++ [v], rpc := .cons }
      | none =>
        if s.rout ≠ [] then triDone s1 (.ok s.rout)
        else if s.rround = 1 then triDone s1 .disc
        else some { s1 with rpc := .senders })
  | _ =>
    match cNext s.ch with
    | some l => (ChainB.step cfg.chain s.ch 0 l).map (fun c => { s with ch := c })
    | none => none

def stepR_cons (s : State) : Option State :=
  let s1 := { s with consumed := s.consumed + 1 }
  if s.rout.length < s.rmax then some { s1 with rpc := .pop } else triDone s1 (.ok s.rout)

def stepR_senders (s : State) : Option State :=
  if s.ch.senders ≠ 0 then triDone s .empty
  else if s.rround = 2 then some { s with rform := .pollPre, rround := 0, rpc := .pop }
  else some { s with rround := 1, rpc := .pop }

def stepR_park (s : State) (next : RPC) : Option State :=
  if s.token s.rthr then some { s with token := upd s.token s.rthr false, rpc := next } else none

def stepR_swapFlag (s : State) : Option State :=
  some (rTry { s with notif := false, rreg := if s.notif then false else s.rreg } .blk 0)

/-- after an async unregister: the poll returns, or `dropfut` is done -/
def stepR_uCntA (s : State) : Option State :=
  some { s with awCnt := 0, rreg := false, rpc := .done }

def stepR_closeCas (s : State) : Option State :=
  if s.rclosed then some { s with rres := .closeErr, rpc := .done }
  else some { s with rclosed := true, rpc := .dropStore }

def stepR_closeSwap (cfg : Cfg) (s : State) : Option State :=
  if s.rclosed then rArcRelease cfg s
  else some { s with rclosed := true, rpc := .dropStore }

def stepR_dropStore (s : State) : Option State :=
  match s.rop with
  | .drop => some (rTry { s with rdrop := true, rmax := 1 } .drainDrop 0)
  | _ => some (rTry { s with rdrop := true, rmax := 1 } .drainClose 0)

def stepR_emptyLoad (s : State) : Option State :=
  some { s with rres := .bool (s.ch.next s.ch.tail).isNone, rpc := .done }

def stepR_fin (cfg : Cfg) (s : State) : Option State :=
  match cNext s.ch with
  | some l =>
    (ChainB.step cfg.chain s.ch 0 l).map (fun c =>
      if c.cpc = .finished then { s with ch := c, rres := .unit, rpc := .done } else { s with ch := c })
  | none => none

def stepR (cfg : Cfg) (s : State) : Option State :=
  match s.rpc with
  | .idle => none
  | .done => none
  | .closedLoad => stepR_closedLoad s
  | .pop => stepR_pop cfg s
  | .inPop => stepR_inPop cfg s
  | .cons => stepR_cons s
  | .senders => stepR_senders s
  | .gLockS => match s.swLock with | none => some { s with swLock := some none, rpc := .gUnlockS } | some _ => none
  | .gUnlockS => some { s with swLock := none, swSlot := some s.rthr, rpc := .gCntS }
  | .gCntS => some { s with swCnt := 1, rpc := .gFence }
  | .gFence => some (rTry { s with rreg := true } .blk 0)
  | .uLockS => match s.swLock with | none => some { s with swLock := some none, rpc := .uUnlockS } | some _ => none
  | .uUnlockS => some { s with swLock := none, swSlot := none, rpc := .uCntS }
  | .uCntS => some { s with swCnt := 0, rreg := false, rpc := .done }
  | .park => stepR_park s .swapFlag
  | .swapFlag => stepR_swapFlag s
  | .gLockA => match s.awLock with | none => some { s with awLock := some none, rpc := .gUnlockA } | some _ => none
  | .gUnlockA => some { s with awLock := none, awSlot := some s.rwaker, rpc := .gCntA }
  | .gCntA => some { s with awCnt := 1, rpc := .gFenceA }
  | .gFenceA => some (rTry { s with rreg := true } .pollPost (if s.rsingle then 2 else 0))
  | .uLockA => match s.awLock with | none => some { s with awLock := some none, rpc := .uUnlockA } | some _ => none
  | .uUnlockA => some { s with awLock := none, awSlot := none, rpc := .uCntA }
  | .uCntA => stepR_uCntA s
  | .execPark => stepR_park { s with rform := .pollPre } .closedLoad
  | .closeCas => stepR_closeCas s
  | .closeSwap => stepR_closeSwap cfg s
  | .dropStore => stepR_dropStore s
  | .lenShard i =>
    some { s with racc := s.racc + s.shard i, rpc := if i + 1 < cfg.shards then .lenShard (i + 1) else .lenCons }
  | .lenCons => some { s with rres := .nat (s.racc - s.consumed), rpc := .done }
  | .emptyLoad => stepR_emptyLoad s
  | .iscSenders =>
    if s.ch.senders ≠ 0 then some { s with rres := .bool false, rpc := .done } else some { s with rpc := .emptyLoad }
  | .scLoad => some { s with rres := .nat s.ch.senders, rpc := .done }
  | .convLoad => some { s with rres := .unit, rpc := .done }
  | .release => rArcRelease cfg s
  | .fin => stepR_fin cfg s

def stepAdv (cfg : Cfg) (s : State) (t : Nat) : Option State :=
  match s.tpc t with
  | .idle => none
  | .onS h => if s.sthr h = t then stepS cfg s h else none
  | .onR => if s.rthr = t then stepR cfg s else none

def step (cfg : Cfg) (s : State) (t : Nat) : Label → Option State
  | .callS h op => stepCallS cfg s t h op
  | .callR op => stepCallR s t op
  | .adv => stepAdv cfg s t
  | .ret => stepRet s t

def run (cfg : Cfg) (s : State) : List (Nat × Label) → Option State
  | [] => some s
  | (t, l) :: rest => (step cfg s t l).bind (fun s' => run cfg s' rest)

inductive Reach (cfg : Cfg) : State → Prop where
  | init : Reach cfg init
  | step {s s' t l} : Reach cfg s → step cfg s t l = some s' → Reach cfg s'

end Fv.Chan.MpscUB
