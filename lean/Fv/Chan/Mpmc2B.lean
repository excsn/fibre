/-
B-model (critical-section granularity, all interleavings) of the bounded MPMC channel v2:
  /repo/channels/src/mpmc_v2/core.rs      try_send_core / try_recv_core(_for) / poll_recv_internal
  /repo/channels/src/mpmc_v2/sync_impl.rs send_sync / recv_sync / recv_timeout_sync, backoff.rs adaptive_wait
  /repo/channels/src/mpmc_v2/async_impl.rs SendFuture / RecvFuture (poll, Drop = cancellation)
  /repo/channels/src/mpmc_v2/mod.rs       clone / close / drop of the four handle types

One step = one locked section of the channel's `HybridMutex` (everything the code does between
`internal.lock()` and the guard's drop, including the waiter-state CAS and the `unpark`/`wake`
calls that the code issues while still holding the guard), OR one out-of-lock visible action:
the state-byte load of a wait loop, `park`, the cancel CAS of `recv_timeout` / future `Drop`,
one `wake()` of a close path's `to_wake` vector, a poll boundary, a future drop.

Agents (`Nat`) are threads (sync ops, handle ops) or tasks (one future each). A waiter record
is a fresh id `r` (the address of the stack `done_flag` / the future's inline `state`);
`st r` is the state byte, `owner r` the thread/task that `unpark`/`wake` reaches.
`wakes a` is the park token (consumed by `park`) resp. the number of waker invocations since
the last poll (reset by `poll`), exactly the harness' `wakes f` observation.

Ghost (written, never read by a transition): `sent recvd returned dropped offered` token
histories, `ar` / `asg` = records CASed to SUCCESS whose owner has not yet re-entered
`try_recv_core` / `try_send_core` (A_r / A_s of DESIGN Appendix A.5), `wakeBy` = which closing
agent holds the deferred wake of a record, `kind` = send-side / receive-side record.

The model is for capacity ≥ 1 (`bounded(0)` panics in the constructor); batch forms and the
`Stream` impl are not modelled.
-/
namespace Fv.Chan.Mpmc2B

/-- waiter state byte: WAITING=0, SUCCESS_SPACE=3, CLOSED_BUFFERED=1, CANCELLED=8 -/
inductive WS where
  | waiting | success | closed | cancelled
deriving Repr, DecidableEq

/-- `(st & 0x01) != 0` -/
def WS.finished : WS → Bool
  | .success => true
  | .closed => true
  | _ => false

inductive Res where
  | sendOk (v : Nat)            -- Ok(())
  | sendFull (v : Nat)          -- try_send: Err(Full(v)), token handed back
  | sendClosed (v : Nat)        -- try_send: Err(Closed(v)), token handed back
  | sendClosedDrop (v : Nat)    -- send / SendFuture: Err(Closed), the token is dropped by the callee
  | recvOk (v : Nat)
  | recvEmpty
  | recvDisc
  | recvTimeout
  | unit                        -- clone / close / drop returned
  | num (n : Nat)               -- len()
  | futDropped                  -- the future was dropped before completion
  | panicked                    -- `unreachable!("state was finished but channel empty")`
deriving Repr, DecidableEq

inductive Op where
  | send (v : Nat) | trySend (v : Nat) | recv | tryRecv | recvTimeout0
  | sendFut (v : Nat) | recvFut
  | cloneS | cloneR | closeS | closeR | probe
deriving Repr, DecidableEq

inductive PC where
  | idle
  | done (r : Res)
  -- send_sync
  | sTry (v r : Nat)            -- loop head: about to run try_send_core
  | sReg (v r : Nat)            -- got Full: about to lock, re-check, enqueue a fresh waiter
  | sWait (v r : Nat)           -- enqueued: about to load the state byte (adaptive_wait cond)
  | sPark (v r : Nat)           -- cond was false: about to park / parked
  | sUnl (v r : Nat) (closed : Bool)  -- finished: about to lock and unlink
  | tsTry (v : Nat)             -- try_send
  -- recv_sync
  | rTry (r : Nat)
  | rReg (r : Nat)
  | rWait (r : Nat)
  | rPark (r : Nat)
  | rUnl (r : Nat)              -- state CLOSED: about to lock, unlink, return Disconnected
  | trTry                       -- try_recv
  -- recv_timeout(0)
  | toTry (r : Nat)
  | toReg (r : Nat)
  | toRetry (r : Nat)           -- pre-park re-check saw an item: second try_recv_core (not enqueued)
  | toCas (r : Nat)             -- deadline passed: about to CAS WAITING→CANCELLED (outside the lock)
  | toUnl (r : Nat)             -- CAS won: about to lock and unlink, then Timeout
  | toFin (r : Nat)             -- CAS lost: final try_recv_core (Empty ⇒ unreachable!)
  -- SendFuture
  | asNew (v r : Nat)           -- created, never polled (poll boundary)
  | asTry (v r : Nat)
  | asReg (v r : Nat)
  | asPend (v r : Nat)          -- returned Pending, registered (poll boundary)
  | asUnl (v r : Nat) (closed : Bool)
  | asRef (v r : Nat)           -- re-polled while WAITING: about to lock and refresh the waker
  | fdUnlS (v r : Nat)          -- Drop: cancel CAS done, about to lock and unlink
  -- RecvFuture
  | arNew (r : Nat)
  | arTry (r : Nat)
  | arReg (r : Nat)
  | arPend (r : Nat)
  | arUnl (r : Nat)
  | fdUnlR (r : Nat)
  -- handles
  | hCloneS | hCloneR | hCloseS | hCloseR | hProbe
  | hWake (ws : List Nat)       -- close path after unlocking: `for w in to_wake { w.wake() }`
deriving Repr, DecidableEq

structure State where
  cap : Nat
  queue : List Nat
  senders : Nat
  receivers : Nat
  wss : List Nat                -- waiting_sync_senders   (record ids, front first)
  was : List Nat                -- waiting_async_senders
  wsr : List Nat                -- waiting_sync_receivers
  war : List Nat                -- waiting_async_receivers
  st : Nat → WS
  owner : Nat → Nat
  wakes : Nat → Nat
  pc : Nat → PC
  nextRec : Nat
  sent : List Nat
  recvd : List Nat
  returned : List Nat
  dropped : List Nat
  offered : List Nat
  ar : List Nat
  asg : List Nat
  wakeBy : Nat → Nat
  kind : Nat → Bool             -- ghost: the record was created by a send-side operation

def init (cap : Nat) : State :=
  { cap := cap, queue := [], senders := 1, receivers := 1, wss := [], was := [], wsr := [], war := [],
    st := fun _ => .waiting, owner := fun _ => 0, wakes := fun _ => 0, pc := fun _ => .idle, nextRec := 0,
    sent := [], recvd := [], returned := [], dropped := [], offered := [], ar := [], asg := [],
    wakeBy := fun _ => 0, kind := fun _ => false }

def upd {α} (f : Nat → α) (i : Nat) (a : α) : Nat → α := fun j => if j = i then a else f j
def bump (w : Nat → Nat) (a : Nat) : Nat → Nat := fun j => if j = a then w a + 1 else w j

/-- the first record of a waiter queue whose state byte is still WAITING (the only one a
`compare_exchange(WAITING, …)` scan succeeds on) -/
def firstW (st : Nat → WS) (q : List Nat) : Option Nat := q.find? (fun r => decide (st r = .waiting))

/-- `front()` of a queue if its CAS from WAITING succeeds -/
def frontW (st : Nat → WS) (q : List Nat) : Option Nat :=
  match q with
  | r :: _ => if st r = .waiting then some r else none
  | [] => none

/-- locked body of `try_send_core` after the `receiver_count == 0` check. `none` = Full. -/
def sendCore (s : State) (v : Nat) : Option State :=
  if s.queue.length ≠ s.cap then
    match firstW s.st s.war with
    | some r =>
      some { s with st := upd s.st r .success, war := s.war.erase r, queue := s.queue ++ [v],
                    sent := s.sent ++ [v], wakes := bump s.wakes (s.owner r), ar := s.ar ++ [r] }
    | none =>
      match firstW s.st s.wsr with
      | some r =>
        some { s with st := upd s.st r .success, wsr := s.wsr.erase r, queue := s.queue ++ [v],
                      sent := s.sent ++ [v], wakes := bump s.wakes (s.owner r), ar := s.ar ++ [r] }
      | none =>
        if s.queue.length < s.cap then some { s with queue := s.queue ++ [v], sent := s.sent ++ [v] }
        else none
  else none

/-- locked body of `try_recv_core` when the buffer is non-empty: pop the front, wake one sender
(async queue first). `none` = buffer empty. -/
def recvCore (s : State) : Option (Nat × State) :=
  match s.queue with
  | [] => none
  | v :: q =>
    match firstW s.st s.was with
    | some r =>
      some (v, { s with queue := q, recvd := s.recvd ++ [v], st := upd s.st r .success, was := s.was.erase r,
                        wakes := bump s.wakes (s.owner r), asg := s.asg ++ [r] })
    | none =>
      match firstW s.st s.wss with
      | some r =>
        some (v, { s with queue := q, recvd := s.recvd ++ [v], st := upd s.st r .success, wss := s.wss.erase r,
                          wakes := bump s.wakes (s.owner r), asg := s.asg ++ [r] })
      | none => some (v, { s with queue := q, recvd := s.recvd ++ [v] })

/-! ### blocking send (`send_sync`) -/

def stepSTry (s : State) (t v r : Nat) : State :=
  if s.receivers = 0 then
    { s with asg := s.asg.erase r, dropped := s.dropped ++ [v], pc := upd s.pc t (.done (.sendClosedDrop v)) }
  else
    match sendCore { s with asg := s.asg.erase r } v with
    | some s1 => { s1 with pc := upd s1.pc t (.done (.sendOk v)) }
    | none => { s with asg := s.asg.erase r, pc := upd s.pc t (.sReg v r) }

def stepSReg (s : State) (t v r : Nat) : State :=
  if s.queue.length ≠ s.cap ∧ (s.war ≠ [] ∨ s.wsr ≠ [] ∨ s.queue.length < s.cap) then
    { s with pc := upd s.pc t (.sTry v r) }
  else if s.receivers = 0 then
    { s with dropped := s.dropped ++ [v], pc := upd s.pc t (.done (.sendClosedDrop v)) }
  else
    let r' := s.nextRec
    { s with nextRec := r' + 1, st := upd s.st r' .waiting, owner := upd s.owner r' t, kind := upd s.kind r' true,
             wss := s.wss ++ [r'], pc := upd s.pc t (.sWait v r') }

def stepSWait (s : State) (t v r : Nat) : State :=
  match s.st r with
  | .success => { s with pc := upd s.pc t (.sUnl v r false) }
  | .closed => { s with pc := upd s.pc t (.sUnl v r true) }
  | .waiting => { s with pc := upd s.pc t (.sPark v r) }
  | .cancelled => { s with pc := upd s.pc t (.sPark v r) }

def stepSPark (s : State) (t v r : Nat) : Option State :=
  if 0 < s.wakes t then some { s with wakes := upd s.wakes t 0, pc := upd s.pc t (.sWait v r) } else none

def stepSUnl (s : State) (t v r : Nat) (closed : Bool) : State :=
  if closed then
    { s with wss := s.wss.erase r, dropped := s.dropped ++ [v], pc := upd s.pc t (.done (.sendClosedDrop v)) }
  else
    { s with wss := s.wss.erase r, pc := upd s.pc t (.sTry v r) }

def stepTsTry (s : State) (t v : Nat) : State :=
  if s.receivers = 0 then
    { s with returned := s.returned ++ [v], pc := upd s.pc t (.done (.sendClosed v)) }
  else
    match sendCore s v with
    | some s1 => { s1 with pc := upd s1.pc t (.done (.sendOk v)) }
    | none => { s with returned := s.returned ++ [v], pc := upd s.pc t (.done (.sendFull v)) }

/-! ### blocking receive (`recv_sync`), `try_recv`, `recv_timeout(0)` -/

def stepRTry (s : State) (t r : Nat) : State :=
  match recvCore { s with ar := s.ar.erase r } with
  | some (v, s1) => { s1 with pc := upd s1.pc t (.done (.recvOk v)) }
  | none =>
    if s.senders = 0 then { s with ar := s.ar.erase r, pc := upd s.pc t (.done .recvDisc) }
    else { s with ar := s.ar.erase r, pc := upd s.pc t (.rReg r) }

def stepRReg (s : State) (t r : Nat) : State :=
  if s.queue ≠ [] then { s with pc := upd s.pc t (.rTry r) }
  else if s.senders = 0 then { s with pc := upd s.pc t (.done .recvDisc) }
  else
    let r' := s.nextRec
    { s with nextRec := r' + 1, st := upd s.st r' .waiting, owner := upd s.owner r' t, kind := upd s.kind r' false,
             wsr := s.wsr ++ [r'], pc := upd s.pc t (.rWait r') }

def stepRWait (s : State) (t r : Nat) : State :=
  match s.st r with
  | .success => { s with pc := upd s.pc t (.rTry r) }
  | .closed => { s with pc := upd s.pc t (.rUnl r) }
  | .waiting => { s with pc := upd s.pc t (.rPark r) }
  | .cancelled => { s with pc := upd s.pc t (.rPark r) }

def stepRPark (s : State) (t r : Nat) : Option State :=
  if 0 < s.wakes t then some { s with wakes := upd s.wakes t 0, pc := upd s.pc t (.rWait r) } else none

def stepRUnl (s : State) (t r : Nat) : State :=
  { s with wsr := s.wsr.filter (· ≠ r), pc := upd s.pc t (.done .recvDisc) }

def stepTrTry (s : State) (t : Nat) : State :=
  match recvCore s with
  | some (v, s1) => { s1 with pc := upd s1.pc t (.done (.recvOk v)) }
  | none =>
    if s.senders = 0 then { s with pc := upd s.pc t (.done .recvDisc) }
    else { s with pc := upd s.pc t (.done .recvEmpty) }

def stepToTry (s : State) (t r : Nat) : State :=
  match recvCore s with
  | some (v, s1) => { s1 with pc := upd s1.pc t (.done (.recvOk v)) }
  | none =>
    if s.senders = 0 then { s with pc := upd s.pc t (.done .recvDisc) }
    else { s with pc := upd s.pc t (.toReg r) }

def stepToReg (s : State) (t r : Nat) : State :=
  if s.queue ≠ [] then { s with pc := upd s.pc t (.toRetry r) }
  else if s.senders = 0 then { s with pc := upd s.pc t (.done .recvDisc) }
  else { s with wsr := s.wsr ++ [r], pc := upd s.pc t (.toCas r) }

def stepToRetry (s : State) (t r : Nat) : State :=
  match recvCore s with
  | some (v, s1) => { s1 with pc := upd s1.pc t (.done (.recvOk v)) }
  | none =>
    if s.senders = 0 then { s with pc := upd s.pc t (.done .recvDisc) }
    else { s with pc := upd s.pc t (.toCas r) }

def stepToCas (s : State) (t r : Nat) : State :=
  match s.st r with
  | .waiting => { s with st := upd s.st r .cancelled, pc := upd s.pc t (.toUnl r) }
  | .success => { s with pc := upd s.pc t (.toFin r) }
  | .closed => { s with pc := upd s.pc t (.toFin r) }
  | .cancelled => { s with pc := upd s.pc t (.toFin r) }

def stepToUnl (s : State) (t r : Nat) : State :=
  { s with wsr := s.wsr.filter (· ≠ r), pc := upd s.pc t (.done .recvTimeout) }

def stepToFin (s : State) (t r : Nat) : State :=
  match recvCore { s with ar := s.ar.erase r } with
  | some (v, s1) => { s1 with pc := upd s1.pc t (.done (.recvOk v)) }
  | none =>
    if s.senders = 0 then { s with ar := s.ar.erase r, pc := upd s.pc t (.done .recvDisc) }
    else { s with ar := s.ar.erase r, pc := upd s.pc t (.done .panicked) }

/-! ### `SendFuture` -/

def stepAsTry (s : State) (t v r : Nat) : State :=
  if s.receivers = 0 then
    { s with asg := s.asg.erase r, dropped := s.dropped ++ [v], pc := upd s.pc t (.done (.sendClosedDrop v)) }
  else
    match sendCore { s with asg := s.asg.erase r } v with
    | some s1 => { s1 with pc := upd s1.pc t (.done (.sendOk v)) }
    | none => { s with asg := s.asg.erase r, pc := upd s.pc t (.asReg v r) }

def stepAsReg (s : State) (t v r : Nat) : State :=
  if s.queue.length ≠ s.cap ∧ (s.war ≠ [] ∨ s.wsr ≠ [] ∨ s.queue.length < s.cap) then
    { s with pc := upd s.pc t (.asTry v r) }
  else if s.receivers = 0 then
    { s with dropped := s.dropped ++ [v], pc := upd s.pc t (.done (.sendClosedDrop v)) }
  else
    { s with st := upd s.st r .waiting, was := s.was ++ [r], pc := upd s.pc t (.asPend v r) }

def stepAsUnl (s : State) (t v r : Nat) (closed : Bool) : State :=
  if closed then
    { s with was := s.was.erase r, dropped := s.dropped ++ [v], pc := upd s.pc t (.done (.sendClosedDrop v)) }
  else
    { s with was := s.was.erase r, pc := upd s.pc t (.asTry v r) }

def stepAsRef (s : State) (t v r : Nat) : State :=
  if r ∈ s.was then { s with pc := upd s.pc t (.asPend v r) }
  else { s with wakes := bump s.wakes t, pc := upd s.pc t (.asPend v r) }

def stepFdUnlS (s : State) (t v r : Nat) : State :=
  { s with was := s.was.filter (· ≠ r), dropped := s.dropped ++ [v], pc := upd s.pc t (.done .futDropped) }

/-! ### `RecvFuture` (`poll_recv_internal`) -/

/-- `try_recv_core_for(state_ptr)`: whenever the locked section resolves the future (an item, or Disconnected)
the future's own record is unlinked in the same section (`unlink_async_receiver`, fix cd494c8 of finding F17:
a still-registered future that was polled again used to return Ready leaving its WAITING record queued). -/
def stepArTry (s : State) (t r : Nat) : State :=
  match recvCore { s with ar := s.ar.erase r } with
  | some (v, s1) => { s1 with war := s1.war.filter (· ≠ r), pc := upd s1.pc t (.done (.recvOk v)) }
  | none =>
    if s.senders = 0 then
      { s with ar := s.ar.erase r, war := s.war.filter (· ≠ r), pc := upd s.pc t (.done .recvDisc) }
    else { s with ar := s.ar.erase r, pc := upd s.pc t (.arReg r) }

/-- second locked section of `poll_recv_internal`. The future may still be registered here (it was polled again
while WAITING): a sender can then CAS its record in between, so `ar` (ghost) is cleared of `r` when the record is
re-armed or the future resolves. -/
def stepArReg (s : State) (t r : Nat) : State :=
  if s.queue ≠ [] then { s with pc := upd s.pc t (.arTry r) }
  else if s.senders = 0 then
    { s with ar := s.ar.erase r, war := s.war.filter (· ≠ r), pc := upd s.pc t (.done .recvDisc) }
  else if r ∈ s.war then { s with pc := upd s.pc t (.arPend r) }
  else { s with ar := s.ar.erase r, st := upd s.st r .waiting, war := s.war ++ [r], pc := upd s.pc t (.arPend r) }

def stepArUnl (s : State) (t r : Nat) : State :=
  { s with war := s.war.filter (· ≠ r), pc := upd s.pc t (.done .recvDisc) }

def stepFdUnlR (s : State) (t r : Nat) : State :=
  { s with war := s.war.filter (· ≠ r), pc := upd s.pc t (.done .futDropped) }

/-! ### handles -/

/-- last sender gone: every WAITING receiver record is CASed to CLOSED (not removed);
wakes are deferred to after the unlock. -/
def stepCloseS (s : State) (t : Nat) : Option State :=
  if s.senders = 0 then none      -- `sender_count -= 1` underflow (F3 only); not a behaviour of the model
  else if s.senders = 1 then
    some { s with senders := 0,
                  st := fun r => if (r ∈ s.wsr ∨ r ∈ s.war) ∧ s.st r = .waiting then .closed else s.st r,
                  wakeBy := fun r => if (r ∈ s.wsr ∨ r ∈ s.war) ∧ s.st r = .waiting then t else s.wakeBy r,
                  pc := upd s.pc t (.hWake (((s.wsr.filter (fun r => decide (s.st r = .waiting))).map s.owner)
                                          ++ ((s.war.filter (fun r => decide (s.st r = .waiting))).map s.owner))) }
  else some { s with senders := s.senders - 1, pc := upd s.pc t (.hWake []) }

/-- receiver close: last one CASes every WAITING sender record to CLOSED; otherwise the front of
each sender queue is CASed to SUCCESS (a retry hint) without being removed. -/
def stepCloseR (s : State) (t : Nat) : Option State :=
  if s.receivers = 0 then none
  else if s.receivers = 1 then
    some { s with receivers := 0,
                  st := fun r => if (r ∈ s.wss ∨ r ∈ s.was) ∧ s.st r = .waiting then .closed else s.st r,
                  wakeBy := fun r => if (r ∈ s.wss ∨ r ∈ s.was) ∧ s.st r = .waiting then t else s.wakeBy r,
                  pc := upd s.pc t (.hWake (((s.wss.filter (fun r => decide (s.st r = .waiting))).map s.owner)
                                          ++ ((s.was.filter (fun r => decide (s.st r = .waiting))).map s.owner))) }
  else
    match frontW s.st s.wss with
    | some r1 =>
      match frontW (upd s.st r1 .success) s.was with
      | some r2 =>
        some { s with receivers := s.receivers - 1, st := upd (upd s.st r1 .success) r2 .success,
                      asg := s.asg ++ [r1, r2], wakeBy := upd (upd s.wakeBy r1 t) r2 t,
                      pc := upd s.pc t (.hWake [s.owner r1, s.owner r2]) }
      | none =>
        some { s with receivers := s.receivers - 1, st := upd s.st r1 .success, asg := s.asg ++ [r1],
                      wakeBy := upd s.wakeBy r1 t, pc := upd s.pc t (.hWake [s.owner r1]) }
    | none =>
      match frontW s.st s.was with
      | some r2 =>
        some { s with receivers := s.receivers - 1, st := upd s.st r2 .success, asg := s.asg ++ [r2],
                      wakeBy := upd s.wakeBy r2 t, pc := upd s.pc t (.hWake [s.owner r2]) }
      | none => some { s with receivers := s.receivers - 1, pc := upd s.pc t (.hWake []) }

def stepHWake (s : State) (t : Nat) (ws : List Nat) : State :=
  match ws with
  | [] => { s with pc := upd s.pc t (.done .unit) }
  | a :: rest => { s with wakes := bump s.wakes a, pc := upd s.pc t (.hWake rest) }

/-! ### labels -/

inductive Label where
  | call (op : Op)    -- the environment (the program of agent t) starts an operation / creates a future
  | adv               -- the agent executes its next locked section / visible action
  | poll              -- a task is polled (first poll or re-poll of a Pending future)
  | dropFut           -- a not-yet-completed future is dropped (first action of Drop: the cancel CAS)
  | spurious          -- `park` returns without a token
deriving Repr, DecidableEq

def PC.atRest : PC → Bool
  | .idle => true
  | .done _ => true
  | _ => false

def stepCall (s : State) (t : Nat) (op : Op) : Option State :=
  if (s.pc t).atRest then
    let r := s.nextRec
    match op with
    | .send v =>
      if v ∈ s.offered then none else
      some { s with offered := s.offered ++ [v], nextRec := r + 1, st := upd s.st r .waiting, owner := upd s.owner r t,
                    kind := upd s.kind r true, pc := upd s.pc t (.sTry v r) }
    | .trySend v =>
      if v ∈ s.offered then none else
      some { s with offered := s.offered ++ [v], pc := upd s.pc t (.tsTry v) }
    | .recv =>
      some { s with nextRec := r + 1, st := upd s.st r .waiting, owner := upd s.owner r t, kind := upd s.kind r false,
                    pc := upd s.pc t (.rTry r) }
    | .tryRecv => some { s with pc := upd s.pc t .trTry }
    | .recvTimeout0 =>
      some { s with nextRec := r + 1, st := upd s.st r .waiting, owner := upd s.owner r t, kind := upd s.kind r false,
                    pc := upd s.pc t (.toTry r) }
    | .sendFut v =>
      if v ∈ s.offered then none else
      some { s with offered := s.offered ++ [v], nextRec := r + 1, st := upd s.st r .waiting, owner := upd s.owner r t,
                    kind := upd s.kind r true, pc := upd s.pc t (.asNew v r) }
    | .recvFut =>
      some { s with nextRec := r + 1, st := upd s.st r .waiting, owner := upd s.owner r t, kind := upd s.kind r false,
                    pc := upd s.pc t (.arNew r) }
    | .cloneS => if s.senders = 0 then none else some { s with pc := upd s.pc t .hCloneS }
    | .cloneR => if s.receivers = 0 then none else some { s with pc := upd s.pc t .hCloneR }
    | .closeS => some { s with pc := upd s.pc t .hCloseS }
    | .closeR => some { s with pc := upd s.pc t .hCloseR }
    | .probe => some { s with pc := upd s.pc t .hProbe }
  else none

def stepAdv (s : State) (t : Nat) : Option State :=
  match s.pc t with
  | .sTry v r => some (stepSTry s t v r)
  | .sReg v r => some (stepSReg s t v r)
  | .sWait v r => some (stepSWait s t v r)
  | .sPark v r => stepSPark s t v r
  | .sUnl v r c => some (stepSUnl s t v r c)
  | .tsTry v => some (stepTsTry s t v)
  | .rTry r => some (stepRTry s t r)
  | .rReg r => some (stepRReg s t r)
  | .rWait r => some (stepRWait s t r)
  | .rPark r => stepRPark s t r
  | .rUnl r => some (stepRUnl s t r)
  | .trTry => some (stepTrTry s t)
  | .toTry r => some (stepToTry s t r)
  | .toReg r => some (stepToReg s t r)
  | .toRetry r => some (stepToRetry s t r)
  | .toCas r => some (stepToCas s t r)
  | .toUnl r => some (stepToUnl s t r)
  | .toFin r => some (stepToFin s t r)
  | .asTry v r => some (stepAsTry s t v r)
  | .asReg v r => some (stepAsReg s t v r)
  | .asUnl v r c => some (stepAsUnl s t v r c)
  | .asRef v r => some (stepAsRef s t v r)
  | .fdUnlS v r => some (stepFdUnlS s t v r)
  | .arTry r => some (stepArTry s t r)
  | .arReg r => some (stepArReg s t r)
  | .arUnl r => some (stepArUnl s t r)
  | .fdUnlR r => some (stepFdUnlR s t r)
  | .hCloneS => some { s with senders := s.senders + 1, pc := upd s.pc t (.done .unit) }
  | .hCloneR => some { s with receivers := s.receivers + 1, pc := upd s.pc t (.done .unit) }
  | .hCloseS => stepCloseS s t
  | .hCloseR => stepCloseR s t
  | .hProbe => some { s with pc := upd s.pc t (.done (.num s.queue.length)) }
  | .hWake ws => some (stepHWake s t ws)
  | _ => none       -- idle, done, asNew, asPend, arNew, arPend: poll boundaries / at rest

/-- `poll`: resets the task's wake counter; a registered future first loads its state byte. -/
def stepPoll (s : State) (t : Nat) : Option State :=
  match s.pc t with
  | .asNew v r => some { s with wakes := upd s.wakes t 0, pc := upd s.pc t (.asTry v r) }
  | .asPend v r =>
    match s.st r with
    | .success => some { s with wakes := upd s.wakes t 0, pc := upd s.pc t (.asUnl v r false) }
    | .closed => some { s with wakes := upd s.wakes t 0, pc := upd s.pc t (.asUnl v r true) }
    | .waiting => some { s with wakes := upd s.wakes t 0, pc := upd s.pc t (.asRef v r) }
    | .cancelled => some { s with wakes := upd s.wakes t 0, pc := upd s.pc t (.asRef v r) }
  | .arNew r => some { s with wakes := upd s.wakes t 0, pc := upd s.pc t (.arTry r) }
  | .arPend r =>
    match s.st r with
    | .closed => some { s with wakes := upd s.wakes t 0, pc := upd s.pc t (.arUnl r) }
    | .success => some { s with wakes := upd s.wakes t 0, pc := upd s.pc t (.arTry r) }
    | .waiting => some { s with wakes := upd s.wakes t 0, pc := upd s.pc t (.arTry r) }
    | .cancelled => some { s with wakes := upd s.wakes t 0, pc := upd s.pc t (.arTry r) }
  | _ => none

/-- `Drop` of an unfinished future: `if is_registered { CAS(WAITING→CANCELLED); lock; unlink }`. -/
def stepDropFut (s : State) (t : Nat) : Option State :=
  match s.pc t with
  | .asNew v _ => some { s with dropped := s.dropped ++ [v], pc := upd s.pc t (.done .futDropped) }
  | .asPend v r =>
    match s.st r with
    | .waiting => some { s with st := upd s.st r .cancelled, pc := upd s.pc t (.fdUnlS v r) }
    | .success => some { s with pc := upd s.pc t (.fdUnlS v r) }
    | .closed => some { s with pc := upd s.pc t (.fdUnlS v r) }
    | .cancelled => some { s with pc := upd s.pc t (.fdUnlS v r) }
  | .arNew _ => some { s with pc := upd s.pc t (.done .futDropped) }
  | .arPend r =>
    match s.st r with
    | .waiting => some { s with st := upd s.st r .cancelled, pc := upd s.pc t (.fdUnlR r) }
    | .success => some { s with pc := upd s.pc t (.fdUnlR r) }
    | .closed => some { s with pc := upd s.pc t (.fdUnlR r) }
    | .cancelled => some { s with pc := upd s.pc t (.fdUnlR r) }
  | _ => none

def stepSpurious (s : State) (t : Nat) : Option State :=
  match s.pc t with
  | .sPark v r => some { s with pc := upd s.pc t (.sWait v r) }
  | .rPark r => some { s with pc := upd s.pc t (.rWait r) }
  | _ => none

def step (s : State) (t : Nat) : Label → Option State
  | .call op => stepCall s t op
  | .adv => stepAdv s t
  | .poll => stepPoll s t
  | .dropFut => stepDropFut s t
  | .spurious => stepSpurious s t

def run (s : State) : List (Nat × Label) → Option State
  | [] => some s
  | (t, l) :: rest => (step s t l).bind (fun s' => run s' rest)

inductive Reach (cap : Nat) : State → Prop where
  | init : Reach cap (init cap)
  | step {s s' t l} : Reach cap s → step s t l = some s' → Reach cap s'

/-- The hypothesis of the C06 partial theorems, per step:
* no future is dropped between being woken (state byte SUCCESS) and its next poll  (F2).
Polls are not restricted: a `RecvFuture` may be polled again while its state byte is still WAITING (finding F17; with
fix cd494c8 the locked section that resolves such a poll unlinks the future's record, see `stepArTry`). -/
def Benign (s : State) (t : Nat) (l : Label) : Prop :=
  match l, s.pc t with
  | .dropFut, .asPend _ r => s.st r ≠ .success
  | .dropFut, .arPend r => s.st r ≠ .success
  | _, _ => True

inductive ReachB (cap : Nat) : State → Prop where
  | init : ReachB cap (init cap)
  | step {s s' t l} : ReachB cap s → Benign s t l → step s t l = some s' → ReachB cap s'

theorem ReachB.reach {cap s} (h : ReachB cap s) : Reach cap s := by
  induction h with
  | init => exact .init
  | step _ _ hs ih => exact .step ih hs

end Fv.Chan.Mpmc2B
