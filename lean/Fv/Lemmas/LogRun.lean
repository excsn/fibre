import Fv.Lemmas.LogDir
/-! C20 helper lemmas: one `roll` (rename, reopen, retention, compression) on a directory described by `canon`, and the
invariant of a running roller over arbitrary write / clock / restart histories. -/
namespace Fv.Log.Roller
open Fv.Log

theorem Dir.of_core_eq {p : Policy} {M M' : List Entry} (h : M'.map Entry.core = M.map Entry.core) (hd : Dir p M) :
    Dir p M' := by
  constructor
  · intro e he
    obtain ⟨e0, he0, hc⟩ := List.mem_map.1 (h ▸ List.mem_map.2 ⟨e, he, rfl⟩ : e.core ∈ M.map Entry.core)
    simp only [Entry.core, Prod.mk.injEq] at hc
    have h0 := hd.ok e0 he0
    exact ⟨hc.1 ▸ h0.aligned, hc.1 ▸ h0.inRange, hc.2.1 ▸ h0.seqRange⟩
  · have h1 : (M.map Entry.core).Pairwise (fun a b => a.1 < b.1 ∨ (a.1 = b.1 ∧ a.2.1 < b.2.1)) :=
      List.pairwise_map.2 hd.asc
    rw [← h, List.pairwise_map] at h1
    exact h1

theorem canon_perm_middle (p : Policy) (A B : List Entry) (d : Entry) (act : List (Nat × Nat)) :
    (canon p (A ++ d :: B) act).Perm (entryFS p d :: canon p (A ++ B) act) := by
  simp only [canon, List.map_append, List.map_cons]
  exact (List.Perm.cons _ List.perm_middle).trans (List.Perm.swap _ _ _)

theorem name_fresh {p : Policy} (hw : WF p) {A B : List Entry} {d : Entry} (hd : Dir p (A ++ d :: B)) (x : Entry)
    (hx : x.key = d.key) (hxok : EntryOk p x) (act : List (Nat × Nat)) :
    entryName p x ∉ (canon p (A ++ B) act).map (·.1) := by
  have hsub : Dir p (A ++ B) := hd.sublist ((List.Sublist.refl A).append (List.sublist_cons_self d B))
  intro h
  obtain ⟨e, he, hk⟩ := mem_canon_names hw hsub act hxok h
  obtain ⟨_, hB, hAB⟩ := List.pairwise_append.1 hd.asc
  rcases List.mem_append.1 he with h | h
  · exact entryLt_key_ne (hAB e h d (by simp)) (hk.trans hx)
  · exact entryLt_key_ne ((List.pairwise_cons.1 hB).1 e h) (hk.trans hx).symm

theorem compressFile_rep {p : Policy} (hw : WF p) (A B : List Entry) (d : Entry) (hdg : d.gz = false)
    (act : List (Nat × Nat)) (fs : FS) (hp : fs.Perm (canon p (A ++ d :: B) act)) (hd : Dir p (A ++ d :: B)) :
    (compressFile fs (entryName p d) (gzSuffix p)).Perm (canon p (A ++ { d with gz := true } :: B) act) := by
  have hdok : EntryOk p d := hd.ok d (by simp)
  have hget := fsGet_perm hp (hd.names_nodup hw act) (n := entryName p d) (f := { recs := d.recs, gz := d.gz })
    (List.mem_cons_of_mem _ (List.mem_map.2 ⟨d, by simp, rfl⟩))
  have hname' : entryName p { d with gz := true } = entryName p d ++ gzSuffix p := by
    simp [entryName, hdg]
  simp only [compressFile, hget, hw.gzNe, if_false, fsSet, ← hname']
  have h1 := fsRemove_perm_cons (hp.trans (canon_perm_middle p A B d act)) (name_fresh hw hd d rfl hdok act)
  have h2 := (fsRemove_perm h1 (entryName p { d with gz := true })).trans
    (.of_eq (fsRemove_absent (name_fresh hw hd { d with gz := true } rfl ⟨hdok.aligned, hdok.inRange, hdok.seqRange⟩ act)))
  refine (List.Perm.cons _ h2).trans ?_
  simpa [entryFS, hdg] using (canon_perm_middle p A B { d with gz := true } act).symm

theorem compressAll_rep {p : Policy} (hw : WF p) (act : List (Nat × Nat)) (D : List Entry) :
    ∀ (M : List Entry) (fs : FS), fs.Perm (canon p M act) → Dir p M → (∀ d ∈ D, d ∈ M) → D.Pairwise (fun a b => a.key ≠ b.key) →
      ∃ M', (compressAll p (gzSuffix p) fs (D.map (toRF p))).Perm (canon p M' act) ∧ M'.map Entry.core = M.map Entry.core := by
  induction D with
  | nil => intro M fs hp _ _ _; exact ⟨M, hp, rfl⟩
  | cons d D ih =>
    intro M fs hp hd hin hpw
    rw [List.pairwise_cons] at hpw
    have hinD : ∀ x ∈ D, x ∈ M := fun x hx => hin x (List.mem_cons_of_mem _ hx)
    simp only [List.map_cons, compressAll]
    cases hg : d.gz with
    | true =>
      -- already compressed: skipped
      simp only [toRF, hg, Bool.not_true, Bool.false_and, Bool.false_eq_true, if_false]
      exact ih M fs hp hd hinD hpw.2
    | false =>
      obtain ⟨A, B, rfl⟩ := List.append_of_mem (hin d (by simp))
      have hends : endsWith (entryName p d) p.sfx = true := by
        rw [endsWith_iff]
        exact ⟨p.pfx ++ '.' :: (fmtPeriod p.gran (stampOfSecs d.period) ++ '.' :: dec d.seq), by simp [entryName, hg, rolledName]⟩
      simp only [toRF, hg, Bool.not_false, hends, Bool.and_self, if_true]
      have hcore : (A ++ { d with gz := true } :: B).map Entry.core = (A ++ d :: B).map Entry.core := by simp [Entry.core]
      obtain ⟨M', hp', hc'⟩ := ih _ _ (compressFile_rep hw A B d hg act fs hp hd) (hd.of_core_eq hcore)
        (fun x hx => by
          have hne : x ≠ d := fun h => hpw.1 x hx (h ▸ rfl)
          exact (List.mem_append.1 (hinD x hx)).elim (List.mem_append_left _) fun h =>
            List.mem_append_right _ (List.mem_cons_of_mem _ ((List.mem_cons.1 h).resolve_left hne))) hpw.2
      exact ⟨M', hp', hc'.trans hcore⟩

theorem fsGet_base {p : Policy} (hw : WF p) {fs : FS} {rolled : List Entry} {active : List (Nat × Nat)}
    (hp : fs.Perm (canon p rolled active)) (hd : Dir p rolled) : fsGet fs (baseName p) = some { recs := active, gz := false } :=
  fsGet_perm hp (hd.names_nodup hw active) (by simp [canon])

theorem maxSeq_spec (p : Policy) (cur : Stamp) (l : List RolledFile) :
    (∀ rf ∈ l, fmtPeriod p.gran rf.stamp = fmtPeriod p.gran cur → rf.seq ≤ maxSeq p cur l) ∧
      (maxSeq p cur l = 0 ∨ ∃ rf ∈ l, rf.seq = maxSeq p cur l) := by
  induction l with
  | nil => exact ⟨by simp, Or.inl rfl⟩
  | cons x xs ih =>
    obtain ⟨hge, hw⟩ := ih
    have hw' : maxSeq p cur xs = 0 ∨ ∃ rf ∈ x :: xs, rf.seq = maxSeq p cur xs :=
      hw.imp_right fun ⟨rf, hrf, hs⟩ => ⟨rf, List.mem_cons_of_mem _ hrf, hs⟩
    simp only [maxSeq, List.forall_mem_cons]
    split
    · refine ⟨⟨fun _ => Nat.le_max_left _ _, fun rf hrf hf => Nat.le_trans (hge rf hrf hf) (Nat.le_max_right _ _)⟩, ?_⟩
      by_cases h : maxSeq p cur xs ≤ x.seq
      · exact Or.inr ⟨x, List.mem_cons_self, (Nat.max_eq_left h).symm⟩
      · rwa [Nat.max_eq_right (by omega)]
    · next hne => exact ⟨⟨fun hf => absurd hf hne, hge⟩, hw'⟩

/-- how many of the oldest rolled files the retention pass deletes -/
def dropCount (p : Policy) (len : Nat) : Nat :=
  match p.maxRetained with
  | some n => len - n
  | none => 0

theorem compress_some_rep {p : Policy} (hw : WF p) (c : Compression) (hc : p.compression = some c) (K : List Entry)
    (hdK : Dir p K) (fs1 : FS) (hp1 : fs1.Perm (canon p K [])) :
    ∃ M', (compressAll p c.suffix fs1 (((K.map (toRF p)).reverse).drop c.keep)).Perm (canon p M' []) ∧
      M'.map Entry.core = K.map Entry.core := by
  have hgz : gzSuffix p = c.suffix := by simp [gzSuffix, hc]
  rw [List.drop_reverse, List.length_map, ← List.map_take, ← List.map_reverse, ← hgz]
  exact compressAll_rep hw [] ((K.take (K.length - c.keep)).reverse) K fs1 hp1 hdK
    (fun d hd' => List.mem_of_mem_take (List.mem_reverse.mp hd'))
    (List.pairwise_reverse.2 ((hdK.asc.sublist (List.take_sublist _ _)).imp fun h => (entryLt_key_ne h).symm))

theorem cleanup_rep {p : Policy} (hw : WF p) (L : List Entry) (hd : Dir p L) (fs : FS) (hp : fs.Perm (canon p L [])) :
    ∃ M', (cleanup p fs ((L.map (toRF p)).reverse)).Perm (canon p M' []) ∧
      M'.map Entry.core = (L.map Entry.core).drop (dropCount p L.length) := by
  simp only [cleanup, dropCount]
  -- retention leaves the directory of the newest entries, and compression changes no entry's content
  cases hmr : p.maxRetained with
  | none =>
    simp only
    cases hc : p.compression with
    | none => exact ⟨L, hp, by simp⟩
    | some c =>
      obtain ⟨M', h1, h2⟩ := compress_some_rep hw c hc L hd fs hp
      exact ⟨M', h1, by simpa using h2⟩
  | some n =>
    simp only
    have hfs1 : (removeAll fs (((L.map (toRF p)).reverse).drop n)).Perm (canon p (L.drop (L.length - n)) []) := by
      rw [List.drop_reverse, List.length_map, ← List.map_take, removeAll_eq_filter]
      refine (hp.filter _).trans ?_
      rw [← removeAll_eq_filter, removeAll_canon hw hd [] (L.length - n)]
    rw [List.take_reverse, List.length_map, ← List.map_drop]
    cases hc : p.compression with
    | none => exact ⟨_, hfs1, by simp⟩
    | some c =>
      obtain ⟨M', h1, h2⟩ := compress_some_rep hw c hc _ (hd.sublist (List.drop_sublist _ _)) _ hfs1
      exact ⟨M', h1, by simpa using h2⟩

theorem nextSeq_canon {p : Policy} (hw : WF p) {fs : FS} {rolled : List Entry} {active : List (Nat × Nat)}
    (hp : fs.Perm (canon p rolled active)) (hd : Dir p rolled) (pstart : Nat) :
    (∀ e ∈ rolled, e.period = pstart → e.seq < nextSeq p fs pstart) ∧
      (nextSeq p fs pstart = 1 ∨ ∃ e ∈ rolled, nextSeq p fs pstart = e.seq + 1) := by
  have hmem : ∀ rf, rf ∈ findRolled p fs ↔ ∃ e ∈ rolled, toRF p e = rf := fun rf => by
    simp [findRolled_canon p hw fs rolled active hp hd]
  unfold nextSeq
  constructor
  · intro e he hpe
    exact Nat.lt_succ_of_le ((maxSeq_spec p _ _).1 (toRF p e) ((hmem _).2 ⟨e, he, rfl⟩) (by simp [toRF, hpe]))
  · rcases (maxSeq_spec p (stampOfSecs pstart) (findRolled p fs)).2 with h0 | ⟨rf, hrf, hs⟩
    · exact Or.inl (by rw [h0])
    · obtain ⟨e, he, rfl⟩ := (hmem rf).1 hrf
      exact Or.inr ⟨e, he, by rw [← hs]; rfl⟩

theorem roll_rep {p : Policy} (hw : WF p) (fs : FS) (st : RState) (now : Nat) (rolled : List Entry) (active : List (Nat × Nat))
    (hp : fs.Perm (canon p rolled active)) (hd : Dir p rolled)
    (hps : periodStart p.gran st.pstart = st.pstart) (hpr : st.pstart < tMax)
    (hle : ∀ e ∈ rolled, e.period ≤ st.pstart) (hseq : nextSeq p fs st.pstart < 4294967296) :
    ∃ rolled',
      ((roll p fs st now).1).Perm (canon p rolled' []) ∧
      (roll p fs st now).2 = { size := 0, pstart := periodStart p.gran now } ∧
      Dir p rolled' ∧
      rolled'.map Entry.core =
        ((rolled ++ [({ period := st.pstart, seq := nextSeq p fs st.pstart, recs := active, gz := false } : Entry)]).map
          Entry.core).drop (dropCount p (rolled.length + 1)) := by
  have hA := (nextSeq_canon hw hp hd st.pstart).1
  let newE : Entry := { period := st.pstart, seq := nextSeq p fs st.pstart, recs := active, gz := false }
  have hnewOk : EntryOk p newE := ⟨hps, hpr, hseq⟩
  have hdL : Dir p (rolled ++ [newE]) := by
    refine ⟨fun e he => ?_, List.pairwise_append.2 ⟨hd.asc, List.pairwise_singleton _ _, fun a ha b hb => ?_⟩⟩
    · rcases List.mem_append.1 he with h | h
      · exact hd.ok e h
      · exact List.mem_singleton.1 h ▸ hnewOk
    · obtain rfl := List.mem_singleton.1 hb
      by_cases h2 : a.period = st.pstart
      · exact Or.inr ⟨h2, hA a ha h2⟩
      · exact Or.inl (by have := hle a ha; show a.period < st.pstart; omega)
  have hnewfresh : entryName p newE ∉ (canon p rolled active).map (·.1) := by
    simpa using name_fresh hw (B := []) hdL newE rfl hnewOk active
  -- the rename of the active file, then a fresh active file
  have hfs1 : (fsRename fs (baseName p) (entryName p newE)).Perm (entryFS p newE :: rolled.map (entryFS p)) := by
    simp only [fsRename, fsGet_base hw hp hd, fsSet]
    refine List.Perm.cons _ ((fsRemove_perm (fsRemove_perm_cons hp (base_not_mem_entries hw hd)) _).trans
      (.of_eq (fsRemove_absent fun h => hnewfresh ?_)))
    rw [canon, List.map_cons]; exact List.mem_cons_of_mem _ h
  have hbase_absent : baseName p ∉ (entryFS p newE :: rolled.map (entryFS p)).map (·.1) := by
    simp only [List.map_cons, List.mem_cons, not_or]
    exact ⟨fun h => entryName_ne_base p hw newE hnewOk h.symm, base_not_mem_entries hw hd⟩
  have hopen : fsOpen (fsRename fs (baseName p) (entryName p newE)) (baseName p) =
      ((baseName p, {}) :: fsRename fs (baseName p) (entryName p newE), 0) := by
    simp only [fsOpen, fsGet_perm_none hfs1 hbase_absent, fsSet]
    rw [fsRemove_absent (fun hm => hbase_absent ((hfs1.map _).subset hm))]
  have hfs2 : ((baseName p, ({} : File)) :: fsRename fs (baseName p) (entryName p newE)).Perm (canon p (rolled ++ [newE]) []) := by
    simp only [canon, List.map_append, List.map_cons, List.map_nil]
    exact List.Perm.cons _ (hfs1.trans (List.perm_append_singleton _ _).symm)
  -- the sorted list handed to cleanup
  have hall : sortRolled (findRolled p fs ++ [toRF p newE]) = ((rolled ++ [newE]).map (toRF p)).reverse := by
    refine sortRolled_eq_of_perm ?_ (List.pairwise_reverse.2 (List.pairwise_map.2 (hdL.asc.imp (rfKey_lt_of_entryLt p))))
    rw [findRolled_canon p hw fs rolled active hp hd]
    simp
  obtain ⟨M', hpM, hcM⟩ := cleanup_rep hw _ hdL _ hfs2
  have hroll : roll p fs st now = (cleanup p (fsOpen (fsRename fs (baseName p) (entryName p newE)) (baseName p)).1
        (sortRolled (findRolled p fs ++ [toRF p newE])),
      { size := (fsOpen (fsRename fs (baseName p) (entryName p newE)) (baseName p)).2, pstart := periodStart p.gran now }) := rfl
  rw [hroll, hopen, hall]
  exact ⟨M', hpM, rfl, (hdL.sublist (List.drop_sublist _ _)).of_core_eq (by rw [hcM, List.map_drop]), by simpa using hcM⟩

inductive ROp
  | write (id len : Nat)
  | advance (secs : Nat)
  | restart
  deriving Repr

/-- roller + directory + clock, with two ghosts: the records written so far (`written`, non-empty writes only)
and the number of `write` calls (`writes`) -/
structure Run where
  fs : FS
  st : RState
  now : Nat
  written : List (Nat × Nat)
  writes : Nat

def Run.init (p : Policy) (t0 : Nat) : Run :=
  { fs := (openRoller p [] t0).1, st := (openRoller p [] t0).2, now := t0, written := [], writes := 0 }

def Run.step (p : Policy) (r : Run) : ROp → Run
  | .write id len =>
    { r with fs := (write p r.fs r.st (id, len) r.now).1, st := (write p r.fs r.st (id, len) r.now).2,
             written := if len = 0 then r.written else r.written ++ [(id, len)], writes := r.writes + 1 }
  | .advance s => { r with now := r.now + s }
  | .restart => { r with fs := (openRoller p r.fs r.now).1, st := (openRoller p r.fs r.now).2 }

def Run.run (p : Policy) (r : Run) (ops : List ROp) : Run := ops.foldl (Run.step p) r

def recsOf (rolled : List Entry) : List (Nat × Nat) := rolled.flatMap (·.recs)

structure Rep (p : Policy) (fs : FS) (st : RState) (now : Nat) (written : List (Nat × Nat)) (bound : Nat)
    (rolled : List Entry) (active : List (Nat × Nat)) : Prop where
  perm : fs.Perm (canon p rolled active)
  dir : Dir p rolled
  le : ∀ e ∈ rolled, e.period ≤ st.pstart
  aligned : periodStart p.gran st.pstart = st.pstart
  clock : st.pstart ≤ now
  suffix : (recsOf rolled ++ active) <:+ written
  seqs : ∀ e ∈ rolled, e.seq ≤ bound
  retained : ∀ n, p.maxRetained = some n → rolled.length ≤ n

def InvC (p : Policy) (fs : FS) (st : RState) (now : Nat) (written : List (Nat × Nat)) (bound : Nat) : Prop :=
  ∃ rolled active, Rep p fs st now written bound rolled active

theorem periodStart_now (g : Gran) {ps now : Nat} (ha : periodStart g ps = ps) (hc : ps ≤ now) :
    ps ≤ periodStart g now ∧ periodStart g (periodStart g now) = periodStart g now ∧ periodStart g now ≤ now :=
  ⟨ha ▸ periodStart_mono g hc, periodStart_idem g now, periodStart_le g now⟩

theorem init_inv (p : Policy) (t0 : Nat) : InvC p (openRoller p [] t0).1 (openRoller p [] t0).2 t0 [] 0 :=
  ⟨[], [], by simp [openRoller, fsOpen, fsGet, fsSet, fsRemove, canon], ⟨by simp, .nil⟩, by simp,
    periodStart_idem _ _, periodStart_le _ _, by simp [recsOf], by simp, by simp⟩

theorem bound_mono {p : Policy} {fs : FS} {st : RState} {now : Nat} {w : List (Nat × Nat)} {b b' : Nat}
    (h : InvC p fs st now w b) (hb : b ≤ b') : InvC p fs st now w b' :=
  let ⟨rolled, active, h⟩ := h
  ⟨rolled, active, { h with seqs := fun e he => Nat.le_trans (h.seqs e he) hb }⟩

/-- a restart is `new_at_time` over the existing directory -/
theorem open_inv {p : Policy} (hw : WF p) {fs : FS} {st : RState} {now : Nat} {w : List (Nat × Nat)} {b : Nat}
    (h : InvC p fs st now w b) : InvC p (openRoller p fs now).1 (openRoller p fs now).2 now w b := by
  obtain ⟨rolled, active, h⟩ := h
  obtain ⟨h1, h2, h3⟩ := periodStart_now p.gran h.aligned h.clock
  simp only [openRoller, fsOpen, fsGet_base hw h.perm h.dir]
  exact ⟨rolled, active, { h with le := fun e he => Nat.le_trans (h.le e he) h1, aligned := h2, clock := h3 }⟩

theorem append_inv {p : Policy} (hw : WF p) {fs : FS} {st : RState} {now : Nat} {w : List (Nat × Nat)} {b : Nat}
    (h : InvC p fs st now w b) (r : Nat × Nat) (sz : Nat) :
    InvC p (fsAppend fs (baseName p) r) { st with size := sz } now (w ++ [r]) b := by
  obtain ⟨rolled, active, h⟩ := h
  refine ⟨rolled, active ++ [r], { h with perm := ?_, suffix := ?_ }⟩
  · simp only [fsAppend, fsGet_base hw h.perm h.dir, fsSet, canon]
    exact List.Perm.cons _ (fsRemove_perm_cons h.perm (base_not_mem_entries hw h.dir))
  · obtain ⟨pre, hpre⟩ := h.suffix
    exact ⟨pre, by rw [← hpre]; simp [List.append_assoc]⟩

theorem flatMap_drop_suffix {α β} (f : α → List β) (l : List α) (k : Nat) : (l.drop k).flatMap f <:+ l.flatMap f := by
  conv => rhs; rw [← List.take_append_drop k l, List.flatMap_append]
  exact List.suffix_append _ _

theorem roll_inv {p : Policy} (hw : WF p) {fs : FS} {st : RState} {now : Nat} {w : List (Nat × Nat)} {b : Nat}
    (h : InvC p fs st now w b) (hnow : now < tMax) (hb : b + 1 < 4294967296) :
    InvC p (roll p fs st now).1 (roll p fs st now).2 now w (b + 1) := by
  obtain ⟨rolled, active, h⟩ := h
  have hnext : nextSeq p fs st.pstart ≤ b + 1 := by
    rcases (nextSeq_canon hw h.perm h.dir st.pstart).2 with h1 | ⟨e, he, h1⟩
    · omega
    · have := h.seqs e he; omega
  obtain ⟨rolled', hp', hst', hd', hcore⟩ :=
    roll_rep hw fs st now rolled active h.perm h.dir h.aligned (by have := h.clock; omega) h.le (by omega)
  obtain ⟨h1, h2, h3⟩ := periodStart_now p.gran h.aligned h.clock
  -- every entry left has the key and content of an old entry or of the file just rolled
  have hfrom : ∀ e ∈ rolled', e.period ≤ st.pstart ∧ e.seq ≤ b + 1 := fun e he => by
    have : e.core ∈ (rolled ++ [_]).map Entry.core := List.mem_of_mem_drop (hcore ▸ List.mem_map.2 ⟨e, he, rfl⟩)
    obtain ⟨e0, he0, hc⟩ := List.mem_map.1 this
    obtain ⟨hc1, hc2, -⟩ : e0.period = e.period ∧ e0.seq = e.seq ∧ _ := by simpa [Entry.core] using hc
    rcases List.mem_append.1 he0 with h0 | h0
    · exact ⟨hc1 ▸ h.le e0 h0, hc2 ▸ Nat.le_succ_of_le (h.seqs e0 h0)⟩
    · obtain rfl := List.mem_singleton.1 h0
      exact ⟨hc1 ▸ Nat.le_refl _, hc2 ▸ hnext⟩
  have hrecs : ∀ l : List Entry, recsOf l = (l.map Entry.core).flatMap (·.2.2) := fun l => by
    simp [recsOf, List.flatMap_map, Entry.core]
  refine ⟨rolled', [], hp', hd', fun e he => hst' ▸ Nat.le_trans (hfrom e he).1 h1, hst' ▸ h2, hst' ▸ h3, ?_,
    fun e he => (hfrom e he).2, fun n hn => ?_⟩
  · rw [List.append_nil, hrecs, hcore]
    refine (flatMap_drop_suffix _ _ _).trans ?_
    rw [← hrecs]
    simpa [recsOf] using h.suffix
  · have hlen := congrArg List.length hcore
    simp only [List.length_map, List.length_drop, List.length_append, List.length_singleton, dropCount, hn] at hlen
    omega

theorem write_inv {p : Policy} (hw : WF p) {fs : FS} {st : RState} {now : Nat} {w : List (Nat × Nat)} {b : Nat}
    (h : InvC p fs st now w b) (hnow : now < tMax) (hb : b + 2 < 4294967296) (r : Nat × Nat) :
    InvC p (write p fs st r now).1 (write p fs st r now).2 now (if r.2 = 0 then w else w ++ [r]) (b + 2) := by
  have h1 : InvC p (writePhase1 p fs st now).1 (writePhase1 p fs st now).2 now w (b + 1) := by
    unfold writePhase1
    split
    · exact roll_inv hw h hnow (by omega)
    · exact bound_mono h (by omega)
  unfold write
  generalize writePhase1 p fs st now = s1 at h1 ⊢
  unfold writePhase2
  by_cases hr : r.2 = 0
  · simp only [hr, if_true]; exact bound_mono h1 (by omega)
  · simp only [hr, if_false]
    have h2 := fun sz => append_inv hw h1 r sz
    cases hm : p.maxSize with
    | none => exact bound_mono (h2 _) (by omega)
    | some m =>
      simp only
      split
      · exact roll_inv hw (h2 _) hnow (by omega)
      · exact bound_mono (h2 _) (by omega)

/-- the clock stays in the modelled range and fewer than 2^31 - 1 writes happen -/
def Run.Bounded (r : Run) : Prop := r.now < tMax ∧ 2 * r.writes + 2 < 4294967296

/-- the bound on sequence numbers is `2 * writes`: one `write` rolls at most twice (a new period, then the size limit),
and a roll raises the highest sequence number by at most one -/
def Run.Inv (p : Policy) (r : Run) : Prop := InvC p r.fs r.st r.now r.written (2 * r.writes)

theorem Run.step_inv {p : Policy} (hw : WF p) {r : Run} (h : r.Inv p) (op : ROp) (hb : (r.step p op).Bounded) :
    (r.step p op).Inv p := by
  cases op with
  | write id len =>
    simp only [Run.Bounded, Run.step] at hb
    have := write_inv hw h hb.1 (by omega) (id, len)
    simpa [Run.Inv, Run.step, Nat.mul_add] using this
  | advance s =>
    obtain ⟨rolled, active, h⟩ := h
    exact ⟨rolled, active, { h with clock := Nat.le_trans h.clock (Nat.le_add_right _ _) }⟩
  | restart => exact open_inv hw h

theorem Run.run_inv {p : Policy} (hw : WF p) (r : Run) (h : r.Inv p) (ops : List ROp) (hb : (r.run p ops).Bounded) :
    (r.run p ops).Inv p := by
  induction ops using Fv.snoc_induction with
  | nil => exact h
  | snoc ops op ih =>
    rw [Run.run, List.foldl_append] at hb ⊢
    refine Run.step_inv hw (ih ?_) op hb
    -- a step lowers neither the clock nor the write count, so the state before it is within the bounds as well
    have : (r.run p ops).now ≤ ((r.run p ops).step p op).now ∧ (r.run p ops).writes ≤ ((r.run p ops).step p op).writes := by
      cases op <;> simp [Run.step]
    simp only [Run.Bounded, Run.run, List.foldl_cons, List.foldl_nil] at hb this ⊢
    omega

end Fv.Log.Roller
