import Fv.Lemmas.SyncRwFrame
/-!
`Inv` is inductive.  For a per-thread conjunct the other threads are handled by the effect lemmas (and by `frozen`
while one of them holds the list lock), the stepping thread by a pass over the step cases: over all of them
(`step_sweep`), or, for a fact about the arrival in a small region or about a component few transitions write, over
those concerned only (`narrow_sweep`).  At the end, two executed schedules reach a write guard, and two read guards
at once.
-/
namespace Fv.Sync.RwLock
open Fv.Sync
variable {cfg : Cfg} {s s' : State} {t : Tid} {l : Lbl}

theorem holders_key (h1 : PWlHeld s) (h2 : PFree s) {u : Tid} {b : Bool} (hm : (u, b) ∈ s.holders) :
    (b = true → s.word.wl = true ∧ s.word.readers = 0 ∧ s.holders.erase (u, b) = [])
    ∧ (b = false → s.word.wl = false ∧ (∀ h ∈ s.holders.erase (u, b), h.2 = false)
        ∧ (s.holders.erase (u, b)).length + 1 = s.word.readers) := by
  cases hl : s.word.wl
  · obtain ⟨hall, hlen⟩ := h2 hl
    have hb : b = false := hall _ hm
    subst hb
    refine ⟨fun h => (by cases h), fun _ => ⟨rfl, ?_, ?_⟩⟩
    · intro h hh; exact hall h (List.mem_of_mem_erase hh)
    · rw [List.length_erase_of_mem hm, ← hlen]
      have := List.length_pos_of_mem hm
      omega
  · obtain ⟨⟨v, hv⟩, hr⟩ := h1 hl
    rw [hv] at hm ⊢
    simp at hm
    obtain ⟨rfl, rfl⟩ := hm
    simp [hr]

theorem holders_nil (h2 : PFree s) (hw : s.word.wl = false) (hr : s.word.readers = 0) : s.holders = [] := by
  have := (h2 hw).2
  rw [hr] at this
  exact List.length_eq_zero_iff.1 this

theorem word_local (hi : Inv s) (h : Step cfg s t l s') : PWlHeld s' ∧ PFree s' := by
  have h1 := hi.wlHeld; have h2 := hi.free
  unfold PWlHeld PFree at *
  rcases (step_word h).held with ⟨e1, e2, e3⟩ | hpred
  · rw [e1, e2, e3]; exact ⟨h1, h2⟩
  have key := fun b => @holders_key s h1 h2 t b
  have a0 := hi.svOk t; have a7 := hi.relHolds t
  clear hi
  narrow_sweep h hpred s s' t
  all_goals first | exact ⟨h1, h2⟩ | grind [RWord.blocked]

/-- from the `holders` check at `call` -/
theorem rel_local (hi : Inv s) (h : Step cfg s t l s') :
    ((s'.th t).pc = .relSub → (t, false) ∈ s'.holders) ∧ ((s'.th t).pc = .relAnd → (t, true) ∈ s'.holders) := by
  suffices hc : (s'.th t).pc = .relSub ∨ (s'.th t).pc = .relAnd →
      ((s'.th t).pc = .relSub → (t, false) ∈ s'.holders) ∧ ((s'.th t).pc = .relAnd → (t, true) ∈ s'.holders) from
    ⟨fun hp => (hc (Or.inl hp)).1 hp, fun hp => (hc (Or.inr hp)).2 hp⟩
  intro hp
  have hpred := (hi.entry h).rel hp
  clear hi hp
  narrow_sweep h hpred s s' t
  all_goals grind

theorem cas_local (hi : Inv s) (h : Step cfg s t l s') (hp : isCas (s'.th t).pc = true) :
    (s'.th t).sv.blocked (s'.th t).wr = false := by
  have hpred := (hi.entry h).cas hp
  clear hi
  revert hp
  narrow_sweep h hpred s s' t
  all_goals grind

theorem wnStore_local (hi : Inv s) (h : Step cfg s t l s') (hp : (s'.th t).pc = .wnStore) :
    (s'.wl.node (s'.th t).tgt).linked = true ∧ (s'.wl.node (s'.th t).tgt).isWriter = true := by
  have hpred := (hi.entry h).wnStore hp
  have fw : ∀ n, s.wl.firstWriter = some n → (s.wl.node n).linked = true ∧ (s.wl.node n).isWriter = true :=
    fun n hf => hi.wf.firstWriter_spec hf
  clear hi
  revert hp
  narrow_sweep h hpred s s' t
  all_goals grind

theorem wrStore_local (hi : Inv s) (h : Step cfg s t l s') (hp : (s'.th t).pc = .wrStore) :
    (s'.wl.node (s'.th t).tgt).linked = false ∧ s'.wl.writers = 0 := by
  have hpred := (hi.entry h).wrStore hp
  have b2 := hi.wrTgt t
  clear hi
  revert hp
  narrow_sweep h hpred s s' t
  all_goals grind

structure NodeLocal (s' : State) (t : Tid) : Prop where
  syncCur : syncOnly (s'.th t).pc = true → (s'.th t).cur = none
  asyncCur : asyncOnly (s'.th t).pc = true → (s'.th t).cur ≠ none
  ffOk : (s'.th t).pc ≠ .ff1 .parkLoad ∧ (s'.th t).pc ≠ .ff1 .pending
    ∧ (s'.th t).pc ≠ .ff2 .parkLoad ∧ (s'.th t).pc ≠ .ff2 .pending
  syncLinked : (s'.th t).cur = none → slowL (s'.th t).pc = true → (s'.th t).wr = true →
    (s'.th t).linked = (s'.wl.node (.thr t)).linked
  thrWr : (s'.th t).cur = none → slowL (s'.th t).pc = true → (s'.wl.node (.thr t)).isWriter = (s'.th t).wr
  thrNode : (s'.wl.node (.thr t)).linked = true →
    (s'.th t).cur = none ∧ slowL (s'.th t).pc = true ∧ ((s'.th t).wr = false → rdL (s'.th t).pc = true)
  nodeWoken : PNodeWoken s'

theorem node_local (hi : Inv s) (h : Step cfg s t l s') : NodeLocal s' t := by
  suffices hc : _ ∧ _ ∧ _ ∧ _ ∧ _ ∧ _ ∧ _ from
    ⟨hc.1, hc.2.1, hc.2.2.1, hc.2.2.2.1, hc.2.2.2.2.1, hc.2.2.2.2.2.1, hc.2.2.2.2.2.2⟩
  have a1 := hi.syncCur t; have a2 := hi.asyncCur t; have a3 := hi.syncLinked t; have a4 := hi.thrNode t
  have a5 := hi.ffOk t; have a6 := hi.thrWr t; have c := hi.nodeWoken
  have b1 := hi.wnTgt t; have b2 := hi.wrTgt t
  unfold PNodeWoken at *
  clear hi
  step_sweep h s s' t
  all_goals grind

structure FutLocal (s s' : State) (t : Tid) : Prop where
  own : ∀ f, (s'.th t).cur = some f → futPc (s'.th t).pc = true →
    (s'.fut f).busy = true ∧ (opOn s t f ∨ ((s.fut f).busy = false ∧ (s.th t).pc = .idle))
    ∧ (s'.th t).wr = (s'.fut f).wr
  started : ∀ f, (s'.th t).cur = some f →
    ((s'.th t).pc = .taLoad .pollTry ∨ (s'.th t).pc = .taCas .pollTry ∨ (s'.th t).pc = .boPark) →
    ((s'.fut f).phase = .startedNoNode ∨ (s'.fut f).phase = .startedNode)
  node : ∀ f, (s'.th t).cur = some f → futNodePc (s'.th t).pc = true → (s'.fut f).phase = .startedNode
  futNode : PFutNode s'
  futNodeWr : PFutNodeWr s'

theorem fut_local (hi : Inv s) (h : Step cfg s t l s') : FutLocal s s' t := by
  suffices hc : _ ∧ _ ∧ _ ∧ _ ∧ _ from ⟨hc.1, hc.2.1, hc.2.2.1, hc.2.2.2.1, hc.2.2.2.2⟩
  have a1 := hi.syncCur t; have a2 := hi.asyncCur t
  have b1 : ∀ f, (s.th t).cur = some f → futPc (s.th t).pc = true → (s.fut f).busy = true :=
    fun f hc hp => (hi.busy t f hc hp).1
  have b2 := hi.phFresh t; have b3 := hi.phStarted t; have b4 := hi.phNode t; have b5 := hi.futUnl t
  have b6 := hi.futWr t
  have c1 := hi.futNode; have c2 := hi.futNodeWr
  unfold opOn PFutNode PFutNodeWr at *
  clear hi
  step_sweep h s s' t
  all_goals grind

theorem phFresh_local (hi : Inv s) (h : Step cfg s t l s') (f : Fid) (hc : (s'.th t).cur = some f)
    (hp : (s'.th t).pc = .taLoad .asyncFirst ∨ (s'.th t).pc = .taCas .asyncFirst) : (s'.fut f).phase = .fresh := by
  have hpred := (hi.entry h).asyncFirst hp
  have b2 := hi.phFresh t
  clear hi
  revert hc hp
  narrow_sweep h hpred s s' t
  all_goals grind

theorem futUnl_local (hi : Inv s) (h : Step cfg s t l s') (f : Fid) (hc : (s'.th t).cur = some f)
    (hp : futUnlPc (s'.th t).pc = true) : (s'.wl.node (.fut f)).linked = false := by
  have hpred := (hi.entry h).futUnl hp
  have a2 := hi.asyncCur t; have b5 := hi.futUnl t
  clear hi
  revert hc hp
  narrow_sweep h hpred s s' t
  all_goals grind

macro "wf_chain " hwf:ident : tactic => `(tactic| repeat' (first
  | exact $hwf
  | apply WaitList.WF.setLocked
  | apply WaitList.WF.setWaiter
  | apply WaitList.WF.setWoken
  | apply WaitList.WF.takeAndMark
  | apply WaitList.WF.unlink
  | apply WaitList.WF.linkBack
  | apply WaitList.WF.putNode))

section
-- keep the unifier from matching `X.WF` against `(?wl.setLocked ?b).WF` by structure eta
attribute [local irreducible] WaitList.setLocked WaitList.putNode WaitList.setWaiter WaitList.setWoken
  WaitList.takeAndMark WaitList.linkBack WaitList.unlink

theorem wf_step (hi : Inv s) (h : Step cfg s t l s') : s'.wl.WF := by
  have hWf := hi.wf
  have a1 := hi.syncCur t; have a2 := hi.asyncCur t; have a5 := hi.ffOk t
  have a3 := hi.syncLinked t; have a4 := hi.thrNode t
  have b2 := hi.phFresh t; have b3 := hi.phStarted t
  have c := hi.futNode
  unfold PFutNode at c
  clear hi
  generalize hpc₀ : (s.th t).pc = pc₀ at *
  step_cases h
  all_goals (have hx₀ := hpc₀.symm.trans ‹(s.th t).pc = _›; subst hx₀)
  all_goals (try simp only [withPc, setTh])
  all_goals (wf_chain hWf)
  all_goals (clear hWf)
  all_goals norm_state
  all_goals grind
end

theorem local_step (hi : Inv s) (h : Step cfg s t l s') :
    PWlHeld s' ∧ PFree s' ∧ PSvOk s' ∧ PSyncCur s' ∧ PAsyncCur s' ∧ PFfOk s' ∧ PRelHolds s' := by
  obtain ⟨m1, m2⟩ := word_local hi h
  have nl := node_local hi h
  have ho := step_th_other h
  refine ⟨m1, m2, ?_, ?_, ?_, ?_, ?_⟩ <;> intro u <;> by_cases hu : u = t
  · subst hu; exact cas_local hi h
  · rw [ho u hu]; exact hi.svOk u
  · subst hu; exact nl.syncCur
  · rw [ho u hu]; exact hi.syncCur u
  · subst hu; exact nl.asyncCur
  · rw [ho u hu]; exact hi.asyncCur u
  · subst hu; exact nl.ffOk
  · rw [ho u hu]; exact hi.ffOk u
  · subst hu; exact rel_local hi h
  · rw [ho u hu]
    exact ⟨fun hp => (step_tables h).holders u false hu ((hi.relHolds u).1 hp),
           fun hp => (step_tables h).holders u true hu ((hi.relHolds u).2 hp)⟩

theorem ll_step (hi : Inv s) (h : Step cfg s t l s') : PLl s' := by
  obtain ⟨k1, k2⟩ := (step_list h).lock (fun ht => (hi.ll t ht).1)
  refine excl_step hi.ll (fun u hu => by rw [step_th_other h u hu]) (fun hu => ?_) (fun hn hl => ?_)
  · exact (k1 hu).imp id (Or.imp id (by simp))
  · exact (k2 (by simpa using hn) hl).1

theorem node_step (hi : Inv s) (h : Step cfg s t l s') :
    PSyncLinked s' ∧ PThrWr s' ∧ PThrNode s' ∧ PNodeWoken s' ∧ PWnTgt s' ∧ PWrTgt s' := by
  have nl := node_local hi h
  have ho := step_th_other h
  -- the stack node of another thread: unlinked only by the reader loop, hence only if a reader node
  have hn : ∀ u, u ≠ t →
      (s'.wl.node (.thr u)).isWriter = (s.wl.node (.thr u)).isWriter
      ∧ ((s'.wl.node (.thr u)).linked = true → (s.wl.node (.thr u)).linked = true)
      ∧ ((s.wl.node (.thr u)).isWriter = true → (s'.wl.node (.thr u)).linked = (s.wl.node (.thr u)).linked) := by
    intro u hu
    have hk := kept_thr h u hu
    refine ⟨hk.1, hk.linked_of, fun hw => ?_⟩
    rcases hk.2.1 with h1 | ⟨⟨hh, -, -, hp⟩, -⟩
    · exact h1
    · have hw0 : s.wl.writers = 0 := by
        rcases hp with hp | ⟨-, -, hp⟩
        · exact (hi.wrTgt t hp).2
        · exact hp
      rw [hi.wf.head_reader hh hw0] at hw; cases hw
  refine ⟨?_, ?_, ?_, nl.nodeWoken, ?_, ?_⟩ <;> intro u <;> by_cases hu : u = t
  · subst hu; exact nl.syncLinked
  · obtain ⟨n1, -, n3⟩ := hn u hu
    rw [ho u hu]
    intro hc hp hw
    have hiw : (s.wl.node (.thr u)).isWriter = true := by rw [hi.thrWr u hc hp]; exact hw
    rw [n3 hiw]; exact hi.syncLinked u hc hp hw
  · subst hu; exact nl.thrWr
  · rw [ho u hu, (hn u hu).1]; exact hi.thrWr u
  · subst hu; exact nl.thrNode
  · rw [ho u hu]
    intro hl
    exact hi.thrNode u ((hn u hu).2.1 hl)
  · subst hu; exact wnStore_local hi h
  · rw [ho u hu]
    intro hp
    obtain ⟨q1, q2⟩ := hi.wnTgt u hp
    rw [(frozen hi h hu (by rw [hp]; rfl)).of_linked q1]; exact ⟨q1, q2⟩
  · subst hu; exact wrStore_local hi h
  · rw [ho u hu]
    intro hp
    have fz := frozen hi h hu (by rw [hp]; rfl)
    rw [fz.linked, fz.writers]; exact hi.wrTgt u hp

theorem futNodePc_futPc {pc : Pc} (h : futNodePc pc = true) : futPc pc = true := by
  cases pc <;> first | rfl | exact h | cases h
theorem futUnlPc_futPc {pc : Pc} (h : futUnlPc pc = true) : futPc pc = true := by
  cases pc with
  | ff1 a => cases a <;> first | rfl | cases h
  | ff2 a => cases a <;> first | rfl | cases h
  | llRel a => cases a <;> first | rfl | cases h
  | dLoad => rfl
  | _ => cases h

theorem busy_step (hi : Inv s) (h : Step cfg s t l s') : PBusy s' := by
  intro u f hc hp
  have := excl_step (inR := fun u => opOn s u f) (inR' := fun u => opOn s' u f) (flag' := (s'.fut f).busy = true)
    (t := t)
    (fun u ⟨hc, hp⟩ => ⟨(hi.busy u f hc hp).1, fun v ⟨h1, h2⟩ => (hi.busy u f hc hp).2 v h1 h2⟩)
    (fun u hu => by unfold opOn; rw [step_th_other h u hu])
    (fun ⟨hc, hp⟩ => by
      obtain ⟨hb, horig, -⟩ := (fut_local hi h).own f hc hp
      exact ⟨hb, horig.imp id (fun x => by simp [x.1])⟩)
    (fun hn hb => by rw [(fut_other hi h hn).1 hb]; exact hb) u ⟨hc, hp⟩
  exact ⟨this.1, fun v h1 h2 => this.2 v ⟨h1, h2⟩⟩

theorem ph_step (hi : Inv s) (h : Step cfg s t l s') :
    PFutWr s' ∧ PPhFresh s' ∧ PPhStarted s' ∧ PPhNode s' ∧ PFutUnl s' := by
  have ho := step_th_other h
  have hloc := (fut_local hi h).own
  refine ⟨?_, ?_, ?_, ?_, ?_⟩ <;> intro u f hc hp <;> by_cases hu : u = t
  · subst hu
    exact (hloc f hc hp).2.2
  · rw [ho u hu] at hc hp ⊢
    rw [(fut_of_other hi h hu hc hp).1]; exact hi.futWr u f hc hp
  · subst hu; exact phFresh_local hi h f hc hp
  · rw [ho u hu] at hc hp
    have hfp : futPc (s.th u).pc = true := by rcases hp with hp | hp <;> rw [hp] <;> rfl
    rw [(fut_of_other hi h hu hc hfp).1]; exact hi.phFresh u f hc hp
  · subst hu; exact (fut_local hi h).started f hc hp
  · rw [ho u hu] at hc hp
    have hfp : futPc (s.th u).pc = true := by rcases hp with hp | hp | hp <;> rw [hp] <;> rfl
    rw [(fut_of_other hi h hu hc hfp).1]; exact hi.phStarted u f hc hp
  · subst hu; exact (fut_local hi h).node f hc hp
  · rw [ho u hu] at hc hp
    rw [(fut_of_other hi h hu hc (futNodePc_futPc hp)).1]; exact hi.phNode u f hc hp
  · subst hu; exact futUnl_local hi h f hc hp
  · rw [ho u hu] at hc hp
    have hold := hi.futUnl u f hc hp
    cases hl : (s'.wl.node (.fut f)).linked
    · rfl
    · have := (fut_of_other hi h hu hc (futUnlPc_futPc hp)).2.linked_of hl
      rw [hold] at this; cases this

theorem Inv_step (hi : Inv s) (h : Step cfg s t l s') : Inv s' := by
  obtain ⟨m1, m2, p1, p2, p3, p4, p5⟩ := local_step hi h
  obtain ⟨n1, n2, n3, n4, t1, t2⟩ := node_step hi h
  have fl := fut_local hi h
  obtain ⟨q0, q1, q2, q3, q4⟩ := ph_step hi h
  exact { wlHeld := m1, free := m2, svOk := p1, relHolds := p5, ll := ll_step hi h,
          wf := wf_step hi h, syncCur := p2, asyncCur := p3, ffOk := p4, syncLinked := n1, thrWr := n2,
          thrNode := n3, nodeWoken := n4, wnTgt := t1, wrTgt := t2,
          futNode := fl.futNode, futNodeWr := fl.futNodeWr, busy := busy_step hi h,
          futWr := q0, phFresh := q1, phStarted := q2, phNode := q3, futUnl := q4 }

theorem Inv_init (prog : Tid → List ROp) : Inv (init prog) := by
  constructor
  case wf => exact WaitList.WF.init
  all_goals
    simp [init, PWlHeld, PFree, PSvOk, PRelHolds, PLl, PSyncCur, PAsyncCur, PFfOk, PSyncLinked, PThrWr, PThrNode,
      PNodeWoken, PWnTgt, PWrTgt, PFutNode, PFutNodeWr, PBusy, PFutWr, PPhFresh, PPhStarted, PPhNode, PFutUnl,
      inLL, isCas, syncOnly, asyncOnly, slowL, futPc, futNodePc, futUnlPc]

theorem Inv_reach {s : State} (h : Reach cfg s) : Inv s := by
  refine ReachOf.inv Inv ?_ ?_ s h
  · rintro s ⟨prog, rfl⟩; exact Inv_init prog
  · intro s t l s' hi hm; exact Inv_step hi (step_of_mem hm)

def progEx : Tid → List ROp := fun u => if u = 0 then [.write, .unwrite, .read] else if u = 1 then [.read] else []

/-- thread 0 takes the write lock on the fast path -/
def schedW : List (Tid × Nat) := [(0,0),(0,0),(0,0)]
/-- … releases it, then both threads take a read lock -/
def schedRR : List (Tid × Nat) := schedW ++ [(0,0),(0,0),(0,0),(0,0),(0,0),(0,0),(0,0),(1,0),(1,0),(1,0)]

theorem exec_some {sched : List (Tid × Nat)} {α : Type} {g : State → α} {a : α}
    (h : ((exec {} (init progEx) sched).map g) = some a) : ∃ s, Reach {} s ∧ g s = a :=
  execOf_obs (init := IsInit) ⟨progEx, rfl⟩ h

example : ∃ s, Reach {} s ∧ (s.holders, s.word.wl) = ([(0, true)], true) :=
  exec_some (sched := schedW) (g := fun s => (s.holders, s.word.wl)) (by decide)

example : ∃ s, Reach {} s ∧ (s.holders, s.word.wl, s.word.readers) = ([(1, false), (0, false)], false, 2) :=
  exec_some (sched := schedRR) (g := fun s => (s.holders, s.word.wl, s.word.readers)) (by decide)

end Fv.Sync.RwLock
