import Fv.Lemmas.OneshotBBase
/-! Every transition of the step-level oneshot model preserves `J1`, `J2`, `J2b`, `J3`. In each theorem the cases named
are the transitions that write a word the invariant reads; for every other one the shared part and the other handles'
clauses are the old ones and only the acting handle is looked at, at its new control state. -/
namespace Fv.Chan.OneshotB

variable {s s' : State} {a : Ag}

theorem J1.step (A : AInv s) (t : Tr s a (s.loc a) s') : J1 s' := by
  have hi := A.j1
  have ha := hi.each a
  cases t
  all_goals exact ⟨each_upd (by grind) fun b _ => hi.each b⟩

theorem J2.step (A : AInv s) (t : Tr s a (s.loc a) s') : J2 s' := by
  have hi := A.j2
  have ha := hi.each a
  cases t
  -- `gone`, `nextH`, `prog`: a handle that is called or releases its reference is not a fresh one
  case arcRel_last | arcRel | clFadd | cSend | cClone | cIsSent | cIsClosedS | cIsClosedR | cClose | cDrop | cTryRecv
      | cRecv | cPoll | cMkfut | cDropfut | cWakes =>
    exact ⟨by grind, each_upd (by grind) fun b _ => by grind⟩
  all_goals exact ⟨hi.g, each_upd (by grind) fun b _ => hi.each b⟩

theorem finU_upd {f : Ag → Loc} {a : Ag} {l : Loc}
    (h : ∀ x y, (f x).m = .fLdState → (f y).m = .fLdState → x = y)
    (hl : l.m = .fLdState → (f a).m = .fLdState ∨ ∀ b, b ≠ a → (f b).m ≠ .fLdState) :
    ∀ x y, (upd f a l x).m = .fLdState → (upd f a l y).m = .fLdState → x = y := by
  intro x y
  simp only [upd_apply]
  grind

theorem J2b.step (A : AInv s) (t : Tr s a (s.loc a) s') : J2b s' := by
  have hi := A.j2b
  have ha := hi.each a
  cases t
  -- at the last release nobody else is at `fLdState`, since the acting handle was not yet gone
  case arcRel_last | arcRel | clFadd =>
    have hJ2 := A.j2
    exact ⟨by grind, each_upd (by grind) fun b _ => by grind, finU_upd hi.finU (by grind)⟩
  case fLdState_sent | fLdState =>
    exact ⟨by grind, each_upd (by grind) fun b _ => by grind, finU_upd hi.finU (by grind)⟩
  all_goals exact ⟨hi.g, each_upd (by grind) fun b _ => hi.each b, finU_upd hi.finU (by grind)⟩

theorem J3.step (A : AInv s) (t : Tr s a (s.loc a) s') : J3 s' := by
  have hi := A.j3
  have ha := hi.each a
  cases t
  -- `closed a := true` moves the receiver to `ciStRdrop`, outside `inRecvBody`
  case cCasOwn | dSwapOwn | ciStRdrop =>
    exact ⟨by grind, each_upd (by grind) fun b _ => by grind⟩
  all_goals exact ⟨hi.g, each_upd (by grind) fun b _ => hi.each b⟩

end Fv.Chan.OneshotB
