import Fv.Lemmas.SyncRwFlags
/-!
What `Fv/Props/C10.lean` states of C10(b) and C10(e) for the `HybridRwLock` model: `try_bounded`, the writer gate
(`wp_iff_writers`, `reader_cas_needs_flag_clear`), writer preference (`wpdir_reach`); with reachable states that show
the statements are not vacuous.
-/
namespace Fv.Sync.RwLock
open Fv.Sync
variable {cfg : Cfg} {s s' : State} {t : Tid} {l : Lbl}

/-- own-step budget of a `try_read` / `try_write` in progress (also: a pending `ret`) -/
def tryRank : Pc → Nat
  | .taLoad .try_ => 3
  | .taCas .try_ => 2
  | .ret _ => 1
  | _ => 0

/-- `try_read`'s CAS is strong and a failed CAS returns `None`: there is no retry. -/
theorem try_bounded (h : (l, s') ∈ next cfg s t) :
    ((l = .call .tryRead ∨ l = .call .tryWrite) → tryRank (s'.th t).pc = 3)
    ∧ (0 < tryRank (s.th t).pc →
        l ≠ .park ∧ l ≠ .parkSpur ∧ l ≠ .yield ∧ l ≠ .spin ∧ tryRank (s'.th t).pc < tryRank (s.th t).pc)
    ∧ (∀ u, u ≠ t → s'.th u = s.th u) := by
  have hs := step_of_mem h
  refine ⟨?_, ?_, step_th_other hs⟩
  · intro hl
    cases hs <;> rcases hl with hl | hl <;> simp_all [callStep, setTh, tryRank]
  · intro hr
    cases hs
    case taLoadBlocked k hpc hb => cases k <;> simp_all [tryRank, taFail, withPc, setTh]
    case taLoadFree k hpc hb => cases k <;> simp_all [tryRank, setTh]
    case taCasOkW k hpc he hw => cases k <;> simp_all [tryRank, taSucc, withPc, setTh]
    case taCasOkR k hpc he hw => cases k <;> simp_all [tryRank, taSucc, withPc, setTh]
    case taCasSpur k hpc he hweak => cases k <;> simp_all [tryRank, casWeak]
    case taCasFail k hpc he => cases k <;> simp_all [tryRank, taFail, withPc, setTh]
    all_goals simp_all [tryRank]

theorem wp_iff_writers (hr : Reach cfg s) (hl : s.wl.locked = false) :
    s.word.wp = true ↔ 0 < s.wl.writers := (Inv2_reach hr).wpFree hl

theorem taSucc_holders (s : State) (t : Tid) (k : TaK) : (taSucc s t k).holders = s.holders := by
  cases k <;> simp only [taSucc, pollDone, withPc, setTh] <;> (repeat' split) <;> rfl

theorem cas_ok {w : Bool} {old new : Nat} (h : Step cfg s t (.cas .state w .acquire .relaxed old new true) s') :
    isCas (s.th t).pc = true ∧ s.word = (s.th t).sv ∧ s'.holders = (t, (s.th t).wr) :: s.holders := by
  cases h
  case taCasOkW k hpc he hw => exact ⟨by rw [hpc]; rfl, he, taSucc_holders ..⟩
  case taCasOkR k hpc he hw => exact ⟨by rw [hpc]; rfl, he, taSucc_holders ..⟩
  all_goals exact ⟨by rw [‹(s.th t).pc = _›]; rfl, ‹s.word = _›, rfl⟩

theorem reader_cas_needs_flag_clear (hr : Reach cfg s) (h : (l, s') ∈ next cfg s t)
    {w : Bool} {old new : Nat} (hl : l = .cas .state w .acquire .relaxed old new true)
    (hw : (s.th t).wr = false) :
    s.word.wp = false ∧ s.word.wl = false ∧ isCas (s.th t).pc = true ∧ s'.holders = (t, false) :: s.holders := by
  subst hl
  obtain ⟨hc, he, hh⟩ := cas_ok (step_of_mem h)
  have := (Inv_reach hr).svOk t hc
  rw [hw, ← he] at this
  simp only [RWord.blocked, Bool.false_eq_true, ↓reduceIte, Bool.or_eq_false_iff] at this
  exact ⟨this.2, this.1, hc, by rw [hh, hw]⟩

/-- thread 0 holds a read guard; thread 1 calls `write`, spins, queues itself and parks; thread 2
wants to read -/
def progGate : Tid → List ROp :=
  fun u => if u = 0 then [.read, .tryRead] else if u = 1 then [.write] else if u = 2 then [.read, .tryWrite] else []

def schedGate : List (Tid × Nat) :=
  [(0,0),(0,0),(0,0),(0,0), (1,0),(1,0),(1,0),(1,0),(1,0),(1,0),(1,0),(1,0),(1,0),(1,0)]

theorem gate_state_reachable :
    ∃ s, Reach {} s ∧ s.wl.locked = false ∧ s.word.wp = true ∧ s.word.hq = true ∧ s.wl.writers = 1
      ∧ s.wl.queue = [.thr 1] ∧ (s.wl.node (.thr 1)).isWriter = true ∧ (s.th 1).pc = .wPark
      ∧ s.holders = [(0, false)] ∧ (next {} s 2).length = 1 := by
  -- the observation is the truth value of the claim: a tuple of its nine components is beyond what instance
  -- search builds a `DecidableEq` for
  have h1 : ((exec {} (init progGate) schedGate).map fun s => decide
      (s.wl.locked = false ∧ s.word.wp = true ∧ s.word.hq = true ∧ s.wl.writers = 1
        ∧ s.wl.queue = [.thr 1] ∧ (s.wl.node (.thr 1)).isWriter = true ∧ (s.th 1).pc = .wPark
        ∧ s.holders = [(0, false)] ∧ (next {} s 2).length = 1)) = some true := by decide
  obtain ⟨s, hr, h1⟩ := execOf_obs (init := IsInit) ⟨progGate, rfl⟩ h1
  exact ⟨s, hr, of_decide_eq_true h1⟩

example : ∃ s, Reach {} s ∧ s.wl.locked = false ∧ (s.word.wp = true ↔ 0 < s.wl.writers) ∧ 0 < s.wl.writers := by
  obtain ⟨s, hr, h1, _, _, h4, _⟩ := gate_state_reachable
  exact ⟨s, hr, h1, wp_iff_writers hr h1, by omega⟩

example : ∃ s, Reach {} s ∧ s.wl.locked = false ∧ s.word.hq = true ∧ s.wl.queue ≠ [] := by
  obtain ⟨s, hr, h1, _, h3, _, h5, _⟩ := gate_state_reachable
  exact ⟨s, hr, h1, h3, by rw [h5]; simp⟩

/-- the hypotheses of `rwlock_writer_gate` (`Fv/Props/C10.lean`) are satisfiable, with a reader (thread 2) about to step -/
example : ∃ s n, Reach {} s ∧ s.wl.locked = false ∧ n ∈ s.wl.queue ∧ (s.wl.node n).isWriter = true
    ∧ (next {} s 2).length = 1 := by
  obtain ⟨s, hr, h1, _, _, _, h5, h6, _, _, h9⟩ := gate_state_reachable
  exact ⟨s, .thr 1, hr, h1, by rw [h5]; simp, h6, h9⟩

theorem exec_step_ex {sched : List (Tid × Nat)} {t : Tid} {i : Nat} {lab : Lbl}
    (h : ((exec {} (init progGate) sched).bind fun s => (next {} s t)[i]?.map (·.1)) = some lab) :
    ∃ s s', Reach {} s ∧ (lab, s') ∈ next {} s t ∧ exec {} (init progGate) sched = some s := by
  cases he : exec {} (init progGate) sched with
  | none => rw [he] at h; cases h
  | some s =>
    rw [he] at h
    simp only [Option.bind_some] at h
    cases hg : (next {} s t)[i]? with
    | none => rw [hg] at h; cases h
    | some p =>
      rw [hg] at h
      simp only [Option.map_some, Option.some.injEq] at h
      obtain ⟨l, s'⟩ := p
      subst h
      exact ⟨s, s', execOf_reach _ _ _ (ReachOf.init ⟨progGate, rfl⟩) he, List.mem_of_getElem? hg, rfl⟩

/-- `try_bounded` is not vacuous: a `call try_read` step, and a step from rank 2 (the CAS of
`try_read`, thread 0 holding a read guard already) -/
example : ∃ s s', Reach {} s ∧ (Label.call ROp.tryRead, s') ∈ next {} s 0 := by
  obtain ⟨s, s', hr, hm, -⟩ := exec_step_ex (sched := [(0,0),(0,0),(0,0),(0,0)]) (t := 0) (i := 0)
    (lab := .call .tryRead) (by decide)
  exact ⟨s, s', hr, hm⟩

example : ∃ s s' l, Reach {} s ∧ (l, s') ∈ next {} s 0 ∧ tryRank (s.th 0).pc = 2 := by
  obtain ⟨s, s', hr, hm, he⟩ := exec_step_ex (sched := [(0,0),(0,0),(0,0),(0,0),(0,0),(0,0)]) (t := 0) (i := 0)
    (lab := .cas .state false .acquire .relaxed 8 16 true) (by decide)
  have h2 : ((exec {} (init progGate) [(0,0),(0,0),(0,0),(0,0),(0,0),(0,0)]).map fun s => tryRank (s.th 0).pc)
      = some 2 := by decide
  rw [he] at h2
  exact ⟨s, s', _, hr, hm, by simpa using h2⟩

/-- `reader_cas_needs_flag_clear` is not vacuous: the fast-path CAS of thread 0's `read` -/
example : ∃ s s' l w old new, Reach {} s ∧ (l, s') ∈ next {} s 0
    ∧ l = .cas .state w .acquire .relaxed old new true ∧ (s.th 0).wr = false := by
  obtain ⟨s, s', hr, hm, he⟩ := exec_step_ex (sched := [(0,0),(0,0)]) (t := 0) (i := 0)
    (lab := .cas .state true .acquire .relaxed 0 8 true) (by decide)
  have h2 : ((exec {} (init progGate) [(0,0),(0,0)]).map fun s => (s.th 0).wr) = some false := by decide
  rw [he] at h2
  exact ⟨s, s', _, _, _, _, hr, hm, rfl, by simpa using h2⟩

/-! Writer preference, in the direction that matters for non-starvation and holds in EVERY reachable state (list
critical sections included): while a writer node is queued `WRITER_PENDING` is set, except for the single step, under
the list lock, between a writer's `link_back` and its own `fetch_or(HAS_QUEUED | WRITER_PENDING)`.  (`fix_flags`
clears the flag only after reading `queued_writers() == 0` under the list lock.) -/

def PWpDir (s : State) : Prop :=
  0 < s.wl.writers → s.word.wp = true ∨ ∃ t, (s.th t).pc = .qFetchOr ∧ (s.th t).wr = true

theorem wpdir_local (hi : Inv s) (h : Step cfg s t l s')
    (c : 0 < s.wl.writers → s.word.wp = true ∨ ((s.th t).pc = .qFetchOr ∧ (s.th t).wr = true)) :
    0 < s'.wl.writers → s'.word.wp = true ∨ ((s'.th t).pc = .qFetchOr ∧ (s'.th t).wr = true) := by
  have e1 := hi.thrWr t; have e2 := hi.phNode t; have e3 := hi.futWr t; have e4 := hi.futNodeWr
  have e5 := hi.syncLinked t
  have g1 : ∀ n, (s.wl.node n).linked = true → (s.wl.node n).isWriter = true → 0 < s.wl.writers :=
    fun n hl hw => hi.wf.writers_pos hl hw
  unfold PFutNodeWr at e4
  by_cases hpred : inLL (s.th t).pc = true ∨ ∃ k, (s.th t).pc = .llSwap k
  · clear hi
    narrow_sweep h hpred s s' t
    all_goals grind
  · obtain ⟨hn, hk⟩ := not_or.1 hpred
    obtain ⟨f1, -, f3⟩ := (step_word h).outside (by simpa using hn)
    obtain ⟨f4, -, -, f7⟩ := f3 (.inr fun k hp => hk ⟨k, hp⟩)
    rw [f1, f4]
    intro hpos
    refine (c hpos).imp id fun hp => ?_
    rw [hp.1] at hn; exact absurd rfl hn

theorem wpdir_step (hi : Inv s) (hp : PWpDir s) (h : Step cfg s t l s') : PWpDir s' := by
  have ho := step_th_other h
  by_cases hx : ∃ u, u ≠ t ∧ (s.th u).pc = .qFetchOr ∧ (s.th u).wr = true
  · -- another thread is between its link and its `fetch_or`: it holds the list lock
    obtain ⟨u, hut, hpc, hwr⟩ := hx
    intro _
    exact Or.inr ⟨u, by rw [ho u hut]; exact hpc, by rw [ho u hut]; exact hwr⟩
  · intro hpos'
    have c : 0 < s.wl.writers → s.word.wp = true ∨ ((s.th t).pc = .qFetchOr ∧ (s.th t).wr = true) := by
      intro hpos
      rcases hp hpos with h1 | ⟨u, hpc, hwr⟩
      · exact Or.inl h1
      · by_cases hut : u = t
        · subst hut; exact Or.inr ⟨hpc, hwr⟩
        · exact absurd ⟨u, hut, hpc, hwr⟩ hx
    rcases wpdir_local hi h c hpos' with h1 | h1
    · exact Or.inl h1
    · exact Or.inr ⟨t, h1⟩

theorem wpdir_reach {s : State} (h : Reach cfg s) : PWpDir s := by
  refine ReachOf.inv (fun s => Inv s ∧ PWpDir s) ?_ ?_ s h |>.2
  · rintro s ⟨prog, rfl⟩
    exact ⟨Inv_init prog, by intro hp; simp [init] at hp⟩
  · intro s t l s' ⟨hi, h1⟩ hm
    have hs := step_of_mem hm
    exact ⟨Inv_step hi hs, wpdir_step hi h1 hs⟩

end Fv.Sync.RwLock
