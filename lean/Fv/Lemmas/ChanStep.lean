import Fv.Lemmas.ChanInv
/-!
`Step`: what every atomic step of an operation guarantees — the invariant is kept, the ghost accounts
balance (`StepOk`), and the operation is again in a legal progress state (`PInv`) past its call. Proved here for
the state-only effects (`Quiet`) and the send side of `Fv/Chan/Seq.lean`.
-/
namespace Fv.Chan
open List

/-- The account equations of `StepOk`: unfolded, both sides are sums of `count v` over the same atoms. A fact about
the lists that `omega` needs is `revert`ed into the goal first, so that the same `simp` normalises it. -/
macro "acct" : tactic =>
  `(tactic| (simp [St.lose, St.giveBack, St.push, St.pop, St.create, St.drainBuf, St.handOff, St.handOffLost,
      St.eraseHandle, P.inHand, gotOf, sentOf, backOf, freshVals, Op.vals, St.placed, St.parked, St.owed, St.sdv,
      count_append, count_cons, count_nil] <;> omega))

theorem of_some_eq {α β} {X : α × β} {a : α} {b : β} (h : some X = some (a, b)) : X.1 = a ∧ X.2 = b := by
  cases X; cases h; exact ⟨rfl, rfl⟩

def NF : P → Prop
  | .fresh .. => False
  | _ => True

theorem NF.freshVals {p : P} (h : NF p) : freshVals p = [] := by
  cases p <;> first | rfl | exact h.elim

structure SameP (p p' : P) : Prop where
  inHand : P.inHand p' = P.inHand p
  got : gotOf p' = gotOf p
  sent : sentOf p' = sentOf p
  back : backOf p' = backOf p

theorem StepOk.trans {fl s p s1 p1 s2 p2 δ1 δ2 δ} (h1 : StepOk fl s p s1 p1 δ1) (h2 : StepOk fl s1 p1 s2 p2 δ2)
    (hδ : δ = δ1 ++ δ2 := by simp) : StepOk fl s p s2 p2 δ := by
  subst hδ
  refine ⟨fun hi => h2.inv (h1.inv hi), ?_, ?_, ?_, ?_, ?_⟩
  · rw [h2.created, h1.created, append_assoc]
  · intro v; have a := h1.tok v; have b := h2.tok v; rw [count_append]; omega
  · intro v; have a := h1.recv v; have b := h2.recv v; omega
  · intro v; have a := h1.sent v; have b := h2.sent v; omega
  · intro v; have a := h1.back v; have b := h2.back v; omega

theorem StepOk.retarget {fl s p s' p' δ} (q : P) (h : StepOk fl s p s' p' δ) (hq : SameP p q) :
    StepOk fl s q s' p' δ :=
  ⟨h.inv, h.created, by simpa [hq.inHand] using h.tok, by simpa [hq.got] using h.recv,
   by simpa [hq.sent] using h.sent, by simpa [hq.back] using h.back⟩

/-- tokens may have moved between channel-side locations, so `placed` is compared by count -/
structure SameAcct (s s' : St) : Prop where
  created : s'.created = s.created
  placed : ∀ v, count v s'.placed = count v s.placed
  recvOk : s'.recvOk = s.recvOk
  rdone : s'.rdone = s.rdone
  sentOk : s'.sentOk = s.sentOk
  sdone : s'.sdone = s.sdone
  returned : s'.returned = s.returned

theorem SameAcct.refl (s : St) : SameAcct s s := ⟨rfl, fun _ => rfl, rfl, rfl, rfl, rfl, rfl⟩

theorem SameAcct.trans {a b c : St} (h1 : SameAcct a b) (h2 : SameAcct b c) : SameAcct a c :=
  ⟨h2.created.trans h1.created, fun v => (h2.placed v).trans (h1.placed v), h2.recvOk.trans h1.recvOk,
   h2.rdone.trans h1.rdone, h2.sentOk.trans h1.sentOk, h2.sdone.trans h1.sdone, h2.returned.trans h1.returned⟩

structure Quiet (fl : Flavour) (s s' : St) : Prop where
  inv : Inv fl s → Inv fl s'
  same : SameAcct s s'

theorem Quiet.refl (fl) (s : St) : Quiet fl s s := ⟨id, .refl s⟩

theorem Quiet.trans {fl a b c} (h1 : Quiet fl a b) (h2 : Quiet fl b c) : Quiet fl a c :=
  ⟨fun hi => h2.inv (h1.inv hi), h1.same.trans h2.same⟩

theorem StepOk.ofQuiet {fl s s' p p'} (h : Quiet fl s s') (hp : SameP p p') : StepOk fl s p s' p' [] := by
  refine ⟨h.inv, by simp [h.same.created], ?_, ?_, ?_, ?_⟩
  · intro v; simp [hp.inHand, h.same.placed v]
  · intro v; simp [hp.got, h.same.recvOk, St.owed, h.same.rdone]
  · intro v; simp [hp.sent, h.same.sentOk, St.sdv, h.same.sdone]
  · intro v; simp [hp.back, h.same.returned]

/-- `Quiet fl s s'` for `s'` a record update of `s` away from the ghost lists and the token locations -/
macro "quiet_upd" : tactic =>
  `(tactic| exact ⟨fun hi => hi.frame (by frame), rfl, fun _ => rfl, rfl, rfl, rfl, rfl, rfl⟩)

theorem drainBuf_quiet (fl) (s : St) : Quiet fl s s.drainBuf :=
  ⟨Inv.drainBuf, rfl, fun v => by simp [St.placed, St.parked, St.drainBuf, count_append]; omega, rfl, rfl, rfl, rfl, rfl⟩

theorem osDecSenders_quiet (fl) (s : St) : Quiet fl s (osDecSenders s) := by
  unfold osDecSenders
  simp only []
  split
  · split
    · quiet_upd
    · split
      · exact .trans (b := { s with sc := wdec s.sc }) (by quiet_upd) (.trans (drainBuf_quiet ..) (by quiet_upd))
      · quiet_upd
  · quiet_upd

theorem teardownIfLast_quiet (fl) (s : St) : Quiet fl s (teardownIfLast s) := by
  unfold teardownIfLast
  split
  · exact drainBuf_quiet fl s
  · exact .refl fl s

theorem closeEffect_quiet (fl : Flavour) (s : St) (side : Side) : Quiet fl s (closeEffect fl s side) := by
  unfold closeEffect
  cases side <;> cases hf : fl.fam <;> simp only []
  case tx.rv => split <;> quiet_upd
  case tx.os => exact osDecSenders_quiet fl s
  case rx.mu => exact .trans (drainBuf_quiet ..) (by quiet_upd)
  case rx.rv =>
    split
    · -- the parked senders' values stay parked: their records move from `sw` to `sdisc`
      refine ⟨fun hi => hi.frame (by frame), rfl, fun v => ?_, rfl, rfl, rfl, rfl, rfl⟩
      simp [St.placed, St.parked, count_append, Function.comp_def]; omega
    · quiet_upd
  case rx.os =>
    split
    · quiet_upd
    · split
      · exact .trans (b := { s with rd := true }) (by quiet_upd) (.trans (drainBuf_quiet ..) (by quiet_upd))
      · quiet_upd
  all_goals quiet_upd

theorem eraseHandle_quiet (fl) (s : St) (h) : Quiet fl s (s.eraseHandle h) := by
  unfold St.eraseHandle; quiet_upd

theorem osSendFinish_quiet (fl hd) (s : St) : Quiet fl s (osSendFinish hd s) := by
  unfold osSendFinish
  split
  · exact teardownIfLast_quiet ..
  · exact .trans (osDecSenders_quiet ..) (teardownIfLast_quiet ..)

theorem retire_quiet (fl cfg) (s : St) (op) : Quiet fl s (retire fl cfg s op) := by
  unfold retire
  split
  · split
    · quiet_upd
    · exact .refl fl s
  · exact .refl fl s

structure Step (fl : Flavour) (op : Op) (s : St) (p : P) (s' : St) (p' : P) (δ : List Val) : Prop where
  ok : StepOk fl s p s' p' δ
  pinv : PInv op p'
  nf : NF p'

theorem Step.trans {fl op s p s1 p1 s2 p2 δ} (h1 : Step fl op s p s1 p1 δ) (h2 : Step fl op s1 p1 s2 p2 []) :
    Step fl op s p s2 p2 δ :=
  ⟨h1.ok.trans h2.ok, h2.pinv, h2.nf⟩

theorem Step.thenQuiet {fl op s p s1 p1 δ s2} (h1 : Step fl op s p s1 p1 δ) (h2 : Quiet fl s1 s2) :
    Step fl op s p s2 p1 δ :=
  ⟨h1.ok.trans (.ofQuiet h2 ⟨rfl, rfl, rfl, rfl⟩), h1.pinv, h1.nf⟩

theorem Step.afterQuiet {fl op s s0 p s' p' δ} (h0 : Quiet fl s s0) (h : Step fl op s0 p s' p' δ) :
    Step fl op s p s' p' δ :=
  ⟨(StepOk.ofQuiet h0 ⟨rfl, rfl, rfl, rfl⟩).trans h.ok, h.pinv, h.nf⟩

theorem Step.retarget {fl op s p s' p' δ} (q : P) (h : Step fl op s p s' p' δ)
    (hq : SameP p q := by exact ⟨rfl, rfl, rfl, rfl⟩) : Step fl op s q s' p' δ :=
  ⟨h.ok.retarget q hq, h.pinv, h.nf⟩

theorem Step.quiet {fl op s s' p p'} (h : Quiet fl s s') (pinv : PInv op p')
    (hp : SameP p p' := by exact ⟨rfl, rfl, rfl, rfl⟩) (nf : NF p' := by trivial) : Step fl op s p s' p' [] :=
  ⟨.ofQuiet h hp, pinv, nf⟩

theorem Step.quietFin {fl op s s' p tag val} (h : Quiet fl s s')
    (ht : isSendOp op = false ∨ op.vals = [] ∨ tag = .noHandle ∨ tag = .unsupported)
    (hp : SameP p (.fin { tag := tag, val := val }) := by exact ⟨rfl, rfl, rfl, rfl⟩) :
    Step fl op s p s' (.fin { tag := tag, val := val }) [] :=
  .quiet h (.fin_tag op tag val ht) hp

/-- the part of the state a transfer operation must not touch -/
structure Shell where
  hs : List Handle
  sc : Nat
  rc : Nat
  rd : Bool
  pd : Bool
  os : OsState
  deriving DecidableEq

def St.shell (s : St) : Shell := ⟨s.hs, s.sc, s.rc, s.rd, s.pd, s.os⟩

structure Pushed (s : St) (sent : List Val) (s' : St) (p' : P) : Prop where
  ex : ∃ γ, s'.buf = s.buf ++ γ ∧ s'.sentOk = s.sentOk ++ γ ∧ sentOf p' = sent ++ γ
  shell : s'.shell = s.shell
  recvOk : s'.recvOk = s.recvOk
  consumed : s'.consumed = s.consumed

theorem Pushed.trans {s sent s1 p1 s2 p2} (h1 : Pushed s sent s1 p1) (h2 : Pushed s1 (sentOf p1) s2 p2) :
    Pushed s sent s2 p2 := by
  obtain ⟨γ1, a1, b1, c1⟩ := h1.ex
  obtain ⟨γ2, a2, b2, c2⟩ := h2.ex
  refine ⟨⟨γ1 ++ γ2, ?_, ?_, ?_⟩, h2.shell.trans h1.shell, h2.recvOk.trans h1.recvOk, h2.consumed.trans h1.consumed⟩
  · rw [a2, a1, append_assoc]
  · rw [b2, b1, append_assoc]
  · rw [c2, c1, append_assoc]

theorem Pushed.of_fields {s s' : St} {sent : List Val} {p' : P} (hp : sentOf p' = sent) (h1 : s'.buf = s.buf)
    (h2 : s'.sentOk = s.sentOk) (h3 : s'.shell = s.shell) (h4 : s'.recvOk = s.recvOk)
    (h5 : s'.consumed = s.consumed) : Pushed s sent s' p' :=
  ⟨⟨[], by simp [h1], by simp [h2], by simp [hp]⟩, h3, h4, h5⟩

def SendP : P → Prop
  | .bsend .. => True
  | .bsendEnd .. => True
  | .fin _ => True
  | _ => False

/-- a send step on a buffered channel appends to the buffer exactly what the operation adds to its `sent` -/
structure SendStep (fl : Flavour) (op : Op) (s : St) (p : P) (s' : St) (p' : P) (δ : List Val) : Prop where
  step : Step fl op s p s' p' δ
  pushed : Pushed s (sentOf p) s' p'
  sendP : SendP p'

theorem SendStep.trans {fl op s p s1 p1 s2 p2 δ} (h1 : SendStep fl op s p s1 p1 δ) (h2 : SendStep fl op s1 p1 s2 p2 []) :
    SendStep fl op s p s2 p2 δ :=
  ⟨h1.step.trans h2.step, h1.pushed.trans h2.pushed, h2.sendP⟩

theorem SendStep.retarget {fl op s p s' p' δ} (q : P) (h : SendStep fl op s p s' p' δ)
    (hq : SameP p q := by exact ⟨rfl, rfl, rfl, rfl⟩) : SendStep fl op s q s' p' δ :=
  ⟨h.step.retarget q hq, hq.sent ▸ h.pushed, h.sendP⟩

theorem SendStep.same {op : Op} {fl : Flavour} {s : St} {t f h sent rest q} (p' : P) (hp : PInv op p')
    (h1 : P.inHand p' = rest) (h2 : sentOf p' = sent) (h3 : gotOf p' = []) (h4 : backOf p' = []) (nf : NF p')
    (sp : SendP p') : SendStep fl op s (.bsend t f h sent rest q) s p' [] :=
  ⟨.quiet (.refl ..) hp ⟨h1, h3, h2, h4⟩ nf, .of_fields h2 rfl rfl rfl rfl rfl, sp⟩

theorem SendStep.push {op : Op} {fl : Flavour} {s : St} {t f h sent rest q} {k : Nat}
    (hroom : match room fl s with | some r => k ≤ r | none => True) (hlen : k ≤ rest.length) (p' : P)
    (hp : PInv op p') (h1 : P.inHand p' = rest.drop k) (h2 : sentOf p' = sent ++ rest.take k)
    (h3 : gotOf p' = []) (h4 : backOf p' = []) (nf : NF p') (sp : SendP p') :
    SendStep fl op s (.bsend t f h sent rest q) (s.push h.idx (rest.take k)) p' [] := by
  refine ⟨⟨⟨fun hi => hi.push _ _ (capOk_push_room hi.cap _ _ ?_), ?_, ?_, ?_, ?_, ?_⟩, hp, nf⟩,
    ⟨⟨_, rfl, rfl, h2⟩, rfl, rfl, rfl⟩, sp⟩
  · split <;> simp_all [length_take] <;> omega
  all_goals (try (intro v; have := count_take_add_drop v k rest; revert this)); (try simp only [h1, h2, h3, h4]); acct

section
variable {op : Op} {fl : Flavour} {s : St} {t : Nat} {f : Form} {h : HName} {sent rest : List Val} {q : Nat}
  (hv : op.vals = sent ++ rest) (hso : isSendOp op = true)
include hv hso

theorem SendStep.giveBack (tag : Tag) :
    SendStep fl op s (.bsend t f h sent rest q) (s.giveBack rest) (.fin { tag := tag, sent := sent, back := rest }) [] := by
  refine ⟨⟨⟨fun hi => hi.frame (frame_giveBack _ _), ?_, ?_, ?_, ?_, ?_⟩, .fin_send hso (by simp [hv]) rfl, trivial⟩,
    .of_fields rfl rfl rfl rfl rfl rfl, trivial⟩ <;> acct

theorem SendStep.lose (tag : Tag) :
    SendStep fl op s (.bsend t f h sent rest q) (s.lose rest) (.fin { tag := tag, sent := sent, lost := rest }) [] := by
  refine ⟨⟨⟨fun hi => hi.frame (frame_lose _ _), ?_, ?_, ?_, ?_, ?_⟩, .fin_send hso (by simp [hv]) rfl, trivial⟩,
    .of_fields rfl rfl rfl rfl rfl rfl, trivial⟩ <;> acct

theorem failSend_step {tag : Tag} :
    SendStep fl op s (.bsend t f h sent rest q) (failSend fl s f tag sent rest).1 (failSend fl s f tag sent rest).2 [] := by
  unfold failSend
  split
  · exact .lose hv hso tag
  · exact .giveBack hv hso tag

theorem trySendEnd_step {cfg : Cfg} :
    SendStep fl op s (.bsend t f h sent rest q) (trySendEnd fl cfg s t f sent rest).1 (trySendEnd fl cfg s t f sent rest).2 [] := by
  unfold trySendEnd
  split
  · exact .giveBack hv hso .ok
  · split
    · exact .same _ ⟨hv, hso⟩ rfl rfl rfl rfl trivial trivial
    · exact failSend_step hv hso

end

theorem sendAvail_le_room (fl cfg s f rest) :
    match room fl s with
    | some r => sendAvail fl cfg s f rest ≤ r
    | none => True := by
  unfold sendAvail hotRoom room
  by_cases hc : (f.blocking = true ∧ cfg.hot = true) <;>
    cases fl.fam <;> simp [hc] <;> omega

theorem sendK_le (fl cfg s f rest q spur) :
    sendK fl cfg s f rest q spur ≤ sendAvail fl cfg s f rest := by
  unfold sendK sendQuota
  split <;> split <;> (try split) <;> omega

theorem sendAvail_le_len (fl cfg s f rest) : sendAvail fl cfg s f rest ≤ rest.length := by
  unfold sendAvail; split <;> omega

theorem sendK_room (fl cfg s f rest q spur) :
    match room fl s with
    | some r => sendK fl cfg s f rest q spur ≤ r
    | none => True := by
  have h1 := sendAvail_le_room fl cfg s f rest
  have h2 := sendK_le fl cfg s f rest q spur
  split <;> simp_all <;> omega

theorem sendStep_step {op : Op} {fl : Flavour} {cfg s t f h sent rest q spur s' p'}
    (hv : op.vals = sent ++ rest) (hso : isSendOp op = true)
    (hs : sendStep fl cfg s t f h sent rest q spur = some (s', p')) :
    SendStep fl op s (.bsend t f h sent rest q) s' p' [] := by
  have hlen : sendK fl cfg s f rest q spur ≤ rest.length := Nat.le_trans (sendK_le ..) (sendAvail_le_len ..)
  have hroom := sendK_room fl cfg s f rest q spur
  unfold sendStep at hs
  generalize sendK fl cfg s f rest q spur = k at hs hroom hlen
  generalize sendQuota fl cfg s f rest q spur = qq at hs
  have push : ∀ q', SendStep fl op s (.bsend t f h sent rest q) (s.push h.idx (rest.take k))
      (.bsend t f h (sent ++ rest.take k) (rest.drop k) q') [] :=
    fun q' => .push hroom hlen _ ⟨by simp [hv], hso⟩ rfl rfl rfl rfl trivial trivial
  split at hs
  · split at hs
    · cases hs; exact .giveBack hv hso .ok
    · obtain ⟨rfl, rfl⟩ := of_some_eq hs; exact failSend_step hv hso
  · split at hs
    · cases hs; exact .same _ ⟨hv, hso⟩ rfl rfl rfl rfl trivial trivial
    · split at hs
      · rename_i hk
        cases hs
        have := SendStep.push (fl := fl) (s := s) (t := t) (f := f) (h := h) (sent := sent) (q := q) hroom hlen
          (.fin { tag := .ok, sent := sent ++ rest }) (.fin_send hso (by simp [hv]) rfl)
          (by simp [P.inHand, hk]) (by simp [sentOf, hk]) rfl rfl trivial trivial
        simpa [hk] using this
      · split at hs
        · split at hs
          · cases hs
          · obtain ⟨rfl, rfl⟩ := of_some_eq hs; exact trySendEnd_step hv hso
        · simp only [] at hs
          split at hs
          · cases hs; exact push _
          · obtain ⟨rfl, rfl⟩ := of_some_eq hs
            exact (push 0).trans (trySendEnd_step (by simp [hv]) hso)

theorem Inv.rv_buf {fl s} (h : Inv fl s) (hf : fl.fam = .rv) : s.buf = [] := (capOk_rv hf s).mp h.cap

theorem Inv.handOff {fl s} (h : Inv fl s) (hf : fl.fam = .rv) (p r v) : Inv fl (s.handOff p r v) := by
  refine ⟨?_, ?_, ?_, ?_, (capOk_rv hf _).mpr (h.rv_buf hf), ?_, ?_⟩
  · simp [St.handOff, h.seq, h.rv_buf hf]
  · exact Sublist.append h.sub (Sublist.refl _)
  · intro x; simp [St.handOff, count_append, h.cons x]; omega
  · intro hd; simp [St.handOff, h.nodrop hd]
  · simp [St.handOff, h.tagS]
  · simp [St.handOff, h.tagR]

theorem Inv.handOffLost {fl s} (h : Inv fl s) (hf : fl.fam = .rv) (p v) : Inv fl (s.handOffLost p v) := by
  refine ⟨?_, ?_, ?_, ?_, (capOk_rv hf _).mpr (h.rv_buf hf), ?_, h.tagR⟩
  · simp [St.handOffLost, h.seq, h.rv_buf hf]
  · exact h.sub.trans (sublist_append_left _ _)
  · intro x; simp [St.handOffLost, count_append, h.cons x]; omega
  · intro hd; simp [St.handOffLost] at hd
  · simp [St.handOffLost, h.tagS]

theorem rvSendStep_step {op : Op} {fl : Flavour} (hf : fl.fam = .rv) {s t f h v q} (hv : op.vals = [v])
    (hso : isSendOp op = true) :
    Step fl op s (.bsend t f h [] [v] q) (rvSendStep fl s t f h v).1 (rvSendStep fl s t f h v).2 [] := by
  have hfin : ∀ tag, PInv op (.fin { tag := tag, sent := [v] }) := fun _ => .fin_send hso (by simp [hv]) rfl
  unfold rvSendStep
  split
  · exact SendStep.step (failSend_step (by simpa using hv) hso)
  · split
    · split
      · refine ⟨⟨fun hi => (hi.handOffLost hf _ _).frame (by unfold St.handOffLost; frame), ?_, ?_, ?_, ?_, ?_⟩,
          hfin _, trivial⟩ <;> acct
      · refine ⟨⟨fun hi => (hi.handOff hf _ _ _).frame (by unfold St.handOff; frame), ?_, ?_, ?_, ?_, ?_⟩,
          hfin _, trivial⟩ <;> acct
    · split
      · refine ⟨⟨fun hi => hi.frame (by frame), ?_, ?_, ?_, ?_, ?_⟩, ⟨hv, hso⟩, trivial⟩ <;> acct
      · exact SendStep.step (failSend_step (by simpa using hv) hso)

theorem capOk_os_push {fl : Flavour} {s : St} (hf : fl.fam = .os) (hi : Inv fl s) (he : s.os = .empty)
    (v : Val) (s' : St) (hb : s'.buf = s.buf ++ [v]) (hs : s'.sentOk = s.sentOk ++ [v]) (ho : s'.os ≠ .empty) :
    capOk fl s' := by
  have h0 := ((capOk_os hf s).mp hi.cap).2.2 he
  rw [capOk_os hf]
  have hb0 : s.buf = [] := by
    have := hi.seq; rw [h0] at this
    exact (List.append_eq_nil_iff.mp this.symm).2
  exact ⟨by simp [hb, hb0], by simp [hs, h0], fun h => absurd h ho⟩

theorem osSendFail_step {op : Op} {fl : Flavour} {s h hd v tag t f q} (hv : op.vals = [v]) (hso : isSendOp op = true) :
    Step fl op s (.bsend t f h [] [v] q) (osSendFail s h hd v tag).1 (osSendFail s h hd v tag).2 [] := by
  unfold osSendFail
  exact (Step.afterQuiet (eraseHandle_quiet ..) (SendStep.giveBack hv hso tag).step).thenQuiet (osSendFinish_quiet ..)

theorem osSendStep_step {op : Op} {fl : Flavour} (hf : fl.fam = .os) {s h hd v t f q} (hv : op.vals = [v])
    (hso : isSendOp op = true) :
    Step fl op s (.bsend t f h [] [v] q) (osSendStep s h hd v).1 (osSendStep s h hd v).2 [] := by
  unfold osSendStep
  split
  · exact osSendFail_step hv hso
  · split
    · exact osSendFail_step hv hso
    · rename_i hne
      have he : s.os = .empty := by simpa using hne
      have h1 : Step fl op s (.bsend t f h [] [v] q) ({ ((s.eraseHandle h).push h.idx [v]) with os := .sent })
          (.fin { tag := .ok, sent := [v] }) [] := by
        refine ⟨⟨fun hi => ?_, ?_, ?_, ?_, ?_, ?_⟩, .fin_send hso (by simp [hv]) rfl, trivial⟩
        · have h2 : Inv fl (s.eraseHandle h) := (eraseHandle_quiet ..).inv hi
          refine ⟨?_, h2.sub, h2.cons, h2.nodrop, capOk_os_push hf hi he v _ rfl rfl (by simp), ?_, h2.tagR⟩
          · simp [St.push, St.eraseHandle, hi.seq]
          · simp [St.push, St.eraseHandle, hi.tagS]
        all_goals acct
      exact h1.thenQuiet (osSendFinish_quiet ..)

theorem osSendStart_step {op : Op} {fl : Flavour} (hf : fl.fam = .os) {cfg s h hd v t f q} (hv : op.vals = [v])
    (hso : isSendOp op = true) :
    Step fl op s (.bsend t f h [] [v] q) (osSendStart cfg s t h hd v).1 (osSendStart cfg s t h hd v).2 [] := by
  unfold osSendStart
  split
  · split
    · exact osSendFail_step hv hso
    · exact .quiet (by unfold St.eraseHandle; quiet_upd) ⟨by simpa using hv, isRecvOp_of_send hso⟩
  · exact osSendStep_step hf hv hso

theorem stgStep_step {op : Op} {fl : Flavour} {s t k h sent rest s' p'} (hp : PInv op (.stg t k h sent rest))
    (hs : stgStep fl s t k h sent rest = some (s', p')) : Step fl op s (.stg t k h sent rest) s' p' [] := by
  obtain ⟨hv, hr⟩ := hp
  -- a finished `.stg` operation is a send form or a `close` / `drop`
  have hfin : ∀ o : Out, op.vals = o.sent ++ o.back ++ o.lost → o.got = [] → PInv op (.fin o) := by
    intro o h1 h2
    refine ⟨fun _ => ⟨Or.inl h1, h2⟩, fun h => by simp [hr] at h, fun h0 _ => ?_⟩
    have : op.vals = [] := by cases op <;> simp_all [isSendOp, Op.vals]
    simpa [this, h2] using h1.symm
  unfold stgStep at hs
  split at hs
  · -- 1: second look at `receiver_dropped`
    split at hs
    · cases hs
      have h1 : Step fl op s (.stg t k h sent rest) (({ s with osw := false } : St).giveBack rest)
          (.fin { tag := .closed, sent := sent, back := rest }) [] := by
        refine ⟨⟨fun hi => hi.frame (by unfold St.giveBack; frame), ?_, ?_, ?_, ?_, ?_⟩, hfin _ (by simp [hv]) rfl, trivial⟩ <;>
          acct
      exact h1.thenQuiet (.trans (osDecSenders_quiet ..) (teardownIfLast_quiet ..))
    · cases hs; exact .quiet (.refl ..) ⟨hv, hr⟩
  · split at hs
    · -- 2: publish
      rename_i hk
      split at hs
      · rename_i v
        split at hs
        · rename_i he
          cases hs
          refine ⟨⟨fun hi => ?_, ?_, ?_, ?_, ?_, ?_⟩, ⟨by simp [hv], hr⟩, trivial⟩
          · refine ⟨?_, hi.sub, hi.cons, hi.nodrop, capOk_os_push hk.2 hi he v _ rfl rfl (by simp), ?_, hi.tagR⟩
            · simp [St.push, hi.seq]
            · simp [St.push, hi.tagS]
          all_goals acct
        · cases hs
      · cases hs
    · split at hs
      · -- 3: the consumed sender is dropped
        rename_i hk
        cases hs
        obtain ⟨_, _, rfl⟩ := hk
        exact .quiet (.trans (osDecSenders_quiet ..) (teardownIfLast_quiet ..)) (hfin _ (by simpa using hv) rfl)
      · split at hs
        · rename_i hk
          cases hs
          obtain ⟨_, rfl, rfl⟩ := hk
          exact .quiet (by quiet_upd) (hfin _ hv rfl)
        · split at hs
          · rename_i hk
            cases hs
            obtain ⟨_, rfl, rfl⟩ := hk
            exact .quiet (.trans (b := { s with sc := wdec s.sc }) (by quiet_upd) (teardownIfLast_quiet ..)) (hfin _ hv rfl)
          · cases hs

def Chk.hit (e o g : Bool) : Chk → Bool
  | .E => e
  | .O => o
  | .G => g

theorem firstHit_eq_find? (l : List Chk) (e o g : Bool) : firstHit l e o g = l.find? (Chk.hit e o g) := by
  induction l with
  | nil => rfl
  | cons c r ih => cases c <;> simp only [firstHit, find?_cons, Chk.hit, ih] <;> split <;> simp_all

theorem firstHit_some {l e o g c} (h : firstHit l e o g = some c) : Chk.hit e o g c = true := by
  rw [firstHit_eq_find?] at h; exact find?_some h

theorem create_step (fl s t f h vs) :
    SendStep fl (.snd f h vs) s (.fresh t (.snd f h vs)) (s.create vs) (.bsend t f h [] vs 0) vs := by
  refine ⟨⟨⟨fun hi => hi.frame (frame_create _ _), ?_, ?_, ?_, ?_, ?_⟩, ⟨rfl, rfl⟩, trivial⟩,
    .of_fields rfl rfl rfl rfl rfl rfl, trivial⟩ <;> acct

theorem startSendBuf_step (fl cfg s t f h hd vs) :
    SendStep fl (.snd f h vs) s (.fresh t (.snd f h vs)) (startSendBuf fl cfg s (s.create vs) t f h hd vs).1
      (startSendBuf fl cfg s (s.create vs) t f h hd vs).2 vs := by
  have hso : isSendOp (.snd f h vs) = true := rfl
  have hc := create_step fl s t f h vs
  have hnil : vs = [] →
      SendStep fl (.snd f h vs) s (.fresh t (.snd f h vs)) (s.create vs) (.fin { tag := .ok }) vs := by
    rintro rfl
    exact hc.trans (.same _ (.fin_tag _ _ _ (.inr (.inl rfl))) rfl rfl rfl rfl trivial trivial)
  unfold startSendBuf
  split
  · rename_i he; exact hnil (by simpa [Chk.hit] using firstHit_some he)
  · exact hc.trans (failSend_step rfl hso)
  · split
    · rename_i he; exact hnil (by simpa using he)
    · split
      · exact hc
      · split
        · rename_i r hr
          exact hc.trans (sendStep_step rfl hso (by rw [hr]))
        · exact hc

theorem startSend_step (fl cfg s t f h vs) :
    ∃ δ, (δ = [] ∨ δ = vs) ∧
      Step fl (.snd f h vs) s (.fresh t (.snd f h vs)) (startSend fl cfg s t f h vs).1 (startSend fl cfg s t f h vs).2 δ ∧
      (fl.fam ≠ .rv → fl.fam ≠ .os →
        Pushed s [] (startSend fl cfg s t f h vs).1 (startSend fl cfg s t f h vs).2 ∧ SendP (startSend fl cfg s t f h vs).2) := by
  have hso : isSendOp (.snd f h vs) = true := rfl
  have fin0 : ∀ tag, (tag = .noHandle ∨ tag = .unsupported) →
      ∃ δ, (δ = [] ∨ δ = vs) ∧ Step fl (.snd f h vs) s (.fresh t (.snd f h vs)) s (.fin { tag := tag }) δ ∧
        (fl.fam ≠ .rv → fl.fam ≠ .os → Pushed s [] s (.fin { tag := tag }) ∧ SendP (.fin { tag := tag })) :=
    fun tag ht => ⟨[], .inl rfl, .quietFin (.refl ..) (.inr (.inr ht)), fun _ _ => ⟨.of_fields rfl rfl rfl rfl rfl rfl, trivial⟩⟩
  have hc := (create_step fl s t f h vs).step
  unfold startSend
  split
  · exact fin0 _ (.inl rfl)
  · split
    · exact fin0 _ (.inr rfl)
    · split
      · rename_i hf
        split
        · exact ⟨_, .inr rfl, hc.trans (osSendStart_step hf rfl hso), fun _ hos => absurd hf hos⟩
        · exact fin0 _ (.inr rfl)
      · rename_i hf
        split
        · split
          · exact ⟨_, .inr rfl, hc.trans (failSend_step rfl hso).step, fun hrv _ => absurd hf hrv⟩
          · exact ⟨_, .inr rfl, hc.trans (rvSendStep_step hf rfl hso), fun hrv _ => absurd hf hrv⟩
        · exact fin0 _ (.inr rfl)
      · have := startSendBuf_step fl cfg s t f h ‹_› vs
        exact ⟨_, .inr rfl, this.step, fun _ _ => ⟨this.pushed, this.sendP⟩⟩

end Fv.Chan
