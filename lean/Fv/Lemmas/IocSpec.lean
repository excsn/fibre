import Fv.Ioc.Container
/-!
# Specification vocabulary for C18

The dependency graph of a registry, as the resolver sees it: a slot is *active* when resolving it
would run its factory (an uninitialised singleton or a transient); an active slot has an edge to
every slot its factory script resolves.  `CycleFrom w s`: a cycle of active edges is reachable
from `s`.
-/
namespace Fv.Ioc

/-- the script that resolving this provider would run, if any -/
def Provider.active : Provider → Option (List Dep)
  | .singleton sc none _ => some sc
  | .transient sc _ => some sc
  | _ => none

def ActiveEdge (w : World) (s t : Slot) : Prop :=
  ∃ p sc, w.regs.get s = some p ∧ p.active = some sc ∧ ∃ d ∈ sc, d.slot = t

inductive Reach (w : World) : Slot → Slot → Prop where
  | refl (s : Slot) : Reach w s s
  | step {s t u : Slot} : ActiveEdge w s t → Reach w t u → Reach w s u

/-- a cycle of the dependency graph is reachable from `s` -/
def CycleFrom (w : World) (s : Slot) : Prop :=
  ∃ t u, Reach w s t ∧ ActiveEdge w t u ∧ Reach w u t

end Fv.Ioc
