import Fv.Lemmas.SyncRwWakeI
import Fv.Lemmas.SyncRwFrame
/-!
What the stepping thread knows after its step, for `WInv`.  A fact about the arrival in, or the departure from, a
small region of the program is proved over the transitions concerned only (`narrow_sweep` with a row of `Entry`);
what a step does to the nodes is read off `node_eff` (`NodeTrans`), what it does to the futures is one pass over all
step cases (`FutTrans`).
-/
namespace Fv.Sync.RwLock
open Fv.Sync
variable {cfg : Cfg} {s s' : State} {t : Tid} {l : Lbl}

structure NodeTrans (s s' : State) (t : Tid) : Prop where
  /-- only through `take_and_mark_woken`, whose caller then carries the handle -/
  marked : ∀ n, (s'.wl.node n).woken = true → (s.wl.node n).woken = false →
    Marks s t n ∧ postWakePc (s'.th t).pc = true
    ∧ ((s'.th t).ws = (s.wl.node n).waiter.toList ∨ (s'.th t).ws = (s.th t).ws ++ (s.wl.node n).waiter.toList)
  /-- only by the owner's `rearm` -/
  rearmed : ∀ n, (s.wl.node n).woken = true → (s'.wl.node n).woken = false → (s'.wl.node n).linked = true →
    me t (s'.th t) = n ∧ activePc (s'.th t).pc = true
  kind : ∀ n, (s.wl.node n).linked = true → (s'.wl.node n).isWriter = (s.wl.node n).isWriter

theorem node_trans (hi : Inv s) (h : Step cfg s t l s') : NodeTrans s s' t := by
  refine ⟨fun n h1 h0 => ?_, fun n h1 h0 hl => ?_, fun n hl => ?_⟩ <;> have e := node_eff h n <;> unfold NodeEff at e
  · grind
  · grind [activePc]
  · have := @Allocs.unlinked s t hi n
    grind

structure FutTrans (s s' : State) (t : Tid) : Prop where
  boc : ∀ f, (s'.th t).cur = some f → futPc (s'.th t).pc = true → (s'.th t).blockOn = (s'.fut f).bo
  idle : ∀ f, (s.th t).cur = some f → futPc (s.th t).pc = true → (s'.fut f).busy = false →
    (s'.fut f).phase ≠ .startedNode ∨ (s'.wl.node (.fut f)).woken = false
  alloc : ∀ f, (s'.fut f).phase = .startedNode →
    (s.fut f).phase = .startedNode ∨ (s'.wl.node (.fut f)).woken = false
  blockOn : ∀ f, (s.th t).cur = some f → futPc (s.th t).pc = true → (s.th t).blockOn = true →
    ((s'.th t).cur = some f ∧ futPc (s'.th t).pc = true) ∨ (s'.fut f).phase ≠ .startedNode
  pending : ∀ f, (s'.fut f).phase = .startedNode → (s'.fut f).busy = false →
    ((s.fut f).phase = .startedNode ∧ (s.fut f).busy = false ∧ ¬ opOn s t f)
    ∨ (s'.wl.node (.fut f)).linked = true
  freed : inLL (s.th t).pc = false → ∀ f, (s.fut f).phase = .startedNode →
    ((s.th t).pc = .dLoad → (s.th t).cur ≠ some f) → (s'.fut f).phase = .startedNode
  opOn : ∀ f, (opOn s t f → opOn s' t f ∨ (s'.fut f).busy = false)
    ∧ ((s.fut f).busy = false → (s'.fut f).busy = true → opOn s' t f)

theorem fut_trans (hi : Inv s) (hw : WInv s) (h : Step cfg s t l s') : FutTrans s s' t := by
  suffices hc : _ ∧ _ ∧ _ ∧ _ ∧ _ ∧ _ ∧ _ from
    ⟨hc.1, hc.2.1, hc.2.2.1, hc.2.2.2.1, hc.2.2.2.2.1, hc.2.2.2.2.2.1, hc.2.2.2.2.2.2⟩
  have a1 := hi.syncCur t; have a2 := hi.asyncCur t
  have b0 := hw.boc t; have b3 := hw.qz t; have b6 := hi.phFresh t
  have b1 : ∀ f, (s.th t).cur = some f → futPc (s.th t).pc = true → (s.fut f).busy = true :=
    fun f hc hp => (hi.busy t f hc hp).1
  have c0 := hw.bb
  unfold PBb at c0
  unfold opOn
  clear hi hw
  step_sweep h s s' t
  all_goals grind

theorem bb_step (hi : Inv s) (hw : WInv s) (h : Step cfg s t l s') (f : Fid) :
    (s'.fut f).bo = true → (s'.fut f).busy = true ∨ (s'.fut f).phase = .absent := by
  have a2 := hi.asyncCur t
  have b0 := hw.boc t
  have b6 := hi.phFresh t
  have c1 := hw.bb f
  clear hi hw
  step_sweep h s s' t
  all_goals grind

theorem tw_local (hi : Inv s) (h : Step cfg s t l s') (hp : (s'.th t).pc = .wrStore) :
    UnlinksHead s s' t (s'.th t).tgt ∧ s'.fut = s.fut ∧ s.wl.writers = 0
    ∧ (s'.wl.node (s'.th t).tgt).waiter = (s.wl.node (s'.th t).tgt).waiter
    ∧ (s'.wl.node (s'.th t).tgt).woken = (s.wl.node (s'.th t).tgt).woken := by
  have hpred := (hi.entry h).wrStore hp
  have b0 := hi.wrTgt t
  have d : ∀ n, s.wl.queue.head? = some n → (s.wl.node n).linked = true :=
    fun n hn => (hi.wf.linked n).2 (List.mem_of_mem_head? hn)
  unfold UnlinksHead
  clear hi
  revert hp
  narrow_sweep h hpred s s' t
  all_goals grind

theorem armed_local (hi : Inv s) (hw : WInv s) (h : Step cfg s t l s') (hp : armedPc (s'.th t).pc = true) :
    (s'.wl.node (me t (s'.th t))).linked = true ∧ (s'.wl.node (me t (s'.th t))).woken = false := by
  have hpred := (hi.entry h).armed hp
  have a1 := hi.syncCur t; have a5 := hi.ffOk t; have a3 := hi.syncLinked t
  have b3 := hw.qz t
  clear hi hw
  revert hp
  narrow_sweep h hpred s s' t
  all_goals grind

theorem holdUnlink_local (hi : Inv s) (hw : WInv s) (h : Step cfg s t l s')
    (hp : holdUnlinkPc (s'.th t).pc = true) : (t, (s'.th t).wr) ∈ s'.holders := by
  have hpred := (hi.entry h).holdUnlink hp
  have b6 := hw.hl t
  clear hi hw
  revert hp
  narrow_sweep h hpred s s' t
  all_goals grind

theorem qRearm_local (hi : Inv s) (h : Step cfg s t l s') (hp : (s'.th t).pc = .qRearm) :
    (s'.wl.node (me t (s'.th t))).waiter = some (myWaiter t (s'.th t)) := by
  have hpred := (hi.entry h).qRearm hp
  clear hi
  revert hp
  narrow_sweep h hpred s s' t
  all_goals grind

theorem boPark_local (hi : Inv s) (hw : WInv s) (h : Step cfg s t l s') (hp : (s'.th t).pc = .boPark) :
    (s'.th t).blockOn = true
    ∧ ∀ f, (s'.th t).cur = some f → (s'.fut f).phase = .startedNode ∧ (s'.wl.node (.fut f)).woken = false := by
  have hpred := (hi.entry h).boPark hp
  have a4 := hi.phNode t; have b3 := hw.qz t
  clear hi hw
  revert hp
  narrow_sweep h hpred s s' t
  all_goals grind

theorem wPark_local (hi : Inv s) (h : Step cfg s t l s') (hp : (s'.th t).pc = .wPark) :
    (s'.wl.node (.thr t)).woken = false := by
  have hpred := (hi.entry h).wPark hp
  have a1 := hi.syncCur t
  clear hi
  revert hp
  narrow_sweep h hpred s s' t
  all_goals grind

theorem parked_local (hi : Inv s) (hw : WInv s) (h : Step cfg s t l s')
    (hp : (s'.th t).pc = .wLoad ∨ (s'.th t).pc = .wPark ∨ (s'.th t).pc = .boPark) :
    (s'.wl.node (me t (s'.th t))).linked = true
    ∨ (((s.th t).pc = .wLoad ∨ (s.th t).pc = .wPark ∨ (s.th t).pc = .boPark)
        ∧ me t (s'.th t) = me t (s.th t) ∧ s'.wl.node (me t (s.th t)) = s.wl.node (me t (s.th t))) := by
  have e := hi.entry h
  have hpred : ((s.th t).pc = .wPark ∨ (s.th t).pc = .llRel .parkLoad) ∨ (s.th t).pc = .wLoad
      ∨ (s.th t).pc = .llRel .pending :=
    hp.elim (fun h1 => Or.inl (e.wLoad h1)) (fun h1 => Or.inr (h1.imp e.wPark e.boPark))
  have b3 := hw.qz t
  clear hi hw e
  revert hp
  narrow_sweep h hpred s s' t
  all_goals grind

theorem wnWake_local (hi : Inv s) (h : Step cfg s t l s') (hp : (s'.th t).pc = .wnWake) :
    ∃ u r, (s'.th t).ws = .thread u :: r := by
  have hpred := (hi.entry h).wnWake hp
  clear hi
  revert hp
  narrow_sweep h hpred s s' t
  all_goals grind [drain_rest]

theorem waiting_local (h : Step cfg s t l s') (hp : (s.th t).pc = .wLoad ∨ (s.th t).pc = .wPark)
    (hwk : (s.wl.node (me t (s.th t))).woken = false) :
    ((s'.th t).pc = .wLoad ∨ (s'.th t).pc = .wPark) ∧ (s'.th t).cur = (s.th t).cur := by
  have hpred := hp
  revert hp hwk
  narrow_sweep h hpred s s' t
  all_goals grind

theorem prewake_local (hi : Inv s) (h : Step cfg s t l s') (hp : PreWake s t) :
    PreWake s' t ∨ s'.wl.queue = []
    ∨ ((s.th t).pc = .wnStore ∧ s'.wl.queue = s.wl.queue
        ∧ (s'.wl.node (s.th t).tgt).isWriter = (s.wl.node (s.th t).tgt).isWriter
        ∧ (s'.wl.node (s.th t).tgt).woken = true) := by
  have a2 := hi.asyncCur t
  have d : 0 < s.wl.writers → s.wl.firstWriter ≠ none := by
    intro hpos hnone
    have := hi.wf.writers
    rw [this] at hpos
    obtain ⟨n, hn, hwn⟩ := List.countP_pos_iff.1 hpos
    unfold WaitList.firstWriter at hnone
    exact absurd hwn (by simpa using List.find?_eq_none.1 hnone n hn)
  unfold PreWake at hp ⊢
  have hpred := hp
  clear hi
  revert hp
  narrow_sweep h hpred s s' t
  all_goals grind [List.head?_eq_none_iff]

/-- the third case is a reader that finds `WRITER_PENDING` in its re-check and goes to sleep behind the queued
writer -/
theorem active_local (h : Step cfg s t l s') (hp : activePc (s.th t).pc = true) :
    (me t (s'.th t) = me t (s.th t) ∧ activePc (s'.th t).pc = true)
    ∨ (s'.word.wl = true ∨ s'.word.readers ≠ 0)
    ∨ ((s.th t).pc = .qLoad ∧ (s.th t).wr = false ∧ s.word.wp = true) := by
  have hpred := hp
  revert hp
  narrow_sweep h hpred s s' t
  all_goals grind [RWord.blocked]

theorem unlink_holds (hw : WInv s) (h : Step cfg s t l s')
    (hp : (s.th t).pc = .qCas ∨ (s.th t).pc = .llSwap .spinUnlink ∨ (s.th t).pc = .llSwap .finish)
    (hq : s'.wl.queue ≠ s.wl.queue) : (t, (s.th t).wr) ∈ s'.holders := by
  have hpred := hp
  have a3 := hw.hl t
  clear hw
  revert hp hq
  narrow_sweep h hpred s s' t
  all_goals grind

end Fv.Sync.RwLock
