/-
Facts that several model families use and that speak of no model: closure under the trace runner that every
step-level model writes in the same way, and a few list and arithmetic facts.
-/
namespace Fv

/-- Every step-level model defines `run s [] = some s`, `run s ((t, l) :: r) = (step s t l).bind (run · r)`, some also a
variant that stops at the first step outside a guard `G`: `hnil` and `hcons` hold by `rfl`. -/
theorem run_closed_guarded {σ τ ℓ : Type} {step : σ → τ → ℓ → Option σ} {G : σ → τ → ℓ → Prop}
    [∀ s t l, Decidable (G s t l)] {run : σ → List (τ × ℓ) → Option σ}
    (hnil : ∀ s, run s [] = some s)
    (hcons : ∀ s t l r, run s ((t, l) :: r) = if G s t l then (step s t l).bind (fun s' => run s' r) else none)
    {R : σ → Prop} (hR : ∀ {s t l s'}, R s → G s t l → step s t l = some s' → R s')
    (tr : List (τ × ℓ)) (s0 s : σ) (h0 : R s0) (h : run s0 tr = some s) : R s := by
  induction tr generalizing s0 with
  | nil => rw [hnil] at h; cases h; exact h0
  | cons x r ih =>
    obtain ⟨t, l⟩ := x
    rw [hcons] at h
    split at h
    · cases hs : step s0 t l with
      | none => rw [hs] at h; cases h
      | some s1 => rw [hs] at h; exact ih s1 (hR h0 ‹_› hs) h
    · cases h

theorem run_closed {σ τ ℓ : Type} {step : σ → τ → ℓ → Option σ} {run : σ → List (τ × ℓ) → Option σ}
    (hnil : ∀ s, run s [] = some s)
    (hcons : ∀ s t l r, run s ((t, l) :: r) = (step s t l).bind (fun s' => run s' r))
    {R : σ → Prop} (hR : ∀ {s t l s'}, R s → step s t l = some s' → R s')
    (tr : List (τ × ℓ)) (s0 s : σ) (h0 : R s0) (h : run s0 tr = some s) : R s :=
  run_closed_guarded (G := fun _ _ _ => True) hnil (fun s t l r => by rw [hcons, if_pos trivial])
    (fun h _ hs => hR h hs) tr s0 s h0 h

theorem nodup_snoc {α} {l : List α} {a : α} : (l ++ [a]).Nodup ↔ l.Nodup ∧ a ∉ l := by
  rw [List.nodup_append]
  simp only [List.nodup_cons, List.not_mem_nil, not_false_eq_true, List.nodup_nil, and_self, List.mem_singleton,
    true_and, ne_eq]
  exact and_congr_right fun _ => ⟨fun h ha => h a ha a rfl rfl, fun h x hx y e1 e2 => h (e1 ▸ e2 ▸ hx)⟩

theorem eq_of_nodup_map {α β} (f : α → β) {l : List α} (h : (l.map f).Nodup) {x y : α}
    (hx : x ∈ l) (hy : y ∈ l) (hf : f x = f y) : x = y := by
  rw [List.Nodup, List.pairwise_map] at h
  exact List.Pairwise.forall_of_forall_of_flip (R := fun a b => f a = f b → a = b) (fun _ _ _ => rfl)
    (h.imp fun hne he => absurd he hne) (h.imp fun hne he => absurd he.symm hne) hx hy hf

theorem map_range_eq_take_drop {α} {l : List α} {d : α} {f : Nat → α} {k n : Nat} (hle : k + n ≤ l.length)
    (hf : ∀ i, i < n → f i = l.getD (k + i) d) : (List.range n).map f = (l.drop k).take n := by
  apply List.ext_getElem
  · simp; omega
  · intro i h1 h2
    simp only [List.length_map, List.length_range] at h1
    simp only [List.getElem_map, List.getElem_range, List.getElem_take, List.getElem_drop]
    rw [hf i h1, List.getD_eq_getElem?_getD, List.getElem?_eq_getElem (by omega)]
    simp

theorem mod_ne_of_lt {a b m : Nat} (h1 : a < b) (h2 : b - a < m) : a % m ≠ b % m := by
  intro h
  have h3 : (b - a) % m = 0 := Nat.sub_mod_eq_zero_of_mod_eq h.symm
  rw [Nat.mod_eq_of_lt h2] at h3
  omega

theorem snoc_induction {α} {P : List α → Prop} (nil : P []) (snoc : ∀ l a, P l → P (l ++ [a])) : ∀ l, P l := by
  have : ∀ r : List α, P r.reverse := by
    intro r
    induction r with
    | nil => exact nil
    | cons a r ih => rw [List.reverse_cons]; exact snoc _ _ ih
  intro l; rw [← List.reverse_reverse l]; exact this _

end Fv
