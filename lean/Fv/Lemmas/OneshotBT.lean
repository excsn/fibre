import Fv.Lemmas.OneshotBBase
/-! Every transition of the step-level oneshot model preserves `I4`, `I4b`: the cases named are the transitions that
write the state word, `writer`, the slot or the token history, resp. `mover`, `sval`, `sres`. -/
namespace Fv.Chan.OneshotB

variable {s s' : State} {a : Ag}

theorem I4.step (A : AInv s) (t : Tr s a (s.loc a) s') : I4 s' := by
  have hi := A.i4
  have ha := hi.each a
  cases t
  case sCasEW | sStEmpty | sLock | sSwapSent =>
    have hJ1 := A.j1; have hI2 := A.i2
    exact ⟨by grind, each_upd (by grind) fun b _ => by grind⟩
  case dcCasEC | dcCasST | xLock | ciCasEC | ciCasST | fLdState_sent | tCasST | tLock | tCasEC | pCasEC =>
    exact ⟨by grind, each_upd (by grind) fun b _ => by grind⟩
  case tStClosed _ hm => exact absurd hm (A.i3b.each a).dead1
  all_goals exact ⟨hi.g, each_upd (by grind) fun b _ => hi.each b⟩

theorem I4b.step (A : AInv s) (t : Tr s a (s.loc a) s') : I4b s' := by
  have hi := A.i4b
  have ha := hi.each a
  cases t
  -- the send fails: its result is an error that carries the value in hand
  case sLdOwn_cl | sLdRdrop_cl | sLdState_ge | sCasEW_fail | sStEmpty =>
    have hJ1 := A.j1
    unfold sendDone
    exact ⟨by grind, each_upd (by grind) fun b _ => by grind⟩
  case sLock | sSwapSent =>
    have hJ1 := A.j1; have hI4 := A.i4
    exact ⟨by grind, each_upd (by grind) fun b _ => by grind⟩
  case tLock =>
    have hJ1 := A.j1
    exact ⟨by grind, each_upd (by grind) fun b _ => by grind⟩
  -- `send(self)`: the handle has not sent before, so it has no result and is not the mover
  case cSend =>
    have hSr := fun i => (s.sres i).eq_none_or_eq_some
    exact ⟨by grind, each_upd (by grind) fun b _ => by grind⟩
  all_goals exact ⟨hi.g, each_upd (by grind) fun b _ => hi.each b⟩

end Fv.Chan.OneshotB
