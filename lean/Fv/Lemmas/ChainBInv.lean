import Fv.Lemmas.ChainBObs
/-!
The inductive invariant of the slab-chain model, in four groups:
`InvH` handles and program counters, `InvP` the runs producers are building, `InvC` the chain
(DESIGN Appendix A.7: V1, V2), `InvS` the slab machine (`remaining` accounting, recycling).
-/
namespace Fv.Chan.ChainB

structure InvH (s : State) : Prop where
  cnt : s.senders = s.liveS.length
  nodup : s.liveS.Nodup
  live : ∀ h, h ∈ s.liveS ↔ s.hst h = .live
  active : ∀ h, s.ppc h ≠ .idle → s.hst h = .live
  slab_live : ∀ h, s.pslab h ≠ none → s.hst h = .live
  no_slab : ∀ h, noSlab (s.ppc h) = true → s.pslab h = none
  has_slab : ∀ h, hasSlab (s.ppc h) = true → s.pslab h ≠ none
  fin_live : s.fin = true → s.liveS = []
  fin_pc : cFinal s.cpc = s.fin
  gone_pc : cLast s.cpc = s.tailGone
  gone_fin : s.tailGone = true → s.fin = true

structure InvP (s : State) : Prop where
  rlen_le : ∀ h, building (s.ppc h) = true → s.rlen h ≤ (s.pvals h).length ∧ 0 < (s.pvals h).length
  rlen_zero : ∀ h, building (s.ppc h) = false → s.rlen h = 0
  need : ∀ h, needing (s.ppc h) = true → s.rlen h < (s.pvals h).length
  prelink : ∀ h, s.ppc h = .prelink → 2 ≤ s.rlen h
  held : ∀ h j, j < s.rlen h → s.nst (s.run h j) = .held h j
  held' : ∀ n h j, s.nst n = .held h j → j < s.rlen h ∧ s.run h j = n
  hval : ∀ h j, j < s.rlen h → s.val (s.run h j) = (s.pvals h)[j]?
  hnext : ∀ h j, j < s.rlen h →
    s.next (s.run h j) =
      if j + 1 < s.rlen h ∧ ¬ (s.ppc h = .prelink ∧ j + 2 = s.rlen h) then some (s.run h (j + 1)) else none

structure InvC (s : State) : Prop where
  len : s.len = s.sent.length
  k_le : s.k ≤ s.len
  at_in : s.tailGone = false → ∀ i, s.k ≤ i → i ≤ s.len → s.nst (s.at_ i) = .inchain i
  in_at : ∀ n i, s.nst n = .inchain i → s.tailGone = false ∧ s.k ≤ i ∧ i ≤ s.len ∧ s.at_ i = n
  tail : s.tail = s.at_ s.k
  head : s.head = s.at_ s.len
  linked : ∀ i, s.k ≤ i → i < s.len → s.pend i = none → s.next (s.at_ i) = some (s.at_ (i + 1))
  gap : ∀ i h, s.pend i = some h →
    s.ppc h = .link i (s.at_ i) (s.at_ (i + 1)) ∧ s.k ≤ i ∧ i < s.len ∧ s.next (s.at_ i) = none
  gap' : ∀ h i o f, s.ppc h = .link i o f → s.pend i = some h
  last : s.tailGone = false → s.next (s.at_ s.len) = none
  vals : ∀ i, s.k < i → i ≤ s.len → s.val (s.at_ i) = s.sent[i - 1]?
  valk : s.tailGone = false → s.val (s.at_ s.k) = none
  seq : s.recvd ++ s.dropped = s.sent.take s.k
  nodrop : s.fin = false → s.dropped = []
  gone_k : s.tailGone = true → s.k = s.len

structure InvS (cfg : Cfg) (s : State) : Prop where
  fresh : ∀ b, s.nextSlab ≤ b → s.sst b = .unalloc ∧ s.rem b = 0
  fresh_nodes : ∀ b i, s.nextSlab ≤ b →
    s.nst (.nd b i) = .free ∧ s.next (.nd b i) = none ∧ s.val (.nd b i) = none
  alloc : ∀ b, b < s.nextSlab → s.sst b ≠ .unalloc
  junk : ∀ b i, cfg.N ≤ i → s.nst (.nd b i) = .free ∧ s.next (.nd b i) = none ∧ s.val (.nd b i) = none
  count : ∀ b, b < s.nextSlab → s.rem b = hold (s.sst b) + live cfg s.nst b
  zero : ∀ b, isZero (s.sst b) = true → s.rem b = 0
  sealed_pos : ∀ b, s.sst b = .sealed → 0 < s.rem b
  owned : ∀ h b, s.pslab h = some b → s.sst b = .owned h
  owned' : ∀ h b, s.sst b = .owned h → s.pslab h = some b
  owned_pos : ∀ h b, s.pslab h = some b → s.ppos h ≤ cfg.N ∧ s.armed b = cfg.N
  owned_free : ∀ h b i, s.pslab h = some b → s.ppos h ≤ i → i < cfg.N → s.nst (.nd b i) = .free
  free_state : ∀ b i, b < s.nextSlab → i < cfg.N → s.nst (.nd b i) = .free → canFree (s.sst b) = true
  free_pos : ∀ b i h, i < cfg.N → s.nst (.nd b i) = .free → s.sst b = .owned h → s.ppos h ≤ i
  armed_clean : ∀ b i, b < s.nextSlab → s.nst (.nd b i) = .free → i < s.armed b →
    s.next (.nd b i) = none ∧ s.val (.nd b i) = none
  armed_full : ∀ b, b < s.nextSlab → isArming (s.sst b) = false → s.armed b = cfg.N
  arming_free : ∀ b h i, s.sst b = .arming h → i < cfg.N → s.nst (.nd b i) = .free
  pool_iff : ∀ b, b ∈ s.pool ↔ s.sst b = .pooled
  pool_nodup : s.pool.Nodup
  rel_p : ∀ h b, pRelOf (s.ppc h) = some b → s.sst b = .releasing (.prod h)
  rel_p' : ∀ h b, s.sst b = .releasing (.prod h) → pRelOf (s.ppc h) = some b
  rel_c : ∀ b, cRelOf s.cpc = some b → s.sst b = .releasing .cons
  rel_c' : ∀ b, s.sst b = .releasing .cons → cRelOf s.cpc = some b
  popped : ∀ h b, s.ppc h = .rearmRem b → s.sst b = .popped h
  popped' : ∀ h b, s.sst b = .popped h → s.ppc h = .rearmRem b
  arming : ∀ h b i, s.ppc h = .rearmNode b i → s.sst b = .arming h ∧ s.armed b = i ∧ i < cfg.N
  arming' : ∀ h b, s.sst b = .arming h → s.ppc h = .rearmNode b (s.armed b)
  lock_p : ∀ h, s.poolLock = some (.prod h) ↔ pHoldsLock (s.ppc h) = true
  lock_c : s.poolLock = some .cons ↔ cHoldsLock s.cpc = true
  limbo : ∀ n, s.nst n = .limbo ↔ cRetOf s.cpc = some n
  limbo_nd : cRetOf s.cpc ≠ some .stub
  dead_val : ∀ n, (s.nst n = .retired ∨ s.nst n = .limbo) → s.val n = none

theorem InvH.dead_of_nil {s : State} (hH : InvH s) (hl : s.liveS = []) (h : Nat) : s.hst h ≠ .live :=
  fun hp => by simpa [hl] using (hH.live h).2 hp

theorem InvH.idle_of_nil {s : State} (hH : InvH s) (hl : s.liveS = []) (h : Nat) : s.ppc h = .idle :=
  Classical.byContradiction fun hn => hH.dead_of_nil hl h (hH.active h hn)

theorem InvH.fin_idle {s : State} (hH : InvH s) (hf : s.fin = true) (h : Nat) : s.ppc h = .idle :=
  hH.idle_of_nil (hH.fin_live hf) h

theorem InvH.fin_slab {s : State} (hH : InvH s) (hf : s.fin = true) (h : Nat) : s.pslab h = none :=
  Classical.byContradiction fun hn => hH.dead_of_nil (hH.fin_live hf) h (hH.slab_live h hn)

theorem InvH.no_senders {s : State} (hH : InvH s) (h0 : s.senders = 0) (p : Nat) :
    s.hst p ≠ .live ∧ s.ppc p = .idle :=
  have hl : s.liveS = [] := List.eq_nil_of_length_eq_zero (by rw [← hH.cnt, h0])
  ⟨hH.dead_of_nil hl p, hH.idle_of_nil hl p⟩

theorem InvH.not_gone {s : State} (hH : InvH s) (hf : s.fin = false) : s.tailGone = false := by
  cases hg : s.tailGone
  · rfl
  · rw [hH.gone_fin hg] at hf; cases hf

theorem InvH.alive {s : State} (hH : InvH s) {h : Nat} (hp : s.ppc h ≠ .idle) : s.fin = false := by
  cases hf : s.fin
  · rfl
  · exact absurd (hH.fin_idle hf h) hp

theorem InvS.zero_retired {cfg : Cfg} {s : State} (hS : InvS cfg s) (b i : Nat)
    (hz : isZero (s.sst b) = true) (hi : i < cfg.N) : s.nst (.nd b i) = .retired := by
  have hb : b < s.nextSlab := by
    apply Classical.byContradiction; intro hn
    have := (hS.fresh b (by omega)).1
    rw [this] at hz; simp at hz
  have h0 := hS.zero b hz
  have hc := hS.count b hb
  rw [h0] at hc
  have hl : live cfg s.nst b = 0 := by omega
  have := cnt_zero hl i hi
  simpa using this

theorem InvS.owned_lt {cfg : Cfg} {s : State} (hS : InvS cfg s) {h b : Nat} (hsl : s.pslab h = some b) :
    b < s.nextSlab :=
  Nat.lt_of_not_le fun hn => by have := (hS.fresh b hn).1; rw [hS.owned h b hsl] at this; cases this

theorem InvS.bump_node {cfg : Cfg} {s : State} (hS : InvS cfg s) {h b : Nat} (hsl : s.pslab h = some b)
    (hp : s.ppos h < cfg.N) :
    s.nst (.nd b (s.ppos h)) = .free ∧ s.next (.nd b (s.ppos h)) = none ∧ s.val (.nd b (s.ppos h)) = none :=
  have hf := hS.owned_free h b _ hsl (Nat.le_refl _) hp
  ⟨hf, hS.armed_clean b _ (hS.owned_lt hsl) hf (by rw [(hS.owned_pos h b hsl).2]; exact hp)⟩

theorem InvS.count_congr {cfg : Cfg} {s : State} (hS : InvS cfg s) {nst' : NodeId → NodeSt}
    (h : ∀ b i, i < cfg.N → (nst' (.nd b i) = .retired ↔ s.nst (.nd b i) = .retired)) (b : Nat)
    (hb : b < s.nextSlab) : s.rem b = hold (s.sst b) + live cfg nst' b := by
  rw [live_congr (h b)]; exact hS.count b hb

/-- V2: a link of the published chain is set, or its publisher is between its swap and its link store -/
theorem InvC.linked_or_gap {s : State} (hC : InvC s) {i : Nat} (h1 : s.k ≤ i) (h2 : i < s.len) :
    s.pend i = none ∧ s.next (s.at_ i) = some (s.at_ (i + 1)) ∨
      ∃ h, s.ppc h = .link i (s.at_ i) (s.at_ (i + 1)) ∧ s.next (s.at_ i) = none := by
  cases hp : s.pend i with
  | none => exact .inl ⟨rfl, hC.linked i h1 h2 hp⟩
  | some h => exact .inr ⟨h, (hC.gap i h hp).1, (hC.gap i h hp).2.2.2⟩

/-- V3: with no producer inside an operation every link of the published chain is set -/
theorem InvC.all_linked {s : State} (hC : InvC s) (hid : ∀ h, s.ppc h = .idle) {i : Nat} (h1 : s.k ≤ i)
    (h2 : i < s.len) : s.next (s.at_ i) = some (s.at_ (i + 1)) := by
  rcases hC.linked_or_gap h1 h2 with hl | ⟨h, hg, _⟩
  · exact hl.2
  · rw [hid h] at hg; cases hg

theorem InvC.drained {s : State} (hC : InvC s) (hid : ∀ h, s.ppc h = .idle) (hn : s.next s.tail = none) :
    s.k = s.len :=
  Classical.byContradiction fun hne => by
    have := hC.all_linked hid (Nat.le_refl _) (Nat.lt_of_le_of_ne hC.k_le hne)
    rw [← hC.tail, hn] at this; cases this

theorem InvC.next_tail {s : State} (hC : InvC s) (hg : s.tailGone = false) {nx : NodeId}
    (hn : s.next s.tail = some nx) : s.k < s.len ∧ nx = s.at_ (s.k + 1) ∧ s.pend s.k = none := by
  rw [hC.tail] at hn
  have hlt : s.k < s.len := Nat.lt_of_le_of_ne hC.k_le fun e => by rw [e, hC.last hg] at hn; cases hn
  rcases hC.linked_or_gap (Nat.le_refl _) hlt with ⟨hp, hl⟩ | ⟨_, _, h0⟩
  · rw [hl] at hn; exact ⟨hlt, (Option.some.inj hn).symm, hp⟩
  · rw [h0] at hn; cases hn

structure Inv (cfg : Cfg) (s : State) : Prop where
  h : InvH s
  p : InvP s
  c : InvC s
  s : InvS cfg s

/-- split the `match`/`if` at the head of the step function in `hs : stepX … = some s'` until it is `none` (impossible)
or `some t` (then `s'` becomes `t`); conditionals inside `t` are left alone -/
syntax "step_elim " ident : tactic
macro_rules
  | `(tactic| step_elim $hs) =>
    `(tactic| repeat' first | cases $hs:ident | split at $hs:ident)

/-- unfold `step` and the step functions in `hs : step cfg s a l = some s'` (for a label `l` in constructor form) -/
macro "step_unfold " "at " hs:ident : tactic => `(tactic|
  simp only [step, stepPStart, stepPBump, stepPSealDec, sealDec, stepPRelFence, stepPRelLock, stepPRelUnlock,
    stepPAcqLock, stepPAcqUnlock, stepPRearmRem, stepPRearmNode, stepPAlloc, stepPPrelink, stepPSwap, stepPLink,
    stepPClose, stepPDropDec, stepPClone, stepCPopLoad, leaveNode, stepCRetDec, stepCRelFence, stepCRelLock,
    stepCRelUnlock, stepCRet, stepCFinStart, stepCFinLoad] at $hs:ident)

theorem invH_init : InvH init := by
  constructor <;> simp [init, noSlab, hasSlab, cFinal, cLast]

theorem invP_init : InvP init := by
  constructor <;> simp [init]
  intro n h j hn
  cases n <;> simp at hn

theorem invC_init : InvC init := by
  constructor <;> simp [init]
  intro n i hn; cases n <;> simp at hn; simp [hn]

theorem invS_init (cfg : Cfg) : InvS cfg init := by
  constructor <;> simp [init, isZero, pRelOf, cRelOf, pHoldsLock, cHoldsLock, cRetOf]
  intro n; cases n <;> simp

theorem inv_init (cfg : Cfg) : Inv cfg init := ⟨invH_init, invP_init, invC_init, invS_init cfg⟩

end Fv.Chan.ChainB
