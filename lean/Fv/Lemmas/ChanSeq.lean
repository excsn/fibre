import Fv.Lemmas.ChanMicro
/-!
The sequential model Q (`stepOp` / `runOps`: one thread, operations run to completion) keeps the invariant and
balances the token ledger.
-/
namespace Fv.Chan
open List

theorem microDet_mem {fl cfg s p x} (h : microDet fl cfg s p = some x) : x ∈ micro fl cfg s p :=
  mem_micro.mpr (.inl h)

theorem microDet_none {fl cfg s p} (h : micro fl cfg s p = []) : microDet fl cfg s p = none := by
  cases hm : microDet fl cfg s p with
  | none => rfl
  | some x => simp [micro, hm] at h

theorem runPS_fin (fl cfg fuel s o) : runPS fl cfg fuel s (.fin o) = (s, .fin o) := by
  cases fuel <;> simp [runPS]

theorem runPS_induct {fl cfg} {C : St → P → Prop}
    (hstep : ∀ {s p s' p'}, C s p → microDet fl cfg s p = some (s', p') → C s' p') :
    ∀ (fuel : Nat) (s : St) (p : P), C s p → C (runPS fl cfg fuel s p).1 (runPS fl cfg fuel s p).2
  | 0, _, _, h => h
  | fuel + 1, s, p, h => by
    unfold runPS
    split
    · exact h
    · split
      · exact h
      · rename_i hm; exact runPS_induct hstep fuel _ _ (hstep h hm)

theorem stepOpS_eq (fl s op) :
    stepOpS fl s op = runPS fl seqCfg (op.size + 3) (start fl seqCfg s 0 op).1 (start fl seqCfg s 0 op).2 := by
  unfold stepOpS
  conv => lhs; unfold runPS
  cases op <;> simp [microDet, seqCfg]

theorem stepOpS_step (fl : Flavour) (s : St) (op : Op) :
    ∃ δ, (δ = [] ∨ δ = op.vals) ∧ Step fl op s (.fresh 0 op) (stepOpS fl s op).1 (stepOpS fl s op).2 δ := by
  obtain ⟨δ, hδ, h0⟩ := start_step fl seqCfg s 0 op
  refine ⟨δ, hδ, ?_⟩
  rw [stepOpS_eq]
  refine runPS_induct (C := fun s' p' => Step fl op s (.fresh 0 op) s' p' δ) ?_ _ _ _ h0
  intro s1 p1 s2 p2 h hm
  obtain ⟨δ', hδ', h'⟩ := micro_step h.pinv (microDet_mem hm)
  obtain rfl : δ' = [] := hδ'.elim id (fun e => e.trans h.nf.freshVals)
  exact h.trans h'

theorem stepOp_inv {fl s} (h : Inv fl s) (op : Op) : Inv fl (stepOp fl s op).1 := by
  obtain ⟨_, _, hst⟩ := stepOpS_step fl s op
  exact hst.ok.inv h

theorem runOps_inv {fl} : ∀ (ops : List Op) {s : St}, Inv fl s → Inv fl (runOps fl s ops)
  | [], _, h => h
  | op :: r, _, h => runOps_inv r (stepOp_inv h op)

/-- every value ever offered is in exactly one place -/
def Ledger (s : St) (strandedVals : List Val) : Prop :=
  ∀ v, count v s.created = count v strandedVals + count v s.placed

theorem runOps_ledger (fl) : ∀ (ops : List Op) {s : St} {X : List Val}, Ledger s X →
    Ledger (runOps fl s ops) (X ++ stranded fl s ops)
  | [], _, _, h => by simpa [runOps, stranded] using h
  | op :: r, s, X, h => by
    obtain ⟨δ, _, hst⟩ := stepOpS_step fl s op
    have h1 : Ledger (stepOp fl s op).1 (X ++ (stepOpS fl s op).2.inHand) := by
      intro v
      have a := h v
      have b := hst.ok.tok v
      simp only [stepOp]
      rw [hst.ok.created]
      have e : count v (P.inHand (.fresh 0 op)) = 0 := rfl
      simp only [count_append] at b ⊢
      omega
    have := runOps_ledger fl r h1
    simpa [runOps, stranded, List.append_assoc] using this

theorem init_ledger (fl : Flavour) : Ledger (init fl) [] := by
  intro v; simp [init, St.placed, St.parked]

theorem runOps_created_le (fl) : ∀ (ops : List Op) (s : St) (v : Val),
    count v (runOps fl s ops).created ≤ count v s.created + count v (ops.flatMap Op.vals)
  | [], _, _ => by simp [runOps]
  | op :: r, s, v => by
    obtain ⟨δ, hδ, hst⟩ := stepOpS_step fl s op
    have ih := runOps_created_le fl r (stepOp fl s op).1 v
    have c : (stepOp fl s op).1.created = s.created ++ δ := hst.ok.created
    rw [c] at ih
    simp only [runOps, flatMap_cons, count_append] at ih ⊢
    rcases hδ with rfl | rfl <;> simp at ih ⊢ <;> omega

theorem created_le_offered (fl) (ops : List Op) (v : Val) :
    count v (runOps fl (init fl) ops).created ≤ count v (ops.flatMap Op.vals) := by
  simpa [init] using runOps_created_le fl ops (init fl) v

theorem stepOpS_send_pushed {fl : Flavour} (hrv : fl.fam ≠ .rv) (hos : fl.fam ≠ .os) (s : St) (f h vs) :
    Pushed s [] (stepOpS fl s (.snd f h vs)).1 (stepOpS fl s (.snd f h vs)).2 := by
  obtain ⟨δ, _, h0, hb⟩ := startSend_step fl seqCfg s 0 f h vs
  rw [stepOpS_eq]
  exact (runPS_induct (C := fun s' p' => PInv (.snd f h vs) p' ∧ Pushed s [] s' p' ∧ SendP p')
    (fun h hm => have k := micro_send h.1 h.2.2 (microDet_mem hm); ⟨k.step.pinv, h.2.1.trans k.pushed, k.sendP⟩) _ _ _
    ⟨h0.pinv, hb hrv hos⟩).2.1

theorem stepOpS_recv_popped {fl : Flavour} (hrv : fl.fam ≠ .rv) (hos : fl.fam ≠ .os) (s : St) (f h n) :
    Popped s [] (stepOpS fl s (.rcv f h n)).1 (stepOpS fl s (.rcv f h n)).2 := by
  obtain ⟨h0, hb⟩ := startRecv_step fl seqCfg s 0 f h n
  rw [stepOpS_eq]
  exact (runPS_induct (C := fun s' p' => PInv (.rcv f h n) p' ∧ Popped s [] s' p' ∧ RecvP p')
    (fun h hm => have k := micro_recv h.1 h.2.2 (microDet_mem hm); ⟨k.step.pinv, h.2.1.trans k.popped, k.recvP⟩) _ _ _
    ⟨h0.pinv, hb hrv hos⟩).2.1

end Fv.Chan
