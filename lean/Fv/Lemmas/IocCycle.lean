import Fv.Lemmas.IocBasic
/-!
For C18, dependency cycles.  A cycle reachable from the resolved slot makes the resolution panic (it cannot return
and, by `resolve_total`, cannot run forever).  When every factory stays inside one container, a "Circular
dependency" panic is only reported for a real cycle (across containers it is not: F16).
-/
namespace Fv.Ioc


def Closed (w : World) (B : Slot → Prop) : Prop := ∀ s, B s → ∃ t, ActiveEdge w s t ∧ B t

theorem cycleFrom_closed (w : World) : Closed w (CycleFrom w) := by
  rintro s ⟨t, u, hr, he, hb⟩
  cases hr with
  | refl => exact ⟨u, he, s, u, hb, he, hb⟩
  | step e hr' => exact ⟨_, e, t, u, hr', he, hb⟩

def Outcome.aborted (o : Outcome) : Prop := ∃ a : Abort, o = a.outcome

theorem Closed.of_frame {w w' : World} {B : Slot → Prop} (h : Closed w B)
    (hf : ∀ u, B u → w'.regs.get u = w.regs.get u) : Closed w' B := by
  intro s hs
  obtain ⟨t, ⟨p, sc, hget, rest⟩, ht⟩ := h s hs
  exact ⟨t, ⟨p, sc, by rw [hf s hs]; exact hget, rest⟩, ht⟩

theorem Outcome.abort?_ne_none {o : Outcome} (h : o.aborted) (req : Bool) : o.abort? req ≠ Option.none := by
  obtain ⟨a, rfl⟩ := h
  cases a <;> simp [Abort.outcome, Outcome.abort?]

/-- resolving a slot of a closed set `B` aborts: its factory would have to get a member of `B` delivered first -/
theorem resolveF_closed (B : Slot → Prop) : ∀ (fuel : Nat) (w : World) (c : Nat) (k : Key), Closed w B →
    (∀ u, B u → (resolveF fuel w c k).1.regs.get u = w.regs.get u) ∧
    (B ⟨c, k⟩ → (resolveF fuel w c k).2.aborted) := by
  intro fuel
  induction fuel with
  | zero => intro w c k _; exact ⟨fun _ _ => rfl, fun _ => ⟨.diverge, rfl⟩⟩
  | succ fuel ih =>
    intro w c k hw
    have hB : ∀ {p}, w.regs.get ⟨c, k⟩ = some p → B ⟨c, k⟩ →
        ∃ sc, p.active = some sc ∧ ∃ d ∈ sc, B d.slot := by
      intro p hget h
      obtain ⟨_, ⟨p', sc, hp', ha, d, hd, rfl⟩, hBd⟩ := hw _ h
      rw [hget] at hp'; cases hp'
      exact ⟨sc, ha, d, hd, hBd⟩
    -- the factory body keeps `B` closed and untouched
    have hrun := fun sc => runScript_spec (res := resolveF fuel)
      (I := fun w' => Closed w' B ∧ ∀ u, B u → w'.regs.get u = w.regs.get u)
      (fun w' c' k' h => ⟨h.1.of_frame (ih w' c' k' h.1).1,
        fun u hu => ((ih w' c' k' h.1).1 u hu).trans (h.2 u hu)⟩) sc (w.push k) ⟨hw, fun _ _ => rfl⟩
    refine resolveF_cases
      (motive := fun r => (∀ u, B u → r.1.regs.get u = w.regs.get u) ∧ (B ⟨c, k⟩ → r.2.aborted))
      (fun _ => ⟨fun _ _ => rfl, fun _ => ⟨.panic .cycle, rfl⟩⟩) (fun _ hget => ⟨fun _ _ => rfl, fun h => ?_⟩)
      (fun p _ _ hget hact _ => ⟨fun _ _ => rfl, fun h => ?_⟩) (fun p sc w2 a _ _ _ hr => ?_)
      (fun p sc w2 _ hget hact hr => ?_)
    · obtain ⟨_, ⟨p, _, hp, _⟩, _⟩ := hw _ h
      rw [hget] at hp; cases hp
    · obtain ⟨sc, ha, _⟩ := hB hget h
      rw [hact] at ha; cases ha
    · have := (hrun sc).1
      rw [hr] at this
      exact ⟨this.2, fun _ => ⟨a, rfl⟩⟩
    · have := hrun sc
      rw [hr] at this
      obtain ⟨⟨_, hf⟩, hall⟩ := this
      -- the factory completed, so no dependency was in `B`, so neither is the slot
      have hnB : ¬ B ⟨c, k⟩ := fun h => by
        obtain ⟨sc', ha, d, hd, hBd⟩ := hB hget h
        rw [hact] at ha; cases ha
        obtain ⟨w', hw', hab⟩ := hall d hd
        exact Outcome.abort?_ne_none ((ih w' d.c d.k hw'.1).2 hBd) d.req hab
      refine ⟨fun u hu => ?_, fun h => absurd h hnB⟩
      simp only [World.made, World.pop]
      rw [Reg.get_set_other _ _ fun (e : u = ⟨c, k⟩) => hnB (e ▸ hu)]
      exact hf u hu

theorem resolve_cycle_panics {w : World} {c : Nat} {k : Key} (h : CycleFrom w ⟨c, k⟩) :
    ∃ p, (resolve w c k).2 = .panic p := by
  obtain ⟨a, ha⟩ := (resolveF_closed (CycleFrom w) w.fuel w c k (cycleFrom_closed w)).2 h
  cases a with
  | panic p => exact ⟨p, ha⟩
  | diverge => exact absurd ha (resolve_total w c k)

/-- a slot on or before a cycle is never initialised -/
theorem resolve_cycle_frame {w : World} (c : Nat) (k : Key) {u : Slot} (h : CycleFrom w u) :
    (resolve w c k).1.regs.get u = w.regs.get u :=
  (resolveF_closed (CycleFrom w) w.fuel w c k (cycleFrom_closed w)).1 u h


def Provider.script : Provider → List Dep
  | .inst _ => []
  | .singleton sc _ _ => sc
  | .transient sc _ => sc

def OneContainer (w : World) (c : Nat) : Prop :=
  ∀ s p, w.regs.get s = some p → ∀ d ∈ p.script, d.c = c

theorem Provider.Evolves.active_back {p p' : Provider} {sc : List Dep} (h : p.Evolves p')
    (ha : p'.active = some sc) : p.active = some sc := by
  rcases h.cases with rfl | ⟨_, _, _, rfl, rfl⟩ | ⟨_, _, _, rfl, _, rfl⟩
  · exact ha
  · simp [Provider.active] at ha
  · exact ha

theorem Provider.Evolves.script_eq {p p' : Provider} (h : p.Evolves p') : p'.script = p.script := by
  rcases h.cases with rfl | ⟨_, _, _, rfl, rfl⟩ | ⟨_, _, _, rfl, _, rfl⟩ <;> rfl

/-! `w'` is a later state of `w`'s registry: its dependency graph is part of `w`'s. -/
section back
variable {w w' : World} (h : ∀ s, Reg.Kept w.regs w'.regs s)
include h

theorem ActiveEdge.back {s t : Slot} (e : ActiveEdge w' s t) : ActiveEdge w s t := by
  obtain ⟨p', sc, hget, hact, hd⟩ := e
  obtain ⟨p, hp, ev⟩ := (h s).back hget
  exact ⟨p, sc, hp, ev.active_back hact, hd⟩

theorem Reach.back {s t : Slot} (r : Reach w' s t) : Reach w s t := by
  induction r with
  | refl s => exact Reach.refl s
  | step e _ ih => exact Reach.step (e.back h) ih

theorem CycleFrom.back {s : Slot} (r : CycleFrom w' s) : CycleFrom w s := by
  obtain ⟨t, u, hr, he, hb⟩ := r
  exact ⟨t, u, hr.back h, he.back h, hb.back h⟩

end back

theorem OneContainer.ext {w w' : World} {c : Nat} (h : OneContainer w c) (he : w.Ext w') : OneContainer w' c := by
  intro s p' hp' d hd
  obtain ⟨p, hp, ev⟩ := (he.kept s).back hp'
  rw [ev.script_eq] at hd
  exact h s p hp d hd

theorem Provider.script_of_active {p : Provider} {sc : List Dep} (h : p.active = some sc) : p.script = sc := by
  rcases Provider.active_eq_some h with ⟨r, rfl⟩ | ⟨r, rfl⟩ <;> rfl

/-- the conclusion for a resolution started below a non-empty resolving set -/
def CycleOrStack (w : World) (c : Nat) (s : Slot) : Prop :=
  (∃ t ∈ w.resolving, Reach w s ⟨c, t⟩) ∨ CycleFrom w s

theorem CycleOrStack.back {w w' : World} (h : ∀ s, Reg.Kept w.regs w'.regs s)
    (hr : ∀ t ∈ w'.resolving, t ∈ w.resolving)
    {c : Nat} {s : Slot} (hc : CycleOrStack w' c s) : CycleOrStack w c s :=
  hc.imp (fun ⟨t, ht, hreach⟩ => ⟨t, hr t ht, hreach.back h⟩) (·.back h)

theorem resolveF_cycle_sound (c : Nat) : ∀ (fuel : Nat) (w : World) (k : Key), OneContainer w c →
    (resolveF fuel w c k).2 = .panic .cycle → CycleOrStack w c ⟨c, k⟩ := by
  intro fuel
  induction fuel with
  | zero => intro w k _ h; simp [resolveF] at h
  | succ fuel ih =>
    intro w k hw
    refine resolveF_cases (motive := fun r => r.2 = .panic .cycle → _)
      (fun hk _ => .inl ⟨k, hk, .refl _⟩) (fun _ _ h => by cases h) (fun _ _ _ _ _ _ h => by cases h)
      (fun p sc w2 a _ hget hact hr h => ?_) (fun _ _ _ _ _ _ _ h => by cases h)
    -- the factory script panicked with `cycle`: so did one of its dependencies `d`, in a later world
    have := (runScript_spec (res := resolveF fuel)
      (I := fun w' => (w.push k).Ext w' ∧ OneContainer w' c)
      (fun w' c' k' h => ⟨h.1.trans (resolveF_ext fuel w' c' k'), h.2.ext (resolveF_ext fuel w' c' k')⟩)
      sc (w.push k) ⟨.refl _, hw⟩).2
    rw [hr] at this
    obtain ⟨d, hd, w', ⟨he, hw'⟩, hab⟩ := this
    have ha : a = .panic .cycle := by cases a <;> simp [Abort.outcome] at h ⊢; exact h
    have hdc : d.c = c := hw _ p hget d (by rw [Provider.script_of_active hact]; exact hd)
    have hc : CycleOrStack (w.push k) c d.slot := by
      have := ih w' d.k hw' (by
        rw [← hdc]; exact (Outcome.abort?_eq_some hab).resolve_right (by simp [ha]) |>.trans (by rw [ha]; rfl))
      exact CycleOrStack.back he.kept (fun t ht => he.resolving ▸ ht) (by simpa [Dep.slot, hdc] using this)
    have hback : ∀ s, Reg.Kept w.regs (w.push k).regs s := fun _ => .of_eq rfl
    have hedge : ActiveEdge w ⟨c, k⟩ d.slot := ⟨p, sc, hget, hact, d, hd, rfl⟩
    rcases hc with ⟨t, ht, hreach⟩ | hcyc
    · rcases List.mem_cons.1 ht with rfl | ht
      · exact .inr ⟨⟨c, t⟩, d.slot, .refl _, hedge, hreach.back hback⟩
      · exact .inl ⟨t, ht, .step hedge (hreach.back hback)⟩
    · obtain ⟨t, u, hr, he, hb⟩ := hcyc.back hback
      exact .inr ⟨t, u, .step hedge hr, he, hb⟩

theorem resolve_cycle_panic_sound {w : World} {c : Nat} {k : Key} (hone : OneContainer w c)
    (hidle : w.resolving = []) (h : (resolve w c k).2 = .panic .cycle) : CycleFrom w ⟨c, k⟩ := by
  rcases resolveF_cycle_sound c _ w k hone h with ⟨t, ht, _⟩ | hc
  · rw [hidle] at ht; cases ht
  · exact hc

end Fv.Ioc
