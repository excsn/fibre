import Fv.Cache.Loader
/-! The invariant of the loader single-flight protocol model (for `Fv.Props.C15`). A thread plays up to
two roles, read off its program counter: owner of the pending marker of a key, and completer of a
future; the markers and the open futures are exactly what the threads own and will complete (`Roles`).
Most steps change no role (`Inv.move`); the five that create, hand over or give up a role go through
`Inv.alloc` (leader election and background refresh), `Inv.spawn`, `Inv.pendRemove`, `Inv.complete`. -/
namespace Fv.Cache.Loader

@[simp] theorem upd_same {α} (f : Nat → α) (i : Nat) (a : α) : upd f i a i = a := by simp [upd]
theorem upd_other {α} (f : Nat → α) (i j : Nat) (a : α) (h : j ≠ i) : upd f i a j = f j := by simp [upd, h]
theorem upd_apply {α} (f : Nat → α) (i j : Nat) (a : α) : upd f i a j = if j = i then a else f j := rfl

theorem pc_of_upd {pc : Nat → PC} {t u : Nat} {b x : PC} (h : upd pc t b u = x) (hx : x ≠ b) : u ≠ t ∧ pc u = x := by
  rw [upd_apply] at h; split at h
  · exact absurd h.symm hx
  · exact ⟨‹_›, h⟩

theorem waiting_of_upd {pc : Nat → PC} {t u g : Nat} {b : PC} (hb : b ≠ .waitFut g ∧ b ≠ .parking g)
    (h : upd pc t b u = .waitFut g ∨ upd pc t b u = .parking g) : pc u = .waitFut g ∨ pc u = .parking g :=
  h.imp (fun h => (pc_of_upd h hb.1.symm).2) fun h => (pc_of_upd h hb.2.symm).2

def ownerOf : PC → Option (Nat × Nat)
  | .spawning k f => some (k, f)
  | .ldStart k f => some (k, f)
  | .ldInsert k f _ => some (k, f)
  | .ldRemove k f _ => some (k, f)
  | _ => none

/-- `spawning`: the loader task the thread is about to spawn will complete `f` -/
def completerOf : PC → Option Nat
  | .spawning _ f => some f
  | .ldStart _ f => some f
  | .ldInsert _ f _ => some f
  | .ldRemove _ f _ => some f
  | .ldComplete _ f _ => some f
  | _ => none

theorem completer_of_owner {pc : PC} {k f : Nat} (h : ownerOf pc = some (k, f)) : completerOf pc = some f := by
  cases pc <;> simp_all [ownerOf, completerOf]

structure Roles {ι : Type} (role : PC → Option ι) (pc : Nat → PC) (A : ι → Prop) : Prop where
  mem : ∀ t i, role (pc t) = some i → A i
  ex : ∀ i, A i → ∃ t, role (pc t) = some i
  uniq : ∀ t u i, role (pc t) = some i → role (pc u) = some i → t = u

namespace Roles
variable {ι : Type} {role : PC → Option ι} {pc : Nat → PC} {A A' : ι → Prop} (h : Roles role pc A) (t : Nat) (b : PC)
include h

theorem frame (hb : role b = role (pc t)) (hA : ∀ i, A' i ↔ A i) : Roles role (upd pc t b) A' := by
  have key : ∀ u, role (upd pc t b u) = role (pc u) := fun u => by
    rw [upd_apply]; split
    · next e => rw [e, hb]
    · rfl
  exact ⟨fun u i hu => (hA i).2 (h.mem u i (key u ▸ hu)),
    fun i hi => (h.ex i ((hA i).1 hi)).imp fun u hu => (key u).symm ▸ hu,
    fun u v i hu hv => h.uniq u v i (key u ▸ hu) (key v ▸ hv)⟩

theorem take (i : ι) (h0 : role (pc t) = none) (hb : role b = some i) (hi : ¬ A i) (hA : ∀ j, A' j ↔ A j ∨ j = i) :
    Roles role (upd pc t b) A' := by
  obtain ⟨h1, h2, h3⟩ := h
  refine ⟨fun u j hu => ?_, fun j hj => ?_, fun u v j hu hv => ?_⟩
  · grind [upd_apply]
  · rcases (hA j).1 hj with hj | rfl
    · obtain ⟨u, hu⟩ := h2 j hj; exact ⟨u, by grind [upd_apply]⟩
    · exact ⟨t, by grind [upd_apply]⟩
  · grind [upd_apply]

theorem give (i : ι) (h0 : role (pc t) = some i) (hb : role b = none) (hA : ∀ j, A' j ↔ A j ∧ j ≠ i) :
    Roles role (upd pc t b) A' := by
  obtain ⟨h1, h2, h3⟩ := h
  refine ⟨fun u j hu => ?_, fun j hj => ?_, fun u v j hu hv => ?_⟩
  · grind [upd_apply]
  · obtain ⟨u, hu⟩ := h2 j ((hA j).1 hj).1; exact ⟨u, by grind [upd_apply]⟩
  · grind [upd_apply]

theorem pass (u : Nat) (bu : PC) (i : ι) (hu : u ≠ t) (h0 : role (pc t) = some i) (hu0 : role (pc u) = none)
    (hb : role b = none) (hbu : role bu = some i) : Roles role (upd (upd pc t b) u bu) A := by
  have h1 := h.give t b i h0 hb (A' := fun j => A j ∧ j ≠ i) fun _ => Iff.rfl
  refine h1.take u bu i (by rwa [upd_other _ _ _ _ hu]) hbu (fun h => h.2 rfl) fun j => ?_
  have := h.mem t i h0
  by_cases e : j = i <;> simp [e, this]

end Roles

structure Inv (s : State) : Prop where
  fresh : ∀ t, s.nextTid ≤ t → s.pc t = .idle
  owners : Roles ownerOf s.pc fun kf => s.pending kf.1 = some kf.2
  completers : Roles completerOf s.pc fun f => f < s.nextFut ∧ (s.futs f).value = none
  parked_registered : ∀ t f, s.pc t = .parking f → s.token t = false →
      (s.futs f).value = none ∧ t ∈ (s.futs f).waiters
  waiting_known : ∀ t f, (s.pc t = .waitFut f ∨ s.pc t = .parking f) → f < s.nextFut
  valued_known : ∀ f v, (s.futs f).value = some v → f < s.nextFut

theorem Inv.lt {s : State} (hi : Inv s) {t : Nat} (h : s.pc t ≠ .idle) : t < s.nextTid :=
  Classical.byContradiction fun hn => h (hi.fresh t (by omega))

theorem Inv.fresh_upd {s : State} (hi : Inv s) {t n : Nat} (ht : t < n) (hn : s.nextTid ≤ n) (b : PC) (u : Nat)
    (hu : n ≤ u) : upd s.pc t b u = .idle := by
  rw [upd_other _ _ _ _ (by omega)]; exact hi.fresh u (by omega)

theorem Inv.move {s : State} (hi : Inv s) {t : Nat} {a : PC} (ha : s.pc t = a) (ht : a = .idle → t < s.nextTid) (b : PC)
    {futs' : Nat → Fut} {token' : Nat → Bool} (resident' : Nat → Option (Nat × Bool)) (loads' : Nat → Nat) (nextVal' : Nat)
    (hval : ∀ f, (futs' f).value = (s.futs f).value)
    (hwait : ∀ f u, u ∈ (s.futs f).waiters → u ∈ (futs' f).waiters)
    (htok : ∀ u, u ≠ t → token' u = s.token u)
    (ho : ownerOf b = ownerOf a) (hc : completerOf b = completerOf a)
    (hw : ∀ f, b = .waitFut f ∨ b = .parking f → f < s.nextFut)
    (hp : ∀ f, b = .parking f → token' t = false → (futs' f).value = none ∧ t ∈ (futs' f).waiters) :
    Inv { s with resident := resident', futs := futs', token := token', pc := upd s.pc t b, nextVal := nextVal',
                 loads := loads' } := by
  subst ha
  have ht : t < s.nextTid := Classical.byContradiction fun hn => hn (ht (hi.fresh t (by omega)))
  refine ⟨?_, hi.owners.frame t b ho fun _ => Iff.rfl, hi.completers.frame t b hc fun f => by rw [hval], ?_, ?_, ?_⟩ <;>
    dsimp only
  · exact hi.fresh_upd ht (Nat.le_refl _) b
  · intro u f hu htk
    by_cases e : u = t
    · subst e; rw [upd_same] at hu; exact hp f hu htk
    · rw [upd_other _ _ _ _ e] at hu
      have := hi.parked_registered u f hu (htok u e ▸ htk)
      exact ⟨hval f ▸ this.1, hwait f u this.2⟩
  · intro u f hu
    by_cases e : u = t
    · subst e; rw [upd_same] at hu; exact hw f hu
    · rw [upd_other _ _ _ _ e] at hu; exact hi.waiting_known u f hu
  · intro f v h; exact hi.valued_known f v (hval f ▸ h)

theorem Inv.goto {s : State} (hi : Inv s) {t : Nat} {a : PC} (ha : s.pc t = a) (ht : a = .idle → t < s.nextTid) (b : PC)
    (resident' : Nat → Option (Nat × Bool)) (loads' : Nat → Nat) (nextVal' : Nat)
    (ho : ownerOf b = ownerOf a) (hc : completerOf b = completerOf a) (hw : ∀ f, b = .waitFut f → f < s.nextFut)
    (hp : ∀ f, b ≠ .parking f) :
    Inv { s with resident := resident', pc := upd s.pc t b, nextVal := nextVal', loads := loads' } :=
  hi.move ha ht b resident' loads' nextVal' (fun _ => rfl) (fun _ _ h => h) (fun _ _ => rfl) ho hc
    (fun f e => e.elim (hw f) fun e => absurd e (hp f)) fun f e => absurd e (hp f)

theorem wakeAll_apply (tok : Nat → Bool) (ws : List Nat) (t : Nat) : wakeAll tok ws t = if t ∈ ws then true else tok t := rfl

theorem Inv.pendRemove {s : State} (hi : Inv s) {t k f v : Nat} (hpc : s.pc t = .ldRemove k f v) :
    Inv { s with pending := upd s.pending k none, pc := upd s.pc t (.ldComplete k f v) } := by
  have hk : s.pending k = some f := hi.owners.mem t (k, f) (by rw [hpc]; rfl)
  refine ⟨?_, ?_, hi.completers.frame t _ (by rw [hpc]; rfl) fun _ => Iff.rfl, ?_, ?_, hi.valued_known⟩ <;> dsimp only
  · exact hi.fresh_upd (hi.lt (by rw [hpc]; nofun)) (Nat.le_refl _) _
  · exact hi.owners.give t _ (k, f) (by rw [hpc]; rfl) rfl fun ⟨k', f'⟩ => by
      by_cases e : k' = k <;> simp [upd_apply, e, hk]; exact Eq.symm
  · exact fun u g hu => hi.parked_registered u g (pc_of_upd hu (by simp)).2
  · exact fun u g hu => hi.waiting_known u g (waiting_of_upd (by simp) hu)

/-- every registered waiter is woken: a thread parked on the future without a token would be registered -/
theorem Inv.complete {s : State} (hi : Inv s) {t k f v : Nat} (hpc : s.pc t = .ldComplete k f v) :
    Inv { s with futs := upd s.futs f { s.futs f with value := some v, waiters := [] },
                 token := wakeAll s.token (s.futs f).waiters, pc := upd s.pc t .ldDone } := by
  have hf := hi.completers.mem t f (by rw [hpc]; rfl)
  refine ⟨?_, hi.owners.frame t _ (by rw [hpc]; rfl) fun _ => Iff.rfl, ?_, ?_, ?_, ?_⟩ <;> dsimp only
  · exact hi.fresh_upd (hi.lt (by rw [hpc]; nofun)) (Nat.le_refl _) _
  · exact hi.completers.give t _ f (by rw [hpc]; rfl) rfl fun g => by by_cases e : g = f <;> simp [upd_apply, e]
  · intro u g hu htk
    simp only [wakeAll_apply] at htk
    split at htk
    · cases htk
    · next hw =>
      have := hi.parked_registered u g (pc_of_upd hu (by simp)).2 htk
      simp only [upd_apply]; split
      · next e => subst e; exact absurd this.2 hw
      · exact this
  · exact fun u g hu => hi.waiting_known u g (waiting_of_upd (by simp) hu)
  · intro g w hg
    simp only [upd_apply] at hg; split at hg
    · next e => exact e ▸ hf.1
    · exact hi.valued_known g w hg

/-- `u`: a caller that found no marker, or (`nt = nextTid + 1`) a new loader task for a background refresh -/
theorem Inv.alloc {s : State} (hi : Inv s) {u k : Nat} {b : PC} (nt : Nat) (hk : s.pending k = none)
    (h0o : ownerOf (s.pc u) = none) (h0c : completerOf (s.pc u) = none)
    (hbo : ownerOf b = some (k, s.nextFut)) (hbc : completerOf b = some s.nextFut)
    (hb : ∀ g, b ≠ .waitFut g ∧ b ≠ .parking g) (hnt : s.nextTid ≤ nt) (hu : u < nt) :
    Inv { s with pending := upd s.pending k (some s.nextFut), futs := upd s.futs s.nextFut { key := k },
                 nextFut := s.nextFut + 1, nextTid := nt, pc := upd s.pc u b } := by
  have old : ∀ g, g < s.nextFut → upd s.futs s.nextFut { key := k } g = s.futs g := fun g hg =>
    upd_other _ _ _ _ (by omega)
  refine ⟨?_, hi.owners.take u _ (k, s.nextFut) h0o hbo (by simp [hk]) fun ⟨k', f'⟩ => ?_,
    hi.completers.take u _ s.nextFut h0c hbc (by simp) fun g => ?_, ?_, ?_, ?_⟩ <;> dsimp only
  · exact hi.fresh_upd hu hnt b
  · by_cases e : k' = k <;> simp [upd_apply, e, hk]; exact eq_comm
  · by_cases e : g = s.nextFut <;> simp [upd_apply, e]; omega
  · intro v g hv htk
    obtain ⟨_, hv⟩ := pc_of_upd hv (hb g).2.symm
    rw [old g (hi.waiting_known v g (.inr hv))]; exact hi.parked_registered v g hv htk
  · intro v g hv
    have := hi.waiting_known v g (waiting_of_upd (hb g) hv)
    omega
  · intro g w hg
    simp only [upd_apply] at hg; split at hg
    · cases hg
    · have := hi.valued_known g w hg; omega

theorem Inv.spawn {s : State} (hi : Inv s) {t k f : Nat} (hpc : s.pc t = .spawning k f) :
    Inv { s with nextTid := s.nextTid + 1, pc := upd (upd s.pc t (.waitFut f)) s.nextTid (.ldStart k f) } := by
  have ht : t < s.nextTid := hi.lt (by rw [hpc]; nofun)
  have hl : s.pc s.nextTid = .idle := hi.fresh _ (Nat.le_refl _)
  refine ⟨?_, hi.owners.pass t _ _ _ (k, f) (by omega) (by rw [hpc]; rfl) (by rw [hl]; rfl) rfl rfl,
    hi.completers.pass t _ _ _ f (by omega) (by rw [hpc]; rfl) (by rw [hl]; rfl) rfl rfl, ?_, ?_, hi.valued_known⟩ <;>
    dsimp only
  · intro u hu
    rw [upd_other _ _ _ _ (by omega), upd_other _ _ _ _ (by omega)]; exact hi.fresh u (by omega)
  · intro u g hu
    exact hi.parked_registered u g (pc_of_upd (pc_of_upd hu (by simp)).2 (by simp)).2
  · intro u g hu
    have hu' := waiting_of_upd (b := .ldStart k f) (by simp) hu
    by_cases e : u = t
    · subst e; simp only [upd_same] at hu'
      obtain rfl : f = g := by simpa using hu'
      exact (hi.completers.mem u f (by rw [hpc]; rfl)).1
    · simp only [upd_other _ _ _ _ e] at hu'; exact hi.waiting_known u g hu'

theorem Inv.env {s : State} (hi : Inv s) (r : Nat → Option (Nat × Bool)) : Inv { s with resident := r } :=
  ⟨hi.fresh, hi.owners, hi.completers, hi.parked_registered, hi.waiting_known, hi.valued_known⟩

theorem Inv.marker_lt {s : State} (hi : Inv s) {k f : Nat} (h : s.pending k = some f) : f < s.nextFut := by
  obtain ⟨u, hu⟩ := hi.owners.ex (k, f) h
  exact (hi.completers.mem u f (completer_of_owner hu)).1

/-- the enabled branches of step function `f` in `h : f … = some s'`, with `s'` replaced by what the branch builds -/
syntax "branches " ident " at " ident : tactic
macro_rules | `(tactic| branches $f at $h) => `(tactic|
  (unfold $f at $h:ident
   repeat' split at $h:ident
   all_goals cases $h:ident))

theorem inv_step {s s' : State} {t : Nat} {l : Label} (hi : Inv s) (h : step s t l = some s') : Inv s' := by
  cases l <;> simp only [step] at h
  case invalidate k => cases h; exact hi.env _
  case expire k => split at h <;> cases h <;> first | exact hi.env _ | exact hi
  case call k =>
    branches stepCall at h
    all_goals exact hi.goto ‹s.pc t = _› (fun _ => ‹_›) _ _ _ _ (by rfl) (by rfl) (by nofun) (by nofun)
  case mapRead =>
    branches stepMapRead at h
    -- a hit, a stale hit while a refresh is pending, a miss: the caller moves on
    any_goals exact hi.goto ‹_› (by nofun) _ _ _ _ (by rfl) (by rfl) (by nofun) (by nofun)
    -- a stale hit with no refresh pending starts one: the caller returns, a new loader task owns the new future
    have ht : t < s.nextTid := hi.lt (by simp [*])
    have hl : ∀ x, upd s.pc t x s.nextTid = .idle := fun x => by
      rw [upd_other _ _ _ _ (by omega)]; exact hi.fresh _ (Nat.le_refl _)
    exact (hi.goto ‹_› (by nofun) (.done _) s.resident s.loads s.nextVal (by rfl) (by rfl) (by nofun) (by nofun)).alloc
      (s.nextTid + 1) ‹_› (congrArg ownerOf (hl _)) (congrArg completerOf (hl _)) rfl rfl (by simp) (Nat.le_succ _)
      (Nat.lt_succ_self _)
  case pendingCS =>
    branches stepPendingCS at h
    -- joins the pending load …
    · exact hi.goto ‹_› (by nofun) _ _ _ _ (by rfl) (by rfl) (fun f e => by cases e; exact hi.marker_lt ‹_›) (by nofun)
    -- … or becomes the leader
    · have hpc : s.pc t = .atPending _ := ‹_›
      exact hi.alloc s.nextTid ‹_› (by rw [hpc]; rfl) (by rw [hpc]; rfl) rfl rfl (by simp) (Nat.le_refl _)
        (hi.lt (by rw [hpc]; nofun))
  case spawn => branches stepSpawn at h; exact hi.spawn ‹_›
  case futCS =>
    branches stepFutCS at h
    · exact hi.goto ‹_› (by nofun) _ _ _ _ (by rfl) (by rfl) (by nofun) (by nofun)
    -- registers as a waiter, under the future's mutex, while the future has no value
    · rename_i hv
      exact hi.move ‹_› (by nofun) _ _ _ _ (fun g => by simp only [upd_apply]; split <;> simp [*])
        (fun g u hu => by simp only [upd_apply]; split <;> simp_all) (fun _ _ => rfl) (by rfl) (by rfl)
        (fun g e => by simp at e; exact e ▸ hi.waiting_known t _ (Or.inl ‹_›))
        (fun g e _ => by cases e; simp [hv])
  case park =>
    branches stepPark at h
    exact hi.move ‹_› (by nofun) _ _ _ _ (fun _ => rfl) (fun _ _ h => h) (fun u hu => upd_other _ _ _ _ hu) (by rfl) (by rfl)
      (fun g e => by simp at e; exact e ▸ hi.waiting_known t _ (Or.inr ‹_›)) (fun _ => nofun)
  case spurious =>
    branches stepSpurious at h
    exact hi.goto ‹_› (by nofun) _ _ _ _ (by rfl) (by rfl) (fun g e => by cases e; exact hi.waiting_known t _ (Or.inr ‹_›))
      (by nofun)
  case load => branches stepLoad at h; exact hi.goto ‹_› (by nofun) _ _ _ _ (by rfl) (by rfl) (by nofun) (by nofun)
  case mapInsert => branches stepMapInsert at h; exact hi.goto ‹_› (by nofun) _ _ _ _ (by rfl) (by rfl) (by nofun) (by nofun)
  case pendRemove => branches stepPendRemove at h; exact hi.pendRemove ‹_›
  case complete => branches stepComplete at h; exact hi.complete ‹_›

theorem step_value {s s' : State} {t : Nat} {l : Label} (h : step s t l = some s') (f : Nat) :
    (s'.futs f).value = (s.futs f).value ∨ f = s.nextFut ∨ ∃ k v, s.pc t = .ldComplete k f v := by
  cases l <;> simp only [step, stepCall, stepMapRead, stepPendingCS, stepSpawn, stepFutCS, stepPark, stepSpurious,
    stepLoad, stepMapInsert, stepPendRemove, stepComplete] at h
  all_goals (repeat' split at h)
  all_goals cases h
  all_goals first
    | exact .inl rfl
    | (simp only [upd_apply]; split <;> simp_all)

theorem inv_init (n : Nat) (g : Bool) : Inv (init n g) := by
  refine ⟨?_, ⟨?_, ?_, ?_⟩, ⟨?_, ?_, ?_⟩, ?_, ?_, ?_⟩ <;> simp [init, ownerOf, completerOf]

theorem inv_reach {n : Nat} {g : Bool} {s : State} (h : Reach n g s) : Inv s := by
  induction h with
  | init => exact inv_init n g
  | step _ hs ih => exact inv_step ih hs

end Fv.Cache.Loader
