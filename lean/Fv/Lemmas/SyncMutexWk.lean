import Fv.Lemmas.SyncMutexWake
/-!
`PWk` is preserved.  Nobody becomes blocked on a node that is `WOKEN` (`blocked_before`); a handle that leaves the
waker has been delivered, and a delivered handle and a blocked owner exclude each other (`delivered_not_blocked`).
-/
namespace Fv.Sync.Mutex
open Fv.Sync
variable {cfg : Cfg} {s s' : State} {t : Tid} {l : Lbl}

theorem blocked_before (hi : Inv s) (hw : WInv s) (h : Step cfg s t l s') {n : Nid}
    (hl : (s.wl.node n).linked = true) (hl' : (s'.wl.node n).linked = true)
    (hwk : (s.wl.node n).woken = true) (hwk' : (s'.wl.node n).woken = true) (hb' : OwnerBlocked s' n) :
    OwnerBlocked s n := by
  have ho := step_th_other h
  have sh := step_shared h
  -- only the parking thread itself consumes its token
  have tok : ∀ u, u ≠ t → s'.token u = false → s.token u = false := by
    intro u hu htk'
    rcases sh.token u with h1 | h1 | ⟨h1, _⟩
    · rw [← h1]; exact htk'
    · rw [h1] at htk'; cases htk'
    · exact absurd h1 hu
  refine ownerBlocked_iff.2 ?_
  cases ownerBlocked_iff.1 hb' with
  | @sync u hp' htk' =>
    by_cases hu : u = t
    · subst hu
      rw [wPark_local hi h hp'] at hwk'; cases hwk'
    · rw [ho u hu] at hp'; exact .sync hp' (tok u hu htk')
  | @exec u f hbo' hc' hp' htk' =>
    by_cases hu : u = t
    · subst hu
      rw [(boPark_local hi hw h hp').2 f hc'] at hwk'; cases hwk'
    · rw [ho u hu] at hc' hp'
      exact .exec (by rw [← bo_kept h (hi.futNode _ hl)]; exact hbo') hc' hp' (tok u hu htk')
  | @manual f hbo' hbz' hwz' =>
    have hbz : (s.fut f).busy = false := by
      cases hbs : (s.fut f).busy with
      | false => rfl
      | true =>
        exfalso
        by_cases hop : opOn s t f
        · rcases (fut_trans hi hw h).idle f hop.1 hop.2 hbz' with h1 | h1
          · rw [hl'] at h1; cases h1
          · rw [hwk] at h1; cases h1
        · rw [((step_frame hi h).fut f hbs hop).1, hbs] at hbz'; cases hbz'
    refine .manual (by rw [← bo_kept h (hi.futNode _ hl)]; exact hbo') hbz ?_
    rcases sh.wakes f with h1 | ⟨_, h1⟩
    · rw [hwz'] at h1; exact Nat.le_zero.1 h1
    · rw [hbz'] at h1; cases h1

theorem delivered_not_blocked (hi : Inv s) {w : Waiter} {n : Nid} (htg : Targets s w n) (hd : Delivered s w)
    (hb : OwnerBlocked s n) : False := by
  cases ownerBlocked_iff.1 hb with
  | @sync u hp htk =>
    rcases hd with ⟨v, rfl, htok⟩ | ⟨f, rfl, -⟩
    · rw [show v = u from htg, htk] at htok; cases htok
    · exact htg
  | @exec u f hbo hc hp htk =>
    rcases hd with ⟨v, rfl, htok⟩ | ⟨g, rfl, -⟩
    · obtain ⟨-, hc', hfp'⟩ := htg
      rw [(hi.busy v f hc' hfp').2 u hc (by rw [hp]; rfl), htok] at htk; cases htk
    · obtain ⟨rfl, h2⟩ := htg
      rw [h2] at hbo; cases hbo
  | @manual f hbo hbz hwz =>
    rcases hd with ⟨v, rfl, -⟩ | ⟨g, rfl, hwak⟩
    · rw [htg.1] at hbo; cases hbo
    · rw [show g = f from htg.1, hwz] at hwak; cases hwak

theorem wk_step (hi : Inv s) (hw : WInv s) (h : Step cfg s t l s') (hi' : Inv s') : PWk s' := by
  have ho := step_th_other h
  intro n hl' hwk'
  rcases (node_trans hw h).marked n hl' hwk' with ⟨hl, hwk⟩ | ⟨hl, hpp, hww, hne⟩
  · rcases hw.wk n hl hwk with hnb | ⟨u, hp, w, hw0, htg⟩
    · exact Or.inl fun hb' => hnb (blocked_before hi hw h hl hl' hwk hwk' hb')
    · have htg' := targets_step hi hw h htg hl hl'
      by_cases hu : u = t
      · subst hu
        rcases carried_local h hp hw0 with ⟨hp', hw'⟩ | hd
        · exact Or.inr ⟨u, hp', w, hw', htg'⟩
        · exact Or.inl (delivered_not_blocked hi' htg' hd)
      · exact Or.inr ⟨u, by rw [ho u hu]; exact hp, w, by rw [ho u hu]; exact hw0, htg'⟩
  · -- freshly marked by the stepping thread, which now carries the handle
    obtain ⟨w, hwe⟩ := Option.ne_none_iff_exists'.1 hne
    exact Or.inr ⟨t, hpp, w, by rw [hww, hwe], targets_step hi hw h (hw.w1 n w hl hwe) hl hl'⟩

end Fv.Sync.Mutex
