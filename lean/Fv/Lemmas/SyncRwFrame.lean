import Fv.Lemmas.SyncRw
/-!
What one step of thread `t` does to the state, field by field (`TableEff`, `WordEff`, `ListEff`, `NodeEff`), hence
what it leaves to another thread `u` (`NodeKept` for the node `u` owns, `Frozen` while `u` holds the list lock), and
from where `t` enters a region of its program (`Entry`).  Of `Inv` the effects use that a sync thread has no current
future and an async one has, and that a node about to be initialised is not linked (`Allocs.unlinked`); the facts about
`u` use the exclusion conjuncts `busy` and `ll`.  Unlike the mutex, a step of `wake_waiters` (readers branch) unlinks
nodes of OTHER waiters - but only reader nodes, and only while holding the list spinlock.
-/
namespace Fv.Sync.RwLock
open Fv.Sync
variable {cfg : Cfg} {s s' : State} {t : Tid} {l : Lbl}

theorem drain_le (w : Fid → Nat) (ws : List Waiter) (f : Fid) : w f ≤ (drain w ws).1 f := by
  induction ws generalizing w with
  | nil => simp [drain]
  | cons x r ih =>
    cases x with
    | thread u => simp [drain]
    | task g =>
      simp only [drain]
      refine Nat.le_trans ?_ (ih _)
      simp only [upd_apply]; split
      · next h => subst h; omega
      · exact Nat.le_refl _

theorem drain_rest (w : Fid → Nat) (ws : List Waiter) :
    (drain w ws).2 = [] ∨ ∃ u r, (drain w ws).2 = .thread u :: r := by
  induction ws generalizing w with
  | nil => simp [drain]
  | cons x r ih =>
    cases x with
    | thread u => exact Or.inr ⟨u, r, by simp [drain]⟩
    | task g => simp only [drain]; exact ih _

theorem drain_cover (w : Fid → Nat) (ws : List Waiter) (x : Waiter) (hx : x ∈ ws) :
    x ∈ (drain w ws).2 ∨ ∃ f, x = .task f ∧ w f < (drain w ws).1 f := by
  induction ws generalizing w with
  | nil => cases hx
  | cons y r ih =>
    cases y with
    | thread u => exact Or.inl (by simpa [drain] using hx)
    | task g =>
      simp only [drain]
      rcases List.mem_cons.1 hx with rfl | hr
      · refine Or.inr ⟨g, rfl, Nat.lt_of_lt_of_le ?_ (drain_le _ _ _)⟩
        simp
      · rcases ih (upd w g (w g + 1)) hr with h | ⟨f, rfl, hf⟩
        · exact Or.inl h
        · refine Or.inr ⟨f, rfl, Nat.lt_of_le_of_lt ?_ hf⟩
          simp only [upd_apply]; split
          · next h => subst h; omega
          · exact Nat.le_refl _

theorem drain_mem (w : Fid → Nat) (ws : List Waiter) (x : Waiter) (hx : x ∈ (drain w ws).2) : x ∈ ws := by
  induction ws generalizing w with
  | nil => simp [drain] at hx
  | cons y r ih =>
    cases y with
    | thread u => simpa [drain] using hx
    | task g => simp only [drain] at hx; exact List.mem_cons_of_mem _ (ih _ hx)

theorem drain_le_of_eq {w w' : Fid → Nat} {ws r : List Waiter} (h : drain w ws = (w', r)) (f : Fid) :
    w f ≤ w' f := by
  have := drain_le w ws f; rw [h] at this; exact this

def opOn (s : State) (t : Tid) (f : Fid) : Prop := (s.th t).cur = some f ∧ futPc (s.th t).pc = true

/-- `u` owns `me u (s.th u)`: its stack node always, the heap node of `cur` while it operates on the future -/
def Owner (s : State) (u : Tid) : Prop := (s.th u).cur = none ∨ futPc (s.th u).pc = true

/-- the reader loop of `wake_waiters` unlinks the queue head `n`, which is marked next -/
def UnlinksHead (s s' : State) (t : Tid) (n : Nid) : Prop :=
  s.wl.queue.head? = some n ∧ (s'.th t).pc = .wrStore ∧ (s'.th t).tgt = n
  ∧ ((s.th t).pc = .wrStore ∨ ((s.th t).pc = .llSwap .wake ∧ s.wl.locked = false ∧ s.wl.writers = 0))

def Marks (s : State) (t : Tid) (n : Nid) : Prop :=
  ((s.th t).pc = .wnStore ∨ (s.th t).pc = .wrStore) ∧ n = (s.th t).tgt

/-- a node `t` does not own: `linked` changes only for the head unlinked by the reader loop, handle and state only
by `take_and_mark_woken` -/
def NodeKept (s s' : State) (t : Tid) (n : Nid) : Prop :=
  (s'.wl.node n).isWriter = (s.wl.node n).isWriter
  ∧ ((s'.wl.node n).linked = (s.wl.node n).linked ∨ (UnlinksHead s s' t n ∧ (s'.wl.node n).linked = false))
  ∧ (((s'.wl.node n).waiter = (s.wl.node n).waiter ∧ (s'.wl.node n).woken = (s.wl.node n).woken)
      ∨ (Marks s t n ∧ (s'.wl.node n).waiter = none ∧ (s'.wl.node n).woken = true))

/-- `t` is about to initialise `n`: its stack node on entry to the slow path, or the heap node of a future that
has none -/
def Allocs (s : State) (t : Tid) (n : Nid) : Prop :=
  (n = .thr t ∧ slowL (s.th t).pc = false)
  ∨ ∃ f, n = .fut f ∧ ((s.fut f).phase ≠ .startedNode
      ∨ (f = curF (s.th t) ∧ ((s.th t).pc = .taLoad .asyncFirst ∨ (s.th t).pc = .taCas .asyncFirst)))
    ∧ ((f = curF (s.th t) ∧ asyncOnly (s.th t).pc = true) ∨ ((s.th t).pc = .idle ∧ (s.fut f).busy = false))

theorem Allocs.unlinked (hi : Inv s) {n : Nid} (ha : Allocs s t n) :
    (s.wl.node n).linked = false ∧ ∀ f, n = .fut f → (s.fut f).phase ≠ .startedNode := by
  have key : ∀ f, (s.fut f).phase ≠ .startedNode → (s.wl.node (.fut f)).linked = false := fun f hp =>
    Bool.eq_false_iff.2 fun hl => hp (hi.futNode f hl)
  rcases ha with ⟨rfl, hs⟩ | ⟨f, rfl, hp | ⟨rfl, hp⟩, -⟩
  · refine ⟨Bool.eq_false_iff.2 fun hl => ?_, nofun⟩
    rw [(hi.thrNode t hl).2.1] at hs; cases hs
  · exact ⟨key f hp, fun g hg => by cases hg; exact hp⟩
  · obtain ⟨f, hc⟩ := Option.ne_none_iff_exists'.1 (hi.asyncCur t (by rcases hp with hp | hp <;> rw [hp] <;> rfl))
    have hf : (s.fut f).phase ≠ .startedNode := by rw [hi.phFresh t f hc hp]; nofun
    rw [curF, hc]
    exact ⟨key f hf, fun g hg => by cases hg; exact hf⟩

/-- What a step of `t` does to node `n`, by kind of write. -/
def NodeEff (s s' : State) (t : Tid) (n : Nid) : Prop :=
  s'.wl.node n = s.wl.node n
  -- a node of its own is initialised
  ∨ ((s'.wl.node n).linked = false ∧ (s'.wl.node n).woken = false
      ∧ Allocs s t n)
  -- its own node is unlinked
  ∨ (n = me t (s.th t) ∧ s'.wl.node n = { s.wl.node n with linked := false }
      ∧ ((s.th t).pc = .qCas ∨ (s.wl.locked = false ∧
          ((s.th t).pc = .llSwap .spinUnlink ∨ (s.th t).pc = .llSwap .finish ∨ (s.th t).pc = .llSwap .drop))))
  -- the handle is registered on entry to the queue block
  ∨ ((s.th t).pc = .llSwap .queue ∧ s.wl.locked = false ∧ n = me t (s'.th t) ∧ (s'.th t).cur = (s.th t).cur
      ∧ (s'.th t).pc = .qRearm
      ∧ s'.wl.node n = { s.wl.node n with waiter := some (myWaiter t (s'.th t)) })
  -- `rearm`
  ∨ ((s.th t).pc = .qRearm ∧ n = me t (s.th t) ∧ me t (s'.th t) = n ∧ myWaiter t (s'.th t) = myWaiter t (s.th t)
      ∧ (s'.th t).pc = .qFetchOr
      ∧ (s'.wl.node n = { s.wl.node n with woken := false, linked := true }
          ∨ (s'.wl.node n = { s.wl.node n with woken := false } ∧ (s.th t).cur = none ∧ (s.th t).wr = true
              ∧ (s.th t).linked = true)))
  -- `take_and_mark_woken`; in the reader loop the node may also be the head that is unlinked next
  ∨ (Marks s t n ∧ postWakePc (s'.th t).pc = true
      ∧ ((s'.th t).ws = (s.wl.node n).waiter.toList ∨ (s'.th t).ws = (s.th t).ws ++ (s.wl.node n).waiter.toList)
      ∧ (s'.wl.node n = { s.wl.node n with waiter := none, woken := true }
          ∨ (UnlinksHead s s' t n ∧ s'.wl.node n = { s.wl.node n with waiter := none, woken := true, linked := false })))
  -- the reader loop unlinks the head
  ∨ (UnlinksHead s s' t n ∧ s'.wl.node n = { s.wl.node n with linked := false })

theorem node_eff (h : Step cfg s t l s') (n : Nid) : NodeEff s s' t n := by
  unfold NodeEff UnlinksHead Marks Allocs
  step_sweep h s s' t
  all_goals grind

theorem thr_eq_me {th : Thread} {u : Tid} : Nid.thr u = me t th ↔ th.cur = none ∧ u = t := by
  unfold me; split <;> simp_all
theorem fut_eq_me {th : Thread} {f : Fid} : Nid.fut f = me t th ↔ th.cur = some f := by
  unfold me; split <;> simp_all [eq_comm]

theorem kept_thr (h : Step cfg s t l s') (u : Tid) (hu : u ≠ t) : NodeKept s s' t (.thr u) := by
  have e := node_eff h (.thr u)
  unfold NodeEff Allocs at e; unfold NodeKept
  simp only [thr_eq_me, reduceCtorEq, false_and, exists_false, or_false] at e
  grind

structure TableEff (s s' : State) (t : Tid) : Prop where
  th : ∀ u, u ≠ t → s'.th u = s.th u
  holders : ∀ u b, u ≠ t → (u, b) ∈ s.holders → (u, b) ∈ s'.holders
  token : ∀ u, s'.token u = s.token u ∨ s'.token u = true
    ∨ (u = t ∧ s.token u = true ∧ ((s.th t).pc = .wPark ∨ (s.th t).pc = .boPark))
  /-- the exception is the reset at the start of a poll -/
  wakes : ∀ f, s.wakes f ≤ s'.wakes f ∨ ((s.fut f).busy = false ∧ (s'.fut f).busy = true)
  bo : ∀ f, (s'.fut f).bo = (s.fut f).bo ∨ (s.fut f).phase = .absent

theorem step_tables (h : Step cfg s t l s') : TableEff s s' t := by
  suffices hc : _ ∧ _ ∧ _ ∧ _ ∧ _ from ⟨hc.1, hc.2.1, hc.2.2.1, hc.2.2.2.1, hc.2.2.2.2⟩
  step_sweep h s s' t
  all_goals grind [drain_le]

theorem step_th_other (h : Step cfg s t l s') : ∀ u, u ≠ t → s'.th u = s.th u := (step_tables h).th

theorem bo_kept (h : Step cfg s t l s') {f : Fid} (hph : (s.fut f).phase = .startedNode) :
    (s'.fut f).bo = (s.fut f).bo :=
  ((step_tables h).bo f).resolve_right (by rw [hph]; nofun)

structure WordEff (s s' : State) (t : Tid) : Prop where
  /-- an acquiring CAS, or one of the two releasing RMWs, which decide whether `wake_waiters` runs -/
  guard : (s'.word.wl = s.word.wl ∧ s'.word.readers = s.word.readers)
    ∨ (s.word.wl = false ∧ s'.word.wl = true ∧ s'.word.readers = s.word.readers
        ∧ isCas (s.th t).pc = true ∧ s'.holders = (t, true) :: s.holders)
    ∨ (s'.word.wl = s.word.wl ∧ s'.word.readers = s.word.readers + 1
        ∧ isCas (s.th t).pc = true ∧ s'.holders = (t, false) :: s.holders)
    ∨ (s.word.wl = true ∧ s'.word.wl = false ∧ s'.word.readers = s.word.readers ∧ (s.th t).pc = .relAnd
        ∧ s'.wl = s.wl ∧ s'.word.hq = s.word.hq ∧ s'.word.wp = s.word.wp
        ∧ (s.word.hq = true → (s'.th t).pc = .llSwap .wake))
    ∨ (s'.word.wl = s.word.wl ∧ s'.word.readers = s.word.readers - 1 ∧ (s.th t).pc = .relSub
        ∧ s'.wl = s.wl ∧ s'.word.hq = s.word.hq ∧ s'.word.wp = s.word.wp
        ∧ (s.word.readers = 1 → s.word.hq = true → (s'.th t).pc = .llSwap .wake))
  /-- written only by the `fetch_or` of the queue block and by `fix_flags` -/
  hq : s'.word.hq = s.word.hq ∨ s'.word.hq = true
    ∨ (s'.word.hq = false ∧ s.wl.len = 0 ∧ s'.wl.queue = s.wl.queue ∧ ∃ a, (s.th t).pc = .ff2 a)
  wp : s'.word.wp = s.word.wp ∨ s'.word.wp = true
    ∨ (s'.word.wp = false ∧ s.wl.writers = 0 ∧ s'.wl.queue = s.wl.queue ∧ ∃ a, (s.th t).pc = .ff1 a)
  fetchOr : (s.th t).pc = .qFetchOr → s'.word.hq = true
  held : (s'.word.wl = s.word.wl ∧ s'.word.readers = s.word.readers ∧ s'.holders = s.holders)
    ∨ (s.th t).pc = .idle ∨ isCas (s.th t).pc = true ∨ (s.th t).pc = .relSub ∨ (s.th t).pc = .relAnd
  outside : inLL (s.th t).pc = false → s'.word.wp = s.word.wp ∧ s'.word.hq = s.word.hq
    ∧ ((s.wl.locked = true ∨ ∀ k, (s.th t).pc ≠ .llSwap k) →
        s'.wl.writers = s.wl.writers ∧ s'.wl.len = s.wl.len ∧ s'.wl.locked = s.wl.locked
        ∧ inLL (s'.th t).pc = false)

theorem step_word (h : Step cfg s t l s') : WordEff s s' t := by
  suffices hc : _ ∧ _ ∧ _ ∧ _ ∧ _ ∧ _ from ⟨hc.1, hc.2.1, hc.2.2.1, hc.2.2.2.1, hc.2.2.2.2.1, hc.2.2.2.2.2⟩
  step_sweep h s s' t
  all_goals grind

theorem step_wp (h : Step cfg s t l s') :
    s'.word.wp = s.word.wp
    ∨ (s'.word.wp = true)
    ∨ (s'.word.wp = false ∧ s.wl.writers = 0 ∧ s'.wl.queue = s.wl.queue ∧ ∃ a, (s.th t).pc = .ff1 a) :=
  (step_word h).wp

structure ListEff (s s' : State) (t : Tid) : Prop where
  /-- the link in `rearm`'s critical section; unlinking the own node; the reader loop of `wake_waiters` -/
  queue : s'.wl.queue = s.wl.queue
    ∨ ((s.th t).pc = .qRearm ∧ (s'.th t).pc = .qFetchOr ∧ me t (s'.th t) = me t (s.th t)
        ∧ s'.wl.queue = s.wl.queue ++ [me t (s.th t)])
    ∨ (s'.wl.queue = s.wl.queue.erase (me t (s.th t)) ∧ (s.wl.node (me t (s.th t))).linked = true
        ∧ ((s.th t).pc = .qCas
            ∨ (s.wl.locked = false ∧ ∃ k, (s.th t).pc = .llSwap k ∧ (k = .spinUnlink ∨ k = .finish ∨ k = .drop))))
    ∨ (∃ n, UnlinksHead s s' t n ∧ (s.wl.node n).linked = true ∧ s'.wl.queue = s.wl.queue.erase n)
  marks : ((s.th t).pc = .wnStore ∨ (s.th t).pc = .wrStore) →
    (s'.wl.node (s.th t).tgt).woken = true ∧ (s'.wl.node (s.th t).tgt).waiter = none
  /-- the `enter` and `keep` hypotheses of `excl_step` -/
  lock : (inLL (s.th t).pc = true → s.wl.locked = true) →
    (inLL (s'.th t).pc = true → s'.wl.locked = true ∧ (inLL (s.th t).pc = true ∨ s.wl.locked = false))
    ∧ (inLL (s.th t).pc = false → s.wl.locked = true → s'.wl.locked = true ∧ inLL (s'.th t).pc = false)

theorem step_list (h : Step cfg s t l s') : ListEff s s' t := by
  suffices hc : _ ∧ _ ∧ _ from ⟨hc.1, hc.2.1, hc.2.2⟩
  unfold UnlinksHead
  step_sweep h s s' t
  all_goals grind

theorem ListEff.of_empty (e : ListEff s s' t) (he : s.wl.queue = []) :
    s'.wl.queue = []
    ∨ ((s'.th t).pc = .qFetchOr ∧ me t (s'.th t) = me t (s.th t) ∧ s'.wl.queue = [me t (s.th t)]) := by
  rcases e.queue with hq | ⟨-, hp', hme, hq⟩ | ⟨hq, -⟩ | ⟨n, -, -, hq⟩
  · left; rw [hq, he]
  · right; exact ⟨hp', hme, by rw [hq, he]; rfl⟩
  · left; rw [hq, he]; rfl
  · left; rw [hq, he]; rfl

theorem step_fut_other (h : Step cfg s t l s')
    (a1 : syncOnly (s.th t).pc = true → (s.th t).cur = none)
    (a2 : asyncOnly (s.th t).pc = true → (s.th t).cur ≠ none) :
    ∀ f, ¬ opOn s t f → (s.fut f).busy = true → s'.fut f = s.fut f := by
  unfold opOn
  step_sweep h s s' t
  all_goals grind

theorem cur_eq_curF {th : Thread} (h : th.cur ≠ none) : th.cur = some (curF th) := by
  unfold curF; cases hc : th.cur <;> simp_all
theorem asyncOnly_futPc {pc : Pc} (h : asyncOnly pc = true) : futPc pc = true := by
  cases pc <;> first | exact h | rfl | cases h | (rename_i k; cases k <;> first | rfl | cases h)

theorem kept_fut (h : Step cfg s t l s') (a1 : syncOnly (s.th t).pc = true → (s.th t).cur = none)
    (a2 : asyncOnly (s.th t).pc = true → (s.th t).cur ≠ none) (f : Fid)
    (hop : ¬ opOn s t f) (hb : (s.fut f).busy = true ∨ (s.fut f).phase = .startedNode) :
    NodeKept s s' t (.fut f) := by
  have e := node_eff h (.fut f)
  unfold NodeEff Allocs at e; unfold NodeKept; unfold opOn at hop
  simp only [fut_eq_me, reduceCtorEq, false_and, false_or, Nid.fut.injEq] at e
  have := @cur_eq_curF (s.th t); have := @asyncOnly_futPc (s.th t).pc
  rcases e with e | e | e | e | e | e | e <;> grind [futPc, syncOnly]

theorem NodeKept.of_eq {n : Nid} (e : s'.wl.node n = s.wl.node n) : NodeKept s s' t n := by
  unfold NodeKept; rw [e]; exact ⟨rfl, .inl rfl, .inl ⟨rfl, rfl⟩⟩

theorem NodeKept.linked_of {n : Nid} (hk : NodeKept s s' t n) (hl : (s'.wl.node n).linked = true) :
    (s.wl.node n).linked = true := by
  rcases hk.2.1 with h1 | ⟨-, h1⟩
  · rw [← h1]; exact hl
  · rw [hl] at h1; cases h1

theorem NodeKept.woken_of {n : Nid} (hk : NodeKept s s' t n) (hw : (s.wl.node n).woken = true) :
    (s'.wl.node n).woken = true := by
  rcases hk.2.2 with ⟨-, h1⟩ | ⟨-, -, h1⟩
  · rw [h1]; exact hw
  · exact h1

theorem Owner.of_class (hi : Inv s) {u : Tid} (h : syncOnly (s.th u).pc = true ∨ futPc (s.th u).pc = true) :
    Owner s u := h.imp (hi.syncCur u) id

theorem Owner.unique (hi : Inv s) {u v : Tid} (hu : Owner s u) (hv : Owner s v)
    (h : me u (s.th u) = me v (s.th v)) : u = v := by
  cases hcu : (s.th u).cur <;> cases hcv : (s.th v).cur <;>
    simp only [me, hcu, hcv, Nid.thr.injEq, Nid.fut.injEq, reduceCtorEq] at h
  · exact h
  · subst h
    exact (hi.busy v _ hcv (hv.resolve_left (by simp [hcv]))).2 u hcu (hu.resolve_left (by simp [hcu]))

theorem fut_other (hi : Inv s) (h : Step cfg s t l s') {f : Fid} (hop : ¬ opOn s t f) :
    ((s.fut f).busy = true → s'.fut f = s.fut f)
    ∧ ((s.fut f).busy = true ∨ (s.fut f).phase = .startedNode → NodeKept s s' t (.fut f)) :=
  ⟨step_fut_other h (hi.syncCur t) (hi.asyncCur t) f hop, kept_fut h (hi.syncCur t) (hi.asyncCur t) f hop⟩

theorem fut_of_other (hi : Inv s) (h : Step cfg s t l s') {u : Tid} {f : Fid} (hu : u ≠ t)
    (hc : (s.th u).cur = some f) (hp : futPc (s.th u).pc = true) :
    s'.fut f = s.fut f ∧ NodeKept s s' t (.fut f) := by
  obtain ⟨hb, huniq⟩ := hi.busy u f hc hp
  have := fut_other hi h (fun ⟨h1, h2⟩ => hu (huniq t h1 h2).symm)
  exact ⟨this.1 hb, this.2 (Or.inl hb)⟩

theorem node_other (hi : Inv s) (h : Step cfg s t l s') {u : Tid} (hu : u ≠ t) (hown : Owner s u) :
    NodeKept s s' t (me u (s.th u)) := by
  cases hc : (s.th u).cur with
  | none => simp only [me, hc]; exact kept_thr h u hu
  | some f => simp only [me, hc]; exact (fut_of_other hi h hu hc (hown.resolve_left (by simp [hc]))).2

theorem not_inLL_of_other (hi : Inv s) {u : Tid} (hu : u ≠ t) (hll : inLL (s.th u).pc = true) :
    s.wl.locked = true ∧ inLL (s.th t).pc = false := by
  obtain ⟨hl, huniq⟩ := hi.ll u hll
  refine ⟨hl, ?_⟩
  cases hc : inLL (s.th t).pc
  · rfl
  · exact absurd (huniq t hc).symm hu

theorem inLL_futNodePc {pc : Pc} (h : inLL pc = true) (hf : futPc pc = true) : futNodePc pc = true := by
  cases pc <;> first | rfl | exact hf | cases h | cases hf

/-- While `u` is inside a list critical section, `t` writes no node but one it initialises (`Allocs`), which is
not `u`'s. -/
structure Frozen (s s' : State) (t u : Tid) : Prop where
  queue : s'.wl.queue = s.wl.queue
  writers : s'.wl.writers = s.wl.writers
  len : s'.wl.len = s.wl.len
  wp : s'.word.wp = s.word.wp
  hq : s'.word.hq = s.word.hq
  node : ∀ n, s'.wl.node n = s.wl.node n
    ∨ ((s.wl.node n).linked = false ∧ (s'.wl.node n).linked = false ∧ Allocs s t n)
  own : Owner s u → s'.wl.node (me u (s.th u)) = s.wl.node (me u (s.th u))

theorem frozen (hi : Inv s) (h : Step cfg s t l s') {u : Tid} (hu : u ≠ t) (hll : inLL (s.th u).pc = true) :
    Frozen s s' t u := by
  obtain ⟨hl, htn⟩ := not_inLL_of_other hi hu hll
  obtain ⟨f1, f2, f3⟩ := (step_word h).outside htn
  have hnt : ∀ pc, (s.th t).pc = pc → inLL pc = true → False := by
    intro pc hp hc; rw [hp, hc] at htn; cases htn
  have hnode : ∀ n, s'.wl.node n = s.wl.node n
      ∨ ((s.wl.node n).linked = false ∧ (s'.wl.node n).linked = false ∧ Allocs s t n) := by
    intro n
    have e := node_eff h n
    have := @Allocs.unlinked s t hi n
    unfold NodeEff UnlinksHead Marks at e
    grind [inLL]
  refine ⟨?_, (f3 (.inl hl)).1, (f3 (.inl hl)).2.1, f1, f2, hnode, fun hown => ?_⟩
  · rcases (step_list h).queue with hq | ⟨hp, -⟩ | ⟨-, -, hp | ⟨hl', -⟩⟩ | ⟨n, ⟨-, -, -, hp | ⟨-, hl', -⟩⟩, -⟩
    · exact hq
    · exact (hnt _ hp rfl).elim
    · exact (hnt _ hp rfl).elim
    · rw [hl] at hl'; cases hl'
    · exact (hnt _ hp rfl).elim
    · rw [hl] at hl'; cases hl'
  · rcases hnode (me u (s.th u)) with h1 | ⟨-, -, ha⟩
    · exact h1
    · cases hc : (s.th u).cur with
      | none =>
        rcases ha with ⟨h1, -⟩ | ⟨f, h1, -⟩ <;> simp only [me, hc, Nid.thr.injEq, reduceCtorEq] at h1
        exact absurd h1 hu
      | some g =>
        exact absurd (hi.phNode u g hc (inLL_futNodePc hll (hown.resolve_left (by simp [hc]))))
          ((ha.unlinked hi).2 g (by simp [me, hc]))

theorem Frozen.linked {u : Tid} (fz : Frozen s s' t u) (n : Nid) :
    (s'.wl.node n).linked = (s.wl.node n).linked := by
  rcases fz.node n with h1 | ⟨h1, h2, -⟩
  · rw [h1]
  · rw [h1, h2]

theorem Frozen.of_linked {u : Tid} (fz : Frozen s s' t u) {n : Nid} (hl : (s.wl.node n).linked = true) :
    s'.wl.node n = s.wl.node n := by
  rcases fz.node n with h1 | ⟨h1, -⟩
  · exact h1
  · rw [hl] at h1; cases h1

/-- From where a region of the program is entered; `narrow_sweep` takes the transitions to look at from a row. -/
structure Entry (s s' : State) (t : Tid) : Prop where
  armed : armedPc (s'.th t).pc = true → armedPc (s.th t).pc = true ∨ (s.th t).pc = .qRearm
  qRearm : (s'.th t).pc = .qRearm → (s.th t).pc = .llSwap .queue
  holdUnlink : holdUnlinkPc (s'.th t).pc = true →
    holdUnlinkPc (s.th t).pc = true ∨ (s.th t).pc = .taCas .spin ∨ (s.th t).pc = .taCas .pollTry
  boPark : (s'.th t).pc = .boPark → (s.th t).pc = .llRel .pending
  wnStore : (s'.th t).pc = .wnStore → (s.th t).pc = .llSwap .wake
  wrStore : (s'.th t).pc = .wrStore → (s.th t).pc = .wrStore ∨ (s.th t).pc = .llSwap .wake
  wPark : (s'.th t).pc = .wPark → (s.th t).pc = .wLoad
  wLoad : (s'.th t).pc = .wLoad → (s.th t).pc = .wPark ∨ (s.th t).pc = .llRel .parkLoad
  dLoad : (s'.th t).pc = .dLoad → (s.th t).pc = .llRel .dropLoad
  wnWake : (s'.th t).pc = .wnWake → (s.th t).pc = .llRel .wake ∨ (s.th t).pc = .wnWake
  rel : (s'.th t).pc = .relSub ∨ (s'.th t).pc = .relAnd → (s.th t).pc = .idle
  cas : isCas (s'.th t).pc = true → (∃ k, (s.th t).pc = .taLoad k) ∨ (s.th t).pc = .qLoad
  asyncFirst : (s'.th t).pc = .taLoad .asyncFirst ∨ (s'.th t).pc = .taCas .asyncFirst →
    (s.th t).pc = .idle ∨ (s.th t).pc = .taLoad .asyncFirst
  futUnl : futUnlPc (s'.th t).pc = true →
    futUnlPc (s.th t).pc = true ∨ (s.th t).pc = .qCas ∨ (s.th t).pc = .llSwap .finish ∨ (s.th t).pc = .llSwap .drop

/-- `fix_flags` is not run on the way to a park or to `Pending` (`PFfOk`), so the armed region is entered
through `rearm` only. -/
theorem entry (h : Step cfg s t l s')
    (hff : (s.th t).pc ≠ .ff2 .parkLoad ∧ (s.th t).pc ≠ .ff2 .pending) : Entry s s' t := by
  suffices hc : _ ∧ _ ∧ _ ∧ _ ∧ _ ∧ _ ∧ _ ∧ _ ∧ _ ∧ _ ∧ _ ∧ _ ∧ _ ∧ _ from
    ⟨hc.1, hc.2.1, hc.2.2.1, hc.2.2.2.1, hc.2.2.2.2.1, hc.2.2.2.2.2.1, hc.2.2.2.2.2.2.1, hc.2.2.2.2.2.2.2.1,
      hc.2.2.2.2.2.2.2.2.1, hc.2.2.2.2.2.2.2.2.2.1, hc.2.2.2.2.2.2.2.2.2.2.1, hc.2.2.2.2.2.2.2.2.2.2.2.1,
      hc.2.2.2.2.2.2.2.2.2.2.2.2.1, hc.2.2.2.2.2.2.2.2.2.2.2.2.2⟩
  step_sweep h s s' t
  all_goals grind

theorem Inv.entry (hi : Inv s) (h : Step cfg s t l s') : Entry s s' t := RwLock.entry h (hi.ffOk t).2.2

end Fv.Sync.RwLock
