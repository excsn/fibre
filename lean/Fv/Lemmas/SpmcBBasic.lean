import Fv.Chan.SpmcB
import Fv.Lemmas.SpmcBLeftRight
/-! What a step of `Fv.Chan.SpmcB` does (`MoveS`, `MoveR`, `CallEff`), the ownership invariant `InvA` (a handle is
used by one thread at a time) and the left-right invariant of the embedded instance (`LRI`). -/
namespace Fv.Chan.SpmcB
open Fv.Chan.LeftRightB (upd upd_apply upd_same upd_self mirror_upd)

inductive Role where
  | snd
  | rcv (r : Nat)
deriving DecidableEq

def roleOf : PC → Option Role
  | .snd _ => some .snd
  | .rcv r _ => some (.rcv r)
  | _ => none

@[simp] theorem roleOf_snd (q : SPC) : roleOf (.snd q) = some .snd := rfl
@[simp] theorem roleOf_rcv (r : Nat) (q : RPC) : roleOf (.rcv r q) = some (.rcv r) := rfl
@[simp] theorem roleOf_ret (res : Res) : roleOf (.ret res) = none := rfl

def State.owner (s : State) : Role → Option Nat
  | .snd => s.sOwner
  | .rcv r => s.rOwner r

structure InvA (s : State) : Prop where
  own : ∀ t ρ, s.owner ρ = some t ↔ roleOf (s.pc t) = some ρ
  flag2 : s.flag ≤ 2

theorem InvA.sown {s : State} (h : InvA s) {t : Nat} {q : SPC} (ht : s.pc t = .snd q) : s.sOwner = some t :=
  (h.own t .snd).2 (by rw [ht]; rfl)

theorem InvA.rown {s : State} (h : InvA s) {t r : Nat} {q : RPC} (ht : s.pc t = .rcv r q) : s.rOwner r = some t :=
  (h.own t (.rcv r)).2 (by rw [ht]; rfl)

theorem InvA.of_sOwner {s : State} (h : InvA s) {t : Nat} (ho : s.sOwner = some t) : ∃ q, s.pc t = .snd q := by
  have := (h.own t .snd).1 ho
  cases hq : s.pc t <;> rw [hq] at this <;> first | exact ⟨_, rfl⟩ | cases this

theorem InvA.of_rOwner {s : State} (h : InvA s) {t r : Nat} (ho : s.rOwner r = some t) : ∃ q, s.pc t = .rcv r q := by
  have := (h.own t (.rcv r)).1 ho
  cases hq : s.pc t <;> rw [hq] at this <;> cases this
  exact ⟨_, rfl⟩

theorem InvA.unique {s : State} (h : InvA s) {t u : Nat} {ρ : Role} (ht : roleOf (s.pc t) = some ρ)
    (hu : roleOf (s.pc u) = some ρ) : t = u :=
  Option.some.inj (((h.own t ρ).2 ht).symm.trans ((h.own u ρ).2 hu))

/-- where a step of an operation on the sender handle can move to -/
def okS (p : PC) : Prop := (∃ res, p = .ret res) ∨ (∃ q, p = .snd q)
def isRFlag : RPC → Bool
  | .rFlag _ => true
  | _ => false

/-- … on the receiver with cell `r`; `rFlag` is an entry point only -/
def okR (r : Nat) (p : PC) : Prop := (∃ res, p = .ret res) ∨ (∃ q, p = .rcv r q ∧ isRFlag q = false)

theorem okS_ret (res : Res) : okS (.ret res) := Or.inl ⟨res, rfl⟩
theorem okS_snd (q : SPC) : okS (.snd q) := Or.inr ⟨q, rfl⟩
theorem okR_rcv (r : Nat) (q : RPC) (h : isRFlag q = false := by rfl) : okR r (.rcv r q) := Or.inr ⟨q, rfl, h⟩

theorem okS_not_rcv {p : PC} (hp : okS p) {r : Nat} {q : RPC} : p ≠ .rcv r q := by
  rcases hp with ⟨res, rfl⟩ | ⟨q', rfl⟩ <;> simp

theorem okR_not_snd {r : Nat} {p : PC} (hp : okR r p) {q : SPC} : p ≠ .snd q := by
  rcases hp with ⟨res, rfl⟩ | ⟨q', rfl, _⟩ <;> simp

def quietS : SPC → Bool
  | .sHead (.trySend _) | .sHead (.space _) | .aStore _ | .wWake _ _ _ | .pLoad _ | .pHead _ => true
  | _ => false

/-- what `retryPC`, `dkCont`, `afterWrite`, `wakeOr`, `afterPark` can return -/
def Quiet (p : PC) : Prop := (∃ res, p = .ret res) ∨ (∃ q, p = .snd q ∧ quietS q = true)

theorem quiet_ret (res : Res) : Quiet (.ret res) := Or.inl ⟨res, rfl⟩
theorem quiet_snd (q : SPC) (h : quietS q = true := by rfl) : Quiet (.snd q) := Or.inr ⟨q, rfl, h⟩
theorem quiet_retryPC (x : SCtx) : Quiet (retryPC x) := by unfold retryPC; split <;> exact quiet_snd _
theorem quiet_dkCont (d : DK) : Quiet (dkCont d) := by
  unfold dkCont; split <;> first | apply quiet_ret | apply quiet_retryPC
theorem quiet_afterWrite (x k) : Quiet (afterWrite x k) := by
  unfold afterWrite; repeat' split
  all_goals first | apply quiet_ret | exact quiet_snd _
theorem quiet_wakeOr (x k acc) : Quiet (wakeOr x k acc) := by
  unfold wakeOr; split <;> first | apply quiet_afterWrite | exact quiet_snd _
theorem quiet_afterPark (x : SCtx) : Quiet (afterPark x) := by unfold afterPark; split <;> exact quiet_snd _

syntax "quiet_tac" : tactic
macro_rules | `(tactic| quiet_tac) => `(tactic|
  first | apply quiet_ret | apply quiet_retryPC | apply quiet_dkCont | apply quiet_afterWrite
        | apply quiet_wakeOr | apply quiet_afterPark)

theorem Quiet.okS {p : PC} (h : Quiet p) : okS p := h.imp id fun ⟨q, e, _⟩ => ⟨q, e⟩

theorem okS_afterScan (cap k h L m) : okS (afterScan cap k h L m) := by
  unfold afterScan; repeat' split
  all_goals first | apply okS_ret | apply okS_snd
theorem okS_commitPC (k h i L) : okS (commitPC k h i L) := by
  unfold commitPC; repeat' split
  all_goals apply okS_snd

def quietR : RPC → Bool
  | .eDrop _ | .gCur _ | .kCur _ => true
  | .rCur x => !x.reg
  | _ => false

/-- what `onEmpty`, `wkDone`, `afterRPark` can return -/
def QuietR (r : Nat) (p : PC) : Prop := (∃ res, p = .ret res) ∨ (∃ q, p = .rcv r q ∧ quietR q = true)

theorem quietR_onEmpty (r x) : QuietR r (onEmpty r x) := by
  unfold onEmpty; repeat' split
  all_goals first | exact Or.inl ⟨_, rfl⟩ | exact Or.inr ⟨_, rfl, rfl⟩
theorem quietR_wkDone (r k) : QuietR r (wkDone k) := by unfold wkDone; split <;> exact Or.inl ⟨_, rfl⟩
theorem quietR_afterRPark (r x) : QuietR r (afterRPark r x) := by
  unfold afterRPark; split <;> exact Or.inr ⟨_, rfl, rfl⟩

/-- `quietR_wkDone 0 _` serves a caller that leaves `r` open (`QuietR.lrpc`, `QuietR.cls`): `wkDone` does not mention `r` -/
syntax "quietR_tac" : tactic
macro_rules | `(tactic| quietR_tac) => `(tactic|
  first | exact Or.inl ⟨_, rfl⟩ | apply quietR_onEmpty | exact quietR_wkDone 0 _ | apply quietR_wkDone
        | apply quietR_afterRPark)

theorem QuietR.okR {r : Nat} {p : PC} (h : QuietR r p) : okR r p := by
  refine h.imp id fun ⟨q, e, hq⟩ => ⟨q, e, ?_⟩
  cases q <;> first | rfl | cases hq

/-- for `h : actS s t p = some s'` with `p` a constructor application: one goal per outcome of the step, in which
`s'` is the new state written out -/
syntax "open_actS " ident : tactic
macro_rules | `(tactic| open_actS $h) => `(tactic|
  (simp only [actS, stepSFlag, stepSHead, stepSEnter, stepSScan, stepSHead2, stepSExit, stepBHead, stepWSeqLd,
     stepWVal, stepWSeqSt, stepWHeadSt, stepWLockW, stepWUnlockW, stepWWake, stepSlHead, stepAStore, stepAFence,
     stepDCas, stepDSpin, stepDLoad, stepDSpin2, stepPPark, stepPHead, stepPLoad, stepPCas, stepPSpin, stepCFlag,
     stepCStore, stepCLock, stepCWake, stepCUnlock] at $h:ident <;>
   (repeat' split at $h:ident) <;> cases $h:ident))

syntax "open_actR " ident : tactic
macro_rules | `(tactic| open_actR $h) => `(tactic|
  (simp only [actR, stepRFlag, stepRCur, stepRSeq, stepRVal, stepRSt, stepRDrop, stepRHead, stepBHd, stepBDrop,
     stepBHd2, stepBVals, stepGCur, stepGLock, stepGUnlock, stepEDrop, stepEHead, stepECur, stepELock, stepEUnlock,
     stepKPark, stepKCur, stepWpFence, stepWpLoad, stepWpCas, stepWpIdle, stepWpUnpark, stepCCur, stepMLock,
     stepMMod, stepMUnlock, stepXFlag, stepQDrop, stepQHead, stepQCur] at $h:ident <;>
   (repeat' split at $h:ident) <;> cases $h:ident))

/-- fields that no step of an operation on the sender handle changes; `FrameR`: on a receiver handle -/
structure FrameS (s s' : State) : Prop where
  cap : s'.cap = s.cap
  cur : s'.cur = s.cur
  nextCell : s'.nextCell = s.nextCell
  rclosed : s'.rclosed = s.rclosed
  rOwner : s'.rOwner = s.rOwner
  got : s'.got = s.got
  c0 : s'.c0 = s.c0
  resv : s'.resv = s.resv
  wq : s'.wq = s.wq
  upk : s'.upk = s.upk
  csm : s'.csm = s.csm
  taint : s'.taint = s.taint
  flag2 : s.flag ≤ 2 → s'.flag ≤ 2

structure FrameR (s s' : State) : Prop where
  cap : s'.cap = s.cap
  head : s'.head = s.head
  seq : s'.seq = s.seq
  val : s'.val = s.val
  sent : s'.sent = s.sent
  lim : s'.lim = s.lim
  dirty : s'.dirty = s.dirty
  dropped : s'.dropped = s.dropped
  pdropped : s'.pdropped = s.pdropped
  sclosed : s'.sclosed = s.sclosed
  sOwner : s'.sOwner = s.sOwner
  taint : s'.taint = s.taint
  torn : s'.torn = s.torn
  flag2 : s.flag ≤ 2 → s'.flag ≤ 2

/-- a step inside an operation on the sender handle goes to a control state of such an operation or returns, which
releases the handle; `MoveR`: on the receiver handle with cell `r` -/
structure MoveS (s s' : State) (t : Nat) (p' : PC) : Prop extends FrameS s s' where
  pc : s'.pc = upd s.pc t p'
  ok : okS p'
  sOwner : s'.sOwner = if isRet p' then none else s.sOwner

structure MoveR (s s' : State) (t r : Nat) (p' : PC) : Prop extends FrameR s s' where
  pc : s'.pc = upd s.pc t p'
  ok : okR r p'
  rOwner : s'.rOwner = if isRet p' then upd s.rOwner r none else s.rOwner

theorem actS_frame {s s' : State} {t : Nat} {p : SPC} (h : actS s t p = some s') : ∃ p', MoveS s s' t p' := by
  cases p <;> open_actS h <;>
    exact ⟨_, ⟨rfl, rfl, rfl, rfl, rfl, rfl, rfl, rfl, rfl, rfl, rfl, rfl, by first | exact id | (intro; simp)⟩, rfl,
      by first | apply okS_snd | apply okS_afterScan | apply okS_commitPC | exact Quiet.okS (by quiet_tac), rfl⟩

theorem actR_frame {s s' : State} {t r : Nat} {p : RPC} (h : actR s t r p = some s') : ∃ p', MoveR s s' t r p' := by
  cases p <;> open_actR h <;>
    exact ⟨_, ⟨rfl, rfl, rfl, rfl, rfl, rfl, rfl, rfl, rfl, rfl, rfl, rfl, rfl, by first | exact id | (intro; simp)⟩, rfl,
      by first | exact okR_rcv _ _ | exact QuietR.okR (by quietR_tac), rfl⟩

theorem upd_inj {β : Type} {f : Nat → β} {t : Nat} {a b : β} (h : upd f t a = upd f t b) : a = b := by
  have := congrFun h t; rwa [upd_same, upd_same] at this

/-- the step read off its successor state: `e` is closed by `rfl` once the step function is unfolded -/
theorem actS_move {s s' : State} {t : Nat} {p : SPC} (h : actS s t p = some s') {p' : PC}
    (e : s'.pc = upd s.pc t p') : MoveS s s' t p' := by
  obtain ⟨p'', m⟩ := actS_frame h
  exact upd_inj (m.pc.symm.trans e) ▸ m

theorem actR_move {s s' : State} {t r : Nat} {p : RPC} (h : actR s t r p = some s') {p' : PC}
    (e : s'.pc = upd s.pc t p') : MoveR s s' t r p' := by
  obtain ⟨p'', m⟩ := actR_frame h
  exact upd_inj (m.pc.symm.trans e) ▸ m

theorem spurious_cases {s s' : State} {t : Nat} (h : stepSpurious s t = some s') :
    (∃ x, s.pc t = .snd (.pPark x) ∧ s' = s.goS t (afterPark x) ∧ MoveS s s' t (afterPark x)) ∨
    (∃ r x, s.pc t = .rcv r (.kPark x) ∧ s' = s.goR t r (afterRPark r x) ∧ MoveR s s' t r (afterRPark r x)) := by
  unfold stepSpurious at h
  split at h <;> cases h
  · exact Or.inl ⟨_, ‹_›, rfl, ⟨rfl, rfl, rfl, rfl, rfl, rfl, rfl, rfl, rfl, rfl, rfl, rfl, id⟩, rfl, (quiet_afterPark _).okS, rfl⟩
  · exact Or.inr ⟨_, _, ‹_›, rfl, ⟨rfl, rfl, rfl, rfl, rfl, rfl, rfl, rfl, rfl, rfl, rfl, rfl, rfl, id⟩, rfl,
      (quietR_afterRPark _ _).okR, rfl⟩

theorem teardown_eff {s s' : State} (h : stepTeardown s = some s') :
    s' = { s with torn := true, dropped := s.dropped ++ slotDrops s.seq 0 s.cap } ∧ s.torn = false ∧ s.sOwner = none := by
  unfold stepTeardown at h
  split at h <;> cases h
  simp_all

theorem pc_upd {pc : Nat → PC} {t u : Nat} {p' q : PC} (h : upd pc t p' u = q) :
    u = t ∧ p' = q ∨ u ≠ t ∧ pc u = q := by
  simp only [upd_apply] at h
  split at h
  · exact Or.inl ⟨‹_›, h⟩
  · exact Or.inr ⟨‹_›, h⟩

theorem invA_move {s s' : State} {t : Nat} {p' : PC} (hi : InvA s) (hpc : s'.pc = upd s.pc t p') (hf : s'.flag ≤ 2)
    (hown : ∀ ρ, s'.owner ρ =
      if roleOf p' = some ρ then some t else if roleOf (s.pc t) = some ρ then none else s.owner ρ)
    (hfree : ∀ ρ, roleOf p' = some ρ → roleOf (s.pc t) = some ρ ∨ s.owner ρ = none) : InvA s' := by
  refine ⟨fun u ρ => ?_, hf⟩
  rw [hpc, hown]
  have ht := hi.own t ρ
  generalize hx : (if roleOf p' = some ρ then some t else if roleOf (s.pc t) = some ρ then none else s.owner ρ) = x
  refine mirror_upd (M' := (x = some ·)) (C := (roleOf · = some ρ)) (hi.own · ρ) (fun u hu => ?_) ?_ u <;> subst hx
  · by_cases c1 : roleOf p' = some ρ
    · rcases hfree ρ c1 with c2 | c2 <;> simp [c1, Ne.symm hu, ht.2, c2]
    · by_cases c2 : roleOf (s.pc t) = some ρ <;> simp [c1, c2, ht.2, Ne.symm hu]
  · by_cases c1 : roleOf p' = some ρ
    · simp [c1]
    · by_cases c2 : roleOf (s.pc t) = some ρ <;> simp [c1, c2, ht]

theorem invA_S {s s' : State} {t : Nat} {p : PC} {q : SPC} (hi : InvA s) (ht : s.pc t = .snd q)
    (m : MoveS s s' t p) : InvA s' := by
  have hp := m.ok
  refine invA_move hi m.pc (m.flag2 hi.flag2) (fun ρ => ?_)
    (fun ρ e => Or.inl (by rw [ht]; rcases hp with ⟨res, rfl⟩ | ⟨q', rfl⟩ <;> first | exact e | cases e))
  cases ρ <;> rcases hp with ⟨res, rfl⟩ | ⟨q', rfl⟩ <;> simp [State.owner, roleOf, isRet, ht, m.sOwner, m.rOwner, hi.sown ht]

theorem invA_R {s s' : State} {t r : Nat} {p : PC} {q : RPC} (hi : InvA s) (ht : s.pc t = .rcv r q)
    (m : MoveR s s' t r p) : InvA s' := by
  have hp := m.ok
  have hso := m.toFrameR.sOwner
  have hro := m.rOwner
  refine invA_move hi m.pc (m.flag2 hi.flag2) (fun ρ => ?_)
    (fun ρ e => Or.inl (by rw [ht]; rcases hp with ⟨res, rfl⟩ | ⟨q', rfl, _⟩ <;> first | exact e | cases e))
  cases ρ with
  | snd => rcases hp with ⟨res, rfl⟩ | ⟨q', rfl, _⟩ <;> simp [State.owner, roleOf, ht, hso]
  | rcv r' =>
    by_cases e : r' = r
    · subst e; rcases hp with ⟨res, rfl⟩ | ⟨q', rfl, _⟩ <;> simp [State.owner, roleOf, isRet, ht, hro, hi.rown ht]
    · rcases hp with ⟨res, rfl⟩ | ⟨q', rfl, _⟩ <;> simp [State.owner, roleOf, isRet, ht, hro, upd_apply, e, Ne.symm e]

theorem act_cases {s s' : State} {t : Nat} (h : act s t = some s') :
    (∃ p, s.pc t = .snd p ∧ actS s t p = some s') ∨ (∃ r p, s.pc t = .rcv r p ∧ actR s t r p = some s') := by
  unfold act at h
  split at h
  · cases h
  · cases h
  · exact Or.inl ⟨_, ‹_›, h⟩
  · exact Or.inr ⟨_, _, ‹_›, h⟩

theorem invA_act {s s' : State} {t : Nat} (hi : InvA s) (h : act s t = some s') : InvA s' := by
  rcases act_cases h with ⟨p, hpc, h⟩ | ⟨r, p, hpc, h⟩
  · exact (actS_frame h).elim fun _ m => invA_S hi hpc m
  · exact (actR_frame h).elim fun _ m => invA_R hi hpc m

theorem free_no_role {p : PC} (h : isFree p = true) : roleOf p = none := by
  cases p <;> first | rfl | cases h

def entryS : SPC → Bool
  | .sFlag _ | .cFlag _ | .sHead (.probe _) | .sEnter (.probe _) 0 .rLoad => true
  | _ => false

def entryR : RPC → Bool
  | .rFlag x => !x.reg
  | .cCur | .xFlag _ | .qDrop | .qHead _ => true
  | _ => false

/-- what a `call` step does: it takes a free handle (`drop` marks it dead; `clone` of a closed receiver taints the
run), or returns at once, or is one of the two conversions that reset a `closed` flag -/
inductive CallEff (s : State) (t : Nat) : State → Prop
  | sender (q : SPC) (alive : Bool) : sFreeH s = true → entryS q = true →
      CallEff s t { callS s t (.snd q) with sAlive := alive }
  | receiver (r : Nat) (q : RPC) (alive : Nat → Bool) (tn : Bool) : rFreeH s r = true → entryR q = true →
      (∀ x, alive x = true → s.rAlive x = true) →
      (tn = false → s.taint = false ∧ (q = .cCur → s.rclosed r = false)) →
      CallEff s t { callR s t r q with rAlive := alive, taint := tn }
  | ret (res : Res) : CallEff s t { s with pc := upd s.pc t (.ret res) }
  | convS : sFreeH s = true →
      CallEff s t { s with sclosed := false, taint := s.taint || s.sclosed, pc := upd s.pc t (.ret .unit) }
  | convR (r : Nat) : rFreeH s r = true →
      CallEff s t { s with rclosed := upd s.rclosed r false, taint := s.taint || s.rclosed r, pc := upd s.pc t (.ret .unit) }

theorem call_eff {s s' : State} {t : Nat} {op : Op} (h : stepCall s t op = some s') :
    isFree (s.pc t) = true ∧ CallEff s t s' := by
  unfold stepCall at h
  split at h
  · rename_i hc
    simp only [Bool.and_eq_true] at hc
    refine ⟨hc.1, ?_⟩
    have keep : ∀ x, s.rAlive x = true → s.rAlive x = true := fun _ a => a
    cases op <;> simp only [] at h
    case clone r =>
      split at h <;> cases h
      exact .receiver r .cCur s.rAlive _ ‹_› rfl keep (fun e => by simpa using e)
    case rDrop r =>
      split at h <;> cases h
      refine .receiver r (.xFlag true) _ s.taint ‹_› rfl (fun x a => ?_) (fun e => ⟨e, nofun⟩)
      simp only [upd_apply] at a; split at a
      · cases a
      · exact a
    case sProbe p =>
      split at h <;> cases h
      split
      · exact .sender _ s.sAlive ‹_› rfl
      · exact .sender _ s.sAlive ‹_› rfl
    case rProbe r p =>
      split at h <;> cases h
      split
      · exact .receiver r _ s.rAlive s.taint ‹_› rfl keep (fun e => ⟨e, nofun⟩)
      · exact .receiver r _ s.rAlive s.taint ‹_› rfl keep (fun e => ⟨e, nofun⟩)
    all_goals (repeat' split at h)
    all_goals (cases h)
    all_goals first
      | exact .sender _ _ ‹_› rfl
      | exact .receiver _ _ s.rAlive s.taint ‹_› rfl keep (fun e => ⟨e, nofun⟩)
      | exact .ret _
      | exact .convS ‹_›
      | exact .convR _ ‹_›
  · cases h

theorem invA_call {s s' : State} {t : Nat} {op : Op} (hi : InvA s) (h : stepCall s t op = some s') : InvA s' := by
  obtain ⟨hfree, e⟩ := call_eff h
  have h0 := free_no_role hfree
  cases e with
  | sender q a hf _ =>
    simp only [sFreeH, Bool.and_eq_true, Option.isNone_iff_eq_none] at hf
    exact invA_move hi rfl hi.flag2 (fun ρ => by cases ρ <;> simp [State.owner, callS, h0])
      (fun ρ e => by cases e; exact Or.inr hf.2)
  | receiver r q al tn hf _ _ _ =>
    simp only [rFreeH, Bool.and_eq_true, Option.isNone_iff_eq_none] at hf
    exact invA_move hi rfl hi.flag2 (fun ρ => by cases ρ <;> simp [State.owner, callR, h0, upd_apply, eq_comm (a := r)])
      (fun ρ e => by cases e; exact Or.inr hf.2)
  | ret res | convS _ | convR r _ =>
    exact invA_move hi rfl hi.flag2 (fun ρ => by cases ρ <;> simp [State.owner, h0]) (fun ρ e => by cases e)

theorem invA_spurious {s s' : State} {t : Nat} (hi : InvA s) (h : stepSpurious s t = some s') : InvA s' := by
  rcases spurious_cases h with ⟨x, hpc, _, m⟩ | ⟨r, x, hpc, _, m⟩
  · exact invA_S hi hpc m
  · exact invA_R hi hpc m

theorem invA_teardown {s s' : State} (hi : InvA s) (h : stepTeardown s = some s') : InvA s' := by
  cases (teardown_eff h).1
  exact ⟨hi.own, hi.flag2⟩

theorem invA_init (cap : Nat) : InvA (init cap) :=
  ⟨fun t ρ => by cases ρ <;> simp [init, State.owner, roleOf], by simp [init]⟩

theorem invA_step {s s' : State} {t : Nat} {l : Label} (hi : InvA s) (h : step s t l = some s') : InvA s' := by
  cases l <;> simp only [step] at h
  · exact invA_call hi h
  · exact invA_act hi h
  · exact invA_spurious hi h
  · exact invA_teardown hi h

theorem invA_reach {cap : Nat} {s : State} (h : Reach cap s) : InvA s := by
  induction h with
  | init => exact invA_init cap
  | step _ hs ih => exact invA_step ih hs

theorem snd_unique {s : State} (ha : InvA s) {t p : Nat} {q q0 : SPC} (hq : s.pc t = .snd q) (hp : s.pc p = .snd q0) :
    p = t ∧ q0 = q := by
  have := ha.unique (ρ := .snd) (by rw [hp]; rfl) (by rw [hq]; rfl)
  subst this; rw [hq] at hp; cases hp; exact ⟨rfl, rfl⟩

def LRI (s : State) : Prop := LeftRightB.Inv apL s.lr (fun t => lrpc (s.pc t))

theorem lrpc_upd (pc : Nat → PC) (t : Nat) (p : PC) :
    (fun u => lrpc (upd pc t p u)) = upd (fun u => lrpc (pc u)) t (lrpc p) := by
  funext u; simp only [upd_apply]; split <;> rfl

theorem lri_step {s s' : State} {t : Nat} {p : PC} {l : LeftRightB.Label LOp} {lr' : LSh} {p' : LPC} (hi : LRI s)
    (hst : LeftRightB.step apL s.lr t (lrpc (s.pc t)) l = some (lr', p'))
    (hlr : s'.lr = lr') (hpc : s'.pc = upd s.pc t p) (hp : lrpc p = p') : LRI s' := by
  unfold LRI at *
  rw [hlr, hpc, lrpc_upd, hp]
  exact LeftRightB.inv_step apL hi hst

theorem lri_frame {s s' : State} {t : Nat} {p : PC} (hi : LRI s) (hlr : s'.lr = s.lr)
    (hpc : s'.pc = upd s.pc t p) (hp : lrpc p = lrpc (s.pc t)) : LRI s' := by
  unfold LRI at *
  rw [hlr, hpc, lrpc_upd, hp, upd_self (fun u => lrpc (s.pc u))]; exact hi

theorem lri_rBegin {s s' : State} {t : Nat} {p : PC} (hi : LRI s) (hidle : lrpc (s.pc t) = .idle)
    (hlr : s'.lr = s.lr) (hpc : s'.pc = upd s.pc t p) (hp : lrpc p = .rLoad) : LRI s' :=
  lri_step (l := .rBegin) hi (by rw [hidle]; rfl) hlr hpc hp

theorem lri_wBegin {s s' : State} {t : Nat} {p : PC} {o : LOp} (hi : LRI s) (hidle : lrpc (s.pc t) = .idle)
    (hlr : s'.lr = s.lr) (hpc : s'.pc = upd s.pc t p) (hp : lrpc p = .wLock o) : LRI s' :=
  lri_step (l := .wBegin o) hi (by rw [hidle]; rfl) hlr hpc hp

theorem lrpc_ret (res : Res) : lrpc (.ret res) = .idle := rfl
theorem lrpc_afterScan (cap k h L m) : lrpc (afterScan cap k h L m) = .idle := by
  unfold afterScan; repeat' split
  all_goals rfl
theorem lrpc_commitPC (k h i L) : lrpc (commitPC k h i L) = .rHold i L := by
  unfold commitPC; repeat' split
  all_goals simp [lrpc, lrpcS]
theorem Quiet.lrpc {p : PC} (h : Quiet p) : lrpc p = .idle := by
  rcases h with ⟨res, rfl⟩ | ⟨q, rfl, hq⟩
  · rfl
  · cases q <;> first | rfl | cases hq
theorem QuietR.lrpc {r : Nat} {p : PC} (h : QuietR r p) : lrpc p = .idle := by
  rcases h with ⟨res, rfl⟩ | ⟨q, rfl, hq⟩
  · rfl
  · cases q <;> first | rfl | cases hq

theorem lri_idle {s s' : State} {t : Nat} {p : PC} (hi : LRI s) (hq : lrpc (s.pc t) = .idle)
    (hpc : s'.pc = upd s.pc t p)
    (hp : lrpc p = .idle := by first | rfl | exact Quiet.lrpc (by quiet_tac) | exact QuietR.lrpc (by quietR_tac))
    (hlr : s'.lr = s.lr := by rfl) : LRI s' :=
  lri_frame hi hlr hpc (hp.trans hq.symm)

theorem lri_actS {s s' : State} {t : Nat} {p : SPC} (hi : LRI s) (hpc : s.pc t = .snd p)
    (h : actS s t p = some s') : LRI s' := by
  cases p
  case sHead k => cases h; exact lri_rBegin hi (by rw [hpc]; rfl) rfl rfl rfl
  case aFence x => cases h; exact lri_rBegin hi (by rw [hpc]; rfl) rfl rfl rfl
  case sEnter k h0 p =>
    simp only [actS, stepSEnter] at h
    split at h
    · cases h
    · split at h
      · cases h
      · rename_i lr' p' hst
        split at h <;> cases h
        · exact lri_step hi (by rw [hpc]; exact hst) rfl rfl (lrpc_commitPC _ _ _ _)
        · exact lri_step hi (by rw [hpc]; exact hst) rfl rfl rfl
  case sScan k h0 i done todo m =>
    open_actS h <;> exact lri_frame hi rfl rfl (by rw [hpc]; simp [lrpc, lrpcS])
  case sHead2 k i L m => cases h; exact lri_frame hi rfl rfl (by rw [hpc]; rfl)
  case sExit k h0 i L m =>
    simp only [actS, stepSExit] at h
    split at h
    · cases h
    · rename_i lr' p' hst
      cases h
      have hp' : p' = .idle := by
        simp only [LeftRightB.step] at hst; cases hst; rfl
      subst hp'
      exact lri_step hi (by rw [hpc]; exact hst) rfl rfl (lrpc_afterScan _ _ _ _ _)
  all_goals open_actS h <;> exact lri_idle hi (by rw [hpc]; rfl) rfl

theorem lri_actR {s s' : State} {t r : Nat} {p : RPC} (hi : LRI s) (hpc : s.pc t = .rcv r p)
    (h : actR s t r p = some s') : LRI s' := by
  cases p
  case mLock k => open_actR h; exact lri_wBegin hi (by rw [hpc]; rfl) rfl rfl rfl
  case mMod k p =>
    simp only [actR, stepMMod] at h
    split at h
    · cases h
    · split at h
      · cases h
      · rename_i lr' p' hst
        split at h <;> cases h <;> exact lri_step hi (by rw [hpc]; exact hst) rfl rfl rfl
  all_goals open_actR h <;> exact lri_idle hi (by rw [hpc]; rfl) rfl

theorem lri_act {s s' : State} {t : Nat} (hi : LRI s) (h : act s t = some s') : LRI s' := by
  rcases act_cases h with ⟨p, hpc, h⟩ | ⟨r, p, hpc, h⟩
  · exact lri_actS hi hpc h
  · exact lri_actR hi hpc h

theorem lrpc_free {p : PC} (h : isFree p = true) : lrpc p = .idle := by
  cases p <;> simp_all [isFree, lrpc]

theorem entryS_lrpc {q : SPC} (h : entryS q = true) : lrpc (.snd q) = .idle ∨ lrpc (.snd q) = .rLoad := by
  unfold entryS at h; split at h <;> first | exact Or.inl rfl | exact Or.inr rfl | cases h

theorem entryR_lrpc {r : Nat} {q : RPC} (h : entryR q = true) : lrpc (.rcv r q) = .idle := by
  cases q <;> first | rfl | cases h

theorem lri_call {s s' : State} {t : Nat} {op : Op} (hi : LRI s) (h : stepCall s t op = some s') : LRI s' := by
  obtain ⟨hfree, e⟩ := call_eff h
  have hidle := lrpc_free hfree
  cases e with
  | sender q a _ hq =>
    rcases entryS_lrpc hq with e | e
    · exact lri_frame hi rfl rfl (e.trans hidle.symm)
    · exact lri_rBegin hi hidle rfl rfl e
  | receiver r q al tn _ hq _ _ => exact lri_frame hi rfl rfl ((entryR_lrpc hq).trans hidle.symm)
  | ret res | convS _ | convR r _ => exact lri_frame hi rfl rfl hidle.symm

theorem lri_spurious {s s' : State} {t : Nat} (hi : LRI s) (h : stepSpurious s t = some s') : LRI s' := by
  rcases spurious_cases h with ⟨x, hpc, rfl, _⟩ | ⟨r, x, hpc, rfl, _⟩ <;> exact lri_idle hi (by rw [hpc]; rfl) rfl

theorem lri_teardown {s s' : State} (hi : LRI s) (h : stepTeardown s = some s') : LRI s' := by
  cases (teardown_eff h).1
  exact hi

theorem lri_init (cap : Nat) : LRI (init cap) := by
  unfold LRI
  constructor <;> simp [init, lrpc, LeftRightB.onCopy, LeftRightB.inW, LeftRightB.stageOK]

theorem lri_reach {cap : Nat} {s : State} (h : Reach cap s) : LRI s := by
  induction h with
  | init => exact lri_init cap
  | step _ hs ih =>
    rename_i l _
    cases l <;> simp only [step] at hs
    · exact lri_call ih hs
    · exact lri_act ih hs
    · exact lri_spurious ih hs
    · exact lri_teardown ih hs

end Fv.Chan.SpmcB
