import Fv.Lemmas.CacheOps
/-
How a property of the cache state gets through the loops of the model.  A property is a preorder
`R t s` ("`t` is later than `s`") that holds of the steps no property sees (`Rel`); the passes and
multi-key loops compose such steps with a few visible ones — a hit re-binding its key (`Touch`), a
binding leaving the map (`Drop`) — so `R` holds of a pass once it holds of the visible steps in it
(the `_lift` theorems; `stepOp_lift` for a whole call).  `MStep` is the instance "only removals happened".
-/
namespace Fv.Props.C12
open Fv.Cache

/-- the value ids a call may write -/
def writesOf : Op → List Nat
  | .insert _ _ vid _ => [vid]
  | .insertTtl _ _ vid _ _ => [vid]
  | .orInsert _ vid _ => [vid]
  | .compute _ vid => [vid]
  | .fetchWith _ vid _ => [vid]
  | .multiInsert items => items.map (fun x => x.2.1)
  | _ => []

end Fv.Props.C12
namespace Fv.Cache
variable {P : Type}
variable (cfg : Cfg) (ops : PolicyOps P) (o : Oracle)

structure Rel (R : State P → State P → Prop) : Prop where
  refl : ∀ s, R s s
  trans : ∀ {a b c}, R a b → R b c → R a c
  quiet : ∀ {t s}, Quiet t s → R t s

variable {R : State P → State P → Prop}

theorem Rel.foldl {α} (h : Rel R) (f : State P → α → State P) :
    ∀ (l : List α) (s : State P), (∀ s a, a ∈ l → R (f s a) s) → R (l.foldl f s) s
  | [], s, _ => h.refl s
  | a :: rest, s, hf =>
    h.trans (h.foldl f rest (f s a) (fun s b hb => hf s b (List.mem_cons_of_mem _ hb))) (hf s a List.mem_cons_self)

def AdmitNominates (ops : PolicyOps P) (k : Nat) : Prop :=
  ∃ p k0 c vs, (ops.admit p k0 c).2 = .admitAndEvict vs ∧ k ∈ vs

def EvictNominates (ops : PolicyOps P) (k : Nat) : Prop :=
  ∃ p n hint p' vs freed, ops.evict p n hint = some (p', vs, freed) ∧ k ∈ vs

/-- needs a TTI: the sampling pass runs in no other configuration -/
def ExpiredIn (cfg : Cfg) (s : State P) (k : Nat) : Prop :=
  cfg.tti.isSome ∧ ∃ e, lookup s.map k = some e ∧ e.isExpired s.now cfg.tti = true

theorem applyWrite_lift (h : Rel R)
    (hev : ∀ s vs, (∀ k ∈ vs, AdmitNominates ops k) → R (s.evictAll cfg ops vs) s)
    (s : State P) (i : Nat) (w : Nat × Nat) : R (s.applyWrite cfg ops i w) s := by
  rw [applyWrite_eq]
  have hq := h.quiet (quiet_polAdmit ops s i w.1 w.2)
  have hd := polAdmit_decision ops s i w.1 w.2
  split
  · next vs hvs =>
    obtain ⟨p, hp⟩ := hd vs hvs
    exact h.trans (hev _ vs (fun k hk => ⟨p, w.1, w.2, vs, hp, hk⟩)) hq
  · exact hq

theorem performShard_lift (h : Rel R)
    (hev : ∀ s vs, (∀ k ∈ vs, AdmitNominates ops k) → R (s.evictAll cfg ops vs) s)
    (s : State P) (i limit : Nat) : R (s.performShard cfg ops o i limit) s := by
  have hw : ∀ (ws : List (Nat × Nat)) (s : State P), R (State.applyWrites cfg ops i s ws) s := by
    intro ws
    induction ws with
    | nil => exact h.refl
    | cons w rest ih => intro s; exact h.trans (ih _) (applyWrite_lift cfg ops h hev s i w)
  unfold State.performShard
  split
  · exact h.refl s
  · refine h.trans (h.quiet (quiet_applyAccesses ops i _ _)) (h.trans (hw _ _) ?_)
    exact h.trans (h.quiet (quiet_applyAccesses ops i _ _))
      (h.quiet (quiet_modAux s i _ _ (fun _ => rfl)))

theorem flush_lift (h : Rel R)
    (hev : ∀ s vs, (∀ k ∈ vs, AdmitNominates ops k) → R (s.evictAll cfg ops vs) s)
    (s : State P) : R (s.flush cfg ops o) s := by
  unfold State.flush
  split
  · exact h.foldl _ _ _ (fun s i _ => performShard_lift cfg ops o h hev s i U64)
  · exact h.refl s

theorem opportunistic_lift (h : Rel R)
    (hev : ∀ s vs, (∀ k ∈ vs, AdmitNominates ops k) → R (s.evictAll cfg ops vs) s)
    (s : State P) (k : Nat) : R (s.opportunistic cfg ops o k) s := by
  unfold State.opportunistic
  split
  · exact performShard_lift cfg ops o h hev s _ _
  · exact h.refl s

theorem mem_orderBy {hint keys : List Nat} {k : Nat} : k ∈ orderBy hint keys ↔ k ∈ keys := by
  unfold orderBy
  simp only [List.mem_append, List.mem_eraseDups, List.mem_filter, Bool.not_eq_true',
    List.contains_eq_mem, decide_eq_true_eq, decide_eq_false_iff_not]
  by_cases h : k ∈ hint <;> simp [h]

theorem cleanupTtl_lift (h : Rel R) (s : State P) (i : Nat)
    (hw : ∀ w', R (s.modAux i (fun a => { a with wheel := some w' })) s)
    (hd : ∀ w t s' k e, whL s.aux i = some w → k ∈ w.advance.2 →
      Drop cfg t s' k e .expired true true (fun _ => False) → R t s') :
    R (s.cleanupTtl cfg ops o i) s := by
  unfold State.cleanupTtl
  split
  · exact h.refl s
  · next w hwl =>
    rcases hr : w.advance with ⟨w', fired⟩
    refine h.trans (h.foldl _ _ _ (fun s' k hk => ?_)) (hw w')
    rcases ttlRemove_cases cfg ops i s' k with he | ⟨e, he⟩
    · rw [he]; exact h.refl s'
    · exact hd w _ s' k e hwl (by rw [hr]; simpa using (List.mem_filter.1 hk).2) he

theorem cleanupTti_lift (h : Rel R) (s : State P) (i : Nat)
    (hd : ∀ t s' k e, ExpiredIn cfg s k → Drop cfg t s' k e .expired true true (fun j => j = i) → R t s') :
    R (s.cleanupTti cfg ops o i) s := by
  unfold State.cleanupTti
  split
  · exact h.refl s
  · next d hd' =>
    refine h.foldl _ _ _ (fun s' k hk => ?_)
    rcases ttiRemove_cases cfg ops i s' k with he | ⟨e, he⟩
    · rw [he]; exact h.refl s'
    · refine hd _ s' k e ⟨by rw [hd']; rfl, ?_⟩ he
      have hk' := (List.mem_filter.1 (mem_orderBy.1 hk)).2
      split at hk'
      · next e0 he0 => exact ⟨e0, he0, hk'⟩
      · cases hk'

theorem polEvict_victims (s : State P) (i n : Nat) (h : List Nat) :
    ∀ k ∈ (s.polEvict ops i n h).2.1, EvictNominates ops k := by
  unfold State.polEvict
  split
  · next a _ =>
    split
    · next p' vs freed he => intro k hk; exact ⟨a.policy, n, h, p', vs, freed, he, hk⟩
    · intro k hk; cases hk
  · intro k hk; cases hk

theorem cleanupCapacity_cases (s : State P) (i : Nat) :
    (s.met.currentCost ≤ cfg.capacity ∧ s.cleanupCapacity cfg ops o i = s) ∨
    ∃ s1 victims released, cfg.capacity < s.met.currentCost ∧
      s.polEvict ops i (s.met.currentCost - cfg.capacity) (o.evictHint.getD i []) = (s1, victims, released) ∧
      Quiet s1 s ∧ (∀ k ∈ victims, EvictNominates ops k) ∧
      (victims = [] ∧ s.cleanupCapacity cfg ops o i = s1 ∨
       victims ≠ [] ∧ ∃ m : Metrics, m.currentCost = subW (victims.foldl (State.capRemove cfg i) s1).met.currentCost released ∧
         s.cleanupCapacity cfg ops o i = { victims.foldl (State.capRemove cfg i) s1 with met := m }) := by
  unfold State.cleanupCapacity
  dsimp only
  split
  · next h => exact .inl ⟨h, rfl⟩
  · next h =>
    have hq := quiet_polEvict ops s i (s.met.currentCost - cfg.capacity) (o.evictHint.getD i [])
    have hv := polEvict_victims ops s i (s.met.currentCost - cfg.capacity) (o.evictHint.getD i [])
    rcases hr : s.polEvict ops i (s.met.currentCost - cfg.capacity) (o.evictHint.getD i []) with ⟨s1, victims, released⟩
    rw [hr] at hq hv
    refine .inr ⟨s1, victims, released, Nat.lt_of_not_le h, rfl, hq, hv, ?_⟩
    cases victims with
    | nil => exact .inl ⟨rfl, rfl⟩
    | cons v vs => exact .inr ⟨List.cons_ne_nil _ _, _, rfl, rfl⟩

theorem capRemoves_lift (h : Rel R) (i : Nat) (vs : List Nat) (s : State P)
    (hd : ∀ t s' k e, k ∈ vs → Drop cfg t s' k e .capacity false true (fun _ => False) → R t s') :
    R (vs.foldl (State.capRemove cfg i) s) s := by
  refine h.foldl _ vs s (fun s' k hk => ?_)
  rcases capRemove_cases cfg i s' k with he | ⟨e, he⟩
  · rw [he]; exact h.refl s'
  · exact hd _ s' k e hk he

/-- `current_cost` changes by what the policy reports, so `R` must not look at it -/
theorem cleanupCapacity_lift (h : Rel R) (s : State P) (i : Nat)
    (hd : ∀ t s' k e, EvictNominates ops k → Drop cfg t s' k e .capacity false true (fun _ => False) → R t s')
    (hmet : ∀ (s : State P) (m : Metrics), R { s with met := m } s) :
    R (s.cleanupCapacity cfg ops o i) s := by
  rcases cleanupCapacity_cases cfg ops o s i with ⟨_, he⟩ | ⟨s1, victims, released, _, _, hq, hv, he⟩
  · rw [he]; exact h.refl s
  · rcases he with ⟨_, he⟩ | ⟨_, m, _, he⟩ <;> rw [he]
    · exact h.quiet hq
    · exact h.trans (h.trans (hmet _ m) (capRemoves_lift cfg h i victims s1 (fun t s' k e hk => hd t s' k e (hv k hk))))
        (h.quiet hq)

theorem runMaintenance_lift (h : Rel R)
    (hev : ∀ s vs, (∀ k ∈ vs, AdmitNominates ops k) → R (s.evictAll cfg ops vs) s)
    (hw : ∀ (s : State P) i w', R (s.modAux i (fun a => { a with wheel := some w' })) s)
    (hd : ∀ t s k e r sub X, r = .capacity ∨ r = .expired → Drop cfg t s k e r sub true X → R t s)
    (hmet : ∀ (s : State P) (m : Metrics), R { s with met := m } s) (s : State P) :
    R (s.runMaintenance cfg ops o) s := by
  unfold State.runMaintenance
  refine h.foldl _ _ _ (fun s i _ => ?_)
  refine h.trans (cleanupCapacity_lift cfg ops o h _ i (fun t s' k e _ => hd t s' k e _ _ _ (.inl rfl)) hmet) ?_
  refine h.trans (cleanupTti_lift cfg ops o h _ i (fun t s' k e _ => hd t s' k e _ _ _ (.inr rfl))) ?_
  exact h.trans (cleanupTtl_lift cfg ops o h _ i (hw _ i) (fun _ t s' k e _ _ => hd t s' k e _ _ _ (.inr rfl)))
    (performShard_lift cfg ops o h hev s i cfg.drainLimit)

/-- a hit on an unexpired binding is the only visible step of the read paths -/
structure ReadRel (cfg : Cfg) (R : State P → State P → Prop) : Prop extends Rel R where
  touch : ∀ {t s k e}, lookup s.map k = some e → e.isExpired s.now cfg.tti = false →
    Touch t s k (e.touch s.now cfg.tti) → R t s

def HitX (X : State P → Entry → Prop) (R : State P → State P → Prop) (s : State P) (p : Nat × Nat) : Prop :=
  ∃ t e, R t s ∧ lookup t.map p.1 = some e ∧ X t e ∧ e.vid = p.2

abbrev Hit (cfg : Cfg) (R : State P → State P → Prop) (s : State P) (p : Nat × Nat) : Prop :=
  HitX (fun t e => e.isExpired t.now cfg.tti = false) R s p

theorem HitX.trans {X : State P → Entry → Prop} (h : Rel R) {s' s : State P} {p : Nat × Nat} (hp : HitX X R s' p)
    (hr : R s' s) : HitX X R s p := by
  obtain ⟨t, e, h1, h2⟩ := hp
  exact ⟨t, e, h.trans h1 hr, h2⟩

def ReadsOkX (X : State P → Entry → Prop) (R : State P → State P → Prop) (s : State P) (ks : List Nat)
    (found : List (Nat × Nat)) (r : State P × List (Nat × Nat)) : Prop :=
  R r.1 s ∧ ∀ p ∈ r.2, p ∈ found ∨ (p.1 ∈ ks ∧ HitX X R s p)

abbrev ReadsOk (cfg : Cfg) (R : State P → State P → Prop) (s : State P) (ks : List Nat) (found : List (Nat × Nat))
    (r : State P × List (Nat × Nat)) : Prop :=
  ReadsOkX (fun t e => e.isExpired t.now cfg.tti = false) R s ks found r

theorem ReadsOkX.skip {X : State P → Entry → Prop} {s : State P} {k : Nat} {ks : List Nat} {found : List (Nat × Nat)}
    {r : State P × List (Nat × Nat)} (h : ReadsOkX X R s ks found r) : ReadsOkX X R s (k :: ks) found r :=
  ⟨h.1, fun p hp => (h.2 p hp).imp_right (fun h => ⟨List.mem_cons_of_mem _ h.1, h.2⟩)⟩

theorem ReadsOkX.step {X : State P → Entry → Prop} (h : Rel R) {s t : State P} {k : Nat} {ks : List Nat}
    {found : List (Nat × Nat)} {o : Option Nat} {r : State P × List (Nat × Nat)} (hts : R t s)
    (ho : ∀ v, o = some v → HitX X R s (k, v))
    (hr : ReadsOkX X R t ks (found ++ (o.map (fun v => (k, v))).toList) r) : ReadsOkX X R s (k :: ks) found r := by
  refine ⟨h.trans hr.1 hts, fun p hp => ?_⟩
  rcases hr.2 p hp with hf | ⟨hk, hh⟩
  · rcases List.mem_append.1 hf with hf | hf
    · exact Or.inl hf
    · cases o with
      | none => cases hf
      | some v => rw [List.mem_singleton.1 hf]; exact Or.inr ⟨List.mem_cons_self, ho v rfl⟩
  · exact Or.inr ⟨List.mem_cons_of_mem _ hk, hh.trans h hts⟩

theorem get_lift {cfg : Cfg} (h : ReadRel cfg R) (s : State P) (k : Nat) :
    R (s.get cfg k).1 s ∧ ∀ v, (s.get cfg k).2 = some v → Hit cfg R s (k, v) := by
  rcases get_cases cfg s k with ⟨hg, _⟩ | ⟨e, he, hx, hg⟩
  · rw [hg]; exact ⟨h.quiet (quiet_miss s 1), fun v hv => nomatch hv⟩
  · rw [hg]
    refine ⟨h.trans (h.quiet (quiet_hit _ 1)) (h.touch he hx (onHit_touch cfg s k e)), ?_⟩
    intro v hv
    cases hv
    exact ⟨s, e, h.refl s, he, hx, rfl⟩

theorem mem_addFound {found : List (Nat × Nat)} {k v : Nat} {p : Nat × Nat} (h : p ∈ addFound found k v) :
    p ∈ found ∨ p = (k, v) := by
  unfold addFound at h
  split at h
  · exact Or.inl h
  · simpa using h

theorem ReadsOkX.hit {cfg : Cfg} (h : ReadRel cfg R) {s t : State P} {k : Nat} {e : Entry} {ks : List Nat}
    {found : List (Nat × Nat)} {r : State P × List (Nat × Nat)} (he : lookup s.map k = some e)
    (hx : e.isExpired s.now cfg.tti = false) (ht : Touch t s k (e.touch s.now cfg.tti))
    (hr : ReadsOk cfg R t ks (addFound found k e.vid) r) : ReadsOk cfg R s (k :: ks) found r := by
  have hts := h.touch he hx ht
  refine ⟨h.trans hr.1 hts, fun p hp => ?_⟩
  rcases hr.2 p hp with hf | ⟨hk, hh⟩
  · rcases mem_addFound hf with hf | rfl
    · exact Or.inl hf
    · exact Or.inr ⟨List.mem_cons_self, s, e, h.refl s, he, hx, rfl⟩
  · exact Or.inr ⟨List.mem_cons_of_mem _ hk, hh.trans h.toRel hts⟩

theorem multigetSync_lift {cfg : Cfg} (h : ReadRel cfg R) :
    ∀ (ks : List Nat) (s : State P) (found : List (Nat × Nat)), ReadsOk cfg R s ks found (multigetSync cfg s ks found) := by
  intro ks
  induction ks with
  | nil => intro s found; exact ⟨h.refl s, fun p hp => Or.inl hp⟩
  | cons k rest ih =>
    intro s found
    unfold multigetSync
    split
    · next e he =>
      split
      · exact (ih s found).skip
      · next hx => exact ReadsOkX.hit h he (by simpa using hx) (onHit_touch cfg s k e) (ih _ _)
    · exact (ih s found).skip

theorem multigetAsync_lift {cfg : Cfg} (h : ReadRel cfg R) :
    ∀ (ks : List Nat) (s : State P) (found : List (Nat × Nat)),
      ReadsOk cfg R s ks found (multigetAsync cfg ops s ks found) := by
  intro ks
  induction ks with
  | nil => intro s found; exact ⟨h.refl s, fun p hp => Or.inl hp⟩
  | cons k rest ih =>
    intro s found
    unfold multigetAsync
    split
    · next e he =>
      split
      · exact (ih s found).skip
      · next hx =>
        exact ReadsOkX.hit h he (by simpa using hx)
          (t := State.polAccess ops { s with map := put s.map k (e.touch s.now cfg.tti) } (cfg.shardOf k) k e.cost)
          ⟨⟨rfl, rfl, rfl, rfl, rfl⟩, rfl⟩ (ih _ _)
    · exact (ih s found).skip

theorem multiget_lift {cfg : Cfg} (h : ReadRel cfg R) (p0 : P) (s : State P) (a : Bool) (ks : List Nat) :
    ∃ found, (stepOp cfg ops p0 o s (.multiget a ks)).2 = .pairs found ∧
      ReadsOk cfg R s.resetLogs ks [] ((stepOp cfg ops p0 o s (.multiget a ks)).1, found) := by
  have hq : ReadsOk cfg R s.resetLogs ks [] (if a then multigetAsync cfg ops s.resetLogs (groupByShard cfg ks) []
      else multigetSync cfg s.resetLogs ks []) := by
    cases a with
    | false => exact multigetSync_lift h ks s.resetLogs []
    | true =>
      obtain ⟨h1, h2⟩ := multigetAsync_lift ops h (groupByShard cfg ks) s.resetLogs []
      refine ⟨h1, fun p hp => (h2 p hp).imp_right (fun hk => ⟨?_, hk.2⟩)⟩
      obtain ⟨i, _, hi⟩ := List.mem_flatMap.1 (show p.1 ∈ groupByShard cfg ks from hk.1)
      exact (List.mem_filter.1 hi).1
  simp only [stepOp]
  generalize (if a = true then multigetAsync cfg ops s.resetLogs (groupByShard cfg ks) []
      else multigetSync cfg s.resetLogs ks []) = q at hq
  obtain ⟨s', found⟩ := q
  refine ⟨found, rfl, ?_, hq.2⟩
  dsimp only
  split
  · exact h.trans (h.quiet ((quiet_miss _ _).trans (quiet_hit _ _))) hq.1
  · exact h.trans (h.quiet (quiet_hit _ _)) hq.1

theorem snapDrive_lift {cfg : Cfg} (h : ReadRel cfg R) :
    ∀ (ks : List Nat) (s : State P) (inter : Option (Nat × Nat)) (acc : List (Nat × Nat)),
      (inter ≠ none → ∀ (s : State P) d, R { s with now := s.now + d } s) →
      ReadsOk cfg R s ks acc (snapDrive cfg s ks inter acc) := by
  intro ks
  induction ks with
  | nil =>
    intro s inter acc htick
    rw [snapDrive_nil]
    refine ⟨?_, fun p hp => Or.inl hp⟩
    rcases tickS_cases s inter acc.length with ht | ⟨a, d, hi, ht⟩
    · rw [ht]; exact h.refl s
    · rw [ht]; exact htick (by rw [hi]; exact fun h => nomatch h) s d
  | cons k rest ih =>
    intro s inter acc htick
    rw [snapDrive_cons]
    have ht : R (tickS s inter acc.length).1 s ∧
        ((tickS s inter acc.length).2 ≠ none → ∀ (s : State P) d, R { s with now := s.now + d } s) := by
      rcases tickS_cases s inter acc.length with ht | ⟨a, d, hi, ht⟩
      · rw [ht]; exact ⟨h.refl s, htick⟩
      · rw [ht]; exact ⟨htick (by rw [hi]; exact fun h => nomatch h) s d, fun h => absurd rfl h⟩
    generalize tickS s inter acc.length = q at ht
    obtain ⟨s1, inter1⟩ := q
    obtain ⟨hg, hv⟩ := get_lift h s1 k
    exact ReadsOkX.step h.toRel (h.trans hg ht.1) (fun v hv' => (hv v hv').trans h.toRel ht.1) (ih _ _ _ ht.2)

theorem multiRemoveLoop_lift (h : Rel R) :
    ∀ (ks : List Nat) (s : State P) (acc : List (Nat × Nat)),
      (∀ t s k e, k ∈ ks → Drop cfg t s k e .invalidated true true (fun j => j = cfg.shardOf k) → R t s) →
      ReadsOkX (fun _ _ => True) R s ks acc (multiRemoveLoop cfg ops s ks acc) := by
  intro ks
  induction ks with
  | nil => intro s acc _; exact ⟨h.refl s, fun p hp => Or.inl hp⟩
  | cons k rest ih =>
    intro s acc hd
    rw [multiRemoveLoop_cons]
    refine ReadsOkX.step h ?_ ?_ (ih _ _ (fun t s k e hk => hd t s k e (List.mem_cons_of_mem _ hk)))
    · rcases removeKey_cases cfg ops s k with ⟨_, he⟩ | ⟨e, he, _⟩
      · rw [he]; exact h.refl s
      · exact hd _ s k e List.mem_cons_self he
    · intro v hv
      rcases removeKey_cases cfg ops s k with ⟨_, he⟩ | ⟨e, he, hv'⟩
      · rw [he] at hv; cases hv
      · rw [hv'] at hv; cases hv; exact ⟨s, e, h.refl s, he.was, trivial, rfl⟩

/-- calls that run `perform_shard_maintenance` (admission-driven eviction) or the capacity pass -/
def OpDrains : Op → Prop
  | .insert false _ _ _ => True
  | .insertTtl false _ _ _ _ => True
  | .runMaintenance => True
  | .metrics => True
  | .iter _ _ => True
  | .iterSnapshot _ => True
  | .snapshot => True
  | _ => False

def Removes : Op → Nat → Prop
  | .remove k', k | .invalidate k', k => k' = k
  | .multiRemove ks, k => k ∈ ks
  | _, _ => False

/-- calls that are not made of the visible steps below -/
def Special : Op → Prop
  | .clear | .restore | .release | .gate _ | .runMaintenance | .snapshot => True
  | _ => False

/-- `hrb`: a binding changed in place by `compute` or pinned by `hold`; `hnow`: the clock moved by an iterator script -/
theorem stepOp_lift {cfg : Cfg} (h : ReadRel cfg R) (p0 : P) (s : State P) (op : Op)
    (hput : ∀ {t s k e}, Put t s k e → e.vid ∈ Fv.Props.C12.writesOf op → R t s)
    (hrb : ∀ {t s k e e'}, lookup s.map k = some e → e'.cost = e.cost → (e'.vid = e.vid ∨ e'.vid ∈ Fv.Props.C12.writesOf op) →
      Touch t s k e' → R t s)
    (hdrop : ∀ {t s k e}, Drop cfg t s k e .invalidated true true (fun j => j = cfg.shardOf k) → Removes op k → R t s)
    (hev : OpDrains op → ∀ s vs, (∀ k ∈ vs, AdmitNominates ops k) → R (s.evictAll cfg ops vs) s)
    (hnow : ∀ (s : State P) n, R { s with now := n } s)
    (hsp : Special op → R (stepOp cfg ops p0 o s op).1 s.resetLogs) :
    R (stepOp cfg ops p0 o s op).1 s.resetLogs := by
  have hins : ∀ (a : Bool) k e td, (a = false → OpDrains op) → e.vid ∈ Fv.Props.C12.writesOf op →
      R (if a then s.resetLogs.insertCore cfg k e td true
         else (s.resetLogs.insertCore cfg k e td true).opportunistic cfg ops o k) s.resetLogs := by
    intro a k e td hd hw
    obtain ⟨_, hp⟩ := insertCore_put cfg s.resetLogs k e td true
    cases a
    · exact h.trans (opportunistic_lift cfg ops o h.toRel (hev (hd rfl)) _ k) (hput hp hw)
    · exact hput hp hw
  have hrem : ∀ k, Removes op k → R (s.resetLogs.removeKey cfg ops k).1 s.resetLogs := by
    intro k hk
    rcases removeKey_cases cfg ops s.resetLogs k with ⟨_, he⟩ | ⟨e, hd, _⟩
    · rw [he]; exact h.refl _
    · exact hdrop hd hk
  cases op with
  | get k => exact (get_lift h _ k).1
  | peek k => exact h.refl _
  | occupied k => exact h.refl _
  | insert a k vid cost => exact hins a k (Entry.mk' vid cost _ _ _) _ (fun ha => ha ▸ trivial) (.head _)
  | insertTtl a k vid cost ttl => exact hins a k (Entry.mkCustom vid cost _ _ _) _ (fun ha => ha ▸ trivial) (.head _)
  | remove k => exact hrem k rfl
  | invalidate k => exact hrem k rfl
  | advance d => exact hnow _ _
  | metrics => exact flush_lift cfg ops o h.toRel (hev trivial) _
  | orInsert k vid cost =>
    rcases orInsert_cases cfg s.resetLogs k vid cost with ⟨e, _, heq⟩ | ⟨_, _, hp⟩
    · show R (s.resetLogs.orInsert cfg k vid cost).1 _
      rw [heq]; exact h.refl _
    · exact hput hp (.head _)
  | compute k vid =>
    rcases compute_cases s.resetLogs k vid with ⟨_, heq⟩ | ⟨e, _, _, heq⟩ | ⟨e, he, _, heq⟩ <;>
      (show R (s.resetLogs.compute k vid).1 _; rw [heq])
    · exact h.refl _
    · exact h.refl _
    · exact hrb (e' := { e with vid := vid }) he rfl (Or.inr (.head _)) ⟨⟨rfl, rfl, rfl, rfl, rfl⟩, rfl⟩
  | fetchWith k vid cost =>
    rcases fetchWith_cases cfg s.resetLogs k vid cost with ⟨e, he, hx, heq⟩ | ⟨_, heq⟩ | ⟨e, g, _, _, _, _, heq⟩ <;>
      (show R (s.resetLogs.fetchWith cfg k vid cost).1 _; rw [heq])
    · exact h.trans (h.quiet (quiet_hit _ 1)) (h.touch he hx (onHit_touch cfg _ k e))
    · exact h.trans (hput (loadInsert_put cfg _ k vid cost) (.head _)) (h.quiet (quiet_miss _ 1))
    · exact hput (loadInsert_put cfg _ k vid cost) (.head _)
  | multiget a ks =>
    obtain ⟨_, _, h', _⟩ := multiget_lift ops o h p0 s a ks
    exact h'
  | multiInsert items =>
    exact h.foldl _ items _ (fun s x hx => (insertCore_put cfg s x.1 _ _ false).elim (fun _ hp => hput hp (List.mem_map.2 ⟨x, hx, rfl⟩)))
  | multiRemove ks =>
    exact (multiRemoveLoop_lift cfg ops h.toRel ks _ [] (fun _ _ _ _ hk hd => hdrop hd hk)).1
  | iter batch inter => exact h.trans (hnow (s.resetLogs.flush cfg ops o) _) (flush_lift cfg ops o h.toRel (hev trivial) _)
  | iterSnapshot inter =>
    exact h.trans (snapDrive_lift h _ _ _ _ (fun _ _ _ => hnow _ _)).1 (flush_lift cfg ops o h.toRel (hev trivial) _)
  | hold k =>
    rw [stepOp_hold]
    refine h.trans ?_ (get_lift h _ k).1
    rcases holdOf_cases k (s.resetLogs.get cfg k) with he | ⟨e, he, ht⟩
    · rw [he]; exact h.refl _
    · exact hrb (e' := { e with pinned := true }) he rfl (Or.inl rfl) ht
  | clear | restore | release | gate _ | runMaintenance | snapshot => exact hsp trivial

structure MStep (C X : Nat → Prop) (t s : State P) : Prop where
  now : t.now = s.now
  snap : t.snap = s.snap
  sub : t.map.Sublist s.map
  look : ∀ k, lookup t.map k = lookup s.map k ∨ (lookup t.map k = none ∧ C k)
  wheel : ∀ j, ¬ X j → whL t.aux j = whL s.aux j

theorem MStep.mono {C C' X X' : Nat → Prop} {t s : State P} (hC : ∀ k, C k → C' k) (hX : ∀ j, X j → X' j)
    (h : MStep C X t s) : MStep C' X' t s :=
  ⟨h.now, h.snap, h.sub, fun k => (h.look k).imp_right (fun h => ⟨h.1, hC k h.2⟩),
    fun j hj => h.wheel j (fun hx => hj (hX j hx))⟩

theorem MStep.rel (C X : Nat → Prop) : Rel (MStep (P := P) C X) where
  refl := fun _ => ⟨rfl, rfl, List.Sublist.refl _, fun _ => Or.inl rfl, fun _ _ => rfl⟩
  trans := fun h1 h2 =>
    ⟨h1.now.trans h2.now, h1.snap.trans h2.snap, h1.sub.trans h2.sub,
      fun k => by
        rcases h1.look k with h | h
        · exact (h2.look k).imp (h.trans ·) (fun h' => ⟨h.trans h'.1, h'.2⟩)
        · exact Or.inr h,
      fun j hj => (h1.wheel j hj).trans (h2.wheel j hj)⟩
  quiet := fun h => ⟨h.now, h.snap, h.map ▸ List.Sublist.refl _, fun _ => Or.inl (by rw [h.map]), fun j _ => h.wheel j⟩

theorem MStep.of_drop {cfg : Cfg} {C X X' : Nat → Prop} {t s : State P} {k : Nat} {e : Entry} {r : Reason}
    {sub told : Bool} (h : Drop cfg t s k e r sub told X') (hC : C k) (hX : ∀ j, X' j → X j) : MStep C X t s := by
  refine ⟨h.now, h.snap, by rw [h.map]; exact erase_sublist _ _, fun k' => ?_, fun j hj => h.wheel j (fun hx => hj (hX j hx))⟩
  rw [h.map, lookup_erase]
  split
  · next hk => exact Or.inr ⟨rfl, hk ▸ hC⟩
  · exact Or.inl rfl

theorem evictVictims_mstep :
    ∀ (vs : List Nat) (s : State P) (rel : Nat) (ns : List Notif),
      MStep (fun k => k ∈ vs) (fun _ => False) (State.evictVictims cfg ops s vs rel ns).1 s := by
  intro vs
  induction vs with
  | nil => intro s rel ns; exact (MStep.rel _ _).refl s
  | cons v rest ih =>
    intro s rel ns
    rw [evictVictims_cons]
    refine (MStep.rel _ _).trans ((ih _ _ _).mono (fun _ h => List.mem_cons_of_mem _ h) (fun _ h => h)) ?_
    rcases evictVictim_cases cfg ops s v with he | ⟨e, he, _⟩
    · rw [he]; exact (MStep.rel _ _).refl s
    · exact MStep.of_drop he List.mem_cons_self (fun _ h => h)

theorem evictAll_mstep {C : Nat → Prop} (s : State P) (vs : List Nat) (hv : ∀ k ∈ vs, C k) :
    MStep C (fun _ => False) (s.evictAll cfg ops vs) s := by
  unfold State.evictAll
  rw [notifyAll_eq]
  have h := (evictVictims_mstep cfg ops vs s 0 []).mono hv (fun _ h => h)
  exact ⟨h.now, h.snap, h.sub, h.look, h.wheel⟩

theorem performShard_mstep (s : State P) (i limit : Nat) :
    MStep (AdmitNominates ops) (fun _ => False) (s.performShard cfg ops o i limit) s :=
  performShard_lift cfg ops o (MStep.rel _ _) (evictAll_mstep cfg ops) s i limit

theorem flush_mstep (s : State P) :
    MStep (AdmitNominates ops) (fun _ => False) (s.flush cfg ops o) s :=
  flush_lift cfg ops o (MStep.rel _ _) (evictAll_mstep cfg ops) s

theorem opportunistic_mstep (s : State P) (k : Nat) :
    MStep (AdmitNominates ops) (fun _ => False) (s.opportunistic cfg ops o k) s :=
  opportunistic_lift cfg ops o (MStep.rel _ _) (evictAll_mstep cfg ops) s k

theorem cleanupCapacity_mstep (s : State P) (i : Nat) :
    MStep (EvictNominates ops) (fun _ => False) (s.cleanupCapacity cfg ops o i) s :=
  cleanupCapacity_lift cfg ops o (MStep.rel _ _) s i (fun _ _ _ _ hn hd => MStep.of_drop hd hn (fun _ h => h))
    (fun _ _ => ⟨rfl, rfl, List.Sublist.refl _, fun _ => Or.inl rfl, fun _ _ => rfl⟩)

theorem modAt_eq_self {α} (f : α → α) : ∀ (l : List α) (i : Nat), (∀ a, l[i]? = some a → f a = a) → modAt l i f = l
  | [], _, _ => rfl
  | a :: rest, 0, h => by rw [modAt, h a rfl]
  | a :: rest, i + 1, h => by rw [modAt, modAt_eq_self f rest i (fun b hb => h b (by simpa using hb))]

theorem modAux_eq_self (s : State P) (i : Nat) (f : Aux P → Aux P) (hf : ∀ a, s.aux[i]? = some a → f a = a) :
    s.modAux i f = s := by
  unfold State.modAux
  rw [modAt_eq_self f s.aux i hf]

def NoEvict (ops : PolicyOps P) (s : State P) : Prop :=
  ∀ a ∈ s.aux, ∀ n hint, ∃ freed, ops.evict a.policy n hint = some (a.policy, [], freed)

theorem polEvict_noEvict {s : State P} (h : NoEvict ops s) (i n : Nat) (hint : List Nat) :
    (s.polEvict ops i n hint).2.1 = [] ∧ (s.polEvict ops i n hint).1.aux = s.aux := by
  unfold State.polEvict
  cases ha : s.aux[i]? with
  | none => exact ⟨rfl, rfl⟩
  | some a =>
    obtain ⟨freed, hf⟩ := h a (List.mem_of_getElem? ha) n hint
    simp only [hf]
    exact ⟨trivial, congrArg State.aux (modAux_eq_self s i _ (fun b hb => by rw [ha] at hb; cases hb; rfl))⟩

theorem cleanupCapacity_noEvict {s : State P} (h : NoEvict ops s) (i : Nat) :
    (s.cleanupCapacity cfg ops o i).map = s.map ∧ (s.cleanupCapacity cfg ops o i).aux = s.aux := by
  rcases cleanupCapacity_cases cfg ops o s i with ⟨_, he⟩ | ⟨s1, victims, released, _, hp, hq, _, he⟩
  · rw [he]; exact ⟨rfl, rfl⟩
  · have hv := polEvict_noEvict ops h i (s.met.currentCost - cfg.capacity) (o.evictHint.getD i [])
    rw [hp] at hv
    rcases he with ⟨_, he⟩ | ⟨hne, _⟩
    · rw [he]; exact ⟨hq.map, hv.2⟩
    · exact absurd hv.1 hne

/-- as `build_from_snapshot` leaves the shards of a cache without TTL / TTI -/
def Settled (ops : PolicyOps P) (s : State P) : Prop :=
  NoEvict ops s ∧ ∀ a ∈ s.aux, a.wheel = none ∧ a.events = [] ∧ a.batch = []

def maintShard (cfg : Cfg) (ops : PolicyOps P) (o : Oracle) (s : State P) (i : Nat) : State P :=
  (((s.performShard cfg ops o i cfg.drainLimit).cleanupTtl cfg ops o i).cleanupTti cfg ops o i).cleanupCapacity cfg ops o i

theorem maintShard_settled (htti : cfg.tti = none) {s : State P} (h : Settled ops s) (i : Nat) :
    (maintShard cfg ops o s i).map = s.map ∧ (maintShard cfg ops o s i).aux = s.aux := by
  have h1 : s.performShard cfg ops o i cfg.drainLimit = s := by
    unfold State.performShard
    cases ha : s.aux[i]? with
    | none => rfl
    | some a =>
      obtain ⟨_, he, hb⟩ := h.2 a (List.mem_of_getElem? ha)
      have hfm : ∀ l : List Nat, l.filterMap (fun _ => (none : Option (Nat × Nat))) = [] := by
        intro l; induction l <;> simp [*]
      simp only [he, hb, List.take_nil, List.map_nil, List.find?_nil, hfm, List.filter_nil,
        State.applyAccesses, State.applyWrites]
      exact modAux_eq_self s i _ (fun b hb' => by rw [ha] at hb'; cases hb'; cases a; simp_all)
  have h2 : s.cleanupTtl cfg ops o i = s := by
    unfold State.cleanupTtl
    cases ha : s.aux[i]? with
    | none => rfl
    | some a => simp [(h.2 a (List.mem_of_getElem? ha)).1]
  have h3 : s.cleanupTti cfg ops o i = s := by unfold State.cleanupTti; rw [htti]
  rw [maintShard, h1, h2, h3]
  exact cleanupCapacity_noEvict cfg ops o h.1 i

theorem runMaintenance_settled (htti : cfg.tti = none) {s : State P} (h : Settled ops s) :
    (s.runMaintenance cfg ops o).map = s.map := by
  have fold : ∀ (l : List Nat) (s : State P), Settled ops s → (l.foldl (maintShard cfg ops o) s).map = s.map := by
    intro l
    induction l with
    | nil => intro s _; rfl
    | cons i rest ih =>
      intro s h
      obtain ⟨hm, ha⟩ := maintShard_settled cfg ops o htti h i
      rw [List.foldl_cons, ih _ (by unfold Settled NoEvict; rw [ha]; exact h), hm]
  exact fold _ s h

end Fv.Cache
