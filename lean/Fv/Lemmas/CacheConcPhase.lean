import Fv.Lemmas.CacheConc
/-! Real-time well-formedness of the ghost history of the concurrent cache model: the events of each
thread form a sequence of operations `inv op · lin? · ret r` whose linearization event matches the
operation's kind, key and arguments, lies between invocation and response, and determines the response.
(Evictions a thread performs inside a maintenance pass are `forget` events of that thread.) -/
namespace Fv.Cache.Conc

def tidOf : HEv → Nat
  | .inv t _ => t | .ret t _ => t | .rd t _ _ => t | .rdExp t _ => t | .wr t _ _ => t | .rm t _ _ => t
  | .upd t _ _ _ => t | .nf t _ => t | .oiIns t _ _ => t | .oiOcc t _ _ => t | .forget t _ _ => t
  | .clear t => t

inductive Ph where
  | idle
  | called (op : Op)
  | lin (op : Op) (r : Option Nat)
deriving DecidableEq, Repr

/-- `some r` iff `e` is a legal linearization event of `op`, with response `r` -/
def linRes : Op → HEv → Option (Option Nat)
  | .get k, .rd _ k' r => if k' = k then some r else none
  | .get k, .rdExp _ k' => if k' = k then some none else none
  | .peek k, .rd _ k' r => if k' = k then some r else none
  | .peek k, .rdExp _ k' => if k' = k then some none else none
  | .insert k v _ _, .wr _ k' v' => if k' = k ∧ v' = v then some none else none
  | .remove k, .rm _ k' r => if k' = k then some r else none
  | .compute k d, .upd _ k' _ d' => if k' = k ∧ d' = d then some (some 1) else none
  | .compute k _, .nf _ k' => if k' = k then some none else none
  | .tryCompute k d, .upd _ k' _ d' => if k' = k ∧ d' = d then some (some 1) else none
  | .tryCompute k _, .nf _ k' => if k' = k then some none else none
  | .orInsert k v _, .oiIns _ k' v' => if k' = k ∧ v' = v then some (some v) else none
  | .orInsert k _ _, .oiOcc _ k' v' => if k' = k then some (some v') else none
  | .clear, .clear _ => some none
  | _, _ => none

def phStep (p : Ph) (e : HEv) : Option Ph :=
  match e with
  | .inv _ op => (match p with | .idle => some (.called op) | _ => none)
  | .ret _ r =>
    (match p with
     | .lin _ r' => if r = r' then some .idle else none
     | .called (.maint _ _ _) => if r = none then some .idle else none
     | .called (.tryCompute _ _) => if r = some 0 then some .idle else none
     | _ => none)
  | .forget _ _ _ => (match p with | .idle => none | _ => some p)
  | e => (match p with | .called op => (linRes op e).map (.lin op) | _ => none)

/-- the phase of thread `t` after the history (`none`: its projection is ill-formed) -/
def phaseOf (t : Nat) (h : List HEv) : Option Ph :=
  h.foldl (fun acc e => if tidOf e = t then acc.bind (phStep · e) else acc) (some .idle)

def inMaint (m : MCtx) : Ph → Prop
  | .called (.maint sh _ f) => sh = m.sh ∧ f = m.full
  | .lin (.insert _ _ _ _) none => m.full = false
  | _ => False

def compat (p : Ph) : PC → Prop
  | .idle => p = .idle
  | .done _ => p = .idle
  | .rd k false => p = .called (.get k)
  | .rd k true => p = .called (.peek k)
  | .ins k v c _ _ => ∃ o, p = .called (.insert k v c o)
  | .insSub k c _ => ∃ v o, p = .lin (.insert k v c o) none
  | .insEv k c => ∃ v o, p = .lin (.insert k v c o) none
  | .insAdd k c => ∃ v o, p = .lin (.insert k v c o) none
  | .insMaint k => ∃ v c o, p = .lin (.insert k v c o) none
  | .rm k => p = .called (.remove k)
  | .rmPol k v _ _ => p = .lin (.remove k) (some v)
  | .rmSub k v _ _ => p = .lin (.remove k) (some v)
  | .rmNote k v _ => p = .lin (.remove k) (some v)
  | .cmp k d true => p = .called (.compute k d)
  | .cmp k d false => p = .called (.tryCompute k d)
  | .oi k v c => p = .called (.orInsert k v c)
  | .oiEv k v c => p = .lin (.orInsert k v c) (some v)
  | .oiAdd k v c => p = .lin (.orInsert k v c) (some v)
  | .clr _ _ => p = .called .clear
  | .mLock sh l f => p = .called (.maint sh l f)
  | .mDrain m _ _ => inMaint m p
  | .mAdmit m _ => inMaint m p
  | .mVictim m _ _ _ _ => inMaint m p
  | .mSub m _ _ _ => inMaint m p
  | .mNote m _ _ => inMaint m p
  | .mTtl m => inMaint m p
  | .mTtlMap m _ => inMaint m p
  | .mTti m => inMaint m p
  | .mCapLoad m => inMaint m p
  | .mCapEvict m _ => inMaint m p
  | .mCapMap m _ _ => inMaint m p
  | .mCapSub m _ => inMaint m p
  | .mUnlock m => inMaint m p


def foldPh (p : Option Ph) (evs : List HEv) : Option Ph := evs.foldl (fun acc e => acc.bind (phStep · e)) p

@[simp] theorem foldPh_nil (p : Option Ph) : foldPh p [] = p := rfl
@[simp] theorem foldPh_cons (p : Ph) (e : HEv) (es : List HEv) : foldPh (some p) (e :: es) = foldPh (phStep p e) es := rfl

theorem phaseOf_append (t u : Nat) (h evs : List HEv) (hev : ∀ e ∈ evs, tidOf e = t) :
    phaseOf u (h ++ evs) = if u = t then foldPh (phaseOf u h) evs else phaseOf u h := by
  unfold phaseOf foldPh
  rw [List.foldl_append]
  generalize List.foldl _ (some Ph.idle) h = acc
  induction evs generalizing acc with
  | nil => simp
  | cons e es ih =>
    rw [List.foldl_cons, List.foldl_cons, ih (fun e' h' => hev e' (by simp [h'])), hev e (by simp)]
    by_cases hu : u = t <;> simp [hu, eq_comm (a := t)]

structure PhaseInv (hist : List HEv) (pc : Nat → PC) : Prop where
  wf : ∀ t, ∃ p, phaseOf t hist = some p ∧ compat p (pc t)

abbrev InvP (s : State) : Prop := PhaseInv s.hist s.pc

theorem invP_init : InvP init := ⟨fun _ => ⟨.idle, rfl, rfl⟩⟩

theorem PhaseInv.step {hist : List HEv} {pc : Nat → PC} (hi : PhaseInv hist pc) {t : Nat} {a : PC} (hpc : pc t = a)
    (x : PC) (evs : List HEv) (hev : ∀ e ∈ evs, tidOf e = t)
    (hstep : ∀ p, compat p a → ∃ p', foldPh (some p) evs = some p' ∧ compat p' x) :
    PhaseInv (hist ++ evs) (upd pc t x) := by
  constructor
  intro u
  obtain ⟨p, hp, hc⟩ := hi.wf u
  rw [phaseOf_append t u _ _ hev, hp, upd_apply]
  by_cases hu : u = t
  · subst hu; simpa using hstep p (hpc ▸ hc)
  · simpa [hu] using hc

theorem PhaseInv.move {hist : List HEv} {pc : Nat → PC} (hi : PhaseInv hist pc) {t : Nat} {a : PC} (hpc : pc t = a)
    (x : PC) (hstep : ∀ p, compat p a → compat p x) : PhaseInv hist (upd pc t x) := by
  simpa using hi.step hpc x [] (by simp) fun p hp => ⟨p, rfl, hstep p hp⟩

theorem forgetEvs_tid (t : Nat) (r : List (Nat × Entry)) : ∀ e ∈ forgetEvs t r, tidOf e = t := by
  simp only [forgetEvs, List.mem_map]; rintro _ ⟨_, _, rfl⟩; rfl

theorem foldPh_forgets (t : Nat) (r : List (Nat × Entry)) (p : Ph) (hp : p ≠ .idle) :
    foldPh (some p) (forgetEvs t r) = some p := by
  induction r with
  | nil => rfl
  | cons a r ih =>
    have : phStep p (.forget t a.1 a.2.val) = some p := by cases p <;> simp_all [phStep]
    rw [forgetEvs, List.map_cons, foldPh_cons, this]; exact ih

theorem inMaint_ne_idle {m : MCtx} {p : Ph} (h : inMaint m p) : p ≠ .idle := by
  intro e; subst e; exact h

@[simp] theorem compat_afterWrites {m : MCtx} {p : Ph} : compat p (afterWrites m) ↔ inMaint m p := by
  unfold afterWrites; split <;> rfl
@[simp] theorem compat_nextAdmit {m : MCtx} {p : Ph} (ws) : compat p (nextAdmit m ws) ↔ inMaint m p := by
  unfold nextAdmit; split <;> first | exact compat_afterWrites | rfl
@[simp] theorem compat_startDrain {m : MCtx} {p : Ph} (l) : compat p (startDrain m l) ↔ inMaint m p := by
  unfold startDrain; split <;> first | exact compat_nextAdmit _ | rfl
@[simp] theorem compat_afterSub {m : MCtx} {p : Ph} (ws ns) : compat p (afterSub m ws ns) ↔ inMaint m p := by
  unfold afterSub; split <;> first | exact compat_nextAdmit _ | rfl
@[simp] theorem compat_afterVictim {m : MCtx} {p : Ph} (ws vs tot ns) :
    compat p (afterVictim m ws vs tot ns) ↔ inMaint m p := by
  unfold afterVictim; split <;> rfl
theorem compat_startPC (c : Cfg) (n : Nat) (op : Op) : compat (.called op) (startPC c n op) := by
  cases op <;> simp [startPC, compat]

theorem phStep_ret_of_inMaint {m : MCtx} {p : Ph} (h : inMaint m p) (t : Nat) : phStep p (.ret t none) = some .idle := by
  cases p with
  | idle => exact h.elim
  | called op => cases op <;> first | exact h.elim | rfl
  | lin op r => cases op <;> cases r <;> first | exact h.elim | rfl

theorem invP_step {c : Cfg} {s s' : State} {t : Nat} {l : Label} {a : PC} (hi : InvP s) (hpc : s.pc t = a)
    (h : Step c s t a l s') : InvP s' := by
  cases h with
  | advance | cmpRetry => exact hi
  | call | recall =>
    exact hi.step hpc _ _ (by simp [tidOf]) fun p hp => by obtain rfl := hp; exact ⟨_, rfl, compat_startPC ..⟩
  -- the evictions of a maintenance pass leave its phase alone
  | ttlMap | ttiMap | capMap =>
    exact hi.step hpc _ _ (forgetEvs_tid t _) fun p hp => ⟨p, foldPh_forgets _ _ _ (inMaint_ne_idle hp), hp⟩
  | victim =>
    exact hi.step hpc _ _ (by simp [tidOf]) fun p hp =>
      ⟨p, foldPh_forgets t [(_, _)] p (inMaint_ne_idle hp), (compat_afterVictim ..).2 hp⟩
  -- the response that ends a maintenance pass
  | unlock => exact hi.step hpc _ _ (by simp [tidOf]) fun p hp => ⟨_, phStep_ret_of_inMaint hp t, rfl⟩
  -- a linearization point and / or a response: the program counter fixes the phase, up to what `insert`
  -- does not keep; `phStep` is evaluated
  | rmMiss | rmHit | rmNote | cmpRefused | oiOccupied | oiVacant | oiAdd | clear =>
    exact hi.step hpc _ _ (by simp [tidOf]) fun p hp => by obtain rfl := hp; simp [phStep, linRes, compat]
  | insOver | insNew =>
    exact hi.step hpc _ _ (by simp [tidOf]) fun p hp => by obtain ⟨_, rfl⟩ := hp; simp [phStep, linRes, compat]
  | coopSkip =>
    exact hi.step hpc _ _ (by simp [tidOf]) fun p hp => by obtain ⟨_, _, _, rfl⟩ := hp; simp [phStep, compat]
  -- get / peek and compute / try_compute share a program counter
  | @readMiss _ b | @readExpired _ b | @readHit _ b | @readRefresh _ b | @cmpMiss _ _ b | @cmpDone _ _ b =>
    exact hi.step hpc _ _ (by simp [tidOf]) fun p hp => by
      cases b <;> (obtain rfl := hp; simp_all [phStep, linRes, compat])
  -- entering a maintenance pass, from `insert` or from a `maint` call
  | coopLock => exact hi.move hpc _ fun p hp => by obtain ⟨_, _, _, rfl⟩ := hp; simp [inMaint]
  | mLock => exact hi.move hpc _ fun p hp => by obtain rfl := hp; simp [inMaint]
  | insAdd => exact hi.move hpc _ fun p ⟨v, o, hp⟩ => ⟨v, _, o, hp⟩
  -- no event: the phases the old program counter allows are allowed by the new one
  | _ =>
    exact hi.move hpc _ fun p hp => by
      try simp only [compat_nextAdmit, compat_afterSub, compat_afterVictim]
      exact hp

theorem invP_reach {c : Cfg} {s : State} (h : Reach c s) : InvP s := h.inv invP_init invP_step

end Fv.Cache.Conc
