import Fv.Lemmas.ChanMicro
import Fv.Lemmas.ChanLinCore
/-!
Along any linearization (`LinCore.Lin` with the channel semantics) the ghost accounts of the model state, the
operations still pending and the results already returned add up (`lin_acc`); hence the accounts of the final
state of every history the checker accepts (`linearize_acc`).
-/
namespace Fv.Chan
open List LinCore

def offered : History → List Val
  | [] => []
  | .call _ op :: r => op.vals ++ offered r
  | .ret _ _ :: r => offered r

/-- `open_` = calls not yet returned -/
def completedFrom : List (Nat × Op) → History → List (Op × Res)
  | _, [] => []
  | open_, .call t op :: r => completedFrom ((t, op) :: open_) r
  | open_, .ret t res :: r =>
    match LinCore.lookup t open_ with
    | some op => (op, res) :: completedFrom (LinCore.erase t open_) r
    | none => completedFrom open_ r

def completed (h : History) : List (Op × Res) := completedFrom [] h

def recvVals (x : Op × Res) : List Val := if isRecvOp x.1 then x.2.vals else []
/-- error payload / unsent / left -/
def backVals (x : Op × Res) : List Val := if isSendOp x.1 then x.2.vals else []
def acceptedVals (x : Op × Res) : List Val := if isSendOp x.1 then x.1.vals.take x.2.cnt else []

def received (h : History) : List Val := (completed h).flatMap recvVals
def handedBack (h : History) : List Val := (completed h).flatMap backVals
def accepted (h : History) : List Val := (completed h).flatMap acceptedVals

def pendSum (f : P → List Val) (v : Val) : Pend PL → Nat
  | [] => 0
  | x :: r => count v (f x.2.2) + pendSum f v r

theorem pendSum_append (f : P → List Val) (v : Val) (a b : Pend PL) :
    pendSum f v (a ++ b) = pendSum f v a + pendSum f v b := by
  induction a with
  | nil => simp [pendSum]
  | cons x r ih => simp [pendSum, ih]; omega

theorem pendSum_setP (f : P → List Val) (v : Val) {pend : Pend PL} {u : Nat} {op : Op} {p p' : P}
    (h : LinCore.lookup u pend = some (op, p)) :
    pendSum f v (setP u (op, p') pend) + count v (f p) = pendSum f v pend + count v (f p') := by
  obtain ⟨l, r, rfl, _, e⟩ := lookup_split h
  simp only [e, pendSum_append, pendSum]; omega

theorem pendSum_erase (f : P → List Val) (v : Val) {pend : Pend PL} {u : Nat} {x : PL}
    (h : LinCore.lookup u pend = some x) :
    pendSum f v (LinCore.erase u pend) + count v (f x.2) = pendSum f v pend := by
  obtain ⟨l, r, rfl, e, _⟩ := lookup_split h
  simp only [e, pendSum_append, pendSum]; omega

def opsOf (pend : Pend PL) : List (Nat × Op) := pend.map (fun x => (x.1, x.2.1))

theorem lookup_opsOf {t : Nat} {pend : Pend PL} :
    LinCore.lookup t (opsOf pend) = (LinCore.lookup t pend).map (·.1) := by
  induction pend with
  | nil => rfl
  | cons a r ih =>
    obtain ⟨u, p⟩ := a
    simp only [opsOf, map_cons, LinCore.lookup] at ih ⊢
    split <;> simp_all

theorem erase_opsOf {t : Nat} {pend : Pend PL} : LinCore.erase t (opsOf pend) = opsOf (LinCore.erase t pend) := by
  induction pend with
  | nil => rfl
  | cons a r ih =>
    obtain ⟨u, p⟩ := a
    simp only [opsOf, map_cons, LinCore.erase] at ih ⊢
    split <;> simp_all

theorem setP_opsOf {u : Nat} {op : Op} {p p' : P} {pend : Pend PL} (h : LinCore.lookup u pend = some (op, p)) :
    opsOf (LinCore.setP u (op, p') pend) = opsOf pend := by
  obtain ⟨l, r, rfl, _, e⟩ := lookup_split h
  simp [e, opsOf]

structure Acc (fl : Flavour) (s : St) (pend : Pend PL) (OFF RG RB RS : List Val) : Prop where
  inv : Inv fl s
  pinv : ∀ x ∈ pend, PInv x.2.1 x.2.2
  off : ∀ v, count v s.created + pendSum freshVals v pend ≤ count v OFF
  tok : ∀ v, count v s.created = pendSum P.inHand v pend + count v s.placed
  recv : ∀ v, count v s.recvOk = count v RG + pendSum gotOf v pend + count v s.owed
  sent : ∀ v, count v RS + pendSum sentOf v pend + count v s.sdv ≤ count v s.sentOk
  back : ∀ v, count v s.returned = count v RB + pendSum backOf v pend

theorem Acc.ofQuiet {fl s s' pend OFF RG RB RS} (h : Acc fl s pend OFF RG RB RS) (hs : Quiet fl s s') :
    Acc fl s' pend OFF RG RB RS := by
  refine ⟨hs.inv h.inv, h.pinv, ?_, ?_, ?_, ?_, ?_⟩
  · intro v; rw [hs.same.created]; exact h.off v
  · intro v; rw [hs.same.created, hs.same.placed v]; exact h.tok v
  · intro v; simp only [hs.same.recvOk, St.owed, hs.same.rdone]; exact h.recv v
  · intro v; simp only [hs.same.sentOk, St.sdv, hs.same.sdone]; exact h.sent v
  · intro v; rw [hs.same.returned]; exact h.back v

theorem observed_fin {fl : Flavour} {op : Op} {o : Out} (hp : PInv op (.fin o)) (v : Val) :
    count v (recvVals (op, normRes fl op (observe op o))) = count v o.got ∧
    count v (backVals (op, normRes fl op (observe op o))) = count v o.back ∧
    count v (acceptedVals (op, normRes fl op (observe op o))) ≤ count v o.sent := by
  have hn : ∀ r : Res, (normRes fl op r).vals = r.vals ∧ (normRes fl op r).cnt = r.cnt := by
    intro r; unfold normRes; split
    · exact ⟨rfl, rfl⟩
    · split <;> exact ⟨rfl, rfl⟩
  simp only [PInv] at hp
  cases op with
  | snd f h vs =>
    have h1 := hp.1 rfl
    simp only [recvVals, backVals, acceptedVals, isRecvOp, isSendOp, hn, observe, if_true, Op.vals]
    refine ⟨by simp [h1.2], by simp, ?_⟩
    split
    · simp
    · rcases h1.1 with e | e
      · simp only [Op.vals] at e
        rw [e, List.append_assoc, take_left]; exact Nat.le_refl _
      · simp [e.2.1]
  | rcv f h n =>
    have h1 := hp.2.1 rfl
    simp [recvVals, backVals, acceptedVals, isRecvOp, isSendOp, hn, observe, h1]
  | _ =>
    have h1 := hp.2.2 rfl rfl
    simp [recvVals, backVals, acceptedVals, isRecvOp, isSendOp, h1]

theorem lin_acc {fl : Flavour} {cfg : Cfg} {s : St} {pend : Pend PL} {evs : History} {sf : St} {pf : Pend PL}
    (hl : Lin (sem fl cfg) s pend evs sf pf) :
    ∀ {OFF RG RB RS : List Val}, NodupKeys pend → Acc fl s pend OFF RG RB RS →
      Acc fl sf pf (OFF ++ offered evs)
        (RG ++ (completedFrom (opsOf pend) evs).flatMap recvVals)
        (RB ++ (completedFrom (opsOf pend) evs).flatMap backVals)
        (RS ++ (completedFrom (opsOf pend) evs).flatMap acceptedVals) := by
  induction hl with
  | nil s pend => intro OFF RG RB RS _ h; simpa [offered, completedFrom] using h
  | @call s pend t op rest sf pf hlk _ ih =>
    intro OFF RG RB RS hn h
    have h' : Acc fl s ((t, (sem fl cfg).fresh t op) :: pend) (OFF ++ op.vals) RG RB RS := by
      refine ⟨h.inv, ?_, ?_, ?_, ?_, ?_, ?_⟩
      · intro x hx
        rcases mem_cons.mp hx with rfl | hx
        · simp [sem, PInv]
        · exact h.pinv x hx
      · intro v; have := h.off v
        simp only [pendSum, sem, freshVals, count_append]; omega
      · intro v; have := h.tok v; simp only [pendSum, sem, P.inHand]; simpa using this
      · intro v; have := h.recv v; simp only [pendSum, sem, gotOf]; simpa using this
      · intro v; have := h.sent v; simp only [pendSum, sem, sentOf]; simpa using this
      · intro v; have := h.back v; simp only [pendSum, sem, backOf]; simpa using this
    have := ih (hn.cons hlk _) h'
    simpa [offered, completedFrom, opsOf, sem, List.append_assoc] using this
  | @ret s pend t p out rest sf pf hlk hfin _ ih =>
    intro OFF RG RB RS hn h
    obtain ⟨op, pp⟩ := p
    obtain ⟨o, rfl, hout⟩ : ∃ o, pp = .fin o ∧ out = normRes fl op (observe op o) := by
      simp only [sem, Option.map_eq_some_iff] at hfin
      obtain ⟨o, ho, rfl⟩ := hfin
      cases pp <;> simp [P.out?] at ho
      exact ⟨o, by rw [ho], rfl⟩
    have hobs := observed_fin (fl := fl) (op := op) (o := o) (h.pinv _ (mem_of_lookup hlk))
    rw [← hout] at hobs
    have hA : Acc fl s (LinCore.erase t pend) OFF (RG ++ recvVals (op, out)) (RB ++ backVals (op, out))
        (RS ++ acceptedVals (op, out)) := by
      refine ⟨h.inv, fun x hx => h.pinv x (mem_of_mem_erase hlk hx), ?_, ?_, ?_, ?_, ?_⟩
      · intro v; have := h.off v; have e := pendSum_erase freshVals v hlk
        simp only [freshVals] at e; omega
      · intro v; have := h.tok v; have e := pendSum_erase P.inHand v hlk
        simp only [P.inHand] at e; simp at e; omega
      · intro v; have := h.recv v; have e := pendSum_erase gotOf v hlk
        have := (hobs v).1
        simp only [gotOf] at e; simp only [count_append]; omega
      · intro v; have := h.sent v; have e := pendSum_erase sentOf v hlk
        have := (hobs v).2.2
        simp only [sentOf] at e; simp only [count_append]; omega
      · intro v; have := h.back v; have e := pendSum_erase backOf v hlk
        have := (hobs v).2.1
        simp only [backOf] at e; simp only [count_append]; omega
    have := ih (hn.erase hlk) (hA.ofQuiet (retire_quiet fl cfg s op))
    have hlo : LinCore.lookup t (opsOf pend) = some op := by rw [lookup_opsOf, hlk]; rfl
    simpa [offered, completedFrom, hlo, erase_opsOf, List.append_assoc] using this
  | @step s pend u pu s' pu' evs sf pf hlk hmic _ ih =>
    intro OFF RG RB RS hn h
    obtain ⟨op, p⟩ := pu
    obtain ⟨op', p'⟩ := pu'
    simp only [sem, mem_map, Prod.mk.injEq] at hmic
    obtain ⟨r, hr, rfl, rfl, rfl⟩ := hmic
    have hpin : PInv op p := h.pinv _ (mem_of_lookup hlk)
    obtain ⟨δ, hδ, hst⟩ := micro_step hpin hr
    have hnf := hst.nf.freshVals
    have hok := hst.ok
    have hA : Acc fl r.1 (LinCore.setP u (op, r.2) pend) OFF RG RB RS := by
      refine ⟨hok.inv h.inv, ?_, ?_, ?_, ?_, ?_, ?_⟩
      · intro x hx
        rcases mem_setP hlk hx with hx | rfl
        · exact h.pinv x hx
        · exact hst.pinv
      · intro v; have := h.off v; have e := pendSum_setP freshVals v (p' := r.2) hlk
        rw [hnf] at e
        rw [hok.created]
        rcases hδ with rfl | rfl <;> simp only [count_append, count_nil] at e ⊢ <;> omega
      · intro v; have := h.tok v; have e := pendSum_setP P.inHand v (p' := r.2) hlk
        have := hok.tok v
        rw [hok.created]; simp only [count_append]; omega
      · intro v; have := h.recv v; have e := pendSum_setP gotOf v (p' := r.2) hlk
        have := hok.recv v; omega
      · intro v; have := h.sent v; have e := pendSum_setP sentOf v (p' := r.2) hlk
        have := hok.sent v; omega
      · intro v; have := h.back v; have e := pendSum_setP backOf v (p' := r.2) hlk
        have := hok.back v; omega
    have := ih (hn.setP hlk _) hA
    rwa [setP_opsOf hlk] at this

theorem init_acc (fl : Flavour) : Acc fl (init fl) [] [] [] [] [] := by
  refine ⟨init_inv fl, by simp, ?_, ?_, ?_, ?_, ?_⟩ <;> intro v <;>
    simp [init, pendSum, St.placed, St.parked, St.owed, St.sdv]

theorem linearize_acc {fl : Flavour} {cfg : Cfg} {h : History} {q : Bool} {sf : St}
    (hl : linearize fl cfg h q = some sf) :
    ∃ pf, Acc fl sf pf (offered h) (received h) (handedBack h) (accepted h) ∧
      (q = true → Quiescent (sem fl cfg) sf pf) := by
  unfold linearize linearizeP at hl
  obtain ⟨⟨sf', pf⟩, hsp, hsf⟩ := Option.map_eq_some_iff.mp hl
  simp only at hsf
  subst hsf
  obtain ⟨hlin, hq⟩ := search_sound_init (sem fl cfg) hsp
  have := lin_acc hlin (by simp [NodupKeys]) (init_acc fl)
  refine ⟨pf, ?_, hq⟩
  simpa [received, handedBack, accepted, completed, opsOf] using this

theorem linearizable_acc {fl : Flavour} {cfg : Cfg} {h : History} {q : Bool}
    (hl : linearizable fl cfg h q = true) :
    ∃ sf pf, linearize fl cfg h q = some sf ∧
      Acc fl sf pf (offered h) (received h) (handedBack h) (accepted h) := by
  unfold linearizable at hl
  obtain ⟨sf, hsf⟩ := Option.isSome_iff_exists.mp hl
  obtain ⟨pf, ha, _⟩ := linearize_acc hsf
  exact ⟨sf, pf, hsf, ha⟩

theorem Acc.bounds {fl s pend OFF RG RB RS} (h : Acc fl s pend OFF RG RB RS) (v : Val) :
    count v RG + count v RB + count v s.buf + count v s.chanDropped + count v s.lost ≤ count v OFF := by
  have a := h.off v
  have b := h.tok v
  have c := h.recv v
  have d := h.back v
  simp only [St.placed, count_append] at b
  omega

end Fv.Chan
