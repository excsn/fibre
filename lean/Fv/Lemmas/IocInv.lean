import Fv.Lemmas.IocBasic
/-!
For C18.  `World.Good`: between the operations of a history no resolution is in progress, every stored
instance id is below the counter, and a singleton's run counter is 0 with an empty cell and 1 with
a filled one.  The small-step model (`stepJob`, read through `stepJob_cases`) keeps it under every
schedule.
-/
namespace Fv.Ioc

theorem resolveF_unregistered {fuel : Nat} {w : World} {c : Nat} {k : Key}
    (hk : k ∉ w.resolving) (hget : w.regs.get ⟨c, k⟩ = none) :
    resolveF (fuel + 1) w c k = (w, .none) := by
  have hget1 : (w.push k).regs.get ⟨c, k⟩ = none := hget
  simp [resolveF, hk, hget1, pop_push]

theorem resolveF_ready {fuel : Nat} {w : World} {c : Nat} {k : Key} {p : Provider} {id : Nat}
    (hk : k ∉ w.resolving) (hget : w.regs.get ⟨c, k⟩ = some p) (hid : p.id? = some id) :
    resolveF (fuel + 1) w c k = (w, .some id) := by
  have hget1 : (w.push k).regs.get ⟨c, k⟩ = some p := hget
  cases p with
  | inst a => cases hid; simp [resolveF, hk, hget1, pop_push]
  | singleton sc cell r =>
    cases cell with
    | none => cases hid
    | some a => cases hid; simp [resolveF, hk, hget1, pop_push]
  | transient sc r => cases hid

theorem resolveF_some {fuel : Nat} {w w' : World} {c : Nat} {k : Key} {id : Nat}
    (hres : resolveF fuel w c k = (w', .some id)) :
    ∃ p, w.regs.get ⟨c, k⟩ = some p ∧
      ((p.active = none ∧ p.id? = some id ∧ w' = w) ∨
       (p.active ≠ none ∧ w.next ≤ id ∧ w'.next = id + 1 ∧ w'.regs.get ⟨c, k⟩ = some (p.ran id))) := by
  cases fuel with
  | zero => simp [resolveF] at hres
  | succ fuel =>
    revert hres
    refine resolveF_cases (motive := fun r => r = (w', .some id) → _) (by simp) (by simp)
      (fun p id' _ hget hact hid h => ?_) (fun _ _ _ a _ _ _ _ h => ?_)
      (fun p sc w2 _ hget hact hrun h => ?_)
    · cases h; exact ⟨p, hget, .inl ⟨hact, hid, rfl⟩⟩
    · cases a <;> simp [Abort.outcome] at h
    · cases h
      exact ⟨p, hget, .inr ⟨by simp [hact], (runScript_ext (resolveF_ext fuel) hrun).next_le, rfl,
        by simp [World.made, World.pop, Reg.get_set_same]⟩⟩

theorem resolveF_active_some {fuel : Nat} {w : World} {c : Nat} {k : Key} {p : Provider} {sc : List Dep}
    {w' : World} {id : Nat}
    (hget : w.regs.get ⟨c, k⟩ = some p) (hact : p.active = some sc)
    (hres : resolveF fuel w c k = (w', .some id)) :
    w.next ≤ id ∧ w'.next = id + 1 ∧ w'.regs.get ⟨c, k⟩ = some (p.ran id) := by
  obtain ⟨p', hp', h | h⟩ := resolveF_some hres <;> rw [hget] at hp' <;> cases hp'
  · rw [hact] at h; cases h.1
  · exact h.2

theorem resolveF_singleton_some {fuel : Nat} {w w' : World} {c : Nat} {k : Key} {sc : List Dep}
    {cell : Option Nat} {r id : Nat}
    (hget : w.regs.get ⟨c, k⟩ = some (.singleton sc cell r))
    (hres : resolveF fuel w c k = (w', .some id)) :
    ∃ r', w'.regs.get ⟨c, k⟩ = some (.singleton sc (some id) r') := by
  obtain ⟨p', hp', h | h⟩ := resolveF_some hres <;> rw [hget] at hp' <;> cases hp'
  · obtain ⟨_, rfl, rfl⟩ := h; exact ⟨r, hget⟩
  · exact ⟨_, h.2.2.2⟩


def World.IdsBelow (w : World) : Prop :=
  ∀ s p id, w.regs.get s = some p → p.id? = some id → id < w.next

theorem idsBelow_set {w : World} {s : Slot} {p : Provider} {n : Nat} (h : w.IdsBelow) (hn : w.next ≤ n)
    (hp : ∀ id, p.id? = some id → id < n) :
    World.IdsBelow { w with regs := w.regs.set s p, next := n } := by
  intro s' p' id hget hid
  by_cases hs : s' = s
  · subst hs
    simp only [Reg.get_set_same, Option.some.injEq] at hget
    subst hget
    exact hp id hid
  · simp only [Reg.get_set_other _ _ hs] at hget
    have := h s' p' id hget hid
    simp only
    omega

theorem Provider.id?_ran {p : Provider} {sc : List Dep} (h : p.active = some sc) {n id : Nat}
    (hid : (p.ran n).id? = some id) : id = n := by
  rcases Provider.active_eq_some h with ⟨r, rfl⟩ | ⟨r, rfl⟩ <;> cases hid
  rfl

theorem resolveF_ids : ∀ (fuel : Nat) (w : World) (c : Nat) (k : Key), w.IdsBelow →
    (resolveF fuel w c k).1.IdsBelow := by
  intro fuel
  induction fuel with
  | zero => intro w c k h; exact h
  | succ fuel ih =>
    intro w c k h
    refine resolveF_cases (motive := fun r => r.1.IdsBelow) (fun _ => h) (fun _ _ => h)
      (fun _ _ _ _ _ _ => h) (fun _ _ w2 _ _ _ _ hr => show w2.IdsBelow from runScript_inv ih hr h)
      (fun p sc w2 _ _ hact hr => ?_)
    simp only [World.made, World.pop]
    exact idsBelow_set (w := w2) (runScript_inv ih hr h) (Nat.le_succ _) fun id hid => by
      have := Provider.id?_ran hact hid
      omega

theorem resolveF_some_lt {fuel : Nat} {w w' : World} {c : Nat} {k : Key} {id : Nat} (h : w.IdsBelow)
    (hres : resolveF fuel w c k = (w', .some id)) : id < w'.next := by
  obtain ⟨p, hp, ⟨_, hid, rfl⟩ | ⟨_, _, hn, _⟩⟩ := resolveF_some hres
  · exact h _ _ _ hp hid
  · omega

def Provider.RunsOk : Provider → Prop
  | .singleton _ none r => r = 0
  | .singleton _ (some _) r => r = 1
  | _ => True

def World.RunsOk (w : World) : Prop := ∀ s p, w.regs.get s = some p → p.RunsOk

theorem Provider.Evolves.runsOk {p p' : Provider} (h : p.Evolves p') (hp : p.RunsOk) : p'.RunsOk := by
  rcases h.cases with rfl | ⟨sc, r, id, rfl, rfl⟩ | ⟨sc, r, r', rfl, _, rfl⟩
  · exact hp
  · simp only [Provider.RunsOk] at hp ⊢; omega
  · trivial

theorem World.Ext.runsOk {w w' : World} (h : w.Ext w') (hw : w.RunsOk) : w'.RunsOk := by
  intro s p' hp'
  obtain ⟨p, hp, e⟩ := (h.kept s).back hp'
  exact e.runsOk (hw s p hp)

def Op.provider : Op → Option Provider
  | .regInstance _ _ id => some (.inst id)
  | .regSingleton _ _ sc => some (.singleton sc none 0)
  | .regTransient _ _ sc => some (.transient sc 0)
  | .resolve _ _ => none

structure World.Good (w : World) : Prop where
  idle : w.resolving = []
  ids : w.IdsBelow
  runs : w.RunsOk

theorem World.good_empty : World.empty.Good :=
  ⟨rfl, fun s p id h _ => by simp [World.empty, Reg.get] at h, fun s p h => by simp [World.empty, Reg.get] at h⟩

/-- providers as the `add_*` calls create them -/
def Provider.Fresh : Provider → Prop
  | .inst _ => True
  | .singleton _ cell r => cell = none ∧ r = 0
  | .transient _ r => r = 0

theorem install_get_same (w : World) (s : Slot) (p : Provider) : (w.install s p).regs.get s = some p := by
  cases p <;> simp [World.install, World.regInstance, World.register, Reg.get_set_same]

theorem install_get_other (w : World) {s s' : Slot} (p : Provider) (h : s ≠ s') :
    (w.install s' p).regs.get s = w.regs.get s := by
  cases p <;> simp [World.install, World.regInstance, World.register, Reg.get_set_other _ _ h]

theorem install_resolving (w : World) (s : Slot) (p : Provider) : (w.install s p).resolving = w.resolving := by
  cases p <;> rfl

theorem install_next_le (w : World) (s : Slot) (p : Provider) : w.next ≤ (w.install s p).next := by
  cases p <;> simp only [World.install, World.regInstance, World.register] <;> omega

theorem install_good {w : World} (h : w.Good) (s : Slot) {p : Provider} (hp : p.Fresh) : (w.install s p).Good := by
  refine ⟨(install_resolving w s p).trans h.idle, ?_, fun s' p' hp' => ?_⟩
  · cases p with
    | inst id =>
      exact idsBelow_set h.ids (Nat.le_max_left ..) fun i hi => by
        simp only [Provider.id?, Option.some.injEq] at hi; omega
    | singleton sc cell r =>
      obtain ⟨rfl, rfl⟩ := hp
      exact idsBelow_set h.ids (Nat.le_refl _) fun i hi => by simp [Provider.id?] at hi
    | transient sc r => exact idsBelow_set h.ids (Nat.le_refl _) fun i hi => by simp [Provider.id?] at hi
  · by_cases hs : s' = s
    · subst hs
      rw [install_get_same] at hp'
      cases hp'
      cases p with
      | singleton sc cell r => obtain ⟨rfl, rfl⟩ := hp; rfl
      | _ => trivial
    · rw [install_get_other _ _ hs] at hp'
      exact h.runs s' p' hp'

theorem applyOp_reg (w : World) {op : Op} {s : Slot} {p : Provider} (hs : op.regSlot = some s)
    (hp : op.provider = some p) : (applyOp w op).1 = w.install s p := by
  cases op <;> simp only [Op.regSlot, Op.provider, Option.some.injEq, reduceCtorEq] at hs hp
  all_goals subst hs; subst hp; rfl

theorem Op.provider_fresh {op : Op} {p : Provider} (hp : op.provider = some p) : p.Fresh := by
  cases op <;> simp only [Op.provider, Option.some.injEq, reduceCtorEq] at hp
  all_goals subst hp; simp [Provider.Fresh]

theorem applyOp_resolve_ext {w : World} {c : Nat} {k : Key} : w.Ext (applyOp w (.resolve c k)).1 := by
  simp only [applyOp]; exact resolve_ext w c k

theorem Op.cases (op : Op) :
    (∃ c k, op = .resolve c k) ∨ ∃ s p, op.regSlot = some s ∧ op.provider = some p := by
  cases op <;> simp [Op.regSlot, Op.provider]

theorem applyOp_reg_get {w : World} {op : Op} {s : Slot} {p : Provider} (hs : op.regSlot = some s)
    (hp : op.provider = some p) : (applyOp w op).1.regs.get s = some p := by
  rw [applyOp_reg w hs hp, install_get_same]

theorem applyOp_reg_other {w : World} {op : Op} {s s' : Slot} (hs : op.regSlot = some s') (hne : s ≠ s') :
    (applyOp w op).1.regs.get s = w.regs.get s := by
  obtain ⟨c, k, rfl⟩ | ⟨s0, p, hs0, hp⟩ := op.cases
  · cases hs
  · rw [hs0] at hs; cases hs
    rw [applyOp_reg w hs0 hp, install_get_other _ _ hne]

theorem applyOp_next_le (w : World) (op : Op) : w.next ≤ (applyOp w op).1.next := by
  obtain ⟨c, k, rfl⟩ | ⟨s, p, hs, hp⟩ := op.cases
  · exact applyOp_resolve_ext.next_le
  · rw [applyOp_reg w hs hp]; exact install_next_le w s p

theorem applyOp_good {w : World} (h : w.Good) (op : Op) : (applyOp w op).1.Good := by
  obtain ⟨c, k, rfl⟩ | ⟨s, p, hs, hp⟩ := op.cases
  · have he : w.Ext (applyOp w (.resolve c k)).1 := applyOp_resolve_ext
    exact ⟨he.resolving.trans h.idle, by simpa only [applyOp, resolve] using resolveF_ids _ w c k h.ids,
      he.runsOk h.runs⟩
  · rw [applyOp_reg w hs hp]; exact install_good h s (Op.provider_fresh hp)

theorem runOps_good {w : World} (h : w.Good) (ops : List Op) : (runOps w ops).Good := by
  induction ops generalizing w with
  | nil => exact h
  | cons op ops ih => exact ih (applyOp_good h op)

theorem runOps_append (w : World) (a b : List Op) : runOps w (a ++ b) = runOps (runOps w a) b := by
  induction a generalizing w with
  | nil => rfl
  | cons op a ih => simp [runOps, ih]

theorem runOps_next_le (w : World) (ops : List Op) : w.next ≤ (runOps w ops).next := by
  induction ops generalizing w with
  | nil => exact Nat.le_refl _
  | cons op ops ih => exact Nat.le_trans (applyOp_next_le w op) (ih _)

theorem runOps_kept {w : World} {s : Slot} (ops : List Op) (hno : ∀ op ∈ ops, op.regSlot ≠ some s) :
    Reg.Kept w.regs (runOps w ops).regs s := by
  induction ops generalizing w with
  | nil => exact .of_eq rfl
  | cons op ops ih =>
    refine .trans ?_ (ih fun o ho => hno o (List.mem_cons_of_mem _ ho))
    obtain ⟨c, k, rfl⟩ | ⟨s', p, hs', _⟩ := op.cases
    · exact applyOp_resolve_ext.kept s
    · exact .of_eq (applyOp_reg_other hs' fun e => hno op (List.mem_cons_self ..) (e ▸ hs'))


theorem runOps_unregistered_none {w : World} (hg : w.Good) (ops : List Op) {s : Slot}
    (h0 : w.regs.get s = none) (hno : ∀ op ∈ ops, op.regSlot ≠ some s) :
    resolve (runOps w ops) s.c s.k = (runOps w ops, .none) :=
  resolveF_unregistered (by rw [(runOps_good hg ops).idle]; simp) ((runOps_kept ops hno).1 h0)

theorem runOps_ready {w : World} (hg : w.Good) (ops : List Op) {s : Slot} {p : Provider} {id : Nat}
    (hget : w.regs.get s = some p) (hid : p.id? = some id) (hno : ∀ op ∈ ops, op.regSlot ≠ some s) :
    resolve (runOps w ops) s.c s.k = (runOps w ops, .some id) := by
  obtain ⟨p', hp', ev⟩ := (runOps_kept ops hno).2 p hget
  -- a provider that holds an instance does not evolve
  rcases ev.cases with rfl | ⟨_, _, _, rfl, _⟩ | ⟨_, _, _, rfl, _⟩
  · exact resolveF_ready (by rw [(runOps_good hg ops).idle]; simp) hp' hid
  · cases hid
  · cases hid

theorem resolve_singleton_shared {w w1 : World} (hg : w.Good) {c : Nat} {k : Key} {sc : List Dep}
    {cell : Option Nat} {r id : Nat} (hget : w.regs.get ⟨c, k⟩ = some (.singleton sc cell r))
    (h1 : resolve w c k = (w1, .some id)) (mid : List Op) (hno : ∀ op ∈ mid, op.regSlot ≠ some ⟨c, k⟩) :
    resolve (runOps w1 mid) c k = (runOps w1 mid, .some id) := by
  obtain ⟨r', hr'⟩ := resolveF_singleton_some hget h1
  have hg1 : w1.Good := by simpa only [applyOp, h1] using applyOp_good hg (.resolve c k)
  exact runOps_ready (s := ⟨c, k⟩) hg1 mid hr' rfl hno

theorem runOps_latest_registration (w : World) (before after : List Op) {reg : Op} {s : Slot}
    {p : Provider} (hs : reg.regSlot = some s) (hp : reg.provider = some p)
    (hno : ∀ op ∈ after, op.regSlot ≠ some s) :
    ∃ p', (runOps w (before ++ reg :: after)).regs.get s = some p' ∧ p.Evolves p' := by
  rw [runOps_append]; exact (runOps_kept after hno).2 p (applyOp_reg_get hs hp)


theorem World.reset_idle {w : World} (h : w.resolving = []) : { w with resolving := [] } = w := by
  cases w; simp_all

theorem forall_setJob {P : Job → Prop} {js : List Job} {i : Nat} {j' : Job} (h : ∀ j ∈ js, P j)
    (hj' : P j') : ∀ j ∈ setJob js i j', P j :=
  fun j hj => (List.mem_or_eq_of_mem_set hj).elim (h j) (· ▸ hj')

/-- `stutter`: no such thread, a finished one, a registrar waiting for a pinned slot; `run`: a pinned resolver's
whole resolution -/
theorem stepJob_cases {motive : Conf → Prop} {cf : Conf} {i : Nat} (stutter : motive cf)
    (look : ∀ c k ph, (ph = .pinned ∨ ph = .done .none) →
      motive { cf with jobs := setJob cf.jobs i (.resolver c k ph) })
    (run : ∀ c k, motive ⟨(resolve { cf.w with resolving := [] } c k).1,
      setJob cf.jobs i (.resolver c k (.done (resolve { cf.w with resolving := [] } c k).2))⟩)
    (store : ∀ s p, .registrar s p false ∈ cf.jobs →
      motive ⟨cf.w.install s p, setJob cf.jobs i (.registrar s p true)⟩) :
    motive (stepJob cf i) := by
  unfold stepJob
  split
  · exact stutter
  · split
    · exact look _ _ _ (.inr rfl)
    · exact look _ _ _ (.inl rfl)
  · exact run _ _
  · exact stutter
  · next hj => split; exact stutter; exact store _ _ (List.mem_of_getElem? hj)
  · exact stutter

/-- the first-resolution race on one fresh singleton slot `s`: every instance of `s` handed out so far is the
one in the cell -/
def RaceInv (s : Slot) (sc : List Dep) (cf : Conf) : Prop :=
  cf.w.resolving = [] ∧
  (∀ j ∈ cf.jobs, ∀ s' p f, j = .registrar s' p f → s' ≠ s) ∧
  ∃ cell, cf.w.regs.get s = some (.singleton sc cell (if cell = none then 0 else 1)) ∧
    ∀ j ∈ cf.jobs, ∀ id, j = .resolver s.c s.k (.done (.some id)) → cell = some id

theorem RaceInv.step {s : Slot} {sc : List Dep} {cf : Conf} (h : RaceInv s sc cf) (w' : World) (i : Nat)
    (j' : Job) (hidle : w'.resolving = []) (hreg : ∀ s' p f, j' = .registrar s' p f → s' ≠ s)
    (hcell : ∀ cell, cf.w.regs.get s = some (.singleton sc cell (if cell = none then 0 else 1)) →
      ∃ cell', w'.regs.get s = some (.singleton sc cell' (if cell' = none then 0 else 1)) ∧
        (∀ id, cell = some id → cell' = some id) ∧
        ∀ id, j' = .resolver s.c s.k (.done (.some id)) → cell' = some id) :
    RaceInv s sc ⟨w', setJob cf.jobs i j'⟩ := by
  obtain ⟨_, h2, cell, hg, hd⟩ := h
  obtain ⟨cell', hg', hkeep, hnew⟩ := hcell cell hg
  exact ⟨hidle, forall_setJob h2 hreg, cell', hg',
    forall_setJob (fun j hj id e => hkeep id (hd j hj id e)) hnew⟩

theorem stepJob_raceInv {s : Slot} {sc : List Dep} {cf : Conf} (h : RaceInv s sc cf) (i : Nat) :
    RaceInv s sc (stepJob cf i) := by
  refine stepJob_cases h (fun c k ph hph => ?_) (fun c k => ?_) (fun s' p hj => ?_)
  · exact h.step cf.w i _ h.1 (fun _ _ _ e => by cases e) fun cell hg =>
      ⟨cell, hg, fun _ e => e, fun id e => by rcases hph with rfl | rfl <;> cases e⟩
  · rw [World.reset_idle h.1]
    have hext := resolve_ext cf.w c k
    cases hres : resolve cf.w c k with
    | mk w' o =>
      rw [hres] at hext
      refine h.step w' i _ (hext.resolving.trans h.1) (fun _ _ _ e => by cases e) fun cell hg => ?_
      obtain ⟨p', hp', ev⟩ := hext.evolves s _ hg
      -- the cell keeps its instance, or was empty and has just been filled
      have hcell' : ∃ cell', w'.regs.get s = some (.singleton sc cell' (if cell' = none then 0 else 1))
          ∧ ∀ id, cell = some id → cell' = some id := by
        rcases ev.cases with rfl | ⟨_, _, id, e, rfl⟩ | ⟨_, _, _, e, _⟩
        · exact ⟨cell, hp', fun _ e => e⟩
        · cases e
          exact ⟨some id, by simpa using hp', fun _ e => by cases e⟩
        · cases e
      obtain ⟨cell', hg', hkeep⟩ := hcell'
      refine ⟨cell', hg', hkeep, fun id e => ?_⟩
      simp only [Job.resolver.injEq, Phase.done.injEq] at e
      obtain ⟨rfl, rfl, rfl⟩ := e
      obtain ⟨r', hr'⟩ := resolveF_singleton_some (c := s.c) (k := s.k) hg hres
      rw [hg'] at hr'
      simp only [Option.some.injEq, Provider.singleton.injEq] at hr'
      exact hr'.2.1
  · have hne : s ≠ s' := fun e => h.2.1 _ hj s' p false rfl e.symm
    refine h.step _ i _ ((install_resolving _ _ _).trans h.1) (fun _ _ _ e => ?_) fun cell hg =>
      ⟨cell, by rw [install_get_other _ _ hne]; exact hg, fun _ e => e, fun _ e => by cases e⟩
    cases e; exact hne.symm

theorem runSched_raceInv {s : Slot} {sc : List Dep} (sched : List Nat) {cf : Conf} (h : RaceInv s sc cf) :
    RaceInv s sc (runSched cf sched) := by
  induction sched generalizing cf with
  | nil => exact h
  | cons i is ih => exact ih (stepJob_raceInv h i)


def FreshRegistrars (js : List Job) : Prop := ∀ j ∈ js, ∀ s p f, j = .registrar s p f → p.Fresh

theorem stepJob_good {cf : Conf} (h : cf.w.Good) (hf : FreshRegistrars cf.jobs) (i : Nat) :
    (stepJob cf i).w.Good ∧ FreshRegistrars (stepJob cf i).jobs := by
  refine stepJob_cases (motive := fun cf' => cf'.w.Good ∧ FreshRegistrars cf'.jobs) ⟨h, hf⟩
    (fun c k ph _ => ⟨h, forall_setJob hf (by intros _ _ _ e; cases e)⟩) (fun c k => ?_)
    (fun s p hj => ?_)
  · rw [World.reset_idle h.idle]
    exact ⟨applyOp_good h (.resolve c k), forall_setJob hf (by intros _ _ _ e; cases e)⟩
  · have hp : p.Fresh := hf _ hj s p false rfl
    exact ⟨install_good h s hp, forall_setJob hf (by intros _ _ _ e; cases e; exact hp)⟩

theorem runSched_good (sched : List Nat) {cf : Conf} (h : cf.w.Good) (hf : FreshRegistrars cf.jobs) :
    (runSched cf sched).w.Good := by
  induction sched generalizing cf with
  | nil => exact h
  | cons i is ih =>
    obtain ⟨h', hf'⟩ := stepJob_good h hf i
    exact ih h' hf'

end Fv.Ioc
