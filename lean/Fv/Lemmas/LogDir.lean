import Fv.Lemmas.LogName
/-! C20 helper lemmas: the directory of a running roller, described by a list of rolled entries, and the file-system
operations of the roller on such a directory. -/
namespace Fv.Log.Roller
open Fv.Log

structure Entry where
  period : Nat
  seq : Nat
  recs : List (Nat × Nat)
  gz : Bool
  deriving DecidableEq, Repr

def Entry.key (e : Entry) : Nat × Nat := (e.period, e.seq)

/-- what identifies an entry and what it holds (compression only renames and re-encodes) -/
def Entry.core (e : Entry) : Nat × Nat × List (Nat × Nat) := (e.period, e.seq, e.recs)

def entryName (p : Policy) (e : Entry) : Text :=
  if e.gz then rolledName p (stampOfSecs e.period) e.seq ++ gzSuffix p else rolledName p (stampOfSecs e.period) e.seq

def entryFS (p : Policy) (e : Entry) : Text × File := (entryName p e, { recs := e.recs, gz := e.gz })

def toRF (p : Policy) (e : Entry) : RolledFile :=
  { stamp := stampOfSecs e.period, seq := e.seq, name := entryName p e, compressed := e.gz }

def canon (p : Policy) (rolled : List Entry) (active : List (Nat × Nat)) : FS :=
  (baseName p, { recs := active, gz := false }) :: rolled.map (entryFS p)

/-- an entry the roller itself can have produced (within the modelled ranges) -/
structure EntryOk (p : Policy) (e : Entry) : Prop where
  aligned : periodStart p.gran e.period = e.period
  inRange : e.period < tMax
  seqRange : e.seq < 4294967296

def entryLt (a b : Entry) : Prop := a.period < b.period ∨ (a.period = b.period ∧ a.seq < b.seq)

theorem parse_entry (p : Policy) (hw : WF p) (e : Entry) (he : EntryOk p e) :
    parseRolledName p (entryName p e) = some (toRF p e) :=
  parseRolledName_rolledName p hw _ (stampOfSecs_valid _ he.inRange) (he.aligned ▸ aligned_periodStart _ _) _ he.seqRange e.gz

theorem entryName_inj (p : Policy) (hw : WF p) {a b : Entry} (ha : EntryOk p a) (hb : EntryOk p b)
    (h : entryName p a = entryName p b) : a.key = b.key ∧ a.gz = b.gz := by
  have h1 := parse_entry p hw a ha
  rw [h, parse_entry p hw b hb] at h1
  simp only [Option.some.injEq, toRF, RolledFile.mk.injEq] at h1
  exact ⟨Prod.ext (stampOfSecs_inj h1.1).symm h1.2.1.symm, h1.2.2.2.symm⟩

theorem entryName_ne_base (p : Policy) (hw : WF p) (e : Entry) (he : EntryOk p e) : entryName p e ≠ baseName p := by
  intro h
  have h1 := parse_entry p hw e he
  rw [h, parseRolledName_baseName p hw] at h1
  cases h1

theorem entryName_gz_ne (p : Policy) (hw : WF p) (e : Entry) (he : EntryOk p e) :
    entryName p { e with gz := true } ≠ entryName p { e with gz := false } := fun h => by
  simpa using (entryName_inj p hw (a := { e with gz := true }) (b := { e with gz := false }) ⟨he.aligned, he.inRange, he.seqRange⟩ ⟨he.aligned, he.inRange, he.seqRange⟩ h).2

theorem rfKey_lt_of_entryLt (p : Policy) {a b : Entry} (h : entryLt a b) : rfKey (toRF p a) < rfKey (toRF p b) := by
  rw [rfKey, rfKey, lt_snoc (k := (toRF p a).stamp.key) (k' := (toRF p b).stamp.key) _ _ rfl]
  rcases h with h | ⟨h1, h2⟩
  · exact Or.inl (Stamp.lt_iff.1 (stampOfSecs_mono _ _ h))
  · exact Or.inr ⟨by simp [toRF, h1], h2⟩

theorem entryLt_key_ne {a b : Entry} (h : entryLt a b) : a.key ≠ b.key := by
  intro hk
  simp only [Entry.key, Prod.mk.injEq] at hk
  rcases h with h | ⟨_, h⟩ <;> omega

structure Dir (p : Policy) (rolled : List Entry) : Prop where
  ok : ∀ e ∈ rolled, EntryOk p e
  asc : rolled.Pairwise entryLt

theorem Dir.sublist {p : Policy} {M M' : List Entry} (hd : Dir p M) (h : M'.Sublist M) : Dir p M' :=
  ⟨fun e he => hd.ok e (h.subset he), hd.asc.sublist h⟩

theorem findRolled_canon (p : Policy) (hw : WF p) (fs : FS) (rolled : List Entry) (active : List (Nat × Nat))
    (hp : fs.Perm (canon p rolled active)) (hd : Dir p rolled) :
    findRolled p fs = (rolled.map (toRF p)).reverse := by
  refine sortRolled_eq_of_perm ?_ ?_
  · refine (hp.filterMap _).trans ?_
    have : ∀ l : List Entry, (∀ e ∈ l, EntryOk p e) →
        (l.map (entryFS p)).filterMap (fun e => parseRolledName p e.1) = l.map (toRF p) := fun l hl => by
      induction l with
      | nil => rfl
      | cons e rest ih =>
        simp only [List.map_cons, List.filterMap_cons, entryFS, parse_entry p hw e (hl e (by simp)),
          ih fun e he => hl e (by simp [he])]
    simp only [canon, List.filterMap_cons, parseRolledName_baseName p hw, this rolled hd.ok]
    exact (List.reverse_perm _).symm
  · rw [List.pairwise_reverse, List.pairwise_map]
    exact hd.asc.imp (rfKey_lt_of_entryLt p)

theorem canon_names (p : Policy) (M : List Entry) (active : List (Nat × Nat)) :
    (canon p M active).map (·.1) = baseName p :: M.map (entryName p) := by
  simp [canon, entryFS, Function.comp_def]

theorem Dir.names_nodup {p : Policy} (hw : WF p) {M : List Entry} (hd : Dir p M) (active : List (Nat × Nat)) :
    ((canon p M active).map (·.1)).Nodup := by
  rw [canon_names, List.nodup_cons, List.Nodup, List.pairwise_map]
  refine ⟨fun h => ?_, List.Pairwise.imp_of_mem (fun ha hb hab hn => ?_) hd.asc⟩
  · obtain ⟨e, he, hn⟩ := List.mem_map.1 h
    exact entryName_ne_base p hw e (hd.ok e he) hn
  · exact entryLt_key_ne hab (entryName_inj p hw (hd.ok _ ha) (hd.ok _ hb) hn).1

theorem mem_canon_names {p : Policy} (hw : WF p) {M : List Entry} (hd : Dir p M) (active : List (Nat × Nat))
    {x : Entry} (hx : EntryOk p x) :
    entryName p x ∈ (canon p M active).map (·.1) → ∃ e ∈ M, e.key = x.key := by
  rw [canon_names, List.mem_cons, List.mem_map]
  rintro (h | ⟨e, he, hn⟩)
  · exact absurd h (entryName_ne_base p hw x hx)
  · exact ⟨e, he, (entryName_inj p hw (hd.ok e he) hx hn).1⟩

theorem base_not_mem_entries {p : Policy} (hw : WF p) {M : List Entry} (hd : Dir p M) :
    baseName p ∉ (M.map (entryFS p)).map (·.1) := by
  have := hd.names_nodup hw []
  rw [canon, List.map_cons, List.nodup_cons] at this
  exact this.1

theorem fsGet_eq_lookup (fs : FS) (n : Text) : fsGet fs n = lookup n fs := by
  induction fs with
  | nil => rfl
  | cons e rest ih => by_cases h : e.1 = n <;> simp [fsGet, lookup, ih, h, Ne.symm]

theorem fsGet_perm {fs fs' : FS} (hp : fs.Perm fs') (hnd : (fs'.map (·.1)).Nodup) {n : Text} {f : File} (h : (n, f) ∈ fs') :
    fsGet fs n = some f :=
  fsGet_eq_lookup .. ▸ Json.lookup_of_mem_nodup _ ((hp.map _).nodup_iff.mpr hnd) (hp.symm.subset h)

theorem fsGet_perm_none {fs fs' : FS} (hp : fs.Perm fs') {n : Text} (h : n ∉ fs'.map (·.1)) : fsGet fs n = none :=
  fsGet_eq_lookup .. ▸ lookup_eq_none_of_not_mem _ _ fun hm => h ((hp.map _).subset hm)

theorem fsRemove_perm {fs fs' : FS} (hp : fs.Perm fs') (n : Text) : (fsRemove fs n).Perm (fsRemove fs' n) := hp.filter _

theorem fsRemove_absent {fs : FS} {n : Text} (h : n ∉ fs.map (·.1)) : fsRemove fs n = fs :=
  List.filter_eq_self.2 fun e he => by simpa using fun hn : e.1 = n => h (List.mem_map.2 ⟨e, he, hn⟩)

theorem fsRemove_perm_cons {fs rest : FS} {n : Text} {f : File} (hp : fs.Perm ((n, f) :: rest)) (hn : n ∉ rest.map (·.1)) :
    (fsRemove fs n).Perm rest := by
  refine (fsRemove_perm hp n).trans (.of_eq ?_)
  simpa [fsRemove] using fsRemove_absent hn

theorem removeAll_eq_filter (fs : FS) (l : List RolledFile) :
    removeAll fs l = fs.filter (fun e => decide (e.1 ∉ l.map (·.name))) := by
  induction l generalizing fs with
  | nil => exact (List.filter_eq_self.2 fun _ _ => by simp).symm
  | cons rf rest ih =>
    simp only [removeAll, ih, fsRemove, List.filter_filter, List.map_cons, List.mem_cons, not_or]
    exact List.filter_congr fun e _ => by simp [Bool.and_comm]

theorem filter_take_names {α β} [DecidableEq β] (key : α → β) (L : List α) (k : Nat) (hnd : (L.map key).Nodup) :
    L.filter (fun x => decide (key x ∉ (L.take k).map key)) = L.drop k := by
  induction L generalizing k with
  | nil => simp
  | cons e r ih =>
    cases k with
    | zero => simp
    | succ k =>
      simp only [List.map_cons, List.nodup_cons] at hnd
      simp only [List.take_succ_cons, List.map_cons, List.mem_cons, true_or, not_true_eq_false, decide_false,
        List.filter_cons, Bool.false_eq_true, if_false, List.drop_succ_cons]
      rw [← ih k hnd.2]
      refine List.filter_congr fun x hx => ?_
      have : key x ≠ key e := fun h => hnd.1 (h ▸ List.mem_map.mpr ⟨x, hx, rfl⟩)
      simp [this]

theorem removeAll_canon {p : Policy} (hw : WF p) {L : List Entry} (hd : Dir p L) (active : List (Nat × Nat)) (k : Nat) :
    removeAll (canon p L active) (((L.take k).map (toRF p)).reverse) = canon p (L.drop k) active := by
  have hnd := hd.names_nodup hw active
  rw [canon_names, List.nodup_cons] at hnd
  have hb : baseName p ∉ (L.take k).map (entryName p) := fun h =>
    let ⟨e, he, hn⟩ := List.mem_map.1 h; hnd.1 (List.mem_map.2 ⟨e, List.mem_of_mem_take he, hn⟩)
  have hnames : ((L.take k).map (toRF p)).reverse.map (·.name) = ((L.take k).map (entryName p)).reverse := by
    simp [toRF, Function.comp_def]
  simp only [removeAll_eq_filter, hnames, List.mem_reverse, canon, List.filter_cons, hb, not_false_eq_true, decide_true,
    if_true, ← filter_take_names (entryName p) L k hnd.2, List.filter_map, Function.comp_def, entryFS]
  congr 2
  exact List.filter_congr fun _ _ => decide_eq_decide.2 Iff.rfl

end Fv.Log.Roller
