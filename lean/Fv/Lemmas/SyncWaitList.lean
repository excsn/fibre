import Fv.Sync.WaitList
import Fv.Lemmas.Common
/-! Every wait-list operation keeps `WaitList.WF` (C10(d)); `excl_step` and `execOf_obs` serve both lock machines. -/
namespace Fv.Sync.WaitList
open Fv.Sync

section ite
variable (c : Prop) [Decidable c]
@[simp] theorem _root_.Fv.Sync.Node.ite_woken (a b : Node) : (if c then a else b).woken = if c then a.woken else b.woken := by split <;> rfl
@[simp] theorem _root_.Fv.Sync.Node.ite_waiter (a b : Node) : (if c then a else b).waiter = if c then a.waiter else b.waiter := by split <;> rfl
@[simp] theorem _root_.Fv.Sync.Node.ite_isWriter (a b : Node) : (if c then a else b).isWriter = if c then a.isWriter else b.isWriter := by split <;> rfl
@[simp] theorem _root_.Fv.Sync.Node.ite_linked (a b : Node) : (if c then a else b).linked = if c then a.linked else b.linked := by split <;> rfl
end ite


@[simp] theorem setLocked_locked (wl : WaitList) (b : Bool) : (wl.setLocked b).locked = b := rfl
@[simp] theorem setLocked_queue (wl : WaitList) (b : Bool) : (wl.setLocked b).queue = wl.queue := rfl
@[simp] theorem setLocked_writers (wl : WaitList) (b : Bool) : (wl.setLocked b).writers = wl.writers := rfl
@[simp] theorem setLocked_len (wl : WaitList) (b : Bool) : (wl.setLocked b).len = wl.len := rfl
@[simp] theorem setLocked_node (wl : WaitList) (b : Bool) : (wl.setLocked b).node = wl.node := rfl

@[simp] theorem putNode_locked (wl : WaitList) (n : Nid) (nd : Node) : (wl.putNode n nd).locked = wl.locked := rfl
@[simp] theorem putNode_queue (wl : WaitList) (n : Nid) (nd : Node) : (wl.putNode n nd).queue = wl.queue := rfl
@[simp] theorem putNode_writers (wl : WaitList) (n : Nid) (nd : Node) : (wl.putNode n nd).writers = wl.writers := rfl
@[simp] theorem putNode_len (wl : WaitList) (n : Nid) (nd : Node) : (wl.putNode n nd).len = wl.len := rfl
@[simp] theorem putNode_node (wl : WaitList) (n : Nid) (nd : Node) : (wl.putNode n nd).node = upd wl.node n nd := rfl

@[simp] theorem setWaiter_locked (wl : WaitList) (n : Nid) (w : Waiter) : (wl.setWaiter n w).locked = wl.locked := rfl
@[simp] theorem setWaiter_queue (wl : WaitList) (n : Nid) (w : Waiter) : (wl.setWaiter n w).queue = wl.queue := rfl
@[simp] theorem setWaiter_writers (wl : WaitList) (n : Nid) (w : Waiter) : (wl.setWaiter n w).writers = wl.writers := rfl
@[simp] theorem setWaiter_len (wl : WaitList) (n : Nid) (w : Waiter) : (wl.setWaiter n w).len = wl.len := rfl
@[simp] theorem setWaiter_node (wl : WaitList) (n : Nid) (w : Waiter) :
    (wl.setWaiter n w).node = upd wl.node n { wl.node n with waiter := some w } := rfl

@[simp] theorem setWoken_locked (wl : WaitList) (n : Nid) (b : Bool) : (wl.setWoken n b).locked = wl.locked := rfl
@[simp] theorem setWoken_queue (wl : WaitList) (n : Nid) (b : Bool) : (wl.setWoken n b).queue = wl.queue := rfl
@[simp] theorem setWoken_writers (wl : WaitList) (n : Nid) (b : Bool) : (wl.setWoken n b).writers = wl.writers := rfl
@[simp] theorem setWoken_len (wl : WaitList) (n : Nid) (b : Bool) : (wl.setWoken n b).len = wl.len := rfl
@[simp] theorem setWoken_node (wl : WaitList) (n : Nid) (b : Bool) :
    (wl.setWoken n b).node = upd wl.node n { wl.node n with woken := b } := rfl

@[simp] theorem takeAndMark_locked (wl : WaitList) (n : Nid) : (wl.takeAndMark n).locked = wl.locked := rfl
@[simp] theorem takeAndMark_queue (wl : WaitList) (n : Nid) : (wl.takeAndMark n).queue = wl.queue := rfl
@[simp] theorem takeAndMark_writers (wl : WaitList) (n : Nid) : (wl.takeAndMark n).writers = wl.writers := rfl
@[simp] theorem takeAndMark_len (wl : WaitList) (n : Nid) : (wl.takeAndMark n).len = wl.len := rfl
@[simp] theorem takeAndMark_node (wl : WaitList) (n : Nid) :
    (wl.takeAndMark n).node = upd wl.node n { wl.node n with waiter := none, woken := true } := rfl

@[simp] theorem linkBack_locked (wl : WaitList) (n : Nid) : (wl.linkBack n).locked = wl.locked := rfl
@[simp] theorem linkBack_queue (wl : WaitList) (n : Nid) : (wl.linkBack n).queue = wl.queue ++ [n] := rfl
@[simp] theorem linkBack_len (wl : WaitList) (n : Nid) : (wl.linkBack n).len = wl.len + 1 := rfl
@[simp] theorem linkBack_node (wl : WaitList) (n : Nid) :
    (wl.linkBack n).node = upd wl.node n { wl.node n with linked := true } := rfl
@[simp] theorem linkBack_writers (wl : WaitList) (n : Nid) :
    (wl.linkBack n).writers = if (wl.node n).isWriter then wl.writers + 1 else wl.writers := rfl

@[simp] theorem unlink_locked (wl : WaitList) (n : Nid) : (wl.unlink n).locked = wl.locked := by
  unfold unlink; split <;> rfl
@[simp] theorem unlink_queue (wl : WaitList) (n : Nid) :
    (wl.unlink n).queue = if (wl.node n).linked then wl.queue.erase n else wl.queue := by
  unfold unlink; split <;> rfl
@[simp] theorem unlink_len (wl : WaitList) (n : Nid) :
    (wl.unlink n).len = if (wl.node n).linked then wl.len - 1 else wl.len := by
  unfold unlink; split <;> rfl
@[simp] theorem unlink_writers (wl : WaitList) (n : Nid) :
    (wl.unlink n).writers = if (wl.node n).linked ∧ (wl.node n).isWriter then wl.writers - 1 else wl.writers := by
  unfold unlink; split <;> simp_all
@[simp] theorem unlink_node (wl : WaitList) (n : Nid) :
    (wl.unlink n).node = upd wl.node n { wl.node n with linked := false } := by
  unfold unlink
  split
  · rfl
  · funext x
    simp only [upd_apply]
    split
    · next h => subst h; cases hn : wl.node x; simp_all
    · rfl

@[simp] theorem wasLinked_eq (wl : WaitList) (n : Nid) : wl.wasLinked n = (wl.node n).linked := rfl

theorem WF.init : WF {} := by
  constructor <;> simp

theorem WF.setLocked {wl : WaitList} (h : wl.WF) (b : Bool) : (wl.setLocked b).WF :=
  ⟨h.nodup, h.linked, h.len, h.writers⟩

theorem WF.of_node_eq {wl wl' : WaitList} (h : wl.WF) (hq : wl'.queue = wl.queue) (hl : wl'.len = wl.len)
    (hw : wl'.writers = wl.writers)
    (hn : ∀ n, (wl'.node n).linked = (wl.node n).linked ∧ (wl'.node n).isWriter = (wl.node n).isWriter) :
    wl'.WF := by
  constructor
  · rw [hq]; exact h.nodup
  · intro n; rw [hq, (hn n).1]; exact h.linked n
  · rw [hl, hq]; exact h.len
  · rw [hw, hq, h.writers]
    congr 1; funext n; rw [(hn n).2]

theorem WF.setWaiter {wl : WaitList} (h : wl.WF) (n : Nid) (w : Waiter) : (wl.setWaiter n w).WF := by
  refine h.of_node_eq rfl rfl rfl ?_
  intro m; simp only [setWaiter_node, upd_apply]; split <;> simp_all

theorem WF.setWoken {wl : WaitList} (h : wl.WF) (n : Nid) (b : Bool) : (wl.setWoken n b).WF := by
  refine h.of_node_eq rfl rfl rfl ?_
  intro m; simp only [setWoken_node, upd_apply]; split <;> simp_all

theorem WF.takeAndMark {wl : WaitList} (h : wl.WF) (n : Nid) : (wl.takeAndMark n).WF := by
  refine h.of_node_eq rfl rfl rfl ?_
  intro m; simp only [takeAndMark_node, upd_apply]; split <;> simp_all

theorem countP_upd_of_not_mem {node : Nid → Node} {q : List Nid} {n : Nid} (hn : n ∉ q) (nd : Node) :
    q.countP (fun x => (upd node n nd x).isWriter) = q.countP (fun x => (node x).isWriter) :=
  List.countP_congr fun x hx => by
    have : x ≠ n := fun hxn => hn (hxn ▸ hx)
    rw [upd_ne _ _ this]

theorem WF.not_mem {wl : WaitList} (h : wl.WF) {n : Nid} (hn : (wl.node n).linked = false) : n ∉ wl.queue :=
  fun hm => by rw [(h.linked n).2 hm] at hn; cases hn

theorem countP_erase_mem {α : Type} [DecidableEq α] (p : α → Bool) :
    ∀ (l : List α) (a : α), a ∈ l → (l.erase a).countP p = l.countP p - (if p a then 1 else 0) := by
  intro l
  induction l with
  | nil => intro a h; simp at h
  | cons b t ih =>
    intro a h
    by_cases hab : b = a
    · subst hab
      simp only [List.erase_cons_head, List.countP_cons]
      cases p b <;> simp
    · have hat : a ∈ t := by
        rcases List.mem_cons.1 h with h | h
        · exact absurd h.symm hab
        · exact h
      have hne : (b == a) = false := by simpa using hab
      rw [List.erase_cons_tail (by simp [hne])]
      simp only [List.countP_cons, ih a hat]
      have hpos : p a = true → 0 < t.countP p := fun hp => List.countP_pos_iff.2 ⟨a, hat, hp⟩
      cases hpa : p a <;> cases hpb : p b <;> simp
      have := hpos hpa
      omega

theorem WF.putNode {wl : WaitList} (h : wl.WF) (n : Nid) (nd : Node) (hn : (wl.node n).linked = false)
    (hnd : nd.linked = false) : (wl.putNode n nd).WF := by
  have hnq := h.not_mem hn
  constructor
  · exact h.nodup
  · intro m
    simp only [putNode_node, putNode_queue, upd_apply]
    split
    · next hm => subst hm; simp [hnd, hnq]
    · exact h.linked m
  · exact h.len
  · simp only [putNode_writers, putNode_queue, putNode_node]
    rw [h.writers, countP_upd_of_not_mem hnq]

theorem WF.linkBack {wl : WaitList} (h : wl.WF) (n : Nid) (hn : (wl.node n).linked = false) : (wl.linkBack n).WF := by
  have hnq := h.not_mem hn
  constructor
  · simp only [linkBack_queue]
    exact Fv.nodup_snoc.2 ⟨h.nodup, hnq⟩
  · intro m
    simp only [linkBack_node, linkBack_queue, upd_apply, List.mem_append, List.mem_singleton]
    split
    · next hm => subst hm; simp
    · next hm => simp [hm, h.linked m]
  · simp [h.len]
  · simp only [linkBack_writers, linkBack_queue, linkBack_node, List.countP_append, List.countP_cons,
      List.countP_nil, upd_same]
    rw [countP_upd_of_not_mem hnq, ← h.writers]
    cases (wl.node n).isWriter <;> simp

theorem WF.unlink {wl : WaitList} (h : wl.WF) (n : Nid) : (wl.unlink n).WF := by
  by_cases hl : (wl.node n).linked = true
  · have hmem : n ∈ wl.queue := (h.linked n).1 hl
    constructor
    · simp only [unlink_queue, hl, if_true]; exact h.nodup.erase n
    · intro m
      simp only [unlink_node, unlink_queue, hl, if_true, upd_apply]
      split
      · next hm => subst hm; simp [h.nodup.mem_erase_iff]
      · next hm => rw [h.nodup.mem_erase_iff]; simp [hm, h.linked m]
    · simp only [unlink_len, unlink_queue, hl, if_true, h.len, List.length_erase_of_mem hmem]
    · simp only [unlink_writers, unlink_queue, unlink_node, hl, true_and, if_true]
      rw [countP_upd_of_not_mem fun hx => (h.nodup.mem_erase_iff.1 hx).1 rfl, h.writers, countP_erase_mem _ _ _ hmem]
      cases (wl.node n).isWriter <;> simp
  · have hl' : (wl.node n).linked = false := by simpa using hl
    have : wl.unlink n = wl := by unfold WaitList.unlink; simp [hl']
    rw [this]; exact h

end Fv.Sync.WaitList

namespace Fv.Sync

/-- Exclusion through a flag; instantiated with the list spinlock and `locked`, and with a future and `busy`. -/
theorem excl_step {inR inR' : Tid → Prop} {flag flag' : Prop} {t : Tid}
    (h : ∀ u, inR u → flag ∧ ∀ v, inR v → v = u)
    (ho : ∀ u, u ≠ t → (inR' u ↔ inR u))
    (enter : inR' t → flag' ∧ (inR t ∨ ¬ flag))
    (keep : ¬ inR t → flag → flag') :
    ∀ u, inR' u → flag' ∧ ∀ v, inR' v → v = u := by
  intro u hu
  by_cases hut : u = t
  · subst hut
    obtain ⟨hf, hor⟩ := enter hu
    refine ⟨hf, fun v hv => Classical.byContradiction fun hvu => ?_⟩
    have hv := (ho v hvu).1 hv
    exact hor.elim (fun hor => hvu ((h u hor).2 v hv)) (fun hor => hor (h v hv).1)
  · have hu := (ho u hut).1 hu
    obtain ⟨hf, huniq⟩ := h u hu
    have hnt : ¬ inR t := fun hc => hut (huniq t hc).symm
    refine ⟨keep hnt hf, fun v hv => ?_⟩
    by_cases hvt : v = t
    · subst hvt
      rcases (enter hv).2 with hor | hor
      · exact absurd hor hnt
      · exact absurd hf hor
    · exact huniq v ((ho v hvt).1 hv)

/-- A state holds functions and cannot be compared by `decide`; a witness state is known through `obs` instead. -/
theorem execOf_obs {σ L α : Type} {next : σ → Tid → List (L × σ)} {init : σ → Prop} {s0 : σ} (h0 : init s0)
    {sched : List (Tid × Nat)} {obs : σ → α} {a : α} (h : (execOf next s0 sched).map obs = some a) :
    ∃ s, ReachOf next init s ∧ obs s = a := by
  cases hs : execOf next s0 sched with
  | none => rw [hs] at h; cases h
  | some s =>
    rw [hs] at h
    exact ⟨s, execOf_reach _ _ _ (ReachOf.init h0) hs, Option.some.inj h⟩

end Fv.Sync
