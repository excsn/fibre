import Fv.Lemmas.CacheReads
/-
Expiry facts for C12: the multi-key reads and the snapshot iterator only hand out `Served` pairs
(`Fresh`); `MaintCause`, what `run_maintenance` can have against a binding it removes; `Kept`, what a
call without removals does to the visible bindings.
-/
namespace Fv.Cache
variable {P : Type}
variable (cfg : Cfg) (ops : PolicyOps P) (o : Oracle)

/-- `m` is reached from `m0` by hits at `now` -/
def RelM (m0 : List (Nat × Entry)) (now : Nat) (tti : Option Nat) (m : List (Nat × Entry)) : Prop :=
  ∀ k e, (k, e) ∈ m → (k, e) ∈ m0 ∨ Served m0 now tti (k, e.vid)

theorem RelM.of_sub {m0 m : List (Nat × Entry)} {now : Nat} {tti : Option Nat} (h : m ⊆ m0) :
    RelM m0 now tti m := fun _ _ hm => Or.inl (h hm)

theorem RelM.served {m0 m : List (Nat × Entry)} {now : Nat} {tti : Option Nat} {k : Nat} {e : Entry}
    (hr : RelM m0 now tti m) (hl : lookup m k = some e) (hx : e.isExpired now tti = false) :
    Served m0 now tti (k, e.vid) :=
  (hr k e (lookup_mem hl)).elim (fun h => ⟨e, h, rfl, (isExpired_false_iff e now tti).1 hx⟩) id

def Fresh (cfg : Cfg) (m0 : List (Nat × Entry)) (t s : State P) : Prop :=
  t.now = s.now ∧ (RelM m0 s.now cfg.tti s.map → RelM m0 s.now cfg.tti t.map)

theorem Fresh.rel (m0 : List (Nat × Entry)) : ReadRel cfg (Fresh (P := P) cfg m0) where
  refl := fun _ => ⟨rfl, id⟩
  trans := fun h1 h2 => ⟨h1.1.trans h2.1, fun h => h2.1 ▸ h1.2 (h2.1 ▸ h2.2 h)⟩
  quiet := fun hq => ⟨hq.now, fun h => hq.map ▸ h⟩
  touch := fun {t s k e} he hx ht => by
    refine ⟨ht.now, fun hr k' e' hm => ?_⟩
    rw [ht.map] at hm
    rcases mem_put.1 hm with ⟨rfl, rfl⟩ | ⟨h1, _⟩
    · right; rw [touch_vid]; exact hr.served he hx
    · exact hr k' e' h1

theorem Served.of_hit {cfg : Cfg} {m0 : List (Nat × Entry)} {s : State P} {p : Nat × Nat}
    (hr : RelM m0 s.now cfg.tti s.map) (hp : Hit cfg (Fresh cfg m0) s p) : Served m0 s.now cfg.tti p := by
  obtain ⟨t, e, ht, he, hx, hv⟩ := hp
  have := (ht.2 hr).served he (ht.1 ▸ hx)
  rw [hv] at this
  exact this

theorem iterSnapshotAll_served (s : State P) :
    ∀ p ∈ (s.iterSnapshotAll cfg ops o none).2, Served s.map s.now cfg.tti p := by
  have hf := flush_mstep cfg ops o s
  intro p hp
  rcases (snapDrive_lift (Fresh.rel cfg s.map) _ (s.flush cfg ops o) none [] (fun h => absurd rfl h)).2 p hp
    with hn | ⟨_, hh⟩
  · cases hn
  · exact hf.now ▸ Served.of_hit (RelM.of_sub hf.sub.subset) hh

/-- `s`: the state the call started in; a policy may nominate `k` in whatever state -/
def MaintCause (cfg : Cfg) (ops : PolicyOps P) (s : State P) (k : Nat) : Prop :=
  ExpiredIn cfg s k ∨ (∃ i w, i < cfg.nshards ∧ whL s.aux i = some w ∧ k ∈ w.advance.2) ∨
    AdmitNominates ops k ∨ EvictNominates ops k

def LookBack (t s0 : State P) : Prop :=
  t.now = s0.now ∧ ∀ k e, lookup t.map k = some e → lookup s0.map k = some e

theorem MStep.lookBack {C X : Nat → Prop} {t s s0 : State P} (h : MStep C X t s) (hb : LookBack s s0) :
    LookBack t s0 := by
  refine ⟨h.now.trans hb.1, fun k e he => ?_⟩
  rcases h.look k with h' | ⟨h', _⟩
  · exact hb.2 k e (h' ▸ he)
  · rw [h'] at he; cases he

theorem maintShard_mstep (s0 t : State P) (i : Nat)
    (hi : i < cfg.nshards) (hw : whL t.aux i = whL s0.aux i) (hb : LookBack t s0) :
    MStep (MaintCause cfg ops s0) (fun j => j = i) (maintShard cfg ops o t i) t := by
  have hr := MStep.rel (P := P) (MaintCause cfg ops s0) (fun j => j = i)
  unfold maintShard
  have p1 := performShard_mstep cfg ops o t i cfg.drainLimit
  generalize t.performShard cfg ops o i cfg.drainLimit = t1 at p1 ⊢
  have w1 : whL t1.aux i = whL s0.aux i := (p1.wheel i (fun h => h)).trans hw
  have q2 : MStep (MaintCause cfg ops s0) (fun j => j = i) (t1.cleanupTtl cfg ops o i) t1 :=
    cleanupTtl_lift cfg ops o hr t1 i
      (fun _ => ⟨rfl, rfl, List.Sublist.refl _, fun _ => Or.inl rfl, fun j hj => whL_modAt_ne _ _ _ _ hj⟩)
      (fun w _ _ _ _ h1 h2 hd => MStep.of_drop hd (.inr (.inl ⟨i, w, hi, w1 ▸ h1, h2⟩)) (fun _ h => h.elim))
  have b2 := q2.lookBack (p1.lookBack hb)
  generalize t1.cleanupTtl cfg ops o i = t2 at q2 b2 ⊢
  have q3 : MStep (MaintCause cfg ops s0) (fun j => j = i) (t2.cleanupTti cfg ops o i) t2 :=
    cleanupTti_lift cfg ops o hr t2 i (fun _ _ k _ hx hd =>
      MStep.of_drop hd (.inl ⟨hx.1, hx.2.imp (fun e he => ⟨b2.2 k e he.1, b2.1 ▸ he.2⟩)⟩) (fun _ h => h))
  exact hr.trans ((cleanupCapacity_mstep cfg ops o _ i).mono (fun _ h => .inr (.inr (.inr h))) (fun _ h => h.elim))
    (hr.trans q3 (hr.trans q2 (p1.mono (fun _ h => .inr (.inr (.inl h))) (fun _ h => h.elim))))

theorem maintFold_mstep (s0 : State P) :
    ∀ (l : List Nat) (t : State P), l.Nodup → (∀ j ∈ l, j < cfg.nshards) →
      (∀ j ∈ l, whL t.aux j = whL s0.aux j) → LookBack t s0 →
      MStep (MaintCause cfg ops s0) (fun _ => True) (l.foldl (maintShard cfg ops o) t) t := by
  intro l
  induction l with
  | nil => intro t _ _ _ _; exact (MStep.rel _ _).refl t
  | cons i rest ih =>
    intro t hnd hlt hw hb
    have hs := maintShard_mstep cfg ops o s0 t i (hlt i (by simp)) (hw i (by simp)) hb
    have hnd' := List.nodup_cons.1 hnd
    refine (MStep.rel _ _).trans (ih _ hnd'.2 (fun j hj => hlt j (List.mem_cons_of_mem _ hj)) ?_ (hs.lookBack hb))
      (hs.mono (fun _ h => h) (fun _ _ => trivial))
    intro j hj
    have hne : j ≠ i := fun h => hnd'.1 (by rw [← h]; exact hj)
    exact (hs.wheel j hne).trans (hw j (List.mem_cons_of_mem _ hj))

theorem runMaintenance_mstep (s : State P) :
    MStep (MaintCause cfg ops s) (fun _ => True) (s.runMaintenance cfg ops o) s :=
  maintFold_mstep cfg ops o s (List.range cfg.nshards) s List.nodup_range
    (fun _ hj => List.mem_range.1 hj) (fun _ _ => rfl) ⟨rfl, fun _ _ h => h⟩

/-- the policy of an unbounded cache -/
def NoVictims (ops : PolicyOps P) : Prop :=
  ∀ p k c vs, (ops.admit p k c).2 = .admitAndEvict vs → vs = []

theorem NoVictims.not_nominates {ops : PolicyOps P} (h : NoVictims ops) (k : Nat) : ¬ AdmitNominates ops k := by
  rintro ⟨p, k0, c, vs, h1, h2⟩
  rw [h p k0 c vs h1] at h2
  cases h2

theorem nullOps_noVictims : NoVictims nullOps := by
  intro p k c vs h
  cases h

theorem nullOps_noEvict : ∀ k, ¬ EvictNominates nullOps k := by
  rintro k ⟨p, n, hint, p', vs, freed, h, hk⟩
  simp [nullOps] at h
  rw [h.1] at hk
  cases hk

def Kept (W : List Nat) (m m' : List (Nat × Entry)) : Prop :=
  ∀ k e, lookup m k = some e → ∃ e', lookup m' k = some e' ∧ (e'.vid = e.vid ∨ e'.vid ∈ W)

theorem Kept.refl (W : List Nat) (m : List (Nat × Entry)) : Kept W m m := fun _ e h => ⟨e, h, Or.inl rfl⟩

theorem Kept.of_eq {W : List Nat} {m m' : List (Nat × Entry)} (h : m' = m) : Kept W m m' := by
  subst h; exact Kept.refl W _

theorem Kept.trans {W : List Nat} {a b c : List (Nat × Entry)} (h1 : Kept W a b) (h2 : Kept W b c) : Kept W a c := by
  intro k e he
  obtain ⟨e1, he1, hv1⟩ := h1 k e he
  obtain ⟨e2, he2, hv2⟩ := h2 k e1 he1
  refine ⟨e2, he2, ?_⟩
  rcases hv2 with h | h
  · exact hv1.imp (h.trans ·) (h ▸ ·)
  · exact Or.inr h

theorem Kept.put {W : List Nat} {m : List (Nat × Entry)} {k : Nat} {e : Entry}
    (h : ∀ e0, lookup m k = some e0 → e.vid = e0.vid ∨ e.vid ∈ W) : Kept W m (put m k e) := by
  intro k' e0 h0
  by_cases hk : k' = k
  · subst hk; exact ⟨e, lookup_put_self _ _ _, h e0 h0⟩
  · exact ⟨e0, by rw [lookup_put_ne _ _ hk]; exact h0, Or.inl rfl⟩

theorem Kept.of_put {W : List Nat} {t s : State P} {k : Nat} {e : Entry} (hp : Put t s k e) (hW : e.vid ∈ W) :
    Kept W s.map t.map := hp.map ▸ Kept.put (fun _ _ => Or.inr hW)

theorem Kept.rel (W : List Nat) : ReadRel cfg (fun (t s : State P) => Kept W s.map t.map) where
  refl := fun _ => Kept.refl _ _
  trans := fun h1 h2 => h2.trans h1
  quiet := fun hq => Kept.of_eq hq.map
  touch := fun he _ ht => ht.map ▸ Kept.put (fun e0 h0 => by rw [he] at h0; cases h0; exact Or.inl (touch_vid _ _ _))

theorem MStep.kept {C X : Nat → Prop} {t s : State P} {W : List Nat} (h : MStep C X t s) (hC : ∀ k, ¬ C k) :
    Kept W s.map t.map := by
  intro k e he
  rcases h.look k with h' | ⟨_, hc⟩
  · exact ⟨e, h'.trans he, Or.inl rfl⟩
  · exact absurd hc (hC k)

theorem multiInsert_kept (W : List Nat) (cfg : Cfg) :
    ∀ (items : List (Nat × Nat × Nat)) (s : State P), (∀ it ∈ items, it.2.1 ∈ W) →
      Kept W s.map (items.foldl (fun s (x : Nat × Nat × Nat) =>
        s.insertCore cfg x.1 (Entry.mk' x.2.1 x.2.2 s.now cfg.ttl cfg.tti) cfg.ttl false) s).map :=
  fun items s hW => (Kept.rel cfg W).foldl _ items s
    (fun s it hit => (insertCore_put cfg s it.1 (Entry.mk' it.2.1 it.2.2 s.now cfg.ttl cfg.tti) cfg.ttl false).elim
      (fun _ hp => Kept.of_put hp (hW it hit)))

end Fv.Cache
