import Fv.Lemmas.PolicySpec
import Fv.Lemmas.Common
/-!
For C14.  LRU and FIFO evict by popping the tail of one `LruList` (`TailDrained`); what differs is the
measure by which the list is sorted (`SortedBy`): last use for LRU, insertion time for FIFO.
-/
namespace Fv.Cache.Policy


/-- last clause: no more is popped than needed (without its last-popped entry `popped` is worth `< need`) -/
theorem drainBack_spec : ∀ (fuel : Nat) (l : LruList) (need : Nat) (vs : List Nat) (freed : Nat),
    l.WF → l.items.length < fuel →
    ∃ popped l', drainBack fuel l need vs freed
        = (l', need - costSum popped, vs ++ keys popped.reverse, freed + costSum popped)
      ∧ l.items = l'.items ++ popped ∧ l'.WF
      ∧ (need ≤ costSum popped ∨ l'.items = [])
      ∧ (∀ p b, popped = p :: b → costSum b < need) := by
  intro fuel
  induction fuel with
  | zero => intro l _ _ _ _ hf; omega
  | succ fuel ih =>
    intro l need vs freed hw hf
    unfold drainBack
    split
    · next hlt =>
      rcases LruList.popBack_cases hw with ⟨hnil, hp⟩ | ⟨init, k, c, hc, hp, hw'⟩ <;> rw [hp]
      · exact ⟨[], l, by simp, by simp, hw, .inr hnil, by simp⟩
      · obtain ⟨popped, l', he, hs, hw2, hdone, hmin⟩ :=
          ih _ (need - c) (vs ++ [k]) (freed + c) hw' (by simp [hc] at hf; omega)
        replace hs : init = l'.items ++ popped := hs
        refine ⟨popped ++ [(k, c)], l', ?_, by rw [hc, hs, List.append_assoc], hw2,
          hdone.imp (fun h => by simp; omega) id, ?_⟩
        · simp only [he]; simp [keys_reverse, Nat.add_assoc, Nat.add_comm c, Nat.sub_sub]
        · intro p b hpb
          cases popped with
          | nil => simp only [List.nil_append, List.cons.injEq] at hpb; simpa [← hpb.2] using hlt
          | cons q b' =>
            simp only [List.cons_append, List.cons.injEq] at hpb
            have := hmin q b' rfl
            simp [← hpb.2]; omega
    · next hlt => exact ⟨[], l, by simp, by simp, hw, .inl (by simp; omega), by simp⟩

/-- LRU's own loop counts `freed` up to the request where `drainBack` counts the request down -/
theorem Lru.evictLoop_eq_drainBack : ∀ (fuel : Nat) (l : LruList) (need : Nat) (vs : List Nat)
    (freed : Nat), Lru.evictLoop fuel l need vs freed =
      ((drainBack fuel l (need - freed) vs freed).1, (drainBack fuel l (need - freed) vs freed).2.2) := by
  intro fuel
  induction fuel with
  | zero => intros; rfl
  | succ fuel ih =>
    intro l need vs freed
    unfold Lru.evictLoop drainBack
    by_cases h : freed < need
    · have h' : need - freed > 0 := by omega
      simp only [h, h', if_true]
      cases l.popBack with
      | mk l' r =>
        cases r with
        | none => rfl
        | some kc => simp only [ih, Nat.sub_add_eq]
    · have h' : ¬ need - freed > 0 := by omega
      simp only [h, h', if_false]

def TailDrained (l : LruList) (n : Nat) (r : LruList × List Nat × Nat) : Prop :=
  ∃ popped, r.2 = (keys popped.reverse, costSum popped) ∧ l.items = r.1.items ++ popped ∧ r.1.WF
    ∧ (n ≤ costSum popped ∨ r.1.items = []) ∧ (∀ p b, popped = p :: b → costSum b < n)

theorem drainBack_tailDrained {l : LruList} (h : l.WF) (n : Nat) :
    TailDrained l n ((drainBack (l.items.length + 1) l n [] 0).1,
      (drainBack (l.items.length + 1) l n [] 0).2.2) := by
  obtain ⟨popped, l', he, rest⟩ := drainBack_spec (l.items.length + 1) l n [] 0 h (by omega)
  exact ⟨popped, by simp [he], by simpa [he] using rest⟩

/-- head = largest measure -/
def SortedBy (m : Nat → Nat) (l : List (Nat × Nat)) : Prop :=
  l.Pairwise (fun p q => m q.1 < m p.1)

namespace TailDrained
variable {l : LruList} {n : Nat} {r : LruList × List Nat × Nat}

theorem wf (h : TailDrained l n r) : r.1.WF := by
  obtain ⟨_, _, _, hw, _⟩ := h
  exact hw

theorem sublist (h : TailDrained l n r) : r.1.items.Sublist l.items := by
  obtain ⟨popped, _, hs, _⟩ := h
  rw [hs]; exact List.sublist_append_left _ _

theorem drained (h : TailDrained l n r) : Drained l.items r.1.items r.2.1 r.2.2 := by
  obtain ⟨popped, he, hs, _⟩ := h
  exact ⟨popped.reverse, by rw [he], by simp [he], by
    rw [hs]; exact (List.reverse_perm popped).symm.append_left _⟩

theorem sound (h : TailDrained l n r) (hw : l.WF) :
    EvictSound l.items r.1.items r.2.1 r.2.2 ∧ r.1.WF :=
  ⟨h.drained.sound hw.1, h.wf⟩

theorem enough (h : TailDrained l n r) (hn : n ≤ costSum l.items) : n ≤ r.2.2 := by
  obtain ⟨popped, he, _, _, hd, _⟩ := id h
  exact h.drained.enough (by simpa [he] using hd) hn

theorem order {R : Nat → Nat → Prop} (h : TailDrained l n r)
    (hp : l.items.Pairwise (fun p q => R q.1 p.1)) :
    r.2.1.Pairwise R ∧ ∀ v ∈ r.2.1, ∀ x ∈ keys r.1.items, R v x := by
  obtain ⟨popped, he, hs, _⟩ := h
  rw [hs, List.pairwise_append] at hp
  rw [he]
  refine ⟨?_, ?_⟩
  · simp only [keys, List.pairwise_map, List.pairwise_reverse]; exact hp.2.1
  · intro v hv x hx
    simp only [keys, List.mem_map, List.mem_reverse] at hv hx
    obtain ⟨q, hq, rfl⟩ := hv
    obtain ⟨p, hp', rfl⟩ := hx
    exact hp.2.2 p hp' q hq

theorem minimal (h : TailDrained l n r) (hnd : (keys l.items).Nodup) :
    ∀ vs0 v, r.2.1 = vs0 ++ [v] → (vs0.map (fun k => (costOf l.items k).getD 0)).sum < n := by
  obtain ⟨popped, he, hs, _, _, hm⟩ := h
  intro vs0 v hv
  rw [he] at hv
  cases popped with
  | nil => simp at hv
  | cons p0 b =>
    have h1 : keys (p0 :: b).reverse = keys b.reverse ++ [p0.1] := by simp [keys]
    rw [h1] at hv
    rw [← (List.append_inj' hv rfl).1, ← costSum_eq_lookup_sum hnd (by
      intro p hp; rw [hs]; simp at hp; simp [hp])]
    simpa using hm p0 b rfl

theorem in_order {m : Nat → Nat} (h : TailDrained l n r) (hs : SortedBy m l.items)
    (hnd : (keys l.items).Nodup) :
    r.2.1.Pairwise (fun a b => m a < m b)
    ∧ (∀ v ∈ r.2.1, ∀ x ∈ keys r.1.items, m v < m x)
    ∧ ∀ vs0 v, r.2.1 = vs0 ++ [v] → (vs0.map (fun k => (costOf l.items k).getD 0)).sum < n :=
  have ho := h.order (R := fun a b => m a < m b) hs
  ⟨ho.1, ho.2, h.minimal hnd⟩

end TailDrained


theorem SortedBy.sub {m m' : Nat → Nat} {l l' : List (Nat × Nat)} (h : SortedBy m l)
    (hs : l'.Sublist l) (he : ∀ p ∈ l', m' p.1 = m p.1) : SortedBy m' l' := by
  refine (List.Pairwise.sublist hs h).imp_of_mem ?_
  intro p q hp hq hr
  rw [he p hp, he q hq]; exact hr

theorem SortedBy.push {m m' : Nat → Nat} {l l' : List (Nat × Nat)} {k c : Nat} (h : SortedBy m l)
    (hs : l'.Sublist l) (he : ∀ p ∈ l', m' p.1 = m p.1) (hk : ∀ p ∈ l', m p.1 < m' k) :
    SortedBy m' ((k, c) :: l') :=
  List.pairwise_cons.2 ⟨fun p hp => by rw [he p hp]; exact hk p hp, h.sub hs he⟩

namespace Lru

theorem Inv_init : Inv init := LruList.WF_empty

theorem evict_spec {s : State} (h : Inv s) (n : Nat) : TailDrained s n (evict s n) := by
  simpa [evict, evictLoop_eq_drainBack] using drainBack_tailDrained h n

theorem admit_spec {s : State} (h : Inv s) (k c : Nat) :
    Inv (admit s k c).1 ∧ AdmitOk (tracked s) (tracked (admit s k c).1) k [] := by
  refine ⟨LruList.pushFront_WF h k c, ?_⟩
  simp only [tracked, admit]; rw [LruList.pushFront_items]; exact .of_push _ k c

theorem contract : Contract step tracked Inv fun s n _ => evict s n where
  admit h k c := ⟨(admit_spec h k c).1, _, (admit_spec h k c).2⟩
  access h k _ := ⟨LruList.moveToFront_WF h k, .of_perm (LruList.moveToFront_perm h k) k⟩
  remove h k := ⟨LruList.remove_WF h k, LruList.remove_ok _ k⟩
  evict h n _ := (evict_spec h n).sound h
  step_evict _ _ _ := rfl
  clear _ := ⟨LruList.WF_empty, rfl⟩

theorem run_snoc (ops : List Op) (op : Op) : run (ops ++ [op]) = step (run ops) op :=
  foldl_snoc ..

theorem sorted_run (ops : List Op) : SortedBy (lastUse ops) (run ops).items := by
  induction ops using snoc_induction with
  | nil => exact .nil
  | snoc ops op ih =>
    rw [run_snoc]
    have same : ∀ p : Nat × Nat, op.touches p.1 = false →
        lastUse (ops ++ [op]) p.1 = lastUse ops p.1 := fun p hp => by simp [lastUse_snoc, hp]
    -- an admit / access of `k` moves `k` to the front and makes it the most recently used
    have touch : ∀ k c, (∀ x, op.touches x = (k == x)) →
        SortedBy (lastUse (ops ++ [op])) ((k, c) :: LruList.without (run ops).items k) := by
      intro k c ht
      refine ih.push (without_sublist _ k) (fun p hp => same p ?_) (fun p _ => ?_)
      · rw [ht]; exact beq_eq_false_iff_ne.2 (Ne.symm (mem_without.1 hp).2)
      · have := lastUse_le ops p.1
        rw [lastUse_snoc, ht k]; simp; omega
    cases op with
    | admit k c =>
      simp only [step, admit, LruList.pushFront_items]
      exact touch k c fun _ => rfl
    | access k c =>
      simp only [step, access, LruList.moveToFront_items]
      split
      · exact touch k _ fun _ => rfl
      · next hnone =>
        refine ih.sub (.refl _) fun p hp => same p ?_
        have hk : k ≠ p.1 := fun e => costOf_eq_none_iff.1 hnone (e ▸ mem_keys_of_mem hp)
        simpa [Op.touches] using hk
    | remove k =>
      simp only [step, remove, LruList.remove_items]
      exact ih.sub (without_sublist _ k) fun p _ => same p rfl
    | evict n picks =>
      exact ih.sub (evict_spec (contract.inv_run Inv_init ops) n).sublist fun p _ => same p rfl
    | clear => exact .nil

end Lru

namespace Fifo

theorem Inv_init : Inv init := LruList.WF_empty

theorem evict_spec {s : State} (h : Inv s) (n : Nat) : TailDrained s n (evict s n) :=
  drainBack_tailDrained h n

theorem admit_fst (s : State) (k c) :
    (admit s k c).1 = if k ∈ keys s.items then s else s.pushFront k c := by
  simp only [admit, ← LruList.contains_iff]

theorem admit_spec (s : State) (k c : Nat) : KeepOrAdd tracked Inv s (admit s k c).1 k c :=
  .of_ite (admit_fst s k c) fun hk =>
    ⟨fun h => LruList.pushFront_WF h k c, by
      simp only [tracked] at hk ⊢; rw [LruList.pushFront_items, without_eq_self hk]⟩

theorem contract : Contract step tracked Inv fun s n _ => evict s n where
  admit h k c := ⟨(admit_spec _ k c).inv h, _, (admit_spec _ k c).ok⟩
  access h k _ := ⟨h, .rfl' k⟩
  remove h k := ⟨LruList.remove_WF h k, LruList.remove_ok _ k⟩
  evict h n _ := (evict_spec h n).sound h
  step_evict _ _ _ := rfl
  clear _ := ⟨LruList.WF_empty, rfl⟩

theorem run_snoc (ops : List Op) (op : Op) : run (ops ++ [op]) = step (run ops) op :=
  foldl_snoc ..

theorem runT_snoc (ops : List Op) (op : Op) : runT (ops ++ [op]) = stepT (runT ops) op :=
  foldl_snoc ..

theorem runT_fst (ops : List Op) : (runT ops).1 = run ops := by
  induction ops using snoc_induction with
  | nil => rfl
  | snoc ops op ih => rw [runT_snoc, run_snoc, ← ih]; rfl

theorem runT_clock (ops : List Op) : (runT ops).2.2 = ops.length := by
  induction ops using snoc_induction with
  | nil => rfl
  | snoc ops op ih => rw [runT_snoc]; simp [stepT, ih]

theorem insertedAt_snoc (ops : List Op) (op : Op) (x : Nat) :
    insertedAt (ops ++ [op]) x =
      match op with
      | .admit k _ => if k ∈ keys (run ops).items then insertedAt ops x
                      else if x = k then ops.length + 1 else insertedAt ops x
      | _ => insertedAt ops x := by
  simp only [insertedAt, runT_snoc, stepT, runT_fst, runT_clock]
  cases op with
  | admit k c => simp only [← LruList.contains_iff]; split <;> rfl
  | _ => rfl

theorem insertedAt_le (ops : List Op) (x : Nat) : insertedAt ops x ≤ ops.length := by
  induction ops using snoc_induction with
  | nil => exact Nat.le_refl 0
  | snoc ops op ih =>
    have : insertedAt ops x ≤ (ops ++ [op]).length := by simp; omega
    rw [insertedAt_snoc]
    cases op with
    | admit k c =>
      dsimp only
      split
      · exact this
      · split
        · simp
        · exact this
    | _ => exact this

theorem sorted_run (ops : List Op) : SortedBy (insertedAt ops) (run ops).items := by
  induction ops using snoc_induction with
  | nil => exact .nil
  | snoc ops op ih =>
    rw [run_snoc]
    cases op with
    | admit k c =>
      simp only [step, admit_fst]
      split
      · next hk => exact ih.sub (.refl _) fun p _ => by simp [insertedAt_snoc, hk]
      · next hk =>
        rw [LruList.pushFront_items, without_eq_self hk]
        refine ih.push (.refl _) (fun p hp => ?_) (fun p _ => ?_)
        · have hne : p.1 ≠ k := fun e => hk (e ▸ mem_keys_of_mem hp)
          simp [insertedAt_snoc, hk, hne]
        · have := insertedAt_le ops p.1
          simp [insertedAt_snoc, hk]; omega
    | access k c => exact ih.sub (.refl _) fun p _ => by simp [insertedAt_snoc]
    | remove k =>
      simp only [step, remove, LruList.remove_items]
      exact ih.sub (without_sublist _ k) fun p _ => by simp [insertedAt_snoc]
    | evict n picks =>
      exact ih.sub (evict_spec (contract.inv_run Inv_init ops) n).sublist fun p _ => by
        simp [insertedAt_snoc]
    | clear => exact .nil

end Fifo

end Fv.Cache.Policy
