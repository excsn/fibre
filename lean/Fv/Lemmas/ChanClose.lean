import Fv.Lemmas.ChanSeq
/-!
Exact sequential outcomes on the buffered families: an operation that its call step leaves finished or unable to move
is decided there (`stepOp_of_start`); from this `try_send` / `try_recv`, the disconnect protocol and "blocks iff not
enabled" at Q level.
-/
namespace Fv.Chan
open List

theorem firstHit_none {l e o g c} (h : firstHit l e o g = none) (hm : c ∈ l) : Chk.hit e o g c = false := by
  rw [firstHit_eq_find?, find?_eq_none] at h; simpa using h c hm

theorem recvPrelude_has_E (fam a f) (h : f.isBatch = true) : Chk.E ∈ recvPrelude fam a f := by
  unfold recvPrelude
  simp only [h, Bool.not_true, Bool.false_eq_true, if_false]
  split <;> (try split) <;> simp

theorem recvPrelude_hit (fam a f) {n : Nat} (hn : f.isBatch = true → n ≠ 0) (c : Bool) :
    firstHit (recvPrelude fam a f) (n == 0) c false = if c ∧ checksOwn fam a f then some .O else none := by
  unfold recvPrelude
  cases hb : f.isBatch
  · cases checksOwn fam a f <;> cases c <;> rfl
  · rw [show (n == 0) = false by simpa using hn hb]
    simp only [Bool.not_true, Bool.false_eq_true, if_false]
    split <;> (try cases checksOwn fam a f) <;> cases c <;> rfl

theorem sendPrelude_hit (fam a f) (c g : Bool) :
    firstHit (sendPrelude fam a f) false c g =
      if c ∧ checksOwn fam a f then some .O else if g then some .G else none := by
  unfold sendPrelude
  split
  · cases checksOwn fam a f <;> cases c <;> cases g <;> rfl
  · split <;> (try cases checksOwn fam a f) <;> cases c <;> cases g <;> rfl

theorem recvWant_pos_of {f : Form} {n : Nat} (hn : f.isBatch = true → n ≠ 0) : recvWant f n [] > 0 := by
  unfold recvWant
  split
  · have := hn ‹_›; simp; omega
  · omega

theorem recvWant_pos {fam a f n} (h : firstHit (recvPrelude fam a f) (n == 0) o false = none) : recvWant f n [] > 0 :=
  recvWant_pos_of fun hb => by simpa [Chk.hit] using firstHit_none h (recvPrelude_has_E _ _ _ hb)

theorem recvUnit_pos (fl cfg f n) (hw : recvWant f n [] > 0) : recvUnit fl cfg f n [] > 0 := by
  unfold recvUnit; split <;> omega

theorem recvK_eq_zero {fl cfg s f n} (hw : recvWant f n [] > 0) : recvK fl cfg s f n [] = 0 ↔ s.buf = [] := by
  have hu := recvUnit_pos fl cfg f n hw
  unfold recvK
  constructor
  · intro h0; exact length_eq_zero_iff.mp (by omega)
  · intro hb; simp [hb]

theorem recvStep_cases (fl cfg s t f hd n) (hw : recvWant f n [] > 0) :
    (s.buf = [] ∧ recvStep fl cfg s t f hd n [] =
      if sendersGone s then some (mbFlush fl s, .fin { tag := .disconnected })
      else if f.blocking || f.isSend then none else some (mbFlush fl s, .fin { tag := emptyTag f })) ∨
    (s.buf ≠ [] ∧ ∃ s' p', recvStep fl cfg s t f hd n [] = some (s', p') ∧
      ((p' = .fin { tag := .ok, got := s.buf.take (recvK fl cfg s f n []) } ∧
          (f.isBatch = false → s' = mbGot fl (s.pop hd.name.idx (recvK fl cfg s f n [])) (recvK fl cfg s f n []) false)) ∨
        (cfg.granular = true ∧ p' = .brecv t f hd.name n (s.buf.take (recvK fl cfg s f n []))))) := by
  by_cases hb : s.buf = []
  · refine .inl ⟨hb, ?_⟩
    simp only [recvStep, (recvK_eq_zero hw).mpr hb, if_true, isEmpty_nil, emptyOutcome]
    cases f <;> simp [Form.isSend, Form.blocking, emptyTag]
  · have hk : ¬ recvK fl cfg s f n [] = 0 := fun h => hb ((recvK_eq_zero hw).mp h)
    refine .inr ⟨hb, ?_⟩
    unfold recvStep
    simp only [hk, if_false, nil_append]
    split
    · exact ⟨_, _, rfl, .inl ⟨rfl, fun hb => by simp [hb]⟩⟩
    · rename_i hnot
      refine ⟨_, _, rfl, .inr ⟨?_, rfl⟩⟩
      cases hg : cfg.granular
      · exact absurd (.inr (by unfold recvUnit; simp [hg])) hnot
      · rfl

theorem recvStep_none_iff (fl : Flavour) (cfg : Cfg) (s : St) (t : Nat) (f : Form) (hd : Handle) (n : Nat)
    (hw : recvWant f n [] > 0) (hf : f.isSend = false) :
    recvStep fl cfg s t f hd n [] = none ↔ (s.buf = [] ∧ sendersGone s = false ∧ f.blocking = true) := by
  rcases recvStep_cases fl cfg s t f hd n hw with ⟨hb, h⟩ | ⟨hb, _, _, h, _⟩
  · rw [h, hf]
    cases sendersGone s <;> cases f.blocking <;> simp [hb]
  · simp [h, hb]

/-- No receive form looks at `producer_dropped` (`pd`), only at the sender count: the first half of a two-step spsc
close is invisible to the receiver (finding N6, repaired in /repo by 23f212c). -/
theorem recvStep_disconnected_any {fl : Flavour} {cfg : Cfg} {s t f hd n s' o} (hw : recvWant f n [] > 0)
    (hs : recvStep fl cfg s t f hd n [] = some (s', .fin o)) (ht : o.tag = .disconnected) :
    s.buf = [] ∧ s.sc = 0 := by
  rcases recvStep_cases fl cfg s t f hd n hw with ⟨hb, h⟩ | ⟨_, s1, p1, h, hp⟩ <;> rw [h] at hs
  · refine ⟨hb, ?_⟩
    cases hg : sendersGone s
    · simp only [hg, Bool.false_eq_true, if_false] at hs
      split at hs
      · cases hs
      · cases hs; cases f <;> simp [emptyTag] at ht
    · simpa [sendersGone] using hg
  · cases hs
    rcases hp with hp | hp
    · cases hp.1; simp at ht
    · cases hp.2

theorem recvStep_seq {fl : Flavour} {s t f hd n s' p'} (hw : recvWant f n [] > 0)
    (hs : recvStep fl seqCfg s t f hd n [] = some (s', p')) : ∃ o, p' = .fin o ∧ o.tag ≠ .blocks := by
  rcases recvStep_cases fl seqCfg s t f hd n hw with ⟨_, h⟩ | ⟨_, s1, p1, h, hp⟩ <;> rw [h] at hs
  · split at hs
    · cases hs; exact ⟨_, rfl, by simp⟩
    · split at hs
      · cases hs
      · cases hs; exact ⟨_, rfl, by cases f <;> simp [emptyTag]⟩
  · cases hs
    rcases hp with hp | hp
    · exact ⟨_, hp.1, by simp⟩
    · cases hp.1

theorem findH_flush (fl) (s : St) (h) : findH (mbFlush fl s).hs h = findH s.hs h := by
  unfold mbFlush; split <;> rfl

theorem findH_flushMid (fl) (s : St) (h) : findH (mbFlushMid fl s).hs h = findH s.hs h := by
  unfold mbFlushMid; split <;> rfl

theorem recvStep_none_flush {fl cfg s t f hd n} (hw : recvWant f n [] > 0) (hform : f.isSend = false)
    (hn : recvStep fl cfg s t f hd n [] = none) : recvStep fl cfg (mbFlush fl s) t f hd n [] = none := by
  rw [recvStep_none_iff fl cfg _ t f hd n hw hform] at hn ⊢
  have hq := (mbFlush_still fl s).same
  have hsc : (mbFlush fl s).sc = s.sc := congrArg Shell.sc hq.shell
  exact ⟨by rw [hq.buf]; exact hn.1, by unfold sendersGone at hn ⊢; rw [hsc]; exact hn.2.1, hn.2.2⟩

theorem runPS_stuck {fl cfg s p} (h : microDet fl cfg s p = none) (fuel : Nat) : runPS fl cfg fuel s p = (s, p) := by
  cases fuel with
  | zero => rfl
  | succ k => unfold runPS; split <;> simp [h]

theorem stepOp_of_start {fl s op} (h : (∃ o, (start fl seqCfg s 0 op).2 = .fin o) ∨
    microDet fl seqCfg (start fl seqCfg s 0 op).1 (start fl seqCfg s 0 op).2 = none) :
    stepOp fl s op = ((start fl seqCfg s 0 op).1, (start fl seqCfg s 0 op).2.outOrBlocks) := by
  unfold stepOp
  rw [stepOpS_eq]
  rcases h with ⟨o, ho⟩ | h
  · rw [ho, runPS_fin]
  · rw [runPS_stuck h]

section
variable {fl : Flavour} (hrv : fl.fam ≠ .rv) (hos : fl.fam ≠ .os) {s : St} {h : HName} {hd : Handle}
  (hf : findH s.hs h = some hd)
include hrv hos hf

theorem start_rcv (cfg : Cfg) (t : Nat) (f : Form) (n : Nat) :
    start fl cfg s t (.rcv f h n) =
      if hd.name.side ≠ .rx ∨ f.isSend ∨ !supportsForm fl.fam hd.isAsync f then (s, .fin { tag := .unsupported })
      else match firstHit (recvPrelude fl.fam hd.isAsync f) (n == 0) hd.closed false with
        | some .E => (s, .fin { tag := .ok })
        | some _ => (s, .fin { tag := .disconnected })
        | none =>
          match recvStep fl cfg s t f hd n [] with
          | some r => r
          | none => (mbFlush fl s, .brecv t f h n []) := by
  simp only [start, startRecv, hf]
  cases hfam : fl.fam <;> simp_all <;> rfl

/-- a receive that waits has flushed the consumer's progress in its call step, so it cannot move -/
theorem stepOp_rcv_start (f : Form) (n : Nat) :
    stepOp fl s (.rcv f h n) =
      ((start fl seqCfg s 0 (.rcv f h n)).1, (start fl seqCfg s 0 (.rcv f h n)).2.outOrBlocks) := by
  apply stepOp_of_start
  rw [start_rcv hrv hos hf]
  split
  · exact .inl ⟨_, rfl⟩
  · rename_i hu
    split
    · exact .inl ⟨_, rfl⟩
    · exact .inl ⟨_, rfl⟩
    · rename_i hpre
      have hw := recvWant_pos hpre
      split
      · rename_i r hr
        obtain ⟨o, ho, _⟩ := recvStep_seq hw (show _ = some (r.1, r.2) from hr)
        exact .inl ⟨o, ho⟩
      · rename_i hr
        have hfm : f.isSend = false := by simpa using (not_or.mp (not_or.mp hu).2).1
        right
        simp only [microDet, findH_flush, hf, recvStep_none_flush hw hfm hr]
        rw [if_neg]
        unfold mbFlush
        split <;> simp_all

theorem startRecv_disconnected_any (cfg : Cfg) (t : Nat) (f : Form) (n : Nat) (hopen : hd.closed = false) {s' o}
    (hs : start fl cfg s t (.rcv f h n) = (s', .fin o)) (ht : o.tag = .disconnected) : s.buf = [] ∧ s.sc = 0 := by
  rw [start_rcv hrv hos hf] at hs
  split at hs
  · cases hs; simp at ht
  · split at hs
    · cases hs; simp at ht
    · rename_i c hne hc
      have := firstHit_some hc
      cases c <;> simp_all [Chk.hit]
    · rename_i hnone
      split at hs
      · rename_i r hr
        obtain ⟨r1, r2⟩ := r
        cases hs
        exact recvStep_disconnected_any (recvWant_pos hnone) hr ht
      · cases hs

variable (hside : hd.name.side = .rx) {f : Form} (hform : f.isSend = false)
  (hsup : supportsForm fl.fam hd.isAsync f = true) {n : Nat} (hn : f.isBatch = true → n ≠ 0)
include hside hform hsup hn

theorem stepOp_recv_own_closed (hc : hd.closed = true) (hchk : checksOwn fl.fam hd.isAsync f = true) :
    stepOp fl s (.rcv f h n) = (s, { tag := .disconnected }) := by
  have : start fl seqCfg s 0 (.rcv f h n) = (s, .fin { tag := .disconnected }) := by
    rw [start_rcv hrv hos hf, recvPrelude_hit _ _ _ hn]
    simp [hside, hform, hsup, hc, hchk]
  rw [stepOp_of_start (.inl ⟨_, by rw [this]⟩), this]; rfl

theorem start_rcv_open (cfg : Cfg) (t : Nat) (hopen : hd.closed = false) :
    start fl cfg s t (.rcv f h n) =
      match recvStep fl cfg s t f hd n [] with
      | some r => r
      | none => (mbFlush fl s, .brecv t f h n []) := by
  rw [start_rcv hrv hos hf, recvPrelude_hit _ _ _ hn]
  simp only [hside, hform, hsup, hopen, ne_eq, not_true_eq_false, Bool.not_true, Bool.false_eq_true, or_self, false_and,
    if_false]

end

theorem checksOwn_tryRecv (fam a) : checksOwn fam a .tryRecv = true := by
  cases fam <;> cases a <;> rfl

theorem supports_tryRecv {fam : Fam} (h1 : fam ≠ .rv) (h2 : fam ≠ .os) (a) : supportsForm fam a .tryRecv = true := by
  cases fam <;> simp_all [supportsForm]

theorem stepOp_tryRecv {fl : Flavour} (hrv : fl.fam ≠ .rv) (hos : fl.fam ≠ .os) (s : St) (h : HName)
    (hd : Handle) (hf : findH s.hs h = some hd) (hside : hd.name.side = .rx) :
    stepOp fl s (.rcv .tryRecv h 0) =
      if hd.closed = true then (s, { tag := .disconnected })
      else match s.buf with
        | x :: _ => (mbGot fl (s.pop hd.name.idx 1) 1 false, { tag := .ok, got := [x] })
        | [] => (mbFlush fl s, if s.sc = 0 then { tag := .disconnected } else { tag := .empty }) := by
  have hb : Form.tryRecv.isBatch = true → (0 : Nat) ≠ 0 := by simp [Form.isBatch]
  have hw := recvWant_pos_of hb
  split
  · rename_i hc
    rw [stepOp_recv_own_closed hrv hos hf hside rfl (supports_tryRecv hrv hos _) hb hc (checksOwn_tryRecv ..)]
  · rename_i hc
    rw [stepOp_rcv_start hrv hos hf,
      start_rcv_open hrv hos hf hside rfl (supports_tryRecv hrv hos _) hb seqCfg 0 (by simpa using hc)]
    rcases recvStep_cases fl seqCfg s 0 .tryRecv hd 0 hw with ⟨hb, hr⟩ | ⟨hb, s', p', hr, hp⟩ <;> rw [hr]
    · cases hg : s.sc == 0 <;> simp_all [sendersGone, Form.blocking, Form.isSend, emptyTag, P.outOrBlocks]
    · obtain ⟨x, r, hxr⟩ := exists_cons_of_ne_nil hb
      have hk : recvK fl seqCfg s .tryRecv 0 [] = 1 := by
        simp [recvK, recvUnit, recvWant, Form.isBatch, seqCfg, hxr]
      rcases hp with ⟨rfl, hs'⟩ | ⟨hg, _⟩
      · simp [hs' rfl, hk, hxr, P.outOrBlocks]
      · simp [seqCfg] at hg

theorem receiversGone_create (fl s vs) : receiversGone fl (s.create vs) = receiversGone fl s := by
  unfold receiversGone St.create; cases fl.fam <;> rfl

theorem room_create (fl s vs) : room fl (s.create vs) = room fl s := by
  unfold room St.create; cases fl.fam <;> rfl

theorem hotRoom_create (fl s vs) : hotRoom fl (s.create vs) = hotRoom fl s := by
  unfold hotRoom; rw [room_create]; cases fl.fam <;> rfl

theorem failSend_out (fl s f tag sent rest) :
    ∃ o, (failSend fl s f tag sent rest).2 = .fin o ∧ o.tag = tag ∧ o.sent = sent ∧
      ((o.back = rest ∧ o.lost = []) ∨ (o.back = [] ∧ o.lost = rest)) := by
  unfold failSend
  split
  · exact ⟨_, rfl, rfl, rfl, Or.inr ⟨rfl, rfl⟩⟩
  · exact ⟨_, rfl, rfl, rfl, Or.inl ⟨rfl, rfl⟩⟩

theorem sendAvail_single (fl cfg s f) (v : Val) : sendAvail fl cfg s f [v] = 0 ∨ sendAvail fl cfg s f [v] = 1 := by
  have := sendAvail_le_len fl cfg s f [v]; simp at this; omega

theorem sendAvail_single_eq_zero (fl cfg s f) (v : Val) :
    sendAvail fl cfg s f [v] = 0 ↔
      (if f.blocking = true ∧ cfg.hot = true then hotRoom fl s else room fl s) = some 0 := by
  unfold sendAvail
  split <;> rename_i hw <;> rw [hw]
  · simp
  · rename_i r; cases r <;> simp

theorem full_iff (fl : Flavour) (s : St) : full fl s = true ↔ room fl s = some 0 := by
  unfold full
  split <;> simp_all

theorem sendStep_single (fl : Flavour) (cfg : Cfg) (s : St) (t : Nat) (f : Form) (h : HName) (v : Val) :
    sendStep fl cfg s t f h [] [v] =
      if sendAvail fl cfg s f [v] = 0 then
        if receiversGone fl s = true ∧ (f.blocking = true ∨ fl.fam = .sb) then some (failSend fl s f .closed [] [v])
        else if f.blocking = true then none else some (trySendEnd fl cfg s t f [] [v])
      else if sendGran fl cfg = true ∧ fl.fam = .sb then some (s, .bsend t f h [] [v] 1)
      else some (s.push h.idx [v], .fin { tag := .ok, sent := [v] }) := by
  have hq : sendQuota fl cfg s f [v] 0 false = sendAvail fl cfg s f [v] := by unfold sendQuota; simp
  have hk : sendK fl cfg s f [v] 0 false = sendAvail fl cfg s f [v] := by
    unfold sendK; rw [hq]; rcases sendAvail_single fl cfg s f v with e | e <;> simp [e]
  unfold sendStep
  rw [hk, hq]
  rcases sendAvail_single fl cfg s f v with e | e <;> simp [e]

theorem sendStep_none_iff (fl : Flavour) (cfg : Cfg) (s : St) (t : Nat) (h : HName) (v : Val) :
    sendStep fl cfg s t .send h [] [v] = none ↔
      (receiversGone fl s = false ∧ sendAvail fl cfg s .send [v] = 0) := by
  rw [sendStep_single]
  cases receiversGone fl s <;> rcases sendAvail_single fl cfg s .send v with e | e <;> simp [e, Form.blocking] <;>
    split <;> simp

theorem sendStep_seq {fl s t f h v s' p'} (hs : sendStep fl seqCfg s t f h [] [v] = some (s', p')) :
    ∃ o, p' = .fin o ∧ o.tag ≠ .blocks := by
  have hfail : ∀ tag, tag ≠ .blocks → ∃ o, (failSend fl s f tag [] [v]).2 = .fin o ∧ o.tag ≠ .blocks := by
    intro tag ht
    obtain ⟨o, ho, h1, _⟩ := failSend_out fl s f tag [] [v]
    exact ⟨o, ho, h1 ▸ ht⟩
  rw [sendStep_single] at hs
  simp only [sendGran, seqCfg, Bool.false_and, Bool.false_eq_true, false_and, if_false] at hs
  split at hs
  · split at hs
    · obtain ⟨_, rfl⟩ := of_some_eq hs; exact hfail _ (by simp)
    · split at hs
      · cases hs
      · obtain ⟨_, rfl⟩ := of_some_eq hs
        unfold trySendEnd
        split
        · exact ⟨_, rfl, by simp⟩
        · simp only [Bool.false_eq_true, false_and, if_false]; exact hfail _ (by simp)
  · cases hs; exact ⟨_, rfl, by simp⟩

theorem startSendBuf_open {fl : Flavour} {s s1 : St} {f : Form} {h : HName} {hd : Handle} {vs : List Val} (t : Nat)
    (hne : vs ≠ []) (hopen : hd.closed = false) (hlive : receiversGone fl s = false) :
    startSendBuf fl seqCfg s s1 t f h hd vs =
      match sendStep fl seqCfg s1 t f h [] vs with
      | some r => r
      | none => (s1, .bsend t f h [] vs) := by
  have hg : seqCfg.granular = false := rfl
  unfold startSendBuf
  rw [isEmpty_eq_false_iff.mpr hne, sendPrelude_hit]
  simp only [hopen, hlive, hg, Bool.false_eq_true, false_and, if_false]
  rfl

section
variable {fl : Flavour} (hrv : fl.fam ≠ .rv) (hos : fl.fam ≠ .os) {s : St} {h : HName} {hd : Handle}
  (hf : findH s.hs h = some hd) (hside : hd.name.side = .tx) {f : Form} (hform : f.isSend = true)
  (hsup : supportsForm fl.fam hd.isAsync f = true)
include hrv hos hf hside hform hsup

theorem start_snd (cfg : Cfg) (t : Nat) (vs : List Val) :
    start fl cfg s t (.snd f h vs) = startSendBuf fl cfg s (s.create vs) t f h hd vs := by
  simp only [start, startSend, hf, hside, hform, hsup]
  cases hfam : fl.fam <;> simp_all

theorem stepOp_snd_start (v : Val) :
    stepOp fl s (.snd f h [v]) =
      ((startSendBuf fl seqCfg s (s.create [v]) 0 f h hd [v]).1,
       (startSendBuf fl seqCfg s (s.create [v]) 0 f h hd [v]).2.outOrBlocks) := by
  have key : (∃ o, (start fl seqCfg s 0 (.snd f h [v])).2 = .fin o) ∨
      microDet fl seqCfg (start fl seqCfg s 0 (.snd f h [v])).1 (start fl seqCfg s 0 (.snd f h [v])).2 = none := by
    rw [start_snd hrv hos hf hside hform hsup]
    unfold startSendBuf
    split
    · exact .inl ⟨_, rfl⟩
    · obtain ⟨o, ho, _⟩ := failSend_out fl (s.create [v]) f .closed [] [v]
      exact .inl ⟨o, ho⟩
    · simp only [isEmpty_cons, Bool.false_eq_true, if_false, seqCfg, false_and]
      split
      · rename_i r hr
        obtain ⟨o, ho, _⟩ := sendStep_seq (show _ = some (r.1, r.2) from hr)
        exact .inl ⟨o, ho⟩
      · rename_i hr
        exact .inr (by simpa [microDet] using hr)
  rw [stepOp_of_start key, start_snd hrv hos hf hside hform hsup]

theorem stepOp_send_closed {vs : List Val} (hne : vs ≠ [])
    (hc : (hd.closed = true ∧ checksOwn fl.fam hd.isAsync f = true) ∨ receiversGone fl s = true) :
    stepOp fl s (.snd f h vs) =
      ((failSend fl (s.create vs) f .closed [] vs).1, (failSend fl (s.create vs) f .closed [] vs).2.outOrBlocks) := by
  have hst : start fl seqCfg s 0 (.snd f h vs) = failSend fl (s.create vs) f .closed [] vs := by
    rw [start_snd hrv hos hf hside hform hsup]
    unfold startSendBuf
    rw [isEmpty_eq_false_iff.mpr hne, sendPrelude_hit]
    by_cases hk : hd.closed = true ∧ checksOwn fl.fam hd.isAsync f = true
    · simp only [hk, and_self, if_true]
    · simp only [hk, if_false, hc.resolve_left hk, if_true]
  obtain ⟨o, ho, _⟩ := failSend_out fl (s.create vs) f .closed [] vs
  rw [stepOp_of_start (.inl ⟨o, by rw [hst, ho]⟩), hst]

end

theorem checksOwn_trySend (fam a) : checksOwn fam a .trySend = true := by
  cases fam <;> cases a <;> rfl

theorem supports_trySend {fam : Fam} (h1 : fam ≠ .rv) (h2 : fam ≠ .os) (a) : supportsForm fam a .trySend = true := by
  cases fam <;> simp_all [supportsForm]

theorem stepOp_trySend {fl : Flavour} (hrv : fl.fam ≠ .rv) (hos : fl.fam ≠ .os) (s : St) (h : HName) (v : Val)
    (hd : Handle) (hf : findH s.hs h = some hd) (hside : hd.name.side = .tx) :
    stepOp fl s (.snd .trySend h [v]) =
      if hd.closed = true ∨ receiversGone fl s = true then
        ((s.create [v]).giveBack [v], { tag := .closed, back := [v] })
      else if full fl s = true then ((s.create [v]).giveBack [v], { tag := .full, back := [v] })
      else ((s.create [v]).push h.idx [v], { tag := .ok, sent := [v] }) := by
  have hsup := supports_trySend hrv hos hd.isAsync
  split
  · rename_i hc
    rw [stepOp_send_closed hrv hos hf hside rfl hsup (by simp) (hc.imp_left fun e => ⟨e, checksOwn_trySend ..⟩)]
    simp [failSend, P.outOrBlocks]
  · rename_i hc
    have hc := not_or.mp hc
    rw [stepOp_snd_start hrv hos hf hside rfl hsup,
      startSendBuf_open 0 (by simp) (by simpa using hc.1) (by simpa using hc.2),
      sendStep_single]
    have hav : sendAvail fl seqCfg (s.create [v]) .trySend [v] = 0 ↔ full fl s = true := by
      rw [sendAvail_single_eq_zero, full_iff]; simp [Form.blocking, room_create]
    by_cases hfull : full fl s = true
    · rw [if_pos (hav.mpr hfull)]
      simp [hfull, hc.2, Form.blocking, receiversGone_create, trySendEnd, failSend, seqCfg, P.outOrBlocks]
    · rw [if_neg (mt hav.mp hfull)]
      simp [hfull, sendGran, seqCfg, P.outOrBlocks]

end Fv.Chan
