import Fv.Lemmas.SyncRw
/-!
Vocabulary of the wake accounting of the `HybridRwLock` model (C10(c), wake conservation of C10(d)).

`wake_waiters` either marks the first queued writer, which stays linked (`wnStore`), or unlinks and marks every
queued reader (the `wrStore` loop), collecting the handles in `ws : List Waiter`; they are delivered after the guard
drop (`llRel .wake` → `wnWake`*; counting wakers are delivered by `drain`, folded into the preceding visible step).

* `PreWake s t` — `t` is inside a `wake_waiters` that may still mark queued nodes: it released the lock having read
  `HAS_QUEUED`, or it is dropping a future whose node is `WOKEN` and has not yet forwarded the wake;
* `PostWake s t n` — `t` carries an undelivered handle that unblocks the owner of `n`;
* `OwnerActive s n` — the owner of `n` is in its own acquisition attempt / re-check phase;
* `OwnerBlocked s n` — the owner of `n` is parked without a token (sync thread or `block_on` executor), or is a
  manually polled future that is `Pending` with no wake recorded.
-/
namespace Fv.Sync.RwLock
open Fv.Sync
variable {cfg : Cfg} {s s' : State} {t : Tid} {l : Lbl}

def LockFree (s : State) : Prop := s.word.wl = false ∧ s.word.readers = 0

def PreWake (s : State) (t : Tid) : Prop :=
  preWakePc (s.th t).pc = true ∨ (dropPc (s.th t).pc = true ∧ (s.wl.node (me t (s.th t))).woken = true)

def OwnerActive (s : State) (n : Nid) : Prop := ∃ u, me u (s.th u) = n ∧ activePc (s.th u).pc = true

/-- delivering handle `w` unblocks the owner of node `n` -/
def Targets (s : State) (w : Waiter) (n : Nid) : Prop :=
  match w, n with
  | .thread u, .thr u' => u = u'
  | .thread u, .fut f => (s.fut f).bo = true ∧ (s.th u).cur = some f ∧ futPc (s.th u).pc = true
  | .task f, .fut f' => f = f' ∧ (s.fut f).bo = false
  | .task _, .thr _ => False

def PostWake (s : State) (t : Tid) (n : Nid) : Prop :=
  postWakePc (s.th t).pc = true ∧ ∃ w ∈ (s.th t).ws, Targets s w n

def OwnerBlocked (s : State) (n : Nid) : Prop :=
  match n with
  | .thr u => (s.th u).pc = .wPark ∧ s.token u = false
  | .fut f =>
    if (s.fut f).bo then ∃ u, (s.th u).cur = some f ∧ (s.th u).pc = .boPark ∧ s.token u = false
    else (s.fut f).busy = false ∧ s.wakes f = 0

inductive Blocked (s : State) : Nid → Prop
  | sync {u} (hp : (s.th u).pc = .wPark) (htk : s.token u = false) : Blocked s (.thr u)
  | exec {u f} (hbo : (s.fut f).bo = true) (hc : (s.th u).cur = some f) (hp : (s.th u).pc = .boPark)
      (htk : s.token u = false) : Blocked s (.fut f)
  | manual {f} (hbo : (s.fut f).bo = false) (hbz : (s.fut f).busy = false) (hwz : s.wakes f = 0) :
      Blocked s (.fut f)

theorem ownerBlocked_iff {s : State} {n : Nid} : OwnerBlocked s n ↔ Blocked s n := by
  constructor
  · intro h
    cases n with
    | thr u => exact .sync h.1 h.2
    | fut f =>
      unfold OwnerBlocked at h
      cases hbo : (s.fut f).bo <;> simp only [hbo, Bool.false_eq_true, if_true, if_false] at h
      · exact .manual hbo h.1 h.2
      · obtain ⟨u, hc, hp, htk⟩ := h
        exact .exec hbo hc hp htk
  · intro h
    cases h with
    | sync hp htk => exact ⟨hp, htk⟩
    | exec hbo hc hp htk => unfold OwnerBlocked; simp only [hbo, if_true]; exact ⟨_, hc, hp, htk⟩
    | manual hbo hbz hwz => unfold OwnerBlocked; simp only [hbo, Bool.false_eq_true, if_false]; exact ⟨hbz, hwz⟩

def Delivered (s : State) (w : Waiter) : Prop :=
  (∃ u, w = .thread u ∧ s.token u = true) ∨ (∃ f, w = .task f ∧ 0 < s.wakes f)

end Fv.Sync.RwLock
