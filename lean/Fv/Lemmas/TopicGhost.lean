import Fv.Lemmas.TopicRoute
/-! The history variables. What a receiver obtained plus what is still buffered is the image of an increasing list of
publish indices (`Log`; for every receiver: `GI`); as long as `subscribe` is not called on a closed handle, these are
exactly the publishes made while the receiver was subscribed to the topic and its mailbox was not full (`EI`). -/
namespace Fv.Chan.Topic

theorem gnext_st (g : TopicSpec) (op : Op) (s' : St) (res : Res) : (gnext g op s' res).st = s' := by
  unfold gnext
  split
  · rfl
  · split <;> rfl
  · rfl

open TopicB (recordGot)

theorem gnext_quiet (g : TopicSpec) {op : Op} {res : Res} (s' : St) (hs : ∀ h t v, op = .send h t v → res ≠ .ok) :
    gnext g op s' res = { g with st := s', got := recordGot g.got (recvTarget op) res } := by
  unfold gnext
  split
  · exact absurd rfl (hs _ _ _ rfl)
  · split <;> simp only [recordGot, *]
  · rename_i h _
    unfold recordGot
    split
    · exact (h _ _ rfl).elim
    · rfl

theorem gstep_st (g : TopicSpec) (op : Op) : (gstep g op).1.st = (step g.st op).1 := gnext_st ..

structure Log (pubs : List Pub) (got buf : List Msg) (acc : List Nat) : Prop where
  hist : got ++ buf = acc.map (msgAt pubs)
  inc : acc.Pairwise (· < ·)
  bnd : ∀ i ∈ acc, i < pubs.length

theorem Log.skip {pubs : List Pub} {got buf : List Msg} {acc : List Nat} (h : Log pubs got buf acc) (p : Pub) :
    Log (pubs ++ [p]) got buf acc :=
  ⟨h.hist.trans (List.map_congr_left fun i hi => by unfold msgAt; rw [List.getElem?_append_left (h.bnd i hi)]), h.inc,
    fun i hi => by have := h.bnd i hi; simp only [List.length_append, List.length_singleton]; omega⟩

theorem Log.push {pubs : List Pub} {got buf : List Msg} {acc : List Nat} (h : Log pubs got buf acc) (p : Pub) :
    Log (pubs ++ [p]) got (buf ++ [(p.t, p.v)]) (acc ++ [pubs.length]) := by
  have h' := h.skip p
  refine ⟨?_, List.pairwise_append.2 ⟨h.inc, by simp, fun a ha b hb => List.mem_singleton.1 hb ▸ h.bnd a ha⟩,
    fun i hi => ?_⟩
  · rw [← List.append_assoc, h'.hist]; simp [msgAt]
  · rcases List.mem_append.1 hi with hi | hi
    · exact h'.bnd i hi
    · simp [List.mem_singleton.1 hi]

theorem Log.congr {pubs : List Pub} {got buf got' buf' : List Msg} {acc : List Nat} (h : Log pubs got buf acc)
    (e : got' ++ buf' = got ++ buf) : Log pubs got' buf' acc :=
  ⟨e.trans h.hist, h.inc, h.bnd⟩

structure GI (g : TopicSpec) : Prop where
  nd : g.st.regs.Nodup
  log : ∀ r, Log g.pubs (g.got r) (bufOf g.st r) (g.acc r)

theorem GI_ginit (cap : Nat) (k : Kind) : GI (ginit cap k) := by
  refine ⟨by simp [ginit, init], fun r => ⟨?_, by simp [ginit], by simp [ginit]⟩⟩
  cases r <;> simp [ginit, init, bufOf]

theorem GI_gstep (g : TopicSpec) (op : Op) (hg : GI g) : GI (gstep g op).1 := by
  refine ⟨gstep_st g op ▸ step_regs_nodup g.st op hg.nd, fun r => ?_⟩
  unfold gstep
  rcases step_buf g.st op with ⟨h, t, v, rfl, hok, hb⟩ | ⟨hs, hk⟩
  · rw [hok]
    simp only [gnext]; rw [hb hg.nd r]; split
    · rw [if_pos (by simp)]; exact (hg.log r).push ⟨t, v, _, _⟩
    · rw [if_neg (by omega)]; exact (hg.log r).skip _
  · rw [gnext_quiet g _ hs]; exact (hg.log r).congr (hk g.got r)

theorem GI_grun (g : TopicSpec) (ops : List Op) (hg : GI g) : GI (grun g ops) := by
  induction ops generalizing g with
  | nil => exact hg
  | cons op ops ih => exact ih _ (GI_gstep g op hg)

def owed (pubs : List Pub) (r : Nat) : List Nat :=
  (List.range pubs.length).filter (fun i =>
    match pubs[i]? with
    | some p => p.subscribed r && !p.full r
    | none => false)

theorem mem_owed {pubs : List Pub} {r i : Nat} :
    i ∈ owed pubs r ↔ ∃ p, pubs[i]? = some p ∧ p.subscribed r = true ∧ p.full r = false := by
  unfold owed
  cases hp : pubs[i]? <;> simp [hp]
  exact fun _ _ => (List.getElem?_eq_some_iff.1 hp).1

theorem owed_append (pubs : List Pub) (p : Pub) (r : Nat) :
    owed (pubs ++ [p]) r = owed pubs r ++ (if (p.subscribed r && !p.full r) = true then [pubs.length] else []) := by
  unfold owed
  simp only [List.length_append, List.length_cons, List.length_nil, List.range_succ, List.filter_append]
  congr 1
  · apply List.filter_congr
    intro i hi
    rw [List.getElem?_append_left (by simpa using hi)]
  · simp only [List.filter_cons, List.filter_nil, List.getElem?_concat_length]

structure EI (g : TopicSpec) : Prop where
  gi : GI g
  ri : RI True g.st
  exact : ∀ r, g.acc r = owed g.pubs r

theorem EI_ginit (cap : Nat) (k : Kind) : EI (ginit cap k) :=
  ⟨GI_ginit cap k, RI_init cap k True, fun r => by simp [ginit, owed]⟩

theorem EI_gstep (g : TopicSpec) (op : Op) (hop : OkSub g.st op) (hg : EI g) : EI (gstep g op).1 := by
  refine ⟨GI_gstep g op hg.gi, by rw [gstep_st]; exact RI_step g.st op (fun _ => hop) hg.ri, fun r => ?_⟩
  unfold gstep
  rcases step_buf g.st op with ⟨h, t, v, rfl, hok, hb⟩ | ⟨hs, _⟩
  · -- an accepted publish: the mailbox takes the message iff it is registered, alive and not full,
    -- which under the routing invariant is: subscribed and not full
    obtain ⟨x, hx, _⟩ := send_ok hok
    have hiff := routed_iff g.st hg.ri (dispAlive_of_txLive hx) t r
    rw [hok]
    simp only [gnext]
    rw [owed_append, ← hg.exact r, hb hg.gi.nd r]
    by_cases hc : (t, r) ∈ g.st.regs ∧ isLive g.st.rxs r = true ∧ mailboxFull g.st r = false
    · simp [hc, hiff.1 ⟨hc.1, hc.2.1⟩]
    · have h3 : (subscribedTo g.st r t && !mailboxFull g.st r) = false := by
        cases hs : subscribedTo g.st r t <;> cases hf : mailboxFull g.st r <;> simp
        exact hc ⟨(hiff.2 hs).1, (hiff.2 hs).2, hf⟩
      simp [hc, h3]
  · rw [gnext_quiet g _ hs]; exact hg.exact r

end Fv.Chan.Topic
