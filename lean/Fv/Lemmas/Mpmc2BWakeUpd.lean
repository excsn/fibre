import Fv.Lemmas.Mpmc2BWake
import Fv.Lemmas.Mpmc2BSafe
/-! Every step of the mpmc v2 B-model is one update of the channel data followed by one move of the acting agent's
control state (`Inv.move`). An update lemma has two parts. The rows: by `Inv.frame`, every agent whose record the update
leaves alone (`Kept`) or takes out of WAITING for it (`Taken`) keeps its rows. The clauses of `Links`: from the old ones,
the written record told from the others by its state byte or its owner, the counting clauses by the lengths of the
buffer and of `ar` / `asg`. -/
namespace Fv.Chan.Mpmc2B

attribute [local grind =] upd_apply bump_apply Fv.nodup_snoc
attribute [local grind →] List.mem_of_mem_erase regAtR_woken regAtS_woken liveFutR_recOf wokenRecv_recOf wokenSend_recOf
attribute [local grind ←] List.Nodup.erase nodup_filter
attribute [local grind cases] WS

variable {b : Prop} {s : State} {t : Nat}

theorem bump_zero {w : Nat → Nat} {a u : Nat} (h : bump w a u = 0) : w u = 0 := by
  unfold bump at h; split at h
  · cases h
  · exact h

theorem wakes_other {w w' : Nat → Nat} (h : w' = w ∨ w' = upd w t 0 ∨ w' = bump w t) {u : Nat} (hu : u ≠ t) :
    w' u = w u := by
  rcases h with rfl | rfl | rfl <;> simp [upd_apply, bump_apply, hu]

theorem Inv.rec_ne {u x r : Nat} (h : Inv b s) (ht : recOf (s.pc t) = some r) (hu : u ≠ t) (hx : recOf (s.pc u) = some x) :
    x ≠ r :=
  fun e => hu (((h.rowK u).own hx).1.symm.trans (e ▸ ((h.rowK t).own ht).1))

theorem Inv.rec_lt {u x : Nat} (h : Inv b s) (hx : recOf (s.pc u) = some x) : x ≠ s.nextRec :=
  fun e => Nat.lt_irrefl _ (e ▸ ((h.rowK u).own hx).2)

/-- What the rows read of record `r` (of the queue memberships only the directions that are read). A field that is not
given is closed by `rfl` / `id`: the update does not write what it reads. -/
structure Kept (s s' : State) (r : Nat) : Prop where
  st : s'.st r = s.st r := by rfl
  owner : s'.owner r = s.owner r := by rfl
  kind : s'.kind r = s.kind r := by rfl
  wakeBy : s'.wakeBy r = s.wakeBy r := by rfl
  inS : r ∈ s.wss ∨ r ∈ s.was → r ∈ s'.wss ∨ r ∈ s'.was := by exact id
  inR : r ∈ s.wsr ∨ r ∈ s.war → r ∈ s'.wsr ∨ r ∈ s'.war := by exact id
  wsr : r ∈ s'.wsr → r ∈ s.wsr := by exact id
  war : r ∈ s'.war → r ∈ s.war := by exact id

/-- record `r` of agent `u` is taken from WAITING to SUCCESS or CLOSED by somebody else, who sees to the wake -/
structure Taken (s s' : State) (u r : Nat) : Prop where
  was : s.st r = .waiting
  now : s'.st r = .success ∨ s'.st r = .closed
  owed : Owed s' u r
  owner : s'.owner r = s.owner r := by rfl
  kind : s'.kind r = s.kind r := by rfl
  wsr : r ∈ s'.wsr → r ∈ s.wsr := by exact id
  war : r ∈ s'.war → r ∈ s.war := by exact id

/-- the rows of an agent `u` whose control state the step leaves alone: its record is `Kept` or `Taken`, and a wake some
agent `c` holds for `u` stays held or is delivered -/
theorem Inv.frame {s' : State} (h : Inv b s) (u : Nat)
    (hpc : s'.pc u = s.pc u) (hn : s.nextRec ≤ s'.nextRec) (hwk : s'.wakes u = 0 → s.wakes u = 0)
    (howed : ∀ c, u ∈ wl (s.pc c) → u ∈ wl (s'.pc c) ∨ s'.wakes u ≠ 0)
    (hrec : ∀ r, recOf (s.pc u) = some r → Kept s s' r ∨ Taken s s' u r) :
    RowK s' u (s'.pc u) ∧ (b → RowB s' u (s'.pc u)) := by
  rw [hpc]
  refine ⟨(h.rowK u).congr hn fun x hx => ?_, fun hb => ?_⟩
  · rcases hrec x hx with k | k
    · exact ⟨k.owner, k.kind, k.st ▸ id⟩
    · exact ⟨k.owner, k.kind, fun _ e => by rcases k.now with g | g <;> rw [g] at e <;> cases e⟩
  by_cases hT : ∃ x, recOf (s.pc u) = some x ∧ Taken s s' u x
  · obtain ⟨x, hx, k⟩ := hT
    exact (h.rowB hb u).hit hx k.was k.now k.owed k.wsr k.war
  · refine (h.rowB hb u).congr fun x hx => ?_
    have k := (hrec x hx).resolve_right fun k => hT ⟨x, hx, k⟩
    refine ⟨k.st, k.inS, k.inR, k.wsr, k.war, fun ho hw => ?_⟩
    rw [k.wakeBy]
    exact (howed _ (ho (hwk hw))).resolve_right (fun h => h hw)

theorem Inv.frame_move {s' : State} {p' : PC} (h : Inv b s) (hpc : s'.pc = upd s.pc t p')
    (own : RowK s' t p' ∧ (b → RowB s' t p')) (hn : s.nextRec ≤ s'.nextRec)
    (hwk : ∀ u, u ≠ t → s'.wakes u = 0 → s.wakes u = 0) (hwl : ∀ a, a ∈ wl (s.pc t) → a ∈ wl p' ∨ s'.wakes a ≠ 0)
    (hrec : ∀ u r, u ≠ t → recOf (s.pc u) = some r → Kept s s' r ∨ Taken s s' u r) :
    ∀ u, RowK s' u (s'.pc u) ∧ (b → RowB s' u (s'.pc u)) := by
  intro u
  by_cases hu : u = t
  · subst hu; rw [hpc, upd_same]; exact own
  · refine h.frame u (by rw [hpc]; simp [upd_apply, hu]) hn (hwk u hu) (fun c hc => ?_) (hrec u · hu)
    rw [hpc, upd_apply]; split
    · next e => exact hwl u (e ▸ hc)
    · exact .inl hc

theorem Inv.of_rows {s' : State} (rows : ∀ u, RowK s' u (s'.pc u) ∧ (b → RowB s' u (s'.pc u))) (hl : Links b s') :
    Inv b s' :=
  ⟨fun u => (rows u).1, fun hb u => (rows u).2 hb, hl⟩

/-- what agent `t` owes the others when it moves to `p'`: a role it gives up is one nobody relies on any more -/
structure Duties (s : State) (t : Nat) (p' : PC) : Prop where
  r1 : ∀ r, regAtR (s.pc t) = some r → regAtR p' = some r ∨ s.st r ≠ .waiting ∨ (r ∉ s.wsr ∧ r ∉ s.war)
  r2 : ∀ r, regAtS (s.pc t) = some r → regAtS p' = some r ∨ s.st r ≠ .waiting ∨ (r ∉ s.wss ∧ r ∉ s.was)
  a1 : ∀ r, wokenRecv (s.pc t) = some r → wokenRecv p' = some r ∨ r ∉ s.ar ∨ s.st r ≠ .success
  b1 : ∀ r, wokenSend (s.pc t) = some r → wokenSend p' = some r ∨ r ∉ s.asg ∨ s.st r ≠ .success

/-- `RowB` of the new control state is read with the new wake counters `w'`; the token histories are not read by `Inv`
and may change along -/
theorem Inv.move {p' : PC} {w' : Nat → Nat} {a c d e f : List Nat} (h : Inv b s) (hK : RowK s t p')
    (hl : ∀ r, liveFutR (s.pc t) = some r → liveFutR p' = some r ∨ r ∉ s.war)
    (hwl : ∀ u, u ∈ wl (s.pc t) → u ∈ wl p') (hw : w' = s.wakes ∨ w' = upd s.wakes t 0 ∨ w' = bump s.wakes t)
    (hB : b → RowB { s with wakes := w' } t p' ∧ Duties s t p') :
    Inv b { s with pc := upd s.pc t p', wakes := w', sent := a, recvd := c, returned := d, dropped := e,
                   offered := f } := by
  have held : ∀ {u c}, u ∈ wl (s.pc c) → u ∈ wl (upd s.pc t p' c) := fun {u c} hc => by
    rw [upd_apply]; split
    · next e => exact hwl u (e ▸ hc)
    · exact hc
  refine .of_rows (h.frame_move rfl ⟨hK.congr (Nat.le_refl _) fun _ _ => ⟨rfl, rfl, id⟩,
      fun hb => (hB hb).1.congr fun x _ => ⟨rfl, id, id, id, id, fun ho h0 => held (ho h0)⟩⟩
      (Nat.le_refl _) (fun u hu h0 => wakes_other hw hu ▸ h0) (fun u hu => .inl (hwl u hu))
      (fun _ _ _ _ => .inl {})) ?_
  obtain ⟨l1, l2, l3, l4, b1, b2, b3, b4, b5, b6⟩ := h.links
  have live : ∀ r, r ∈ s.war → liveFutR (upd s.pc t p' (s.owner r)) = some r := by
    intro r hr
    rw [upd_apply]; split
    · next ho => exact (hl r (ho ▸ (l4 r hr).2)).resolve_right (fun h => h hr)
    · exact (l4 r hr).2
  refine ⟨l1, l2, l3, fun r hr => ⟨(l4 r hr).1, live r hr⟩, ?_, ?_, ?_, ?_, b5, b6⟩ <;> intro hb <;>
    obtain ⟨-, m3, m4, m5, m6⟩ := hB hb <;> dsimp only <;> grind

/-- these fields are none of those the rows read: only `Links` is to be re-established -/
theorem Inv.of_links {q ar' asg' a c : List Nat} {ns nr : Nat} (h : Inv b s)
    (hl : Links b s → Links b { s with queue := q, senders := ns, receivers := nr, ar := ar', asg := asg', sent := a,
                                       recvd := c }) :
    Inv b { s with queue := q, senders := ns, receivers := nr, ar := ar', asg := asg', sent := a, recvd := c } :=
  ⟨fun u => (h.rowK u).congr (Nat.le_refl _) fun _ _ => ⟨rfl, rfl, id⟩,
    fun hb u => (h.rowB hb u).congr fun _ _ => ⟨rfl, id, id, id, id, id⟩, hl h.links⟩

/-- of the handle counts only "the other side is gone" is read -/
theorem Inv.counts {ns nr : Nat} (h : Inv b s) (hs : ns = 0 → s.senders = 0) (hr' : nr = 0 → s.receivers = 0) :
    Inv b { s with senders := ns, receivers := nr } := by
  refine h.of_links fun hl => ?_
  obtain ⟨l1, l2, l3, l4, b1, b2, b3, b4, b5, b6⟩ := hl
  exact ⟨l1, l2, l3, l4, fun hb r hr hw => ⟨(b1 hb r hr hw).1, fun e => (b1 hb r hr hw).2.1 (hs e), (b1 hb r hr hw).2.2⟩,
    fun hb r hr hw => ⟨(b2 hb r hr hw).1, fun e => (b2 hb r hr hw).2.1 (hr' e), (b2 hb r hr hw).2.2⟩, b3, b4, b5, b6⟩

theorem Inv.fresh {k : Bool} (h : Inv b s) :
    Inv b { s with nextRec := s.nextRec + 1, st := upd s.st s.nextRec .waiting, owner := upd s.owner s.nextRec t,
                   kind := upd s.kind s.nextRec k } := by
  have lt := fun u x => h.rec_lt (u := u) (x := x)
  refine ⟨fun u => (h.rowK u).congr (Nat.le_succ _) fun x hx => ?_, fun hb u => (h.rowB hb u).congr fun x hx => ?_, ?_⟩
  · have := lt u x hx; simp [upd_apply, this]
  · have := lt u x hx; exact ⟨by simp [upd_apply, this], id, id, id, id, id⟩
  · -- every record in a queue or a woken list is below `nextRec`
    obtain ⟨l1, l2, l3, l4, b1, b2, b3, b4, b5, b6⟩ := h.links
    constructor <;> (dsimp only; first | assumption | grind)

theorem erased_or {l l' : List Nat} {r : Nat} (h : l' = l ∨ l' = l.erase r) :
    (∀ x, x ∈ l' → x ∈ l) ∧ l.length ≤ l'.length + 1 ∧ (l.Nodup → l'.Nodup) := by
  rcases h with rfl | rfl
  · exact ⟨fun _ => id, Nat.le_succ _, id⟩
  · exact ⟨fun _ => List.mem_of_mem_erase, length_erase_ge l r, List.Nodup.erase r⟩

/-! An agent that re-enters the core leaves `asg` / `ar` (or was not in it: `asg' = s.asg`, `ar' = s.ar`); alone, this
happens when the core then fails. -/

theorem Inv.eraseAsg {r : Nat} {asg' : List Nat} (h : Inv b s) (hc : ¬ s.queue.length < s.cap ∨ s.receivers = 0)
    (hg : asg' = s.asg ∨ asg' = s.asg.erase r) : Inv b { s with asg := asg' } := by
  refine h.of_links fun hl => ?_
  obtain ⟨g1, g2, g3⟩ := erased_or hg; clear hg
  -- `asg` is one shorter at most, and no slot is free (or nobody is left to wait for one)
  obtain ⟨l1, l2, l3, l4, b1, b2, b3, b4, b5, b6⟩ := hl
  constructor <;> (dsimp only; first | assumption | grind)

theorem Inv.eraseAr {r : Nat} {ar' : List Nat} (h : Inv b s) (hc : s.queue = []) (hg : ar' = s.ar ∨ ar' = s.ar.erase r) :
    Inv b { s with ar := ar' } := by
  refine h.of_links fun hl => ?_
  obtain ⟨g1, g2, g3⟩ := erased_or hg; clear hg
  -- `ar` is one shorter at most, and nothing is buffered
  obtain ⟨l1, l2, l3, l4, b1, b2, b3, b4, b5, b6⟩ := hl
  constructor <;> (dsimp only; first | assumption | grind)

/-! `sendCore` / `recvCore` succeeds (and the acting agent, if it had been woken, leaves `asg` / `ar`): one WAITING
record `r` of the other side is CASed to SUCCESS, unlinked and its owner woken, or none is WAITING. -/

theorem Inv.wakeRecv {v r r0 : Nat} {asg' wsr' war' : List Nat} (h : Inv b s) (hm : r ∈ s.wsr ∨ r ∈ s.war)
    (hw : s.st r = .waiting)
    (hq : wsr' = s.wsr.erase r ∧ war' = s.war ∧ (∀ x, x ∈ s.war → s.st x ≠ .waiting) ∨
          wsr' = s.wsr ∧ war' = s.war.erase r)
    (hg : asg' = s.asg ∨ asg' = s.asg.erase r0) :
    Inv b { s with asg := asg', st := upd s.st r .success, wsr := wsr', war := war', queue := s.queue ++ [v],
                   sent := s.sent ++ [v], wakes := bump s.wakes (s.owner r), ar := s.ar ++ [r] } := by
  obtain ⟨l1, l2, l3, l4, b1, b2, b3, b4, b5, b6⟩ := h.links
  -- the queues lose at most `r`, and `war'` does not hold it
  have q1 : ∀ x, x ∈ wsr' → x ∈ s.wsr := by rcases hq with ⟨rfl, -⟩ | ⟨rfl, -⟩ <;> grind
  have q2 : ∀ x, x ∈ war' → x ∈ s.war ∧ x ≠ r := by
    rcases hq with ⟨-, rfl, hn⟩ | ⟨-, rfl⟩ <;> grind [List.Nodup.mem_erase_iff]
  have q3 : ∀ x, x ≠ r → x ∈ s.wsr ∨ x ∈ s.war → x ∈ wsr' ∨ x ∈ war' := by
    rcases hq with ⟨rfl, rfl, -⟩ | ⟨rfl, rfl⟩ <;> grind
  have q4 : war'.Nodup := by rcases hq with ⟨-, rfl, -⟩ | ⟨-, rfl⟩ <;> grind
  clear hq
  refine .of_rows (fun u => h.frame u rfl (Nat.le_refl _) bump_zero (fun _ hc => .inl hc) fun x hx =>
      if e : x = r then
        .inr { was := e ▸ hw, now := .inl (by simp [e]), wsr := q1 x, war := fun h => (q2 x h).1,
               owed := fun h0 => by rw [← e, ((h.rowK u).own hx).1] at h0; simp at h0 }
      else .inl { st := by simp [upd_apply, e], inR := q3 x e, wsr := q1 x, war := fun h => (q2 x h).1 })
    ?_
  -- `r` joins `ar` as the buffer grows by one; it was WAITING, so it is in neither woken list
  obtain ⟨g1, g2, g3⟩ := erased_or hg; clear hg
  constructor <;> (dsimp only; first | assumption | grind)

theorem Inv.pushNone {v r0 : Nat} {asg' : List Nat} (h : Inv b s) (hn : ∀ x, x ∈ s.war → s.st x ≠ .waiting)
    (hn' : ∀ x, x ∈ s.wsr → s.st x ≠ .waiting) (hg : asg' = s.asg ∨ asg' = s.asg.erase r0) :
    Inv b { s with asg := asg', queue := s.queue ++ [v], sent := s.sent ++ [v] } := by
  refine h.of_links fun hl => ?_
  obtain ⟨g1, g2, g3⟩ := erased_or hg; clear hg
  -- no receiver record is WAITING, so nothing is claimed of the longer buffer; `asg` is one shorter at most
  obtain ⟨l1, l2, l3, l4, b1, b2, b3, b4, b5, b6⟩ := hl
  constructor <;> (dsimp only; first | assumption | grind)

theorem Inv.wakeSend {v r r0 : Nat} {q ar' wss' was' : List Nat} (h : Inv b s) (hq : s.queue = v :: q)
    (hm : r ∈ s.wss ∨ r ∈ s.was) (hw : s.st r = .waiting)
    (he : wss' = s.wss.erase r ∧ was' = s.was ∨ wss' = s.wss ∧ was' = s.was.erase r)
    (hg : ar' = s.ar ∨ ar' = s.ar.erase r0) :
    Inv b { s with ar := ar', queue := q, recvd := s.recvd ++ [v], st := upd s.st r .success, wss := wss', was := was',
                   wakes := bump s.wakes (s.owner r), asg := s.asg ++ [r] } := by
  have q1 : ∀ x, x ∈ wss' ∨ x ∈ was' → x ∈ s.wss ∨ x ∈ s.was := by rcases he with ⟨rfl, rfl⟩ | ⟨rfl, rfl⟩ <;> grind
  have q3 : ∀ x, x ≠ r → x ∈ s.wss ∨ x ∈ s.was → x ∈ wss' ∨ x ∈ was' := by
    rcases he with ⟨rfl, rfl⟩ | ⟨rfl, rfl⟩ <;> grind
  clear he
  refine .of_rows (fun u => h.frame u rfl (Nat.le_refl _) bump_zero (fun _ hc => .inl hc) fun x hx =>
      if e : x = r then
        .inr { was := e ▸ hw, now := .inl (by simp [e]),
               owed := fun h0 => by rw [← e, ((h.rowK u).own hx).1] at h0; simp at h0 }
      else .inl { st := by simp [upd_apply, e], inS := q3 x e })
    ?_
  · obtain ⟨g1, g2, g3⟩ := erased_or hg; clear hg
    -- `r` joins `asg` as a slot is freed; `ar` is one shorter at most, the buffer one shorter
    obtain ⟨l1, l2, l3, l4, b1, b2, b3, b4, b5, b6⟩ := h.links
    constructor <;> (dsimp only; first | assumption | grind)

theorem Inv.popNone {v r0 : Nat} {q ar' : List Nat} (h : Inv b s) (hq : s.queue = v :: q)
    (hn : ∀ x, x ∈ s.was → s.st x ≠ .waiting) (hn' : ∀ x, x ∈ s.wss → s.st x ≠ .waiting)
    (hg : ar' = s.ar ∨ ar' = s.ar.erase r0) :
    Inv b { s with ar := ar', queue := q, recvd := s.recvd ++ [v] } := by
  refine h.of_links fun hl => ?_
  obtain ⟨g1, g2, g3⟩ := erased_or hg; clear hg
  -- no sender record is WAITING, so nothing is claimed of the freed slot
  obtain ⟨l1, l2, l3, l4, b1, b2, b3, b4, b5, b6⟩ := hl
  constructor <;> (dsimp only; first | assumption | grind)

structure Sub (q q' : List Nat) (r : Nat) : Prop where
  sub : ∀ x, x ∈ q' → x ∈ q
  keep : ∀ x, x ∈ q → x ≠ r → x ∈ q'
  nodup : q.Nodup → q'.Nodup

theorem Sub.refl (q : List Nat) (r : Nat) : Sub q q r := ⟨fun _ => id, fun _ h _ => h, id⟩
theorem Sub.erase (q : List Nat) (r : Nat) : Sub q (q.erase r) r :=
  ⟨fun _ => List.mem_of_mem_erase, fun _ h hne => (List.mem_erase_of_ne hne).2 h, List.Nodup.erase r⟩
theorem Sub.filter (q : List Nat) (r : Nat) : Sub q (q.filter (· ≠ r)) r :=
  ⟨fun _ h => (List.mem_filter.1 h).1, fun _ h hne => List.mem_filter.2 ⟨h, by simpa using hne⟩, nodup_filter _⟩

/-- The agent `t` unlinks its own record `r` (`erase` / `retain`) from whatever queue, once it is no longer blocked on it. -/
theorem Inv.unlink {r : Nat} {wss' was' wsr' war' : List Nat} (h : Inv b s)
    (ho : recOf (s.pc t) = some r ∧ regAtS (s.pc t) = none ∧ blockR (s.pc t) = none)
    (h1 : Sub s.wss wss' r := by exact .refl _ _) (h2 : Sub s.was was' r := by exact .refl _ _)
    (h3 : Sub s.wsr wsr' r := by exact .refl _ _) (h4 : Sub s.war war' r := by exact .refl _ _) :
    Inv b { s with wss := wss', was := was', wsr := wsr', war := war' } := by
  obtain ⟨s1, k1, -⟩ := h1; obtain ⟨s2, k2, -⟩ := h2; obtain ⟨s3, k3, -⟩ := h3; obtain ⟨s4, k4, n4⟩ := h4
  refine .of_rows (fun u => ?_) ?_
  · by_cases hu : u = t
    · -- none of the rows `t` can be at reads a membership that is lost
      subst hu
      refine ⟨(h.rowK u).congr (Nat.le_refl _) fun _ _ => ⟨rfl, rfl, id⟩, fun hb' => ?_⟩
      have h0 := h.rowB hb' u
      dsimp only
      generalize s.pc u = p at h0 ho
      cases p <;> simp only [recOf, regAtS, blockR, reduceCtorEq, and_false, and_true, Option.some.injEq] at ho <;>
        simp only [RowB, Owed] at h0 ⊢ <;> grind
    · exact h.frame u rfl (Nat.le_refl _) id (fun _ hc => .inl hc) fun x hx =>
        have hne := h.rec_ne ho.1 hu hx
        .inl { inS := Or.imp (k1 x · hne) (k2 x · hne), inR := Or.imp (k3 x · hne) (k4 x · hne), wsr := s3 x,
               war := s4 x }
  · -- the queues only shrink
    obtain ⟨l1, l2, l3, l4, b1, b2, b3, b4, b5, b6⟩ := h.links
    constructor <;> (dsimp only; first | assumption | grind)

attribute [local grind] regAtR regAtS wokenRecv wokenSend liveFutR

theorem Inv.regWss {v r : Nat} (h : Inv b s) (hpc : s.pc t = .sReg v r) (hf : ¬ s.queue.length < s.cap)
    (hc : s.receivers ≠ 0) :
    Inv b { s with nextRec := s.nextRec + 1, st := upd s.st s.nextRec .waiting, owner := upd s.owner s.nextRec t,
                   kind := upd s.kind s.nextRec true, wss := s.wss ++ [s.nextRec],
                   pc := upd s.pc t (.sWait v s.nextRec) } := by
  have lt := fun u x => h.rec_lt (u := u) (x := x)
  refine .of_rows (h.frame_move rfl (by simp [RowK, RowB, Own]) (Nat.le_succ _) (fun _ _ => id) (by simp [hpc, wl])
      fun u x _ hx => have hne := lt u x hx
        .inl { st := by simp [upd_apply, hne], owner := by simp [upd_apply, hne], kind := by simp [upd_apply, hne],
               inS := Or.imp_left (List.mem_append_left _) }) ?_
  -- of the new member: `t` is registered on it, a receiver is alive, no slot is free
  obtain ⟨l1, l2, l3, l4, b1, b2, b3, b4, b5, b6⟩ := h.links
  constructor <;> (dsimp only; first | assumption | grind)

theorem Inv.regWsr {r : Nat} (h : Inv b s) (hpc : s.pc t = .rReg r) (hq : s.queue = []) (hc : s.senders ≠ 0) :
    Inv b { s with nextRec := s.nextRec + 1, st := upd s.st s.nextRec .waiting, owner := upd s.owner s.nextRec t,
                   kind := upd s.kind s.nextRec false, wsr := s.wsr ++ [s.nextRec],
                   pc := upd s.pc t (.rWait s.nextRec) } := by
  have lt := fun u x => h.rec_lt (u := u) (x := x)
  refine .of_rows (h.frame_move rfl (by simp [RowK, RowB, Own]) (Nat.le_succ _) (fun _ _ => id) (by simp [hpc, wl])
      fun u x _ hx => have hne := lt u x hx
        .inl { st := by simp [upd_apply, hne], owner := by simp [upd_apply, hne], kind := by simp [upd_apply, hne],
               inR := Or.imp_left (List.mem_append_left _), wsr := fun hm => by simpa [hne] using hm }) ?_
  -- of the new member: `t` is registered on it, a sender is alive, nothing is buffered
  obtain ⟨l1, l2, l3, l4, b1, b2, b3, b4, b5, b6⟩ := h.links
  constructor <;> (dsimp only; first | assumption | grind)

theorem Inv.regWas {v r : Nat} (h : Inv b s) (hpc : s.pc t = .asReg v r) (hf : ¬ s.queue.length < s.cap)
    (hc : s.receivers ≠ 0) :
    Inv b { s with st := upd s.st r .waiting, was := s.was ++ [r], pc := upd s.pc t (.asPend v r) } := by
  have hr : recOf (s.pc t) = some r := by simp [hpc, recOf]
  have hk := h.rowK t; rw [hpc] at hk
  refine .of_rows (h.frame_move rfl ⟨hk, fun _ => by simp [RowB, Woken]⟩ (Nat.le_refl _) (fun _ _ => id)
      (by simp [hpc, wl])
      fun u x hu hx => have hne := h.rec_ne hr hu hx
        .inl { st := by simp [upd_apply, hne], inS := Or.imp_right (List.mem_append_left _) }) ?_
  obtain ⟨l1, l2, l3, l4, b1, b2, b3, b4, b5, b6⟩ := h.links
  constructor <;> (dsimp only; first | assumption | grind [RowK, Own])

theorem Inv.regWsrTimed {r : Nat} (h : Inv b s) (hpc : s.pc t = .toReg r) (hq : s.queue = []) (hc : s.senders ≠ 0) :
    Inv b { s with wsr := s.wsr ++ [r], pc := upd s.pc t (.toCas r) } := by
  have hr : recOf (s.pc t) = some r := by simp [hpc, recOf]
  have hk := h.rowK t; rw [hpc] at hk
  refine .of_rows (h.frame_move rfl ⟨hk, fun _ => trivial⟩ (Nat.le_refl _) (fun _ _ => id) (by simp [hpc, wl])
      fun u x hu hx => have hne := h.rec_ne hr hu hx
        .inl { inR := Or.imp_left (List.mem_append_left _), wsr := fun hm => by simpa [hne] using hm }) ?_
  obtain ⟨l1, l2, l3, l4, b1, b2, b3, b4, b5, b6⟩ := h.links
  constructor <;> (dsimp only; first | assumption | grind [RowK, Own])

/-- `poll_recv_internal` registers (or re-arms) its inline waiter -/
theorem Inv.regWar {r : Nat} (h : Inv b s) (hpc : s.pc t = .arReg r) (hq : s.queue = []) (hc : s.senders ≠ 0)
    (hm : r ∉ s.war) :
    Inv b { s with ar := s.ar.erase r, st := upd s.st r .waiting, war := s.war ++ [r],
                   pc := upd s.pc t (.arPend r) } := by
  have hr : recOf (s.pc t) = some r := by simp [hpc, recOf]
  have hk := h.rowK t; rw [hpc] at hk
  have hrb := fun hb => h.rowB hb t; rw [hpc] at hrb
  refine .of_rows (h.frame_move rfl ⟨⟨hk.1, by simp⟩, fun hb => by simp [RowB, Woken, (hrb hb).1]⟩
      (Nat.le_refl _) (fun _ _ => id) (by simp [hpc, wl])
      fun u x hu hx => have hne := h.rec_ne hr hu hx
        .inl { st := by simp [upd_apply, hne], inR := Or.imp_right (List.mem_append_left _),
               war := fun hm => by simpa [hne] using hm }) ?_
  -- `r` leaves `ar` as it is re-armed
  obtain ⟨l1, l2, l3, l4, b1, b2, b3, b4, b5, b6⟩ := h.links
  constructor <;> (dsimp only; first | assumption | grind [RowK, Own])

/-- the cancel CAS of `recv_timeout` / of a future's `Drop` wins -/
theorem Inv.cancel {r : Nat} {p' : PC} (h : Inv b s) (hw' : s.st r = .waiting)
    (hp : (s.pc t = .toCas r ∧ p' = .toUnl r) ∨ (∃ v, s.pc t = .asPend v r ∧ p' = .fdUnlS v r) ∨
          (s.pc t = .arPend r ∧ p' = .fdUnlR r)) :
    Inv b { s with st := upd s.st r .cancelled, pc := upd s.pc t p' } := by
  have hr : recOf (s.pc t) = some r := by rcases hp with ⟨e, -⟩ | ⟨v, e, -⟩ | ⟨e, -⟩ <;> simp [e, recOf]
  have hl : wl (s.pc t) = [] := by rcases hp with ⟨e, -⟩ | ⟨v, e, -⟩ | ⟨e, -⟩ <;> simp [e, wl]
  have hk := h.rowK t
  refine .of_rows (h.frame_move rfl ?_ (Nat.le_refl _) (fun _ _ => id) (by simp [hl])
      fun u x hu hx => have hne := h.rec_ne hr hu hx; .inl { st := by simp [upd_apply, hne] }) ?_
  · rcases hp with ⟨e, rfl⟩ | ⟨v, e, rfl⟩ | ⟨e, rfl⟩ <;> rw [e] at hk <;> simp only [RowK, Own] at hk <;>
      simp [RowK, RowB, Own, hk]
  -- `r` is WAITING no more; it was, so it is in neither woken list
  obtain ⟨l1, l2, l3, l4, b1, b2, b3, b4, b5, b6⟩ := h.links
  constructor <;> (dsimp only; first | assumption | grind)

theorem Inv.deliver {a : Nat} {rest : List Nat} (h : Inv b s) (hpc : s.pc t = .hWake (a :: rest)) :
    Inv b { s with wakes := bump s.wakes a, pc := upd s.pc t (.hWake rest) } := by
  refine .of_rows (h.frame_move rfl ⟨trivial, fun _ => trivial⟩ (Nat.le_refl _) (fun _ _ => bump_zero)
      (fun u hu => ?_) (fun _ _ _ _ => .inl {})) ?_
  · -- the wake `t` delivers now reaches `a`; the others it keeps
    rw [hpc] at hu
    rcases List.mem_cons.1 hu with rfl | hu
    · exact .inr (by simp)
    · exact .inl hu
  obtain ⟨l1, l2, l3, l4, b1, b2, b3, b4, b5, b6⟩ := h.links
  constructor <;> (dsimp only; first | assumption | grind)

/-- a receiver that closes while others remain CASes the front sender of a queue to SUCCESS (a retry hint); `t` is
already at `hWake`, holding that wake -/
theorem Inv.hint {r : Nat} (h : Inv b s) (hm : r ∈ s.wss ∨ r ∈ s.was) (hw' : s.st r = .waiting)
    (ho : s.owner r ∈ wl (s.pc t)) :
    Inv b { s with st := upd s.st r .success, asg := s.asg ++ [r], wakeBy := upd s.wakeBy r t } := by
  refine .of_rows (fun u => h.frame u rfl (Nat.le_refl _) id (fun _ hc => .inl hc) fun x hx =>
      if e : x = r then
        .inr { was := e ▸ hw', now := .inl (by simp [e]),
               owed := fun _ => by dsimp only; rw [e, upd_same, ← ((h.rowK u).own hx).1, e]; exact ho }
      else .inl { st := by simp [upd_apply, e], wakeBy := by simp [upd_apply, e] })
    ?_
  -- `r` joins `asg`; it stays queued, WAITING no more
  obtain ⟨l1, l2, l3, l4, b1, b2, b3, b4, b5, b6⟩ := h.links
  constructor <;> (dsimp only; first | assumption | grind)

/-- The last handle of a side closes: every WAITING record `r` of the other side (queues `q1`, `q2`) is CASed to CLOSED
and `t` keeps the wake of its owner in its list, to be delivered after the unlock. -/
theorem Inv.close {q1 q2 : List Nat} {ns nr : Nat} (h : Inv b s)
    (hp : s.pc t = .hCloseS ∧ q1 = s.wsr ∧ q2 = s.war ∧ ns = 0 ∧ nr = s.receivers ∨
          s.pc t = .hCloseR ∧ q1 = s.wss ∧ q2 = s.was ∧ ns = s.senders ∧ nr = 0) :
    Inv b { s with senders := ns, receivers := nr,
                   st := fun r => if (r ∈ q1 ∨ r ∈ q2) ∧ s.st r = .waiting then .closed else s.st r,
                   wakeBy := fun r => if (r ∈ q1 ∨ r ∈ q2) ∧ s.st r = .waiting then t else s.wakeBy r,
                   pc := upd s.pc t (.hWake (((q1.filter (fun r => decide (s.st r = .waiting))).map s.owner)
                                          ++ ((q2.filter (fun r => decide (s.st r = .waiting))).map s.owner))) } := by
  have hl : wl (s.pc t) = [] := by rcases hp with ⟨e, -⟩ | ⟨e, -⟩ <;> simp [e, wl]
  refine .of_rows (h.frame_move rfl ⟨trivial, fun _ => trivial⟩ (Nat.le_refl _) (fun _ _ => id) (by simp [hl])
      fun u x _ hx =>
        if hc : (x ∈ q1 ∨ x ∈ q2) ∧ s.st x = .waiting then .inr { was := hc.2, now := .inr (by simp [hc]), owed := fun _ => ?_ }
        else .inl { st := by simp [hc], wakeBy := by simp [hc] }) ?_
  · have ho := ((h.rowK u).own hx).1
    simp only [hc, and_self, if_true, upd_same, wl, List.mem_append, List.mem_map, List.mem_filter, decide_eq_true_eq]
    exact hc.1.imp (fun hm => ⟨x, ⟨hm, hc.2⟩, ho⟩) (fun hm => ⟨x, ⟨hm, hc.2⟩, ho⟩)
  -- no record of the closed side is WAITING any more; the records of the woken lists are SUCCESS: none is written
  obtain ⟨l1, l2, l3, l4, b1, b2, b3, b4, b5, b6⟩ := h.links
  rcases hp with ⟨hpc, rfl, rfl, rfl, rfl⟩ | ⟨hpc, rfl, rfl, rfl, rfl⟩ <;>
    constructor <;> (dsimp only; first | assumption | grind)

end Fv.Chan.Mpmc2B
