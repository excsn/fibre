import Fv.Log.Route
import Fv.Lemmas.Common
/-!
C19 (routing): `max_by_key`, the per-appender rule lookup and the "globally most specific logger" loop related to the
logger list of the configuration; `route` in closed form, its relation to `RouteSpec`, and the pre-filters.
-/
namespace Fv.Log

theorem stripPrefix_eq_some {t p rest : Name} : stripPrefix t p = some rest ↔ t = p ++ rest := by
  fun_induction stripPrefix t p <;> simp_all [eq_comm]

theorem stripPrefix_eq_none {t p : Name} : stripPrefix t p = none ↔ ¬ ∃ rest, t = p ++ rest := by
  simp only [← stripPrefix_eq_some, ← Option.isSome_iff_exists, Option.not_isSome_iff_eq_none]

theorem startsWithColons_iff {r : Name} : startsWithColons r = true ↔ ∃ rest, r = ':' :: ':' :: rest := by
  fun_cases startsWithColons r <;> simp_all

theorem targetMatchesPrefix_iff {t p : Name} :
    targetMatchesPrefix t p = true ↔ (p = t ∨ ∃ rest, t = p ++ ':' :: ':' :: rest) := by
  unfold targetMatchesPrefix
  cases hs : stripPrefix t p with
  | none =>
    have hn := not_exists.1 (stripPrefix_eq_none.1 hs)
    simpa using ⟨fun h => hn [] (by simp [h]), fun r => hn _⟩
  | some r =>
    obtain rfl := stripPrefix_eq_some.1 hs
    simp [startsWithColons_iff]

theorem matchesB_iff {l : Logger} {ev : Event} : matchesB l ev = true ↔ Matches l ev := by
  simp only [matchesB, Matches, Bool.or_eq_true, beq_iff_eq, List.isPrefixOf_iff_prefix]
  exact or_congr Iff.rfl ⟨fun ⟨r, h⟩ => ⟨r, by simpa using h.symm⟩, fun ⟨r, h⟩ => ⟨r, by simpa using h.symm⟩⟩

theorem matchesB_eq_target (l : Logger) (ev : Event) :
    matchesB l ev = targetMatchesPrefix ev.target l.name := by
  rw [Bool.eq_iff_iff, matchesB_iff, targetMatchesPrefix_iff]; rfl

theorem matches_same_length {t p q : Name} (hp : targetMatchesPrefix t p = true)
    (hq : targetMatchesPrefix t q = true) (hl : p.length = q.length) : p = q := by
  have pre : ∀ {p}, targetMatchesPrefix t p = true → ∃ r, t = p ++ r := fun h =>
    (targetMatchesPrefix_iff.1 h).elim (fun h => ⟨[], by simp [h]⟩) (fun ⟨r, h⟩ => ⟨_, h⟩)
  obtain ⟨r1, h1⟩ := pre hp
  obtain ⟨r2, h2⟩ := pre hq
  exact List.append_inj_left (h1.symm.trans h2) hl

theorem maxByLen_eq_none {rs : List Rule} : maxByLen rs = none ↔ rs = [] := by
  cases rs with
  | nil => simp [maxByLen]
  | cons r rs =>
    simp only [maxByLen]
    repeat' split
    all_goals simp

theorem maxByLen_some {rs : List Rule} {m : Rule} (h : maxByLen rs = some m) :
    m ∈ rs ∧ ∀ r ∈ rs, r.1.length ≤ m.1.length := by
  induction rs generalizing m with
  | nil => simp [maxByLen] at h
  | cons r rs ih =>
    simp only [maxByLen] at h
    split at h
    · next hn => cases h; simp [maxByLen_eq_none.1 hn]
    · next m' hm =>
      obtain ⟨hmem, hall⟩ := ih hm
      split at h <;> cases h
      · next hle => exact ⟨.tail _ hmem, List.forall_mem_cons.2 ⟨hle, hall⟩⟩
      · exact ⟨.head _, List.forall_mem_cons.2 ⟨Nat.le_refl _, fun x hx => by have := hall x hx; omega⟩⟩

def Longest (cfg : Config) (ev : Event) (S : Logger → Prop) (l : Logger) : Prop :=
  l ∈ cfg.loggers ∧ matchesB l ev = true ∧ S l ∧
    ∀ l' ∈ cfg.loggers, matchesB l' ev = true → S l' → l'.name.length ≤ l.name.length

theorem exists_longest {cfg : Config} {ev : Event} {S : Logger → Prop}
    (h : ∃ l ∈ cfg.loggers, matchesB l ev = true ∧ S l) : ∃ w, Longest cfg ev S w := by
  unfold Longest
  generalize cfg.loggers = ls at h ⊢
  induction ls with
  | nil => simp at h
  | cons a ls ih =>
    by_cases hex : ∃ l ∈ ls, matchesB l ev = true ∧ S l
    · obtain ⟨w, hw, hwm, hwS, hmax⟩ := ih hex
      by_cases ha : (matchesB a ev = true ∧ S a) ∧ w.name.length < a.name.length
      · exact ⟨a, .head _, ha.1.1, ha.1.2, List.forall_mem_cons.2
          ⟨fun _ _ => Nat.le_refl _, fun l' hl' hm' hS' => by have := hmax l' hl' hm' hS'; omega⟩⟩
      · exact ⟨w, .tail _ hw, hwm, hwS, List.forall_mem_cons.2
          ⟨fun hm hS => by have := not_and.1 ha ⟨hm, hS⟩; omega, hmax⟩⟩
    · obtain ⟨l, hl, hPl⟩ := h
      obtain rfl : l = a := (List.mem_cons.1 hl).resolve_right fun hl => hex ⟨l, hl, hPl⟩
      exact ⟨l, .head _, hPl.1, hPl.2, List.forall_mem_cons.2
        ⟨fun _ _ => Nat.le_refl _, fun l' hl' hm' hS' => absurd ⟨l', hl', hm', hS'⟩ hex⟩⟩

theorem logger_unique {cfg : Config} (wf : cfg.WF) {ev : Event} {l l' : Logger}
    (hl : l ∈ cfg.loggers) (hl' : l' ∈ cfg.loggers)
    (hm : matchesB l ev = true) (hm' : matchesB l' ev = true)
    (hlen : l.name.length = l'.name.length) : l = l' := by
  rw [matchesB_eq_target] at hm hm'
  exact eq_of_nodup_map (·.name) wf.names_nodup hl hl' (matches_same_length hm hm' hlen)

theorem Longest.unique {cfg : Config} (wf : cfg.WF) {ev : Event} {S : Logger → Prop} {l l' : Logger}
    (h : Longest cfg ev S l) (h' : Longest cfg ev S l') : l = l' :=
  logger_unique wf h.1 h'.1 h.2.1 h'.2.1
    (Nat.le_antisymm (h'.2.2.2 l h.1 h.2.1 h.2.2.1) (h.2.2.2 l' h'.1 h'.2.1 h'.2.2.1))

def ruleOfLogger (l : Logger) : Rule := (l.name, l.level, l.additive)

/-- the rule `process_event` looks up for appender `a` -/
def ruleOf (cfg : Config) (ev : Event) (a : Appender) : Option Rule :=
  findMostSpecificRule (buildFilter cfg a) ev.target

theorem mem_matching_rules {cfg : Config} {ev : Event} {a : Appender} {r : Rule} :
    r ∈ (buildFilter cfg a).rules.filter (fun r => targetMatchesPrefix ev.target r.1) ↔
      ∃ l ∈ cfg.loggers, matchesB l ev = true ∧ a ∈ l.appenders ∧ r = ruleOfLogger l := by
  simp only [buildFilter, List.mem_filter, List.mem_map, List.contains_iff_mem, ruleOfLogger]
  constructor
  · rintro ⟨⟨l, ⟨hl, ha⟩, rfl⟩, hm⟩; exact ⟨l, hl, (matchesB_eq_target l ev).trans hm, ha, rfl⟩
  · rintro ⟨l, hl, hm, ha, rfl⟩; exact ⟨⟨l, ⟨hl, ha⟩, rfl⟩, (matchesB_eq_target l ev).symm.trans hm⟩

theorem ruleOf_some {cfg : Config} {ev : Event} {a : Appender} {r : Rule}
    (h : ruleOf cfg ev a = some r) : ∃ l, Longest cfg ev (a ∈ ·.appenders) l ∧ r = ruleOfLogger l := by
  obtain ⟨hmem, hmax⟩ := maxByLen_some h
  obtain ⟨l, hl, hm, ha, rfl⟩ := mem_matching_rules.1 hmem
  exact ⟨l, ⟨hl, hm, ha, fun l' hl' hm' ha' => hmax _ (mem_matching_rules.2 ⟨l', hl', hm', ha', rfl⟩)⟩, rfl⟩

theorem ruleOf_none {cfg : Config} {ev : Event} {a : Appender} :
    ruleOf cfg ev a = none ↔ ∀ l ∈ cfg.loggers, matchesB l ev = true → a ∉ l.appenders := by
  unfold ruleOf findMostSpecificRule
  rw [maxByLen_eq_none, List.eq_nil_iff_forall_not_mem]
  constructor
  · exact fun h l hl hm ha => h _ (mem_matching_rules.2 ⟨l, hl, hm, ha, rfl⟩)
  · exact fun h r hr => let ⟨l, hl, hm, ha, _⟩ := mem_matching_rules.1 hr; h l hl hm ha

theorem ruleOf_of_longest {cfg : Config} (wf : cfg.WF) {ev : Event} {a : Appender} {l : Logger}
    (h : Longest cfg ev (a ∈ ·.appenders) l) : ruleOf cfg ev a = some (ruleOfLogger l) := by
  cases hr : ruleOf cfg ev a with
  | none => exact absurd h.2.2.1 (ruleOf_none.1 hr l h.1 h.2.1)
  | some r =>
    obtain ⟨l0, h0, rfl⟩ := ruleOf_some hr
    rw [h0.unique wf h]

theorem winnerStep_spec (w : Option (Name × Bool)) (r : Option Rule) :
    (winnerStep w r = w ∨ ∃ q lvl b, r = some (q, lvl, b) ∧ winnerStep w r = some (q, b)) ∧
    (∀ q b, w = some (q, b) → ∃ q' b', winnerStep w r = some (q', b') ∧ q.length ≤ q'.length) ∧
    (∀ q lvl b, r = some (q, lvl, b) → ∃ q' b', winnerStep w r = some (q', b') ∧ q.length ≤ q'.length) := by
  rcases r with _ | ⟨q, lvl, b⟩ <;> rcases w with _ | ⟨wq, wb⟩ <;> simp only [winnerStep]
  case some.some => split <;> simp <;> omega
  all_goals simp

theorem foldl_winner_none {rs : List (Option Rule)} {w : Option (Name × Bool)}
    (h : rs.foldl winnerStep w = none) : w = none ∧ ∀ r ∈ rs, r = none := by
  induction rs generalizing w with
  | nil => exact ⟨h, by simp⟩
  | cons r rs ih =>
    obtain ⟨hw, hrs⟩ := ih h
    obtain ⟨_, h2, h3⟩ := winnerStep_spec w r
    rw [hw] at h2 h3
    refine ⟨?_, List.forall_mem_cons.2 ⟨?_, hrs⟩⟩
    · rcases w with _ | ⟨q, b⟩
      · rfl
      · simpa using h2 q b rfl
    · rcases r with _ | ⟨q, lvl, b⟩
      · rfl
      · simpa using h3 q lvl b rfl

theorem foldl_winner_some {rs : List (Option Rule)} {w : Option (Name × Bool)} {p : Name} {add : Bool}
    (h : rs.foldl winnerStep w = some (p, add)) :
    (w = some (p, add) ∨ ∃ lvl, some (p, lvl, add) ∈ rs) ∧
    (∀ q b, w = some (q, b) → q.length ≤ p.length) ∧
    (∀ q lvl b, some (q, lvl, b) ∈ rs → q.length ≤ p.length) := by
  induction rs generalizing w with
  | nil => obtain rfl : w = some (p, add) := h; simp
  | cons r rs ih =>
    obtain ⟨hsrc, hw, hrs⟩ := ih h
    obtain ⟨h1, h2, h3⟩ := winnerStep_spec w r
    refine ⟨?_, fun q b hq => ?_, fun q lvl b hq => ?_⟩
    · rcases hsrc with hs | ⟨lvl, hm⟩
      · rcases h1 with h1 | ⟨q, lvl, b, rfl, h1⟩
        · exact Or.inl (h1 ▸ hs)
        · obtain ⟨rfl, rfl⟩ : q = p ∧ b = add := by simpa using h1.symm.trans hs
          exact Or.inr ⟨lvl, .head _⟩
      · exact Or.inr ⟨lvl, .tail _ hm⟩
    · obtain ⟨q', b', he, hle⟩ := h2 q b hq
      exact Nat.le_trans hle (hw q' b' he)
    · rcases List.mem_cons.1 hq with rfl | hq
      · obtain ⟨q', b', he, hle⟩ := h3 q lvl b rfl
        exact Nat.le_trans hle (hw q' b' he)
      · exact hrs q lvl b hq

/-- the winner `process_event` computes for `(cfg, ev)` -/
def winnerOf (cfg : Config) (ev : Event) : Option (Name × Bool) :=
  pickWinner (cfg.appenders.map (ruleOf cfg ev))

/-- a logger the code can see: it names at least one appender -/
def Wired (l : Logger) : Prop := l.appenders ≠ []

theorem wired_rule_ge {cfg : Config} (wf : cfg.WF) {ev : Event} {l : Logger} (hl : l ∈ cfg.loggers)
    (hm : matchesB l ev = true) (hw : Wired l) :
    ∃ b ∈ cfg.appenders, ∃ l2, ruleOf cfg ev b = some (ruleOfLogger l2) ∧ l.name.length ≤ l2.name.length := by
  obtain ⟨b, hb⟩ := List.exists_mem_of_ne_nil _ hw
  obtain ⟨l2, h2⟩ := exists_longest (S := (b ∈ ·.appenders)) ⟨l, hl, hm, hb⟩
  exact ⟨b, wf.named_defined l hl b hb, l2, ruleOf_of_longest wf h2, h2.2.2.2 l hl hm hb⟩

theorem winnerOf_some {cfg : Config} (wf : cfg.WF) {ev : Event} {p : Name} {add : Bool}
    (h : winnerOf cfg ev = some (p, add)) : ∃ l, Longest cfg ev Wired l ∧ l.name = p ∧ l.additive = add := by
  obtain ⟨hsrc, _, hmax⟩ := foldl_winner_some h
  obtain ⟨lvl, h1⟩ := hsrc.resolve_left nofun
  obtain ⟨a, _, hr⟩ := List.mem_map.1 h1
  obtain ⟨l, ⟨hl, hm, hal, _⟩, hrl⟩ := ruleOf_some hr
  obtain ⟨rfl, -, rfl⟩ : p = l.name ∧ lvl = l.level ∧ add = l.additive := by simpa [ruleOfLogger] using hrl
  refine ⟨l, ⟨hl, hm, List.ne_nil_of_mem hal, fun l' hl' hm' hw' => ?_⟩, rfl, rfl⟩
  obtain ⟨b, hb, l2, hrule, hle⟩ := wired_rule_ge wf hl' hm' hw'
  exact Nat.le_trans hle (hmax _ _ _ (List.mem_map.2 ⟨b, hb, hrule⟩))

theorem winnerOf_none {cfg : Config} (wf : cfg.WF) {ev : Event} :
    winnerOf cfg ev = none ↔ ∀ l ∈ cfg.loggers, matchesB l ev = true → ¬ Wired l := by
  constructor
  · intro h l hl hm hw
    obtain ⟨b, hb, l2, hrule, _⟩ := wired_rule_ge wf hl hm hw
    cases (foldl_winner_none h).2 _ (List.mem_map.2 ⟨b, hb, hrule⟩)
  · intro h
    cases hwin : winnerOf cfg ev with
    | none => rfl
    | some pa =>
      obtain ⟨l, hl, _⟩ := winnerOf_some wf (p := pa.1) (add := pa.2) hwin
      exact absurd hl.2.2.1 (h l hl.1 hl.2.1)

theorem winnerOf_of_longest {cfg : Config} (wf : cfg.WF) {ev : Event} {w : Logger}
    (hw : Longest cfg ev Wired w) : winnerOf cfg ev = some (w.name, w.additive) := by
  cases hwin : winnerOf cfg ev with
  | none => exact absurd hw.2.2.1 ((winnerOf_none wf).1 hwin w hw.1 hw.2.1)
  | some pa =>
    obtain ⟨p, add⟩ := pa
    obtain ⟨l, hl, rfl, rfl⟩ := winnerOf_some wf hwin
    rw [hl.unique wf hw]

theorem zip_map_filter_map {α β γ} (xs : List α) (g : α → β) (P : α × β → Bool) (h : α × β → γ) :
    ((xs.zip (xs.map g)).filter P).map h = (xs.filter (fun x => P (x, g x))).map (fun x => h (x, g x)) := by
  induction xs with
  | nil => rfl
  | cons x xs ih =>
    simp only [List.map_cons, List.zip_cons_cons, List.filter_cons]
    split <;> simp [ih]

def decision (cfg : Config) (ev : Event) (a : Appender) : Bool :=
  deliverTo (gateOf (winnerOf cfg ev)) ev (a, buildFilter cfg a) (ruleOf cfg ev a)

theorem route_eq_filter (cfg : Config) (ev : Event) :
    route cfg ev = cfg.appenders.filter (decision cfg ev) := by
  unfold route processEvent
  rw [zip_map_filter_map]
  simp only [actors, List.filter_map, List.map_map]
  exact List.map_id'' (fun _ => rfl) _

def gatePass (cfg : Config) (ev : Event) (a : Appender) : Bool :=
  match gateOf (winnerOf cfg ev) with
  | some g => (match ruleOf cfg ev a with | some r => r.1 == g | none => false)
  | none => true

theorem mem_route {cfg : Config} {ev : Event} {a : Appender} :
    a ∈ route cfg ev ↔ a ∈ cfg.appenders ∧ (buildFilter cfg a).enabled ev = true ∧ gatePass cfg ev a = true := by
  rw [route_eq_filter, List.mem_filter, ← Bool.and_eq_true, Bool.and_comm]
  exact Iff.rfl

theorem enabled_iff_admits {cfg : Config} (wf : cfg.WF) {ev : Event} (hev : 0 < ev.level) (a : Appender) :
    (buildFilter cfg a).enabled ev = true ↔ Admits cfg ev a := by
  unfold Filter.enabled Admits
  cases hr : findMostSpecificRule (buildFilter cfg a) ev.target with
  | some r =>
    obtain ⟨l, hl, rfl⟩ := ruleOf_some hr
    dsimp only [ruleOfLogger]
    rw [decide_eq_true_eq]
    constructor
    · exact fun hlev => Or.inl ⟨l, hl.1, hl.2.1, hl.2.2.1, hl.2.2.2, hlev⟩
    · rintro (⟨l', hl', hm', ha', hmax', hlev⟩ | ⟨hno, _, _⟩)
      · rwa [hl.unique wf ⟨hl', hm', ha', hmax'⟩]
      · exact absurd hl.2.2.1 (hno l hl.1 hl.2.1)
  | none =>
    have hno := ruleOf_none.1 hr
    simp only [buildFilter, List.contains_iff_mem, decide_eq_true_eq]
    constructor
    · intro hlev
      by_cases hroot : a ∈ cfg.rootAppenders
      · exact Or.inr ⟨hno, hroot, by simpa [hroot] using hlev⟩
      · simp only [hroot, if_false] at hlev; omega
    · rintro (⟨l', hl', hm', ha', _, _⟩ | ⟨_, hroot, hlev⟩)
      · exact absurd ha' (hno l' hl' hm')
      · simpa [hroot] using hlev

/-- the gate the code applies: like `GateOk`, but loggers that name no appender are invisible -/
def GateOkWired (cfg : Config) (ev : Event) (a : Appender) : Prop :=
  ∀ w ∈ cfg.loggers, matchesB w ev = true → w.appenders ≠ [] →
    (∀ l' ∈ cfg.loggers, matchesB l' ev = true → l'.appenders ≠ [] → l'.name.length ≤ w.name.length) →
    w.additive = false → a ∈ w.appenders

/-- exact, order-independent description of `route` -/
def CodeSpec (cfg : Config) (ev : Event) (a : Appender) : Prop :=
  a ∈ cfg.appenders ∧ Admits cfg ev a ∧ GateOkWired cfg ev a

theorem gatePass_iff_gateOkWired {cfg : Config} (wf : cfg.WF) {ev : Event} (a : Appender) :
    gatePass cfg ev a = true ↔ GateOkWired cfg ev a := by
  have hG : GateOkWired cfg ev a ↔ ∀ w, Longest cfg ev Wired w → w.additive = false → a ∈ w.appenders :=
    ⟨fun h w ⟨h1, h2, h3, h4⟩ => h w h1 h2 h3 h4, fun h w h1 h2 h3 h4 => h w ⟨h1, h2, h3, h4⟩⟩
  rw [hG]
  unfold gatePass
  by_cases hex : ∃ l ∈ cfg.loggers, matchesB l ev = true ∧ Wired l
  · obtain ⟨w, hw⟩ := exists_longest hex
    rw [winnerOf_of_longest wf hw]
    cases hadd : w.additive with
    | true =>
      simp only [gateOf, true_iff]
      intro w' hw' hna
      rw [hw'.unique wf hw, hadd] at hna; cases hna
    | false =>
      -- the gate is `w`: the appender passes iff its own rule is `w`'s, i.e. iff `w` names it
      simp only [gateOf]
      constructor
      · intro h w' hw' _
        rw [hw'.unique wf hw]
        cases hr : ruleOf cfg ev a with
        | none => simp [hr] at h
        | some r =>
          obtain ⟨l, hl, rfl⟩ := ruleOf_some hr
          have : l = w := eq_of_nodup_map (·.name) wf.names_nodup hl.1 hw.1 (by simpa [hr, ruleOfLogger] using h)
          exact this ▸ hl.2.2.1
      · intro h
        have ha := h w hw hadd
        rw [ruleOf_of_longest wf ⟨hw.1, hw.2.1, ha, fun l' hl' hm' ha' => hw.2.2.2 l' hl' hm' (List.ne_nil_of_mem ha')⟩]
        simp [ruleOfLogger]
  · rw [(winnerOf_none wf).2 fun l hl hm hw => hex ⟨l, hl, hm, hw⟩]
    simp only [gateOf, true_iff]
    exact fun w hw => absurd ⟨w, hw.1, hw.2.1, hw.2.2.1⟩ hex

theorem mem_route_iff_codeSpec {cfg : Config} (wf : cfg.WF) {ev : Event} (hev : 0 < ev.level)
    (a : Appender) : a ∈ route cfg ev ↔ CodeSpec cfg ev a := by
  rw [mem_route, gatePass_iff_gateOkWired wf, enabled_iff_admits wf hev, CodeSpec]

/-- `CodeSpec` only looks at membership: it does not depend on hash-map iteration order. -/
theorem codeSpec_congr {cfg cfg' : Config} (ha : ∀ x, x ∈ cfg'.appenders ↔ x ∈ cfg.appenders)
    (hl : ∀ l, l ∈ cfg'.loggers ↔ l ∈ cfg.loggers) (hrl : cfg'.rootLevel = cfg.rootLevel)
    (hra : ∀ x, x ∈ cfg'.rootAppenders ↔ x ∈ cfg.rootAppenders) (ev : Event) (a : Appender) :
    CodeSpec cfg' ev a ↔ CodeSpec cfg ev a := by
  unfold CodeSpec Admits GateOkWired
  simp only [ha, hl, hrl, hra]

theorem gateOk_iff_gateOkWired {cfg : Config} {ev : Event} (hw : WinnerWired cfg ev) (a : Appender) :
    GateOk cfg ev a ↔ GateOkWired cfg ev a := by
  constructor
  · intro h w hwl hwm hww hwmax
    refine h w hwl hwm fun l' hl' hm' => ?_
    -- the longest matching logger overall is wired, hence no longer than `w`
    obtain ⟨w0, h0l, h0m, -, h0max⟩ := exists_longest (S := fun _ => True) ⟨l', hl', hm', trivial⟩
    have := hwmax w0 h0l h0m (hw w0 h0l h0m fun x hx hxm => h0max x hx hxm trivial)
    have := h0max l' hl' hm' trivial
    omega
  · exact fun h w hwl hwm hwmax => h w hwl hwm (hw w hwl hwm hwmax) fun l' hl' hm' _ => hwmax l' hl' hm'

theorem foldl_max_ge (l : List Nat) (i : Nat) : i ≤ l.foldl max i ∧ ∀ x ∈ l, x ≤ l.foldl max i := by
  induction l using Fv.snoc_induction with
  | nil => simp
  | snoc l y ih =>
    simp only [List.foldl_append, List.foldl_cons, List.foldl_nil, List.mem_append, List.mem_singleton]
    exact ⟨Nat.le_trans ih.1 (Nat.le_max_left ..), fun x hx => hx.elim (fun h => Nat.le_trans (ih.2 x h) (Nat.le_max_left ..))
      (· ▸ Nat.le_max_right ..)⟩

theorem Filter.enabled_le_maxLevel {f : Filter} {ev : Event} (h : f.enabled ev = true) : ev.level ≤ f.maxLevel := by
  unfold Filter.enabled at h
  unfold Filter.maxLevel
  split at h <;> simp only [decide_eq_true_eq] at h
  · next r hr =>
    have hmem : r ∈ f.rules := (List.mem_filter.1 (maxByLen_some hr).1).1
    exact Nat.le_trans h ((foldl_max_ge _ _).2 _ (List.mem_map.2 ⟨r, hmem, rfl⟩))
  · exact Nat.le_trans h (foldl_max_ge _ _).1

theorem route_le_maxLevel {cfg : Config} {ev : Event} {a : Appender} (h : a ∈ route cfg ev) :
    ev.level ≤ maxLevel cfg := by
  obtain ⟨ha, hd, -⟩ := mem_route.1 h
  refine Nat.le_trans (Filter.enabled_le_maxLevel hd) ((foldl_max_ge _ _).2 _ ?_)
  simp only [actors, List.map_map, List.mem_map]
  exact ⟨a, ha, rfl⟩

theorem route_eventEnabled {cfg : Config} {ev : Event} {a : Appender} (h : a ∈ route cfg ev) :
    eventEnabled cfg ev = true := by
  obtain ⟨ha, hd, -⟩ := mem_route.1 h
  exact List.any_eq_true.2 ⟨(a, buildFilter cfg a), List.mem_map.2 ⟨a, ha, rfl⟩, hd⟩

theorem route_eq_nil_of_prefilter {cfg : Config} {ev : Event}
    (h : maxLevel cfg < ev.level ∨ eventEnabled cfg ev = false) : route cfg ev = [] := by
  rw [List.eq_nil_iff_forall_not_mem]
  intro a ha
  rcases h with h | h
  · exact absurd (route_le_maxLevel ha) (Nat.not_le.2 h)
  · rw [route_eventEnabled ha] at h; cases h

theorem tracingFilterToLogFilter_eq (f : Nat) : tracingFilterToLogFilter f = min f 5 := by
  unfold tracingFilterToLogFilter
  repeat' split
  all_goals omega

theorem logLevelToTracing_eq (lvl : LogLevel) : logLevelToTracing lvl = lvl.toNat ∧ lvl.toNat ≤ 5 := by
  cases lvl <;> exact ⟨rfl, by decide⟩

end Fv.Log
