import Fv.Lemmas.ChanStep
/-! `Step` for the receive side, the handle operations and `micro` itself. -/
namespace Fv.Chan
open List

theorem mem_micro {fl cfg s p} {x : St × P} :
    x ∈ micro fl cfg s p ↔ microDet fl cfg s p = some x ∨ cfg.granular = true ∧ x ∈ microSpur fl cfg s p := by
  simp only [micro, mem_append, Option.mem_toList, mem_ite_nil_right]

structure Popped (s : St) (got : List Val) (s' : St) (p' : P) : Prop where
  ex : ∃ γ, s.buf = γ ++ s'.buf ∧ s'.recvOk = s.recvOk ++ γ ∧ s'.consumed = s.consumed ++ γ ∧ gotOf p' = got ++ γ
  shell : s'.shell = s.shell
  sentOk : s'.sentOk = s.sentOk

theorem Popped.refl (s : St) (p : P) : Popped s (gotOf p) s p :=
  ⟨⟨[], by simp, by simp, by simp, by simp⟩, rfl, rfl⟩

theorem Popped.trans {s got s1 p1 s2 p2} (h1 : Popped s got s1 p1) (h2 : Popped s1 (gotOf p1) s2 p2) :
    Popped s got s2 p2 := by
  obtain ⟨γ1, a1, b1, c1, d1⟩ := h1.ex
  obtain ⟨γ2, a2, b2, c2, d2⟩ := h2.ex
  refine ⟨⟨γ1 ++ γ2, ?_, ?_, ?_, ?_⟩, h2.shell.trans h1.shell, h2.sentOk.trans h1.sentOk⟩
  · rw [a1, a2, append_assoc]
  · rw [b2, b1, append_assoc]
  · rw [c2, c1, append_assoc]
  · rw [d2, d1, append_assoc]

structure SameQueue (s s' : St) : Prop where
  buf : s'.buf = s.buf
  recvOk : s'.recvOk = s.recvOk
  consumed : s'.consumed = s.consumed
  shell : s'.shell = s.shell
  sentOk : s'.sentOk = s.sentOk

theorem Popped.thenSame {s got s1 p s2} (h : Popped s got s1 p) (hq : SameQueue s1 s2) : Popped s got s2 p := by
  obtain ⟨γ, a, b, c, d⟩ := h.ex
  exact ⟨⟨γ, by rw [hq.buf]; exact a, by rw [hq.recvOk]; exact b, by rw [hq.consumed]; exact c, d⟩,
    hq.shell.trans h.shell, hq.sentOk.trans h.sentOk⟩

/-- bookkeeping of the bounded-mpsc consumer: seen neither by the accounts nor by the queue -/
structure Still (fl : Flavour) (s s' : St) : Prop where
  quiet : Quiet fl s s'
  same : SameQueue s s'

theorem Still.refl (fl) (s : St) : Still fl s s := ⟨.refl fl s, rfl, rfl, rfl, rfl, rfl⟩

theorem mbFlush_still (fl) (s : St) : Still fl s (mbFlush fl s) := by
  unfold mbFlush; split
  · exact ⟨by quiet_upd, rfl, rfl, rfl, rfl, rfl⟩
  · exact .refl fl s

theorem mbFlushMid_still (fl) (s : St) : Still fl s (mbFlushMid fl s) := by
  unfold mbFlushMid; split
  · exact ⟨by quiet_upd, rfl, rfl, rfl, rfl, rfl⟩
  · exact .refl fl s

theorem mbGot_still (fl) (s : St) (k b) : Still fl s (mbGot fl s k b) := by
  unfold mbGot; split
  · exact ⟨by quiet_upd, rfl, rfl, rfl, rfl, rfl⟩
  · exact .refl fl s

def RecvP : P → Prop
  | .brecv .. => True
  | .fin _ => True
  | _ => False

/-- a receive step on a buffered channel takes from the front of the buffer exactly what the operation adds to its `got` -/
structure RecvStep (fl : Flavour) (op : Op) (s : St) (p : P) (s' : St) (p' : P) (δ : List Val) : Prop where
  step : Step fl op s p s' p' δ
  popped : Popped s (gotOf p) s' p'
  recvP : RecvP p'

theorem RecvStep.thenStill {fl op s p s1 p1 δ s2} (h1 : RecvStep fl op s p s1 p1 δ) (h2 : Still fl s1 s2) :
    RecvStep fl op s p s2 p1 δ :=
  ⟨h1.step.thenQuiet h2.quiet, h1.popped.thenSame h2.same, h1.recvP⟩

theorem RecvStep.retarget {fl op s p s' p' δ} (q : P) (h : RecvStep fl op s p s' p' δ)
    (hq : SameP p q := by exact ⟨rfl, rfl, rfl, rfl⟩) : RecvStep fl op s q s' p' δ :=
  ⟨h.step.retarget q hq, hq.got ▸ h.popped, h.recvP⟩

theorem RecvStep.still {fl op s s' p p'} (h : Still fl s s') (pinv : PInv op p') (rp : RecvP p')
    (hp : SameP p p' := by exact ⟨rfl, rfl, rfl, rfl⟩) (nf : NF p' := by trivial) : RecvStep fl op s p s' p' [] :=
  ⟨.quiet h.quiet pinv hp nf, (hp.got ▸ Popped.refl s p').thenSame h.same, rp⟩

theorem emptyOutcome_step {op : Op} (hro : isRecvOp op = true) {fl s f hd t h n s' p'}
    (hs : emptyOutcome fl s f hd = some (s', p')) : RecvStep fl op s (.brecv t f h n []) s' p' [] := by
  unfold emptyOutcome at hs
  simp only [] at hs
  have key : ∀ tag, RecvStep fl op s (.brecv t f h n []) (mbFlush fl s) (.fin { tag := tag }) [] := fun tag =>
    .still (mbFlush_still fl s) (.fin_tag _ _ _ (.inl (isSendOp_of_recv hro))) trivial
  split at hs
  · cases hs; exact key _
  · split at hs <;> first | (cases hs; exact key _) | cases hs

theorem pop_step {op : Op} (fl : Flavour) (s : St) (t f h n got k r) (p' : P)
    (hp : P.inHand p' = [] ∧ gotOf p' = got ++ s.buf.take k ∧ sentOf p' = [] ∧ backOf p' = []) (pinv : PInv op p')
    (nf : NF p') (rp : RecvP p') : RecvStep fl op s (.brecv t f h n got) (s.pop r k) p' [] := by
  obtain ⟨h1, h2, h3, h4⟩ := hp
  refine ⟨⟨⟨fun hi => hi.pop r k (capOk_pop hi.cap r k), ?_, ?_, ?_, ?_, ?_⟩, pinv, nf⟩,
    ⟨⟨s.buf.take k, (take_append_drop k s.buf).symm, rfl, rfl, h2⟩, rfl, rfl⟩, rp⟩
  all_goals ((try (intro v; have := count_take_add_drop v k s.buf; revert this)) <;> (try simp only [h1, h2, h3, h4]) <;> acct)

theorem recvStep_step {op : Op} (hro : isRecvOp op = true) {fl cfg s t f hd n got s' p'}
    (hs : recvStep fl cfg s t f hd n got = some (s', p')) : RecvStep fl op s (.brecv t f hd.name n got) s' p' [] := by
  unfold recvStep at hs
  generalize recvK fl cfg s f n got = k at hs
  have hfin : ∀ o : Out, o.sent = [] → o.back = [] → o.lost = [] → PInv op (.fin o) :=
    fun o a b c => .fin_recv hro ⟨a, b, c⟩
  split at hs
  · split at hs
    · rename_i hg
      obtain rfl : got = [] := by simpa using hg
      exact emptyOutcome_step hro hs
    · cases hs
      exact .still (mbFlush_still fl s) (hfin _ rfl rfl rfl) trivial
  · have h1 := (pop_step fl s t f hd.name n got k hd.name.idx (.fin { tag := .ok, got := got ++ s.buf.take k })
      ⟨rfl, rfl, rfl, rfl⟩ (hfin _ rfl rfl rfl) trivial trivial).thenStill (mbGot_still fl _ k false)
    split at hs
    · cases hs
      split
      · exact h1.thenStill (mbFlushMid_still fl _)
      · exact h1
    · cases hs
      exact (pop_step fl s t f hd.name n got k hd.name.idx (.brecv t f hd.name n (got ++ s.buf.take k))
        ⟨rfl, rfl, rfl, rfl⟩ hro trivial trivial).thenStill (mbGot_still fl _ k false)

theorem rvRecvStart_step {op : Op} (hro : isRecvOp op = true) {fl : Flavour} (hf : fl.fam = .rv) (s t f hd t' op') :
    Step fl op s (.fresh t' op') (rvRecvStart s t f hd).1 (rvRecvStart s t f hd).2 [] := by
  have hso := isSendOp_of_recv hro
  unfold rvRecvStart
  split
  · rename_i ts p v rest hsw
    refine ⟨⟨fun hi => (hi.handOff hf _ _ _).frame (by unfold St.handOff; frame), ?_, ?_, ?_, ?_, ?_⟩,
      .fin_recv hro ⟨rfl, rfl, rfl⟩, trivial⟩ <;> ((try simp only [St.placed, St.parked, St.handOff, hsw]); acct)
  · split
    · exact .quietFin (.refl ..) (.inl hso)
    · split
      · exact .quietFin (.refl ..) (.inl hso)
      · exact .quiet (by quiet_upd) hro
      · exact .quiet (by quiet_upd) hro

/-- From any progress state `q` that holds what an empty `.brecv` holds (nothing): the callers stand at `.fresh`
(the call step) and at `.osRecv` (a pending `recv` polled again). -/
theorem osTryRecv_step {op : Op} (hro : isRecvOp op = true) (fl : Flavour) (s hd) (q : P)
    (hq : SameP (.brecv 0 .tryRecv hd.name 0 []) q := by exact ⟨rfl, rfl, rfl, rfl⟩) :
    Step fl op s q (osTryRecv s hd).1 (.fin (osTryRecv s hd).2) [] := by
  have hso := isSendOp_of_recv hro
  refine Step.retarget q ?_ hq
  unfold osTryRecv
  split
  · exact (pop_step fl s 0 .tryRecv hd.name 0 [] 1 hd.name.idx (.fin { tag := .ok, got := s.buf.take 1 })
      ⟨rfl, by simp [gotOf], rfl, rfl⟩ (.fin_recv hro ⟨rfl, rfl, rfl⟩) trivial trivial).step.thenQuiet (by quiet_upd)
  · exact .quietFin (.refl ..) (.inl hso)
  · exact .quietFin (.refl ..) (.inl hso)
  · split
    · exact .quietFin (by quiet_upd) (.inl hso)
    · exact .quietFin (.refl ..) (.inl hso)

theorem osRecvStep_step {op : Op} (hro : isRecvOp op = true) {fl : Flavour} {s hd s' p'} (q : P)
    (hs : osRecvStep s hd = some (s', p')) (hq : SameP (.brecv 0 .tryRecv hd.name 0 []) q := by exact ⟨rfl, rfl, rfl, rfl⟩) :
    Step fl op s q s' p' [] := by
  unfold osRecvStep at hs
  have h0 := osTryRecv_step hro fl s hd q hq
  split at hs
  · cases hs; exact h0
  · split at hs
    · rename_i hne _
      cases hs
      have hs1 : (osTryRecv s hd).1 = s := by
        have ht : (osTryRecv s hd).2.tag = .empty := by simpa using hne
        unfold osTryRecv at ht ⊢
        split <;> simp_all
        split <;> simp_all
      rw [hs1]
      refine ((Step.quietFin (.refl ..) (.inl (isSendOp_of_recv hro))).retarget q hq).thenQuiet
        ⟨fun hi => hi.frame ⟨rfl, rfl, rfl, rfl, rfl, rfl, rfl, ?_⟩, rfl, fun _ => rfl, rfl, rfl, rfl, rfl, rfl⟩
      by_cases he : s.os = .empty
      · right; simp [he]
      · left; simp [he]
    · cases hs

theorem startRecv_step (fl cfg s t f h n) :
    Step fl (.rcv f h n) s (.fresh t (.rcv f h n)) (startRecv fl cfg s t f h n).1 (startRecv fl cfg s t f h n).2 [] ∧
    (fl.fam ≠ .rv → fl.fam ≠ .os →
      Popped s [] (startRecv fl cfg s t f h n).1 (startRecv fl cfg s t f h n).2 ∧ RecvP (startRecv fl cfg s t f h n).2) := by
  have hro : isRecvOp (.rcv f h n) = true := rfl
  have buf : ∀ {s' p'}, RecvStep fl (.rcv f h n) s (.fresh t (.rcv f h n)) s' p' [] →
      Step fl (.rcv f h n) s (.fresh t (.rcv f h n)) s' p' [] ∧ (fl.fam ≠ .rv → fl.fam ≠ .os → Popped s [] s' p' ∧ RecvP p') :=
    fun h => ⟨h.step, fun _ _ => ⟨h.popped, h.recvP⟩⟩
  have fin0 := fun tag => buf (.still (p' := .fin { tag := tag }) (.refl fl s) (.fin_tag _ _ _ (.inl rfl)) trivial)
  unfold startRecv
  split
  · exact fin0 _
  · split
    · exact fin0 _
    · split
      · exact fin0 _
      · exact fin0 _
      · split
        · rename_i hf
          refine ⟨?_, fun _ hos => absurd hf hos⟩
          split
          · exact osTryRecv_step hro fl s _ _
          · split
            · rename_i r hr
              exact osRecvStep_step hro _ (by rw [hr])
            · exact .quiet (.refl ..) hro
        · rename_i hf
          exact ⟨rvRecvStart_step hro hf .., fun hrv _ => absurd hf hrv⟩
        · split
          · rename_i r hr
            exact buf ((recvStep_step hro (by rw [hr] : recvStep fl cfg s t f _ n [] = some (r.1, r.2))).retarget _)
          · exact buf (.still (mbFlush_still fl s) hro trivial)

section
variable {op : Op} (hso : isSendOp op = false) (fl : Flavour) (s : St) (t : Nat)
include hso

theorem startClose_step (h) : Step fl op s (.fresh t op) (startClose fl s h).1 (startClose fl s h).2 [] := by
  unfold startClose
  split
  · exact .quietFin (.refl ..) (.inl hso)
  · split
    · exact .quietFin (.refl ..) (.inl hso)
    · exact .quietFin (.trans (by quiet_upd) (closeEffect_quiet ..)) (.inl hso)

theorem startDrop_step (h) : Step fl op s (.fresh t op) (startDrop fl s h).1 (startDrop fl s h).2 [] := by
  unfold startDrop
  split
  · exact .quietFin (.refl ..) (.inl hso)
  · split
    · exact .quietFin (.trans (eraseHandle_quiet ..) (teardownIfLast_quiet ..)) (.inl hso)
    · exact .quietFin (.trans (.trans (eraseHandle_quiet ..) (closeEffect_quiet ..)) (teardownIfLast_quiet ..)) (.inl hso)

theorem startClone_step (h h') : Step fl op s (.fresh t op) (startClone fl s h h').1 (startClone fl s h h').2 [] := by
  unfold startClone
  split
  · exact .quietFin (.refl ..) (.inl hso)
  · exact .quietFin (.refl ..) (.inl hso)
  · split
    · exact .quietFin (.refl ..) (.inl hso)
    · simp only []
      cases h.side <;> exact .quietFin (by quiet_upd) (.inl hso)

theorem startConvert_step (h b) : Step fl op s (.fresh t op) (startConvert fl s h b).1 (startConvert fl s h b).2 [] := by
  unfold startConvert
  split
  · exact .quietFin (.refl ..) (.inl hso)
  · split
    · exact .quietFin (.refl ..) (.inl hso)
    · simp only []
      split <;> exact .quietFin (by quiet_upd) (.inl hso)

theorem startProbe_step (pr h) : Step fl op s (.fresh t op) (startProbe fl s pr h).1 (startProbe fl s pr h).2 [] := by
  unfold startProbe
  split
  · exact .quietFin (.refl ..) (.inl hso)
  · split <;> exact .quietFin (.refl ..) (.inl hso)

end

theorem start_step (fl cfg s t op) :
    ∃ δ, (δ = [] ∨ δ = op.vals) ∧ Step fl op s (.fresh t op) (start fl cfg s t op).1 (start fl cfg s t op).2 δ := by
  cases op with
  | snd f h vs =>
    obtain ⟨δ, hδ, h, _⟩ := startSend_step fl cfg s t f h vs
    exact ⟨δ, hδ, h⟩
  | rcv f h n => exact ⟨[], .inl rfl, (startRecv_step ..).1⟩
  | clone h h' => exact ⟨[], .inl rfl, startClone_step rfl ..⟩
  | close h =>
    refine ⟨[], .inl rfl, ?_⟩
    simp only [start]
    split
    · -- spsc sender, concurrent specification: first half
      unfold startCloseSb
      split
      · exact .quietFin (.refl ..) (.inl rfl)
      · split
        · exact .quietFin (.refl ..) (.inl rfl)
        · exact .quiet (by quiet_upd) ⟨rfl, rfl⟩
    · exact startClose_step rfl ..
  | drop h =>
    refine ⟨[], .inl rfl, ?_⟩
    simp only [start]
    split
    · unfold startDropSb
      split
      · exact .quietFin (.refl ..) (.inl rfl)
      · split
        · exact .quietFin (.trans (eraseHandle_quiet ..) (teardownIfLast_quiet ..)) (.inl rfl)
        · exact .quiet (by unfold St.eraseHandle; quiet_upd) ⟨rfl, rfl⟩
    · exact startDrop_step rfl ..
  | probe p h => exact ⟨[], .inl rfl, startProbe_step rfl ..⟩
  | toAsync h => exact ⟨[], .inl rfl, startConvert_step rfl ..⟩
  | toSync h => exact ⟨[], .inl rfl, startConvert_step rfl ..⟩

theorem extract_count {t : Nat} {l rest : List (Nat × Val)} {v : Val} (h : extract t l = some (v, rest)) (x : Val) :
    count x (l.map (·.2)) = count x (rest.map (·.2)) + count x [v] := by
  induction l generalizing rest with
  | nil => simp [extract] at h
  | cons a r ih =>
    obtain ⟨u, w⟩ := a
    simp only [extract] at h
    split at h
    · cases h; simp [count_cons]
    · split at h
      · rename_i w' r' hr
        cases h
        have := ih hr
        simp [count_cons] at this ⊢; omega
      · cases h

theorem erase_count {t : Nat} {l : List (Nat × Val)} {v : Val} (h : (t, v) ∈ l) (x : Val) :
    count x (l.map (·.2)) = count x ((l.erase (t, v)).map (·.2)) + count x [v] := by
  have := (perm_cons_erase h).map (·.2) |>.count_eq x
  simpa [count_cons, Nat.add_comm] using this

theorem microDet_step {op : Op} {fl cfg s p s' p'} (hp : PInv op p) (hsp : ¬ SendP p) (hrp : ¬ RecvP p)
    (hs : microDet fl cfg s p = some (s', p')) :
    ∃ δ, (δ = [] ∨ δ = freshVals p) ∧ Step fl op s p s' p' δ := by
  cases p with
  | fresh t op' =>
    obtain rfl : op' = op := hp
    simp only [microDet] at hs
    obtain ⟨rfl, rfl⟩ := of_some_eq hs
    -- a send form in the concurrent specification is counted in flight first
    have hb : ∀ s0 : St, (s0 = s ∨ s0 = { s with inflight := s.inflight + 1 }) →
        ∃ δ, (δ = [] ∨ δ = op'.vals) ∧ Step fl op' s (.fresh t op') (start fl cfg s0 t op').1 (start fl cfg s0 t op').2 δ := by
      intro s0 h0
      obtain ⟨δ, hd, hk⟩ := start_step fl cfg s0 t op'
      refine ⟨δ, hd, ?_⟩
      rcases h0 with rfl | rfl
      · exact hk
      · exact hk.afterQuiet (by quiet_upd)
    cases op' <;> first
      | exact hb _ (Or.inl rfl)
      | (simp only []; split
         · exact hb _ (Or.inr rfl)
         · exact hb _ (Or.inl rfl))
  | bsend t f h sent rest q => exact (hsp trivial).elim
  | bsendEnd t f sent rest => exact (hsp trivial).elim
  | brecv t f h n got => exact (hrp trivial).elim
  | rvSend t v =>
    simp only [microDet] at hs
    refine ⟨[], .inl rfl, ?_⟩
    split at hs
    · rename_i he
      cases hs
      refine ⟨⟨fun hi => hi.frame (by frame), ?_, ?_, ?_, ?_, ?_⟩, .fin_send hp.2 (by simp [hp.1]) rfl, trivial⟩
      all_goals (try (intro x; have := erase_count he x; revert this)); acct
    · split at hs
      · rename_i he
        cases hs
        refine ⟨⟨fun hi => hi.frame (by unfold St.lose; frame), ?_, ?_, ?_, ?_, ?_⟩,
          .fin_send hp.2 (by simp [hp.1]) rfl, trivial⟩
        all_goals (try (intro x; have := erase_count he x; revert this)); acct
      · cases hs
  | rvRecv t =>
    simp only [microDet] at hs
    refine ⟨[], .inl rfl, ?_⟩
    split at hs
    · rename_i w rest he
      cases hs
      refine ⟨⟨fun hi => hi.frame (by frame), ?_, ?_, ?_, ?_, ?_⟩, .fin_recv hp ⟨rfl, rfl, rfl⟩, trivial⟩
      all_goals (try (intro x; have := extract_count he x; revert this)); acct
    · split at hs
      · cases hs
        exact .quietFin (by quiet_upd) (.inl (isSendOp_of_recv hp))
      · cases hs
  | rvTo t stage =>
    simp only [microDet] at hs
    refine ⟨[], .inl rfl, ?_⟩
    split at hs
    · split at hs
      · rename_i w rest he
        cases hs
        refine ⟨⟨fun hi => hi.frame (by frame), ?_, ?_, ?_, ?_, ?_⟩, .fin_recv hp ⟨rfl, rfl, rfl⟩, trivial⟩
        all_goals (try (intro x; have := extract_count he x; revert this)); acct
      · split at hs
        · cases hs
          exact .quietFin (by quiet_upd) (.inl (isSendOp_of_recv hp))
        · cases hs
          exact .quiet (by quiet_upd) hp
    · cases hs
      exact .quietFin (by quiet_upd) (.inl (isSendOp_of_recv hp))
  | osRecv t h =>
    simp only [microDet] at hs
    split at hs
    · cases hs
    · exact ⟨[], .inl rfl, osRecvStep_step hp _ hs⟩
  | stg t k h sent rest => exact ⟨[], .inl rfl, stgStep_step hp hs⟩
  | fin o => simp [microDet] at hs

theorem micro_send {op : Op} {fl cfg s p s' p'} (hp : PInv op p) (sp : SendP p) (hs : (s', p') ∈ micro fl cfg s p) :
    SendStep fl op s p s' p' [] := by
  rw [mem_micro] at hs
  cases p with
  | bsend t f h sent rest q =>
    rcases hs with hs | ⟨_, hs⟩
    · exact sendStep_step hp.1 hp.2 hs
    · simp only [microSpur, mem_append, mem_ite_nil_right, Option.mem_toList, mem_singleton] at hs
      rcases hs with ⟨_, hs⟩ | ⟨_, hs⟩
      · exact (sendStep_step hp.1 hp.2 hs).retarget _
      · obtain ⟨rfl, rfl⟩ := of_some_eq (congrArg some hs.symm)
        exact failSend_step hp.1 hp.2
  | bsendEnd t f sent rest =>
    rcases hs with hs | ⟨_, hs⟩
    · simp only [microDet] at hs
      obtain ⟨rfl, rfl⟩ := of_some_eq hs
      exact (failSend_step (t := t) (h := ⟨.tx, 0⟩) (q := 0) hp.1 hp.2).retarget _
    · simp [microSpur] at hs
  | fin o => simp [microDet, microSpur] at hs
  | _ => exact sp.elim

theorem micro_recv {op : Op} {fl cfg s p s' p'} (hp : PInv op p) (rp : RecvP p) (hs : (s', p') ∈ micro fl cfg s p) :
    RecvStep fl op s p s' p' [] := by
  rw [mem_micro] at hs
  cases p with
  | brecv t f h n got =>
    have hfl : RecvStep fl op s (.brecv t f h n got) (mbFlush fl s) (.brecv t f h n got) [] :=
      .still (mbFlush_still fl s) hp trivial
    rcases hs with hs | ⟨_, hs⟩
    · simp only [microDet] at hs
      split at hs
      · cases hs
      · split at hs
        · rename_i hr
          cases hs
          exact (recvStep_step hp hr).retarget _
        · split at hs
          · cases hs; exact hfl
          · cases hs
    · simp only [microSpur, mem_append, mem_ite_nil_right, mem_singleton] at hs
      rcases hs with ⟨_, hs⟩ | hs
      · cases hs
        exact .still (mbFlush_still fl s) (.fin_recv hp ⟨rfl, rfl, rfl⟩) trivial
      · split at hs
        · simp only [mem_ite_nil_right, mem_singleton] at hs
          obtain ⟨hc, hs⟩ := hs
          cases hs
          obtain rfl : got = [] := by simpa using hc.2.2.2.1
          exact .still (.refl ..) (.fin_tag _ _ _ (.inl (isSendOp_of_recv hp))) trivial
        · simp at hs
  | fin o => simp [microDet, microSpur] at hs
  | _ => exact rp.elim

/-- the one concurrent-only step outside the two transfer loops: a fresh non-blocking receive stops at a hole -/
theorem microSpur_fresh {fl cfg s t op s' p'} (hs : (s', p') ∈ microSpur fl cfg s (.fresh t op)) :
    Step fl op s (.fresh t op) s' p' [] := by
  cases op with
  | rcv f h n =>
    -- every branch offers the one result "nothing there"
    have key : (s', p') = (mbFlush fl s, .fin { tag := emptyTag f }) := by
      simp only [microSpur] at hs
      split at hs
      · split at hs <;> simp_all
      · simp at hs
    cases key
    exact .quietFin (mbFlush_still fl s).quiet (.inl rfl)
  | _ => simp [microSpur] at hs

theorem micro_step {op : Op} {fl cfg s p s' p'} (hp : PInv op p) (hs : (s', p') ∈ micro fl cfg s p) :
    ∃ δ, (δ = [] ∨ δ = freshVals p) ∧ Step fl op s p s' p' δ := by
  have hs' := mem_micro.mp hs
  cases p with
  | bsend t f h sent rest q => exact ⟨[], .inl rfl, (micro_send hp trivial hs).step⟩
  | bsendEnd t f sent rest => exact ⟨[], .inl rfl, (micro_send hp trivial hs).step⟩
  | brecv t f h n got => exact ⟨[], .inl rfl, (micro_recv hp trivial hs).step⟩
  | fresh t op' =>
    rcases hs' with hs' | ⟨_, hs'⟩
    · exact microDet_step hp id id hs'
    · obtain rfl : op' = op := hp
      exact ⟨[], .inl rfl, microSpur_fresh hs'⟩
  | fin o => simp [microDet, microSpur] at hs'
  | _ =>
    rcases hs' with hs' | ⟨_, hs'⟩
    · exact microDet_step hp id id hs'
    · simp [microSpur] at hs'

theorem PInv.exists_op {fl cfg s p x} (hs : x ∈ micro fl cfg s p) : ∃ op, PInv op p := by
  cases p with
  | fresh t op => exact ⟨op, rfl⟩
  | bsend t f h sent rest q => exact ⟨.snd f h (sent ++ rest), rfl, rfl⟩
  | bsendEnd t f sent rest => exact ⟨.snd f ⟨.tx, 0⟩ (sent ++ rest), rfl, rfl⟩
  | brecv t f h n got => exact ⟨.rcv f h n, rfl⟩
  | rvSend t v => exact ⟨.snd .send ⟨.tx, 0⟩ [v], rfl, rfl⟩
  | rvRecv t => exact ⟨.rcv .recv ⟨.rx, 0⟩ 0, rfl⟩
  | rvTo t k => exact ⟨.rcv .recv ⟨.rx, 0⟩ 0, rfl⟩
  | osRecv t h => exact ⟨.rcv .recv h 0, rfl⟩
  | stg t k h sent rest => exact ⟨.snd .send h (sent ++ rest), rfl, rfl⟩
  | fin o => simp [micro, microDet, microSpur] at hs

theorem micro_ok {fl cfg s p s' p'} (hs : (s', p') ∈ micro fl cfg s p) :
    ∃ δ, (δ = [] ∨ δ = freshVals p) ∧ StepOk fl s p s' p' δ := by
  obtain ⟨op, hp⟩ := PInv.exists_op hs
  obtain ⟨δ, hδ, h⟩ := micro_step hp hs
  exact ⟨δ, hδ, h.ok⟩

theorem micro_inv {fl cfg s p s' p'} (hs : (s', p') ∈ micro fl cfg s p) (hi : Inv fl s) : Inv fl s' := by
  obtain ⟨_, _, h⟩ := micro_ok hs
  exact h.inv hi

end Fv.Chan
