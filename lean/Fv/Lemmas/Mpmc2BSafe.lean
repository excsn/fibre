import Fv.Chan.Mpmc2B
import Fv.Lemmas.Common
/-! Safety of the mpmc v2 B-model: the effect of a step on the abstract channel (`SEff`) and `InvS` (capacity,
linearisation equation, token accounting), which every such effect preserves. -/
namespace Fv.Chan.Mpmc2B

@[simp] theorem upd_same {α} (f : Nat → α) (i : Nat) (a : α) : upd f i a i = a := by simp [upd]
theorem upd_apply {α} (f : Nat → α) (i j : Nat) (a : α) : upd f i a j = if j = i then a else f j := rfl
theorem bump_apply (w : Nat → Nat) (a j : Nat) : bump w a j = if j = a then w a + 1 else w j := rfl
@[simp] theorem bump_same (w : Nat → Nat) (a : Nat) : bump w a a = w a + 1 := by simp [bump]

theorem firstW_some {st : Nat → WS} {q : List Nat} {r : Nat} (h : firstW st q = some r) : r ∈ q ∧ st r = .waiting := by
  unfold firstW at h
  exact ⟨List.mem_of_find?_eq_some h, by simpa using List.find?_some h⟩

theorem firstW_none {st : Nat → WS} {q : List Nat} (h : firstW st q = none) : ∀ r, r ∈ q → st r ≠ .waiting := by
  unfold firstW at h
  rw [List.find?_eq_none] at h
  intro r hr; simpa using h r hr

theorem frontW_some {st : Nat → WS} {q : List Nat} {r : Nat} (h : frontW st q = some r) : r ∈ q ∧ st r = .waiting := by
  unfold frontW at h
  split at h
  · split at h <;> simp at h
    subst h; simp_all
  · simp at h

theorem nodup_filter {l : List Nat} (p : Nat → Bool) (h : l.Nodup) : (l.filter p).Nodup :=
  List.Nodup.sublist List.filter_sublist h

theorem length_erase_ge (l : List Nat) (a : Nat) : l.length ≤ (l.erase a).length + 1 := by
  rw [List.length_erase]; split <;> omega

theorem sendCore_none {s : State} {v : Nat} {g : List Nat} (h : sendCore { s with asg := g } v = none) :
    ¬ s.queue.length < s.cap := by
  unfold sendCore at h
  repeat' split at h
  all_goals (first | (simp at h; done) | (dsimp only at *; omega))

theorem recvCore_none {s : State} {g : List Nat} (h : recvCore { s with ar := g } = none) : s.queue = [] := by
  unfold recvCore at h
  split at h
  · assumption
  · repeat' split at h
    all_goals simp at h

/-- `asg` is replaced first, as the callers do -/
theorem sendCore_cases {s s1 : State} {v : Nat} {g : List Nat} (h : sendCore { s with asg := g } v = some s1) :
    s.queue.length ≠ s.cap ∧ (
    (∃ r, r ∈ s.war ∧ s.st r = .waiting ∧ s1 =
        { s with asg := g, st := upd s.st r .success, war := s.war.erase r, queue := s.queue ++ [v],
                 sent := s.sent ++ [v], wakes := bump s.wakes (s.owner r), ar := s.ar ++ [r] }) ∨
    (∃ r, (∀ x, x ∈ s.war → s.st x ≠ .waiting) ∧ r ∈ s.wsr ∧ s.st r = .waiting ∧ s1 =
        { s with asg := g, st := upd s.st r .success, wsr := s.wsr.erase r, queue := s.queue ++ [v],
                 sent := s.sent ++ [v], wakes := bump s.wakes (s.owner r), ar := s.ar ++ [r] }) ∨
    ((∀ x, x ∈ s.war → s.st x ≠ .waiting) ∧ (∀ x, x ∈ s.wsr → s.st x ≠ .waiting) ∧
        s1 = { s with asg := g, queue := s.queue ++ [v], sent := s.sent ++ [v] })) := by
  unfold sendCore at h
  dsimp only at h
  split at h
  · refine ⟨‹_›, ?_⟩
    split at h
    · rename_i r hr
      simp at h; exact Or.inl ⟨r, (firstW_some hr).1, (firstW_some hr).2, h.symm⟩
    · rename_i hn
      split at h
      · rename_i r hr
        simp at h; exact Or.inr (Or.inl ⟨r, firstW_none hn, (firstW_some hr).1, (firstW_some hr).2, h.symm⟩)
      · rename_i hn2
        split at h
        · simp at h; exact Or.inr (Or.inr ⟨firstW_none hn, firstW_none hn2, h.symm⟩)
        · simp at h
  · simp at h

theorem recvCore_cases {s s1 : State} {v : Nat} {g : List Nat} (h : recvCore { s with ar := g } = some (v, s1)) :
    ∃ q, s.queue = v :: q ∧
    ((∃ r, r ∈ s.was ∧ s.st r = .waiting ∧ s1 =
        { s with ar := g, queue := q, recvd := s.recvd ++ [v], st := upd s.st r .success, was := s.was.erase r,
                 wakes := bump s.wakes (s.owner r), asg := s.asg ++ [r] }) ∨
     (∃ r, (∀ x, x ∈ s.was → s.st x ≠ .waiting) ∧ r ∈ s.wss ∧ s.st r = .waiting ∧ s1 =
        { s with ar := g, queue := q, recvd := s.recvd ++ [v], st := upd s.st r .success, wss := s.wss.erase r,
                 wakes := bump s.wakes (s.owner r), asg := s.asg ++ [r] }) ∨
     ((∀ x, x ∈ s.was → s.st x ≠ .waiting) ∧ (∀ x, x ∈ s.wss → s.st x ≠ .waiting) ∧
        s1 = { s with ar := g, queue := q, recvd := s.recvd ++ [v] })) := by
  unfold recvCore at h
  dsimp only at h
  split at h
  · simp at h
  · rename_i v' q hq
    refine ⟨q, ?_⟩
    split at h
    · rename_i r hr
      simp at h; obtain ⟨rfl, rfl⟩ := h
      exact ⟨hq, Or.inl ⟨r, (firstW_some hr).1, (firstW_some hr).2, rfl⟩⟩
    · rename_i hn
      split at h
      · rename_i r hr
        simp at h; obtain ⟨rfl, rfl⟩ := h
        exact ⟨hq, Or.inr (Or.inl ⟨r, firstW_none hn, (firstW_some hr).1, (firstW_some hr).2, rfl⟩)⟩
      · rename_i hn2
        simp at h; obtain ⟨rfl, rfl⟩ := h
        exact ⟨hq, Or.inr (Or.inr ⟨firstW_none hn, firstW_none hn2, rfl⟩)⟩

theorem sendCore_pc {s s1 : State} {v : Nat} (h : sendCore s v = some s1) : s1.pc = s.pc := by
  obtain ⟨_, ⟨_, _, _, rfl⟩ | ⟨_, _, _, _, rfl⟩ | ⟨_, _, rfl⟩⟩ := sendCore_cases (s := s) (g := s.asg) h <;> rfl

theorem recvCore_pc {s s1 : State} {v : Nat} (h : recvCore s = some (v, s1)) : s1.pc = s.pc := by
  obtain ⟨_, _, ⟨_, _, _, rfl⟩ | ⟨_, _, _, _, rfl⟩ | ⟨_, _, rfl⟩⟩ := recvCore_cases (s := s) (g := s.ar) h <;> rfl

theorem stepAdv_cases {P : State → Prop} {s s' : State} {t : Nat} (h : stepAdv s t = some s')
    (sTry : ∀ v r, s.pc t = .sTry v r → P (stepSTry s t v r))
    (sReg : ∀ v r, s.pc t = .sReg v r → P (stepSReg s t v r))
    (sWait : ∀ v r, s.pc t = .sWait v r → P (stepSWait s t v r))
    (sPark : ∀ v r, s.pc t = .sPark v r → stepSPark s t v r = some s' → P s')
    (sUnl : ∀ v r c, s.pc t = .sUnl v r c → P (stepSUnl s t v r c))
    (tsTry : ∀ v, s.pc t = .tsTry v → P (stepTsTry s t v))
    (rTry : ∀ r, s.pc t = .rTry r → P (stepRTry s t r))
    (rReg : ∀ r, s.pc t = .rReg r → P (stepRReg s t r))
    (rWait : ∀ r, s.pc t = .rWait r → P (stepRWait s t r))
    (rPark : ∀ r, s.pc t = .rPark r → stepRPark s t r = some s' → P s')
    (rUnl : ∀ r, s.pc t = .rUnl r → P (stepRUnl s t r))
    (trTry : s.pc t = .trTry → P (stepTrTry s t))
    (toTry : ∀ r, s.pc t = .toTry r → P (stepToTry s t r))
    (toReg : ∀ r, s.pc t = .toReg r → P (stepToReg s t r))
    (toRetry : ∀ r, s.pc t = .toRetry r → P (stepToRetry s t r))
    (toCas : ∀ r, s.pc t = .toCas r → P (stepToCas s t r))
    (toUnl : ∀ r, s.pc t = .toUnl r → P (stepToUnl s t r))
    (toFin : ∀ r, s.pc t = .toFin r → P (stepToFin s t r))
    (asTry : ∀ v r, s.pc t = .asTry v r → P (stepAsTry s t v r))
    (asReg : ∀ v r, s.pc t = .asReg v r → P (stepAsReg s t v r))
    (asUnl : ∀ v r c, s.pc t = .asUnl v r c → P (stepAsUnl s t v r c))
    (asRef : ∀ v r, s.pc t = .asRef v r → P (stepAsRef s t v r))
    (fdUnlS : ∀ v r, s.pc t = .fdUnlS v r → P (stepFdUnlS s t v r))
    (arTry : ∀ r, s.pc t = .arTry r → P (stepArTry s t r))
    (arReg : ∀ r, s.pc t = .arReg r → P (stepArReg s t r))
    (arUnl : ∀ r, s.pc t = .arUnl r → P (stepArUnl s t r))
    (fdUnlR : ∀ r, s.pc t = .fdUnlR r → P (stepFdUnlR s t r))
    (hCloneS : s.pc t = .hCloneS → P { s with senders := s.senders + 1, pc := upd s.pc t (.done .unit) })
    (hCloneR : s.pc t = .hCloneR → P { s with receivers := s.receivers + 1, pc := upd s.pc t (.done .unit) })
    (hCloseS : s.pc t = .hCloseS → stepCloseS s t = some s' → P s')
    (hCloseR : s.pc t = .hCloseR → stepCloseR s t = some s' → P s')
    (hProbe : s.pc t = .hProbe → P { s with pc := upd s.pc t (.done (.num s.queue.length)) })
    (hWake : ∀ ws, s.pc t = .hWake ws → P (stepHWake s t ws)) : P s' := by
  unfold stepAdv at h
  split at h
  all_goals first | (simp at h; done) | skip
  all_goals try (simp only [Option.some.injEq] at h; subst h)
  all_goals rename_i hpc
  all_goals first
    | exact sTry _ _ hpc | exact sReg _ _ hpc | exact sWait _ _ hpc | exact sPark _ _ hpc h | exact sUnl _ _ _ hpc
    | exact tsTry _ hpc | exact rTry _ hpc | exact rReg _ hpc | exact rWait _ hpc | exact rPark _ hpc h
    | exact rUnl _ hpc | exact trTry hpc | exact toTry _ hpc | exact toReg _ hpc | exact toRetry _ hpc
    | exact toCas _ hpc | exact toUnl _ hpc | exact toFin _ hpc | exact asTry _ _ hpc | exact asReg _ _ hpc
    | exact asUnl _ _ _ hpc | exact asRef _ _ hpc | exact fdUnlS _ _ hpc | exact arTry _ hpc | exact arReg _ hpc
    | exact arUnl _ hpc | exact fdUnlR _ hpc | exact hCloneS hpc | exact hCloneR hpc | exact hCloseS hpc h
    | exact hCloseR hpc h | exact hProbe hpc | exact hWake _ hpc

/-- the token an agent currently owns (it is neither in the channel nor handed back yet) -/
def holds : PC → Option Nat
  | .sTry v _ => some v
  | .sReg v _ => some v
  | .sWait v _ => some v
  | .sPark v _ => some v
  | .sUnl v _ _ => some v
  | .tsTry v => some v
  | .asNew v _ => some v
  | .asTry v _ => some v
  | .asReg v _ => some v
  | .asPend v _ => some v
  | .asUnl v _ _ => some v
  | .asRef v _ => some v
  | .fdUnlS v _ => some v
  | _ => none

structure InvS (s : State) : Prop where
  cap_ok : s.queue.length ≤ s.cap
  lin : s.sent = s.recvd ++ s.queue
  held_fresh : ∀ t v, holds (s.pc t) = some v → v ∈ s.offered ∧ v ∉ s.sent ∧ v ∉ s.returned ∧ v ∉ s.dropped
  held_unique : ∀ t1 t2 v, holds (s.pc t1) = some v → holds (s.pc t2) = some v → t1 = t2
  sent_off : ∀ v, v ∈ s.sent → v ∈ s.offered
  ret_off : ∀ v, v ∈ s.returned → v ∈ s.offered
  drop_off : ∀ v, v ∈ s.dropped → v ∈ s.offered
  sent_nodup : s.sent.Nodup
  ret_nodup : s.returned.Nodup
  drop_nodup : s.dropped.Nodup
  disj_sent : ∀ v, v ∈ s.sent → v ∉ s.returned ∧ v ∉ s.dropped
  disj_ret : ∀ v, v ∈ s.returned → v ∉ s.dropped
  res_ok : ∀ t v, s.pc t = .done (.sendOk v) → v ∈ s.sent
  res_full : ∀ t v, s.pc t = .done (.sendFull v) → v ∈ s.returned
  res_closed : ∀ t v, s.pc t = .done (.sendClosed v) → v ∈ s.returned
  res_drop : ∀ t v, s.pc t = .done (.sendClosedDrop v) → v ∈ s.dropped
  res_recv : ∀ t v, s.pc t = .done (.recvOk v) → v ∈ s.recvd

theorem invS_init (cap : Nat) : InvS (init cap) := by
  constructor <;> simp [init, holds]

def PC.plain : PC → Bool
  | .done (.sendOk _) => false
  | .done (.sendFull _) => false
  | .done (.sendClosed _) => false
  | .done (.sendClosedDrop _) => false
  | .done (.recvOk _) => false
  | .done .panicked => false
  | _ => true

theorem PC.plain_ne {p : PC} (h : p.plain = true) (v : Nat) : p ≠ .done (.sendOk v) ∧ p ≠ .done (.recvOk v) := by
  constructor <;> rintro rfl <;> simp [PC.plain] at h

structure SameS (s s' : State) : Prop where
  cap : s'.cap = s.cap
  queue : s'.queue = s.queue
  sent : s'.sent = s.sent
  recvd : s'.recvd = s.recvd
  returned : s'.returned = s.returned
  dropped : s'.dropped = s.dropped
  offered : s'.offered = s.offered

/-- What one step of `t` does to the safety-relevant components: `s'` is `SameS` as `s` with the fields the constructor
names written; only `t`'s control state changes. -/
inductive SEff (s s' : State) (t : Nat) : Prop
  | move (p' : PC) (hs : SameS s s') (hpc : s'.pc = upd s.pc t p') (hh : holds p' = holds (s.pc t))
      (hp : p'.plain = true)
  | push (v : Nat) (hv : holds (s.pc t) = some v) (hne : s.queue.length ≠ s.cap)
      (hs : SameS { s with queue := s.queue ++ [v], sent := s.sent ++ [v] } s')
      (hpc : s'.pc = upd s.pc t (.done (.sendOk v)))
  | ret (v : Nat) (p' : PC) (hv : holds (s.pc t) = some v) (hs : SameS { s with returned := s.returned ++ [v] } s')
      (hpc : s'.pc = upd s.pc t p') (hp : p' = .done (.sendFull v) ∨ p' = .done (.sendClosed v))
  /-- blocking send / future on a closed channel, or a future dropped with its item -/
  | drop (v : Nat) (p' : PC) (hv : holds (s.pc t) = some v) (hs : SameS { s with dropped := s.dropped ++ [v] } s')
      (hpc : s'.pc = upd s.pc t p') (hp : p' = .done (.sendClosedDrop v) ∨ p' = .done .futDropped)
  | pop (v : Nat) (q : List Nat) (hv : holds (s.pc t) = none) (hq : s.queue = v :: q)
      (hs : SameS { s with queue := q, recvd := s.recvd ++ [v] } s') (hpc : s'.pc = upd s.pc t (.done (.recvOk v)))
  /-- the environment hands a fresh token to `t` -/
  | offer (v : Nat) (p' : PC) (hv : holds (s.pc t) = none) (hf : v ∉ s.offered)
      (hs : SameS { s with offered := s.offered ++ [v] } s') (hpc : s'.pc = upd s.pc t p') (hh : holds p' = some v)
      (hp : p'.plain = true)
  /-- `unreachable!("state was finished but channel empty")`: the final `try_recv_core` of a timed receive whose cancel
  CAS lost finds the buffer empty and a sender alive -/
  | panic (r : Nat) (h0 : s.pc t = .toFin r) (hq : s.queue = []) (hn : s.senders ≠ 0) (hs : SameS s s')
      (hpc : s'.pc = upd s.pc t (.done .panicked))

variable {s s' : State} {t : Nat}

set_option hygiene false in
/-- the shapes a branch of a step function can have, tried in turn (`s` is the caller's state: no hygiene) -/
local macro "seff" : tactic => `(tactic| first
  | exact .move _ ⟨rfl, rfl, rfl, rfl, rfl, rfl, rfl⟩ rfl (by simp [*, holds]) rfl
  | exact .drop _ _ (by simp [*, holds]) ⟨rfl, rfl, rfl, rfl, rfl, rfl, rfl⟩ rfl (by simp)
  | exact .ret _ _ (by simp [*, holds]) ⟨rfl, rfl, rfl, rfl, rfl, rfl, rfl⟩ rfl (by simp)
  | (obtain ⟨hne, ⟨_, _, _, rfl⟩ | ⟨_, _, _, _, rfl⟩ | ⟨_, _, rfl⟩⟩ := sendCore_cases ‹sendCore _ _ = some _› <;>
      exact .push _ (by simp [*, holds]) hne ⟨rfl, rfl, rfl, rfl, rfl, rfl, rfl⟩ rfl)
  | (obtain ⟨hne, ⟨_, _, _, rfl⟩ | ⟨_, _, _, _, rfl⟩ | ⟨_, _, rfl⟩⟩ :=
        sendCore_cases (s := s) (g := s.asg) ‹sendCore _ _ = some _› <;>
      exact .push _ (by simp [*, holds]) hne ⟨rfl, rfl, rfl, rfl, rfl, rfl, rfl⟩ rfl)
  | (obtain ⟨_, hq, ⟨_, _, _, rfl⟩ | ⟨_, _, _, _, rfl⟩ | ⟨_, _, rfl⟩⟩ := recvCore_cases ‹recvCore _ = some _› <;>
      exact .pop _ _ (by simp [*, holds]) hq ⟨rfl, rfl, rfl, rfl, rfl, rfl, rfl⟩ rfl)
  | (obtain ⟨_, hq, ⟨_, _, _, rfl⟩ | ⟨_, _, _, _, rfl⟩ | ⟨_, _, rfl⟩⟩ :=
        recvCore_cases (s := s) (g := s.ar) ‹recvCore _ = some _› <;>
      exact .pop _ _ (by simp [*, holds]) hq ⟨rfl, rfl, rfl, rfl, rfl, rfl, rfl⟩ rfl)
  | exact .panic _ ‹_› (recvCore_none ‹_›) ‹_› ⟨rfl, rfl, rfl, rfl, rfl, rfl, rfl⟩ rfl)

theorem step_seff {l : Label} (h : step s t l = some s') : SEff s s' t := by
  cases l <;> simp only [step] at h
  case call op =>
    unfold stepCall at h
    split at h
    · have hn : holds (s.pc t) = none := by
        cases hp : s.pc t <;> simp_all [PC.atRest, holds]
      cases op <;> simp only [] at h
      all_goals (repeat' split at h)
      all_goals (simp at h; try subst h)
      all_goals first
        | exact .move _ ⟨rfl, rfl, rfl, rfl, rfl, rfl, rfl⟩ rfl (by rw [hn]; rfl) rfl
        | exact .offer _ _ hn ‹_› ⟨rfl, rfl, rfl, rfl, rfl, rfl, rfl⟩ rfl (by simp [holds]) rfl
    · simp at h
  case adv =>
    unfold stepAdv at h
    split at h
    all_goals first | (simp at h; done) | skip
    all_goals try simp only [stepSTry, stepSReg, stepSWait, stepSPark, stepSUnl, stepTsTry, stepRTry, stepRReg,
      stepRWait, stepRPark, stepRUnl, stepTrTry, stepToTry, stepToReg, stepToRetry, stepToCas, stepToUnl, stepToFin,
      stepAsTry, stepAsReg, stepAsUnl, stepAsRef, stepFdUnlS, stepArTry, stepArReg, stepArUnl, stepFdUnlR, stepCloseS,
      stepCloseR, stepHWake] at h
    all_goals (repeat' split at h)
    all_goals (simp at h; try subst h)
    all_goals seff
  case poll =>
    unfold stepPoll at h
    repeat' split at h
    all_goals (simp at h; try subst h)
    all_goals seff
  case dropFut =>
    unfold stepDropFut at h
    repeat' split at h
    all_goals (simp at h; try subst h)
    all_goals seff
  case spurious =>
    unfold stepSpurious at h
    repeat' split at h
    all_goals (simp at h; try subst h)
    all_goals seff

attribute [local grind] holds PC.plain
attribute [local grind =] Fv.nodup_snoc upd_apply

theorem SEff.inv (e : SEff s s' t) (hi : InvS s) : InvS s' := by
  obtain ⟨h1, h2, h3, h4, h5, h6, h7, h8, h9, h10, h11, h12, h13, h14, h15, h16, h17⟩ := hi
  -- `InvS` reads the seven components of `SameS` and the control states only; a token that enters a history was held by
  -- `t` (`h3`: it is in none yet), one that is offered is fresh
  cases e <;> obtain ⟨e1, e2, e3, e4, e5, e6, e7⟩ := ‹SameS _ s'› <;> constructor <;>
    (simp only [e1, e2, e3, e4, e5, e6, e7, ‹s'.pc = _›]; first | assumption | grind)

theorem invS_reach {cap : Nat} {s : State} (h : Reach cap s) : InvS s := by
  induction h with
  | init => exact invS_init cap
  | step _ hs ih => exact (step_seff hs).inv ih

theorem step_cap {l : Label} (h : step s t l = some s') : s'.cap = s.cap := by
  cases step_seff h <;> (have e := (‹SameS _ s'›).cap; exact e)

theorem reach_cap {cap : Nat} {s : State} (h : Reach cap s) : s.cap = cap := by
  induction h with
  | init => rfl
  | step _ hs ih => rw [step_cap hs, ih]

theorem step_pc_other {u : Nat} {l : Label} (h : step s t l = some s') (hu : u ≠ t) : s'.pc u = s.pc u := by
  cases step_seff h <;> simp [*, upd_apply]

def Eff (s s' : State) (t : Nat) : Prop :=
  (s'.queue = s.queue ∧ s'.sent = s.sent ∧ s'.recvd = s.recvd ∧
     ∀ v, s'.pc t ≠ .done (.sendOk v) ∧ s'.pc t ≠ .done (.recvOk v)) ∨
  (∃ v, holds (s.pc t) = some v ∧ s'.queue = s.queue ++ [v] ∧ s'.sent = s.sent ++ [v] ∧ s'.recvd = s.recvd ∧
        s'.pc t = .done (.sendOk v)) ∨
  (∃ v, holds (s.pc t) = none ∧ s.queue = v :: s'.queue ∧ s'.recvd = s.recvd ++ [v] ∧ s'.sent = s.sent ∧
        s'.pc t = .done (.recvOk v))

theorem step_eff {l : Label} (h : step s t l = some s') : Eff s s' t := by
  cases step_seff h with
  | move p' hs hpc hh hp => exact .inl ⟨hs.queue, hs.sent, hs.recvd, by simpa [hpc] using PC.plain_ne hp⟩
  | push v hv hne hs hpc => exact .inr (.inl ⟨v, hv, hs.queue, hs.sent, hs.recvd, by simp [hpc]⟩)
  | ret v p' hv hs hpc hp => exact .inl ⟨hs.queue, hs.sent, hs.recvd, by rcases hp with rfl | rfl <;> simp [hpc]⟩
  | drop v p' hv hs hpc hp => exact .inl ⟨hs.queue, hs.sent, hs.recvd, by rcases hp with rfl | rfl <;> simp [hpc]⟩
  | pop v q hv hq hs hpc => exact .inr (.inr ⟨v, hv, hs.queue ▸ hq, hs.recvd, hs.sent, by simp [hpc]⟩)
  | offer v p' hv hf hs hpc hh hp => exact .inl ⟨hs.queue, hs.sent, hs.recvd, by simpa [hpc] using PC.plain_ne hp⟩
  | panic r h0 hq hn hs hpc => exact .inl ⟨hs.queue, hs.sent, hs.recvd, by simp [hpc]⟩

theorem reach_of_run {cap : Nat} (tr : List (Nat × Label)) (s0 s : State) (h0 : Reach cap s0)
    (h : run s0 tr = some s) : Reach cap s :=
  Fv.run_closed (fun _ => rfl) (fun _ _ _ _ => rfl) (fun h hs => .step h hs) tr s0 s h0 h

end Fv.Chan.Mpmc2B
