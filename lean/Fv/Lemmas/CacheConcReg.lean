import Fv.Lemmas.CacheConc
import Fv.Lemmas.Common
/-! Register invariant of the concurrent cache model: the ghost linearization history is accepted by the
sequential "register that may forget" specification and replays to the current map.  Then, through the
per-key reading `regOf_key` of the replay, list lemmas about accepted histories: where the value of a key
comes from, no resurrection, `or_insert` once. -/
namespace Fv.Cache.Conc

structure RegInv (hist : List HEv) (map : Nat → Option Entry) : Prop where
  ok : histOk emptyReg hist = true
  reg : regOf emptyReg hist = vals map

abbrev InvR (s : State) : Prop := RegInv s.hist s.map

theorem invR_init : InvR init := ⟨rfl, rfl⟩

theorem RegInv.append {hist : List HEv} {map map' : Nat → Option Entry} (hi : RegInv hist map) (evs : List HEv)
    (h1 : histOk (vals map) evs = true) (h2 : regOf (vals map) evs = vals map') : RegInv (hist ++ evs) map' :=
  ⟨by rw [histOk_append, hi.ok, hi.reg, h1]; rfl, by rw [regOf_append, hi.reg, h2]⟩

theorem invR_step {c : Cfg} {s s' : State} {t : Nat} {l : Label} {a : PC} (hi : InvR s) (h : Step c s t a l s') :
    InvR s' := by
  cases h with
  -- the cleanup passes forget what `removeKeys` removes
  | ttlMap | ttiMap | capMap => exact hi.append _ (removeKeys_spec ..).1 (removeKeys_spec ..).2
  -- the map sections of the API calls: the event is acceptable by what the section found in the map
  | readMiss | readExpired | readHit | readRefresh | insOver | insNew | rmMiss | rmHit | cmpMiss | cmpDone | oiOccupied
  | oiVacant | victim | clear =>
    exact hi.append _ (by simp [histOk, evOk, vals, *]) (by simp [applyEv, vals_upd, vals_none, upd_self, vals, *])
  -- invocations and responses are accepted by any register and leave it alone
  | call | recall | coopSkip | rmNote | cmpRefused | oiAdd | unlock => exact hi.append _ rfl rfl
  | _ => exact hi

theorem invR_reach {c : Cfg} {s : State} (h : Reach c s) : InvR s := h.inv invR_init fun hi _ => invR_step hi

def isWriteOf (k : Nat) : HEv → Option Nat
  | .wr _ k' v => if k' = k then some v else none
  | .oiIns _ k' v => if k' = k then some v else none
  | _ => none

def kills (k : Nat) : HEv → Bool
  | .rm _ k' _ => k' = k
  | .forget _ k' _ => k' = k
  | .clear _ => true
  | _ => false

def incOf (k : Nat) : HEv → Nat
  | .upd _ k' _ d => if k' = k then d else 0
  | _ => 0

def incs (k : Nat) : List HEv → Nat
  | [] => 0
  | e :: es => incOf k e + incs k es

def Stable (k : Nat) (mid : List HEv) : Prop := ∀ e ∈ mid, kills k e = false ∧ isWriteOf k e = none

theorem incs_append (k : Nat) (a b : List HEv) : incs k (a ++ b) = incs k a + incs k b := by
  induction a with
  | nil => simp [incs]
  | cons e es ih => simp [incs, ih]; omega

def keyStep (k : Nat) (x : Option Nat) (e : HEv) : Option Nat :=
  match isWriteOf k e with
  | some v => some v
  | none => if kills k e then none else x.map (· + incOf k e)

theorem applyEv_key (r : Reg) (e : HEv) (k : Nat) (hok : evOk r e = true) : applyEv r e k = keyStep k (r k) e := by
  unfold keyStep
  cases e <;> simp [applyEv, isWriteOf, kills, incOf, upd_apply, evOk, eq_comm (a := k)] at hok ⊢
  all_goals split <;> simp_all

theorem regOf_key (k : Nat) : ∀ (h : List HEv) (r : Reg), histOk r h = true → regOf r h k = h.foldl (keyStep k) (r k)
  | [], _, _ => rfl
  | e :: es, r, hok => by
    simp only [histOk, Bool.and_eq_true] at hok
    rw [regOf_cons, regOf_key k es _ hok.2, applyEv_key _ _ _ hok.1]; rfl

theorem fold_stable (k : Nat) : ∀ (mid : List HEv) (v : Nat), Stable k mid →
    mid.foldl (keyStep k) (some v) = some (v + incs k mid)
  | [], v, _ => rfl
  | e :: es, v, hst => by
    have he := hst e (by simp)
    rw [List.foldl_cons, keyStep, he.2]
    simp only [he.1, Bool.false_eq_true, if_false, Option.map_some]
    rw [fold_stable k es _ fun e' h' => hst e' (by simp [h']), incs]; simp; omega

theorem fold_none (k : Nat) : ∀ mid : List HEv, (∀ e ∈ mid, isWriteOf k e = none) → mid.foldl (keyStep k) none = none
  | [], _ => rfl
  | e :: es, h => by
    have : keyStep k none e = none := by rw [keyStep, h e (by simp)]; simp
    rw [List.foldl_cons, this]; exact fold_none k es fun e' h' => h e' (by simp [h'])

theorem fold_isSome (k : Nat) : ∀ (mid : List HEv) (x : Option Nat), (∀ e ∈ mid, kills k e = false) → x.isSome = true →
    (mid.foldl (keyStep k) x).isSome = true
  | [], _, _, hx => hx
  | e :: es, x, h, hx => by
    refine fold_isSome k es _ (fun e' h' => h e' (by simp [h'])) ?_
    rw [keyStep]; split
    · rfl
    · simpa [h e (by simp)] using hx

theorem fold_origin (k : Nat) : ∀ (h : List HEv) (x : Nat), h.foldl (keyStep k) none = some x →
    ∃ pre e mid v, h = pre ++ e :: mid ∧ isWriteOf k e = some v ∧ Stable k mid ∧ x = v + incs k mid := by
  intro h
  induction h using Fv.snoc_induction with
  | nil => intro x hx; cases hx
  | snoc l a ih =>
    intro x hx
    rw [List.foldl_append, List.foldl_cons, List.foldl_nil, keyStep] at hx
    cases hw : isWriteOf k a with
    | some v =>
      rw [hw] at hx; cases hx
      exact ⟨l, a, [], _, rfl, hw, nofun, rfl⟩
    | none =>
      rw [hw] at hx; simp only at hx
      split at hx
      · cases hx
      · next hk =>
        cases hr : l.foldl (keyStep k) none with
        | none => rw [hr] at hx; cases hx
        | some y =>
          rw [hr] at hx; cases hx
          obtain ⟨pre, e, mid, v, rfl, e2, e3, rfl⟩ := ih y hr
          refine ⟨pre, e, mid ++ [a], v, by simp, e2, fun e' he' => ?_, by rw [incs_append]; simp [incs]; omega⟩
          rcases List.mem_append.1 he' with he' | he'
          · exact e3 e' he'
          · cases List.mem_singleton.1 he'; exact ⟨by simpa using hk, hw⟩

theorem regOf_some_origin (k : Nat) (h : List HEv) (x : Nat) (hok : histOk emptyReg h = true)
    (hx : regOf emptyReg h k = some x) :
    ∃ pre e mid v, h = pre ++ e :: mid ∧ isWriteOf k e = some v ∧ Stable k mid ∧ x = v + incs k mid :=
  fold_origin k h x (regOf_key k h _ hok ▸ hx)

theorem regOf_split (k : Nat) (r : Reg) (pre mid : List HEv) (e : HEv) (hok : histOk r (pre ++ e :: mid) = true) :
    regOf r (pre ++ e :: mid) k = mid.foldl (keyStep k) (keyStep k (regOf r pre k) e) := by
  obtain ⟨-, he, hmid⟩ := histOk_split.1 hok
  rw [regOf_append, regOf_cons, regOf_key k mid _ hmid, applyEv_key _ _ _ he]

/-- no lost update -/
theorem regOf_after_write (k : Nat) (r : Reg) (pre mid : List HEv) (e : HEv) (v : Nat)
    (hok : histOk r (pre ++ e :: mid) = true) (hw : isWriteOf k e = some v) (hst : Stable k mid) :
    regOf r (pre ++ e :: mid) k = some (v + incs k mid) := by
  rw [regOf_split k r pre mid e hok, keyStep, hw]; exact fold_stable k mid v hst

/-- no resurrection -/
theorem regOf_after_kill (k : Nat) (r : Reg) (pre mid : List HEv) (e : HEv)
    (hok : histOk r (pre ++ e :: mid) = true) (hk : kills k e = true) (hnw : ∀ e' ∈ mid, isWriteOf k e' = none) :
    regOf r (pre ++ e :: mid) k = none := by
  have : keyStep k (regOf r pre k) e = none := by cases e <;> simp_all [keyStep, isWriteOf, kills]
  rw [regOf_split k r pre mid e hok, this]; exact fold_none k mid hnw

/-- `or_insert` inserts at most once per absent period -/
theorem oiIns_twice_needs_kill (r : Reg) (a mid post : List HEv) (t1 t2 k v1 v2 : Nat)
    (hok : histOk r (a ++ .oiIns t1 k v1 :: (mid ++ .oiIns t2 k v2 :: post)) = true) :
    ∃ e ∈ mid, kills k e = true := by
  apply Classical.byContradiction
  intro hne
  have hnk : ∀ e ∈ mid, kills k e = false := fun e he => by
    cases hk : kills k e with
    | false => rfl
    | true => exact absurd ⟨e, he, hk⟩ hne
  -- the second `oiIns` found `k` vacant although nothing removed it since the first
  have hok' : histOk r ((a ++ .oiIns t1 k v1 :: mid) ++ .oiIns t2 k v2 :: post) = true := by simpa using hok
  obtain ⟨hpre, hvac, -⟩ := histOk_split.1 hok'
  simp only [evOk, beq_iff_eq] at hvac
  have := fold_isSome k mid (keyStep k (regOf r a k) (.oiIns t1 k v1)) hnk (by simp [keyStep, isWriteOf])
  rw [← regOf_split k r a mid _ hpre, hvac] at this
  cases this

end Fv.Cache.Conc
