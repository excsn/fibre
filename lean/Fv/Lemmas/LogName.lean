import Fv.Lemmas.LogCal
/-! C20 helper lemmas: the roller recognises exactly its own file names (`find_rolled_files` vs `rolled_path`). -/
namespace Fv.Log.Roller
open Fv.Log

def dotClean : Text → Bool
  | [] => true
  | [_] => true
  | c :: d :: rest => !(c = '.' && isNd d) && dotClean (d :: rest)

def headNotNd : Text → Bool
  | [] => true
  | c :: _ => !isNd c

/-- Naming configurations for which the roller's file-name scheme is unambiguous:
* `prefix ++ suffix` contains no `.` directly followed by a digit (otherwise the date/sequence regex can
  match inside the prefix/suffix, e.g. prefix `app.2024-01-01.7x`),
* the suffix does not start with a digit (it would be read as part of the sequence number),
* the compressed-file suffix is non-empty, contains no ASCII digit and is not a suffix of `suffix`. -/
structure WF (p : Policy) : Prop where
  clean : dotClean (p.pfx ++ p.sfx) = true
  sfxHead : headNotNd p.sfx = true
  gzNe : gzSuffix p ≠ []
  gzNoDigit : ∀ c ∈ gzSuffix p, isDigit c = false
  sfxNotGz : endsWith p.sfx (gzSuffix p) = false

theorem isNd_of_isDigit {c : Char} (h : isDigit c = true) : isNd c = true := by
  rw [isNd, ndRanges, List.any_cons]
  simp only [isDigit] at h
  simp [h]

theorem dch_toNat (k : Nat) : (dch k).toNat = 48 + k % 10 :=
  Nat.toNat_digitChar_of_lt_ten (Nat.mod_lt _ (by decide))

theorem isDigit_dch (k : Nat) : isDigit (dch k) = true := by
  simp only [isDigit, dch_toNat, Bool.and_eq_true, decide_eq_true_eq]; omega

theorem isNd_dot : isNd '.' = false := by decide
theorem isNd_dash : isNd '-' = false := by decide
theorem isNd_us : isNd '_' = false := by decide

theorem num?_pad2 (m : Nat) (h : m < 100) : num? (pad2 m) = some m := by
  simp only [num?, pad2, List.all_cons, List.all_nil, isDigit_dch, Bool.and_self, ne_eq, reduceCtorEq, not_false_eq_true,
    and_self, if_true, digitsVal, Nat.ofDigitChars, List.foldl_cons, List.foldl_nil, dch_toNat, Option.some.injEq]
  simp only [show ('0' : Char).toNat = 48 by decide]
  omega

theorem num?_pad4 (y : Nat) (h : y < 10000) : num? (pad4 y) = some y := by
  simp only [num?, pad4, List.all_cons, List.all_nil, isDigit_dch, Bool.and_self, ne_eq, reduceCtorEq, not_false_eq_true,
    and_self, if_true, digitsVal, Nat.ofDigitChars, List.foldl_cons, List.foldl_nil, dch_toNat, Option.some.injEq]
  simp only [show ('0' : Char).toNat = 48 by decide]
  omega

theorem parseU32_dec (n : Nat) (h : n < 4294967296) : parseU32 (dec n) = some n := by
  have hall : (dec n).all isDigit = true := by simp only [List.all_eq_true]; exact dec_all_isDigit n
  simp only [parseU32, num?, dec_ne_nil, ne_eq, not_false_eq_true, hall, and_self, if_true, digitsVal_dec, h]

theorem takeWhile_isNd_of_head {t : Text} (h : headNotNd t = true) : t.takeWhile isNd = [] := by
  cases t <;> simp_all [headNotNd]

theorem seqAfterDot_dec (n : Nat) (rest : Text) (h : headNotNd rest = true) :
    seqAfterDot ('.' :: (dec n ++ rest)) = some (dec n) := by
  have hd : ∀ c ∈ dec n, isNd c = true := fun c hc => isNd_of_isDigit (dec_all_isDigit n c hc)
  simp [seqAfterDot, expectChar, List.takeWhile_append_of_pos hd, takeWhile_isNd_of_head h, dec_ne_nil]

theorem takeNd_append (ds r : Text) (h : ∀ c ∈ ds, isNd c = true) : takeNd ds.length (ds ++ r) = some (ds, r) := by
  induction ds with
  | nil => rfl
  | cons c cs ih =>
    have hc : isNd c = true := h c (by simp)
    simp only [List.length_cons, List.cons_append, takeNd, hc, if_true, ih (fun x hx => h x (by simp [hx]))]

theorem takeNd_pad2 (n : Nat) (r : Text) : takeNd 2 (pad2 n ++ r) = some (pad2 n, r) :=
  takeNd_append (pad2 n) r (by simp [pad2, isNd_of_isDigit, isDigit_dch])
theorem takeNd_pad4 (n : Nat) (r : Text) : takeNd 4 (pad4 n ++ r) = some (pad4 n, r) :=
  takeNd_append (pad4 n) r (by simp [pad4, isNd_of_isDigit, isDigit_dch])

theorem matchDate_fmtDate (s : Stamp) (r : Text) : matchDate (fmtDate s ++ r) = some (fmtDate s, r) := by
  simp only [fmtDate, matchDate, List.append_assoc, List.cons_append, takeNd_pad4, expectChar, if_true, takeNd_pad2]

/-- `format_period`: the date, for the sub-daily granularities followed by `_HH-MM-SS` -/
theorem fmtPeriod_eq (g : Gran) (s : Stamp) :
    (fmtPeriod g s = fmtDate s ∧ (Aligned g s → s.hh = 0 ∧ s.mm = 0 ∧ s.ss = 0)) ∨
      ∃ a b, fmtPeriod g s = fmtDate s ++ '_' :: (pad2 a ++ '-' :: (pad2 b ++ '-' :: pad2 0)) ∧
        (Aligned g s → a = s.hh ∧ b = s.mm ∧ s.ss = 0) := by
  have h0 : pad2 0 = ['0', '0'] := by decide
  cases g
  · exact Or.inr ⟨s.hh, s.mm, by simp [fmtPeriod, h0], fun h => ⟨rfl, rfl, h⟩⟩
  · exact Or.inr ⟨s.hh, 0, by simp [fmtPeriod, h0], fun h => ⟨rfl, h.1.symm, h.2⟩⟩
  · exact Or.inl ⟨rfl, id⟩
  · exact Or.inl ⟨rfl, id⟩

/-- the regex, anchored after the `.` that follows the prefix, captures the period text and the sequence digits -/
theorem matchAt_name (g : Gran) (s : Stamp) (n : Nat) (rest : Text) (h : headNotNd rest = true) :
    matchAt (fmtPeriod g s ++ '.' :: (dec n ++ rest)) = some (fmtPeriod g s, dec n) := by
  rcases fmtPeriod_eq g s with ⟨he, _⟩ | ⟨a, b, he, _⟩ <;> rw [he]
  · simp only [matchAt, matchDate_fmtDate, seqAfterDot_dec n rest h]
  · -- after the date comes `_`, not `.`: the date-only alternative fails and the date-time alternative is taken
    have hus : ∀ t, seqAfterDot ('_' :: t) = none := fun _ => rfl
    simp only [matchAt, List.append_assoc, List.cons_append, matchDate_fmtDate, hus, matchTime, takeNd_pad2,
      seqAfterDot_dec n rest h, expectChar, if_true]

theorem matchAt_none_of_head (t : Text) (h : headNotNd t = true) : matchAt t = none := by
  cases t with
  | nil => rfl
  | cons c r =>
    have hc : isNd c = false := by simpa [headNotNd] using h
    simp [matchAt, matchDate, takeNd, hc]

theorem dotClean_prefix (a b : Text) (h : dotClean (a ++ b) = true) : dotClean a = true := by
  fun_induction dotClean a with
  | case1 | case2 => rfl
  | case3 c d rest ih =>
    simp only [List.cons_append, dotClean, Bool.and_eq_true] at h ⊢
    exact ⟨h.1, ih h.2⟩

theorem search_skip (a t : Text) (ha : dotClean a = true) (hl : a.getLast? = some '.' → headNotNd t = true) :
    search (a ++ t) = search t := by
  fun_induction dotClean a with
  | case1 => rfl
  | case2 c =>
    simp only [List.cons_append, List.nil_append, search]
    split
    · next hc => rw [matchAt_none_of_head t (hl (by simp [hc]))]
    · rfl
  | case3 c d rest ih =>
    simp only [Bool.and_eq_true, Bool.not_eq_true', Bool.and_eq_false_iff, decide_eq_false_iff_not] at ha
    rw [List.cons_append, search, ih ha.2 (by simpa using hl)]
    split
    · next hc => rw [matchAt_none_of_head (d :: rest ++ t) (by simpa [headNotNd, hc] using ha.1)]
    · rfl

theorem search_clean (a : Text) (ha : dotClean a = true) : search a = none := by
  have := search_skip a [] ha (fun _ => rfl)
  simpa [search] using this

/-- `parse_datetime_from_str` inverts `format_period` on aligned stamps -/
theorem parseStamp_fmtPeriod (g : Gran) (s : Stamp) (hv : s.Valid) (ha : Aligned g s) : parseStamp (fmtPeriod g s) = some s := by
  obtain ⟨hd, hh, hm, hs, hy⟩ := hv
  have hm12 : s.m < 100 := by
    simp only [validDate, Bool.and_eq_true, decide_eq_true_eq] at hd; omega
  have hd31 : s.d < 100 := by
    simp only [validDate, Bool.and_eq_true, decide_eq_true_eq] at hd
    have := daysInMonth_pos s.y s.m; omega
  have py := num?_pad4 s.y hy
  have pm := num?_pad2 s.m hm12
  have pd := num?_pad2 s.d hd31
  simp only [pad4, pad2] at py pm pd
  -- both shapes of the period text; alignment gives the fields the text does not show
  rcases fmtPeriod_eq g s with ⟨he, hz⟩ | ⟨a, b, he, hz⟩ <;> rw [he] <;> obtain ⟨h1, h2, h3⟩ := hz ha
  all_goals (cases s; simp only at *; subst h1 h2 h3)
  · simp [parseStamp, fmtDate, pad4, pad2, py, pm, pd, hd]
  · have ph := num?_pad2 _ (Nat.lt_trans hh (by decide : 24 < 100))
    have pmm := num?_pad2 _ (Nat.lt_trans hm (by decide : 60 < 100))
    have p0 := num?_pad2 0 (by decide)
    simp only [pad2] at ph pmm p0
    simp [parseStamp, fmtDate, pad4, pad2, py, pm, pd, ph, pmm, p0, hd, hh, hm]

theorem endsWith_iff (s p : Text) : endsWith s p = true ↔ p <:+ s := by
  simp [endsWith]

theorem startsWith_append (a b : Text) : startsWith (a ++ b) a = true := by
  simp [startsWith]

theorem stripSuffix_append (a b : Text) : stripSuffix (a ++ b) b = a := by
  have : endsWith (a ++ b) b = true := (endsWith_iff _ _).mpr (List.suffix_append _ _)
  simp only [stripSuffix, this, if_true, List.length_append, Nat.add_sub_cancel]
  exact List.take_left' rfl

theorem not_endsWith_rolled (p : Policy) (hw : WF p) (x : Text) (n : Nat) :
    endsWith (x ++ (dec n ++ p.sfx)) (gzSuffix p) = false := by
  have hnot : ¬ gzSuffix p <:+ p.sfx := fun h => by simpa [hw.sfxNotGz] using (endsWith_iff _ _).2 h
  rw [← Bool.not_eq_true, endsWith_iff]
  intro h
  -- the compressed suffix would properly extend `sfx`, so its part before `sfx` would end with the last digit of `n`
  obtain ⟨g', hg⟩ := (List.suffix_or_suffix_of_suffix h (List.suffix_append_of_suffix (List.suffix_append _ _))).resolve_left hnot
  rw [← hg, ← List.append_assoc, List.suffix_append_self_iff] at h
  have hne : g' ≠ [] := fun h0 => hnot ⟨[], by simp [← hg, h0]⟩
  have hlast := h.getLast hne
  rw [List.getLast_append_right (dec_ne_nil n)] at hlast
  have h1 := hw.gzNoDigit _ (hg ▸ List.mem_append_left _ (List.getLast_mem hne))
  rw [hlast, dec_all_isDigit n _ (List.getLast_mem _)] at h1
  cases h1

theorem search_rolledName (p : Policy) (hw : WF p) (s : Stamp) (n : Nat) :
    search (rolledName p s n) = some (fmtPeriod p.gran s, dec n) := by
  have hp : dotClean p.pfx = true := dotClean_prefix _ _ hw.clean
  rw [rolledName, search_skip p.pfx _ hp (fun _ => by simp [headNotNd, isNd_dot])]
  simp only [search, if_true, matchAt_name p.gran s n p.sfx hw.sfxHead]

theorem parseRolledName_rolledName (p : Policy) (hw : WF p) (s : Stamp) (hv : s.Valid) (ha : Aligned p.gran s)
    (n : Nat) (hn : n < 4294967296) (gz : Bool) :
    parseRolledName p (if gz then rolledName p s n ++ gzSuffix p else rolledName p s n) =
      some { stamp := s, seq := n, name := if gz then rolledName p s n ++ gzSuffix p else rolledName p s n, compressed := gz } := by
  cases gz
  · have h1 : startsWith (rolledName p s n) p.pfx = true := startsWith_append _ _
    have h2 : endsWith (rolledName p s n) (gzSuffix p) = false := by
      simpa [rolledName] using not_endsWith_rolled p hw (p.pfx ++ '.' :: (fmtPeriod p.gran s ++ ['.'])) n
    simp only [parseRolledName, h1, Bool.not_true, Bool.false_eq_true, if_false, h2, search_rolledName p hw,
      parseStamp_fmtPeriod p.gran s hv ha, parseU32_dec n hn]
  · have h1 : startsWith (rolledName p s n ++ gzSuffix p) p.pfx = true := by
      simp only [rolledName, List.append_assoc]; exact startsWith_append _ _
    have h2 : endsWith (rolledName p s n ++ gzSuffix p) (gzSuffix p) = true :=
      (endsWith_iff _ _).mpr (List.suffix_append _ _)
    simp only [parseRolledName, h1, Bool.not_true, Bool.false_eq_true, if_false, h2, if_true, stripSuffix_append,
      search_rolledName p hw, parseStamp_fmtPeriod p.gran s hv ha, parseU32_dec n hn]

theorem parseRolledName_baseName (p : Policy) (hw : WF p) : parseRolledName p (baseName p) = none := by
  have hclean : ∀ k, dotClean ((baseName p).take k) = true := by
    intro k
    apply dotClean_prefix _ ((baseName p).drop k)
    rw [List.take_append_drop]; exact hw.clean
  simp only [parseRolledName]
  split
  · rfl
  · have : search (if endsWith (baseName p) (gzSuffix p) = true then stripSuffix (baseName p) (gzSuffix p) else baseName p) = none := by
      split
      · rename_i he
        simp only [stripSuffix, he, if_true]
        exact search_clean _ (hclean _)
      · exact search_clean _ hw.clean
    simp only [this]

theorem rolledName_ne_baseName (p : Policy) (hw : WF p) (s : Stamp) (n : Nat) : rolledName p s n ≠ baseName p := by
  intro h
  have h1 := search_rolledName p hw s n
  have h2 : search (baseName p) = none := search_clean _ hw.clean
  rw [h, h2] at h1
  cases h1

end Fv.Log.Roller
