import Fv.Lemmas.RendezvousBFrame
import Fv.Lemmas.RendezvousBLocal
/-! `InvR` holds in every reachable state. No-loss group `InvRB`, for runs outside the F1 window (`Benign`): every token
whose send committed is received, or sits in the destination of a receiver that is going to return it. -/
namespace Fv.Chan.RendezvousB

theorem invR_step {s s' : State} {t : Nat} {l : Label} (hi : InvR s) (h : step s t l = some s') : InvR s' :=
  hi.of_frame (step_frame h) (invR_local hi h)

theorem invR_reach {s : State} (h : Reach s) : InvR s := by
  induction h with
  | init => exact invR_init
  | step _ hs ih => exact invR_step ih hs

/-- a handed-over token sits in the destination of a receiver that is going to return it -/
def Pending (s : State) (v : Nat) : Prop :=
  s.slot (s.destOf v) = some v ∧ s.st (s.destOf v) = .done ∧ recvWait (s.pc (s.owner (s.destOf v))) = some (s.destOf v)

structure InvRB (s : State) : Prop where
  nl : ∀ v, v ∈ s.handed → v ∈ s.recvd ∨ Pending s v

theorem invRB_init : InvRB init := by
  constructor <;> simp [init]

/-- what a step of `t` has to establish itself for `InvRB`: the tokens it hands over, and a token pending in its own record -/
def LocalB (s : State) (t : Nat) (s' : State) : Prop :=
  (∀ v, v ∈ s'.handed → v ∉ s.handed ∨ s'.destOf v ≠ s.destOf v → v ∈ s'.recvd ∨ Pending s' v) ∧
  (∀ v, Pending s v → recOf (s.pc t) = some (s.destOf v) → v ∈ s'.recvd ∨ Pending s' v)

theorem InvRB.of_frame {s s' : State} {t : Nat} (hi : InvRB s) (hk : InvR s) (hf : Frame s t s') (hl : LocalB s t s') : InvRB s' := by
  obtain ⟨fpc, -, -, frecvd, -, -, -, -, fother, -, -⟩ := hf
  refine ⟨fun v hv => ?_⟩
  by_cases hnew : v ∉ s.handed ∨ s'.destOf v ≠ s.destOf v
  · exact hl.1 v hv hnew
  have hd : s'.destOf v = s.destOf v := Classical.not_not.1 fun h => hnew (Or.inr h)
  rcases hi.nl v (Classical.not_not.1 fun h => hnew (Or.inl h)) with h | h
  · exact Or.inl (frecvd v h)
  by_cases hown : recOf (s.pc t) = some (s.destOf v)
  · exact hl.2 v h hown
  obtain ⟨h1, h2, h3⟩ := h
  have hw : s.owner (s.destOf v) ≠ t := fun e => hown (e ▸ recvWait_recOf h3)
  have nR : ¬ HitR s t (s.destOf v) := fun hR => by
    have := (hk.rq _ hR.mem).1; rw [h2] at this; simp at this
  have nS : ¬ HitS s t (s.destOf v) := fun hS => by
    have := sendReg_not_recvWait (hk.sq _ hS.mem).2.2; rw [h3] at this; simp at this
  obtain ⟨g1, g2, g3, -, -, -⟩ := fother _ ((hk.thr _).own (recvWait_recOf h3)).2 hown nR nS
  refine Or.inr ?_
  unfold Pending
  rw [hd, g1, g2, g3, fpc _ hw]
  exact ⟨h1, h2, h3⟩

attribute [local grind] recOf recvWait Pending
attribute [local grind =] upd_apply

theorem InvR.hit_wait {s : State} (hk : InvR s) {t r : Nat} (hr : HitR s t r) (hw : s.st r = .waiting) :
    recvWait (s.pc (s.owner r)) = some r := by
  rcases (hk.thr _).of_recvIn (hk.rq r hr.mem).2 with h | h
  · exact h.1
  · exact absurd hw h.2

theorem invRB_local {s s' : State} {t : Nat} {l : Label} (hk : InvR s) (hb : Benign s t l) (h : step s t l = some s') :
    LocalB s t s' := by
  have ht := hk.thr t
  have hw := fun r => hk.hit_wait (t := t) (r := r)
  cases l <;> cases hp : s.pc t <;>
    simp only [hp, Thr.eq_def, SReg, RReg, Own, Woken, HitR, Benign, popTarget, reduceCtorEq, false_imp_iff, implies_true] at ht hw hb <;>
    simp only [LocalB, hp, recOf.eq_def, reduceCtorEq, Option.some.injEq, false_imp_iff, implies_true] <;>
    step_cases h hp <;>
    (refine ⟨?_, ?_⟩ <;> grind)

theorem invRB_step {s s' : State} {t : Nat} {l : Label} (hk : InvR s) (hi : InvRB s) (hb : Benign s t l)
    (h : step s t l = some s') : InvRB s' :=
  hi.of_frame hk (step_frame h) (invRB_local hk hb h)

theorem invRB_reach {s : State} (h : ReachB s) : InvRB s := by
  induction h with
  | init => exact invRB_init
  | step hr hb hs ih => exact invRB_step (invR_reach hr.reach) ih hb hs

end Fv.Chan.RendezvousB
