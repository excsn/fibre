import Fv.Lemmas.SyncMutexStep
import Fv.Lemmas.SyncWaitList
/-!
Basic inductive invariant of the `HybridMutex` model: mutual exclusion (ghost `holders` vs. the
`LOCKED` bit), exclusion of the list spinlock, the wait-list invariant, node ownership (every
queued node belongs to a live waiter), future bookkeeping.  This file: definitions (its tactic
macros are used by no proof); what a step does is in `SyncMutexFrame.lean`, preservation in `SyncMutexInv.lean`.

Region predicates are written without wildcard patterns so that their equation lemmas are
unconditional rewrite rules (cheap for `simp`/`grind`).
-/
namespace Fv.Sync.Mutex
open Fv.Sync

def TaK.sync : TaK → Bool
  | .lockFast | .lockSpin | .tryLock => true
  | .asyncFirst | .pollTry => false

def After.sync : After → Bool
  | .retOk | .parkLoad => true
  | .retReady | .dropLoad | .pending | .wake => false

def After.async : After → Bool
  | .retReady | .dropLoad | .pending => true
  | .retOk | .parkLoad | .wake => false

/-- the thread holds the list spinlock -/
def inLL : Pc → Bool
  | .qRearm | .qFetchOr | .qLoad | .qCas | .ff _ | .llRel _ | .wnStore => true
  | .idle | .taLoad _ | .taCas _ | .spinYield | .llSwap _ | .llLoad _ | .llSpin _ | .wLoad | .wPark
  | .relAnd | .wnWake | .dLoad | .boPark | .ret _ => false

/-- `lock_slow`, from its entry up to (not including) the unlink of the stack node
(meaningful when `cur = none`) -/
def slowL : Pc → Bool
  | .taLoad k | .taCas k => (match k with
      | .lockSpin => true | .lockFast | .tryLock | .asyncFirst | .pollTry => false)
  | .llSwap k | .llLoad k | .llSpin k => (match k with
      | .queue | .spinUnlink => true | .wakeNext | .finish | .drop => false)
  | .llRel a => (match a with
      | .parkLoad => true | .retOk | .retReady | .dropLoad | .pending | .wake => false)
  | .spinYield | .qRearm | .qFetchOr | .qLoad | .qCas | .wLoad | .wPark => true
  | .idle | .ff _ | .relAnd | .wnStore | .wnWake | .dLoad | .boPark | .ret _ => false

/-- pcs that only occur on the sync path (`cur = none`) -/
def syncOnly : Pc → Bool
  | .taLoad k | .taCas k => k.sync
  | .llSwap k | .llLoad k | .llSpin k => (match k with
      | .spinUnlink => true | .queue | .wakeNext | .finish | .drop => false)
  | .ff a | .llRel a => a.sync
  | .spinYield | .wLoad | .wPark => true
  | .idle | .qRearm | .qFetchOr | .qLoad | .qCas | .relAnd | .wnStore | .wnWake | .dLoad | .boPark | .ret _ => false

/-- pcs that only occur while polling / dropping a future (`cur = some f`) -/
def asyncOnly : Pc → Bool
  | .taLoad k | .taCas k => !k.sync
  | .llSwap k | .llLoad k | .llSpin k => (match k with
      | .finish | .drop => true | .queue | .wakeNext | .spinUnlink => false)
  | .ff a | .llRel a => a.async
  | .dLoad | .boPark => true
  | .idle | .spinYield | .qRearm | .qFetchOr | .qLoad | .qCas | .wLoad | .wPark | .relAnd | .wnStore | .wnWake
  | .ret _ => false

/-- pcs at which a thread with `cur = some f` is operating on future `f` -/
def futPc : Pc → Bool
  | .taLoad k | .taCas k => !k.sync
  | .llSwap k | .llLoad k | .llSpin k => (match k with
      | .finish | .drop | .queue => true | .wakeNext | .spinUnlink => false)
  | .ff a | .llRel a => a.async
  | .qRearm | .qFetchOr | .qLoad | .qCas | .dLoad | .boPark => true
  | .idle | .spinYield | .wLoad | .wPark | .relAnd | .wnStore | .wnWake | .ret _ => false

/-- … and the future's node exists (`node` non-null) -/
def futNodePc : Pc → Bool
  | .llSwap k | .llLoad k | .llSpin k => (match k with
      | .finish | .drop | .queue => true | .wakeNext | .spinUnlink => false)
  | .ff a | .llRel a => a.async
  | .qRearm | .qFetchOr | .qLoad | .qCas | .dLoad => true
  | .idle | .taLoad _ | .taCas _ | .spinYield | .wLoad | .wPark | .relAnd | .wnStore | .wnWake | .boPark
  | .ret _ => false

/-- … and the node has just been unlinked by this thread -/
def futUnlPc : Pc → Bool
  | .ff a | .llRel a => (match a with
      | .retReady | .dropLoad => true | .retOk | .parkLoad | .pending | .wake => false)
  | .dLoad => true
  | .idle | .taLoad _ | .taCas _ | .spinYield | .llSwap _ | .llLoad _ | .llSpin _ | .qRearm | .qFetchOr | .qLoad
  | .qCas | .wLoad | .wPark | .relAnd | .wnStore | .wnWake | .boPark | .ret _ => false

def isCas : Pc → Bool
  | .taCas _ | .qCas => true
  | .idle | .taLoad _ | .spinYield | .llSwap _ | .llLoad _ | .llSpin _ | .qRearm | .qFetchOr | .qLoad
  | .ff _ | .llRel _ | .wLoad | .wPark | .relAnd | .wnStore | .wnWake | .dLoad | .boPark | .ret _ => false

def PLockedHeld (s : State) : Prop := s.word.locked = true → ∃ u, s.holders = [(u, true)]
def PFreeEmpty (s : State) : Prop := s.word.locked = false → s.holders = []
def PSvFree (s : State) : Prop := ∀ t, isCas (s.th t).pc = true → (s.th t).sv.locked = false
def PRelHolds (s : State) : Prop := ∀ t, (s.th t).pc = .relAnd → (t, true) ∈ s.holders
def PLl (s : State) : Prop :=
  ∀ t, inLL (s.th t).pc = true → s.wl.locked = true ∧ ∀ u, inLL (s.th u).pc = true → u = t
def PSyncCur (s : State) : Prop := ∀ t, syncOnly (s.th t).pc = true → (s.th t).cur = none
def PAsyncCur (s : State) : Prop := ∀ t, asyncOnly (s.th t).pc = true → (s.th t).cur ≠ none
def PSyncLinked (s : State) : Prop :=
  ∀ t, (s.th t).cur = none → slowL (s.th t).pc = true → (s.th t).linked = (s.wl.node (.thr t)).linked
def PThrNode (s : State) : Prop :=
  ∀ t, (s.wl.node (.thr t)).linked = true → (s.th t).cur = none ∧ slowL (s.th t).pc = true
def PFutNode (s : State) : Prop := ∀ f, (s.wl.node (.fut f)).linked = true → (s.fut f).phase = .startedNode
def PBusy (s : State) : Prop :=
  ∀ t f, (s.th t).cur = some f → futPc (s.th t).pc = true →
    (s.fut f).busy = true ∧ ∀ u, (s.th u).cur = some f → futPc (s.th u).pc = true → u = t
def PPhFresh (s : State) : Prop :=
  ∀ t f, (s.th t).cur = some f → ((s.th t).pc = .taLoad .asyncFirst ∨ (s.th t).pc = .taCas .asyncFirst) →
    (s.fut f).phase = .fresh
def PPhStarted (s : State) : Prop :=
  ∀ t f, (s.th t).cur = some f →
    ((s.th t).pc = .taLoad .pollTry ∨ (s.th t).pc = .taCas .pollTry ∨ (s.th t).pc = .boPark) →
    ((s.fut f).phase = .startedNoNode ∨ (s.fut f).phase = .startedNode)
def PPhNode (s : State) : Prop :=
  ∀ t f, (s.th t).cur = some f → futNodePc (s.th t).pc = true → (s.fut f).phase = .startedNode
def PFfOk (s : State) : Prop := ∀ t, (s.th t).pc ≠ .ff .parkLoad ∧ (s.th t).pc ≠ .ff .pending
def PFutUnl (s : State) : Prop :=
  ∀ t f, (s.th t).cur = some f → futUnlPc (s.th t).pc = true → (s.wl.node (.fut f)).linked = false

structure Inv (s : State) : Prop where
  lockedHeld : PLockedHeld s
  freeEmpty : PFreeEmpty s
  svFree : PSvFree s
  relHolds : PRelHolds s
  ll : PLl s
  wf : s.wl.WF
  syncCur : PSyncCur s
  asyncCur : PAsyncCur s
  syncLinked : PSyncLinked s
  thrNode : PThrNode s
  futNode : PFutNode s
  busy : PBusy s
  phFresh : PPhFresh s
  phStarted : PPhStarted s
  phNode : PPhNode s
  futUnl : PFutUnl s
  ffOk : PFfOk s

/-- case analysis of a step down to branch-free successor states -/
macro "step_rest" : tactic => `(tactic| (
  all_goals (try simp only [taFail, taSucc, llEnter, afterRel, callStep, spinHead, pollHead, pollDone])
  all_goals (repeat' split)
  all_goals (try clear ‹TaK›)
  all_goals (try clear ‹LlK›)
  all_goals (try clear ‹After›)
  all_goals (try cases ‹TaK›)
  all_goals (try cases ‹LlK›)
  all_goals (try cases ‹After›)))

macro "step_cases " h:ident : tactic => `(tactic| (cases $h:ident; step_rest))

/-- the region predicates, for `grind` -/
macro "inv_grind" : tactic => `(tactic| grind [isCas, inLL, slowL, syncOnly, asyncOnly, futPc, futNodePc, futUnlPc,
  TaK.sync, After.sync, After.async])

/-- all facts of the invariant, unfolded, as hypotheses -/
macro "inv_facts " hi:ident : tactic => `(tactic| (
  have hLockedHeld := ($hi).lockedHeld; have hFreeEmpty := ($hi).freeEmpty; have hSvFree := ($hi).svFree
  have hRelHolds := ($hi).relHolds; have hLl := ($hi).ll; have hSyncCur := ($hi).syncCur
  have hAsyncCur := ($hi).asyncCur; have hSyncLinked := ($hi).syncLinked; have hThrNode := ($hi).thrNode
  have hFutNode := ($hi).futNode; have hBusy := ($hi).busy; have hPhFresh := ($hi).phFresh
  have hPhStarted := ($hi).phStarted; have hPhNode := ($hi).phNode; have hFutUnl := ($hi).futUnl
  have hWf := ($hi).wf; have hFfOk := ($hi).ffOk; unfold PFfOk at hFfOk
  unfold PLockedHeld at hLockedHeld; unfold PFreeEmpty at hFreeEmpty; unfold PSvFree at hSvFree
  unfold PRelHolds at hRelHolds; unfold PLl at hLl; unfold PSyncCur at hSyncCur; unfold PAsyncCur at hAsyncCur
  unfold PSyncLinked at hSyncLinked; unfold PThrNode at hThrNode; unfold PFutNode at hFutNode
  unfold PBusy at hBusy; unfold PPhFresh at hPhFresh; unfold PPhStarted at hPhStarted
  unfold PPhNode at hPhNode; unfold PFutUnl at hFutUnl
  clear $hi))

/-- normalise the projections of an explicit successor state -/
macro "norm_state" : tactic => `(tactic| (
  simp only [withPc, setTh, upd_apply, me, curF, Option.getD, ↓reduceIte, if_true, if_false,
    Thread.ite_pc, Thread.ite_sv, Thread.ite_linked, Thread.ite_i, Thread.ite_cur, Thread.ite_blockOn,
    Thread.ite_tgt, Thread.ite_w, Fut.ite_phase, Fut.ite_busy, Fut.ite_bo,
    Node.ite_woken, Node.ite_waiter, Node.ite_isWriter, Node.ite_linked,
    WaitList.setLocked_locked, WaitList.setLocked_queue, WaitList.setLocked_writers, WaitList.setLocked_len,
    WaitList.setLocked_node, WaitList.putNode_locked, WaitList.putNode_queue, WaitList.putNode_writers,
    WaitList.putNode_len, WaitList.putNode_node, WaitList.setWaiter_locked, WaitList.setWaiter_queue,
    WaitList.setWaiter_writers, WaitList.setWaiter_len, WaitList.setWaiter_node, WaitList.setWoken_locked,
    WaitList.setWoken_queue, WaitList.setWoken_writers, WaitList.setWoken_len, WaitList.setWoken_node,
    WaitList.takeAndMark_locked, WaitList.takeAndMark_queue, WaitList.takeAndMark_writers,
    WaitList.takeAndMark_len, WaitList.takeAndMark_node, WaitList.linkBack_locked, WaitList.linkBack_queue,
    WaitList.linkBack_len, WaitList.linkBack_node, WaitList.linkBack_writers, WaitList.unlink_locked,
    WaitList.unlink_queue, WaitList.unlink_len, WaitList.unlink_writers, WaitList.unlink_node,
    WaitList.wasLinked_eq, Node.fresh] at *))

/-- same, goal only -/
macro "norm_goal" : tactic => `(tactic| (
  simp only [withPc, setTh, upd_apply, me, curF, Option.getD, ↓reduceIte, if_true, if_false,
    Thread.ite_pc, Thread.ite_sv, Thread.ite_linked, Thread.ite_i, Thread.ite_cur, Thread.ite_blockOn,
    Thread.ite_tgt, Thread.ite_w, Fut.ite_phase, Fut.ite_busy, Fut.ite_bo,
    Node.ite_woken, Node.ite_waiter, Node.ite_isWriter, Node.ite_linked,
    WaitList.setLocked_locked, WaitList.setLocked_queue, WaitList.setLocked_writers, WaitList.setLocked_len,
    WaitList.setLocked_node, WaitList.putNode_locked, WaitList.putNode_queue, WaitList.putNode_writers,
    WaitList.putNode_len, WaitList.putNode_node, WaitList.setWaiter_locked, WaitList.setWaiter_queue,
    WaitList.setWaiter_writers, WaitList.setWaiter_len, WaitList.setWaiter_node, WaitList.setWoken_locked,
    WaitList.setWoken_queue, WaitList.setWoken_writers, WaitList.setWoken_len, WaitList.setWoken_node,
    WaitList.takeAndMark_locked, WaitList.takeAndMark_queue, WaitList.takeAndMark_writers,
    WaitList.takeAndMark_len, WaitList.takeAndMark_node, WaitList.linkBack_locked, WaitList.linkBack_queue,
    WaitList.linkBack_len, WaitList.linkBack_node, WaitList.linkBack_writers, WaitList.unlink_locked,
    WaitList.unlink_queue, WaitList.unlink_len, WaitList.unlink_writers, WaitList.unlink_node,
    WaitList.wasLinked_eq, Node.fresh]))

end Fv.Sync.Mutex
