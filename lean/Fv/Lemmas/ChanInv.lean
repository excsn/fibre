import Fv.Chan.Lin
/-!
Structural invariant `Inv` of the channel state, preserved by the primitive transformers and by whatever leaves
the fields it reads alone (`Frame`); what one atomic step must do to the ghost accounts (`StepOk`) and to the
operation in progress (`PInv`).
-/
namespace Fv.Chan
open List

def capOk (fl : Flavour) (s : St) : Prop :=
  match fl.capOf with
  | .bounded n => s.buf.length ≤ n
  | .unbounded => True
  | .rendezvous => s.buf = []
  | .oneshot => s.buf.length ≤ 1 ∧ s.sentOk.length ≤ 1 ∧ (s.os = .empty → s.sentOk = [])

theorem capOk_iff (fl : Flavour) (s : St) : capOk fl s ↔
    match fl.fam with
    | .sb | .mb | .pb => s.buf.length ≤ fl.cap
    | .mu | .pu => True
    | .rv => s.buf = []
    | .os => s.buf.length ≤ 1 ∧ s.sentOk.length ≤ 1 ∧ (s.os = .empty → s.sentOk = []) := by
  unfold capOk Flavour.capOf; cases fl.fam <;> exact Iff.rfl

theorem capOk_bounded {fl : Flavour} (hb : fl.fam = .sb ∨ fl.fam = .mb ∨ fl.fam = .pb) (s : St) :
    capOk fl s ↔ s.buf.length ≤ fl.cap := by
  rcases hb with e | e | e <;> simp only [capOk_iff, e]

theorem capOk_rv {fl : Flavour} (hf : fl.fam = .rv) (s : St) : capOk fl s ↔ s.buf = [] := by
  simp only [capOk_iff, hf]

theorem capOk_os {fl : Flavour} (hf : fl.fam = .os) (s : St) :
    capOk fl s ↔ s.buf.length ≤ 1 ∧ s.sentOk.length ≤ 1 ∧ (s.os = .empty → s.sentOk = []) := by
  simp only [capOk_iff, hf]

theorem capOk.mono {fl : Flavour} {s s' : St} (h : capOk fl s) (hb : s'.buf.length ≤ s.buf.length)
    (hs : s'.sentOk = s.sentOk) (ho : s'.os = s.os ∨ s'.os ≠ .empty) : capOk fl s' := by
  rw [capOk_iff] at h ⊢
  cases hf : fl.fam <;> simp only [hf] at h ⊢
  case rv => rw [h] at hb; exact length_eq_zero_iff.mp (Nat.le_zero.mp hb)
  case os =>
    rw [hs]
    exact ⟨Nat.le_trans hb h.1, h.2.1, fun he => h.2.2 (ho.elim (fun e => e ▸ he) (absurd he))⟩
  all_goals omega

structure Inv (fl : Flavour) (s : St) : Prop where
  /-- order and exactly-once in one equation: accepted = taken out (in order) ++ still buffered -/
  seq : s.sentOk = s.consumed ++ s.buf
  sub : s.recvOk.Sublist s.consumed
  cons : ∀ v, count v s.consumed = count v s.recvOk + count v s.chanDropped
  nodrop : s.chanDropped = [] → s.consumed = s.recvOk
  cap : capOk fl s
  tagS : s.sentBy.map (·.2) = s.sentOk
  tagR : s.recvBy.map (·.2) = s.recvOk

theorem Inv.fifo {fl s} (h : Inv fl s) : s.consumed <+: s.sentOk ∧ s.recvOk.Sublist s.sentOk :=
  ⟨⟨_, h.seq.symm⟩, h.sub.trans (by rw [h.seq]; exact sublist_append_left _ _)⟩

theorem count_take_add_drop (v : Val) (k : Nat) (l : List Val) :
    count v (l.take k) + count v (l.drop k) = count v l := by
  rw [← count_append, take_append_drop]

theorem exactly_once_of_count_le {A B O : List Val} (hn : O.Nodup)
    (h : ∀ v, count v A + count v B ≤ count v O) : A.Nodup ∧ (∀ v ∈ A, v ∈ O) ∧ (∀ v ∈ A, v ∉ B) := by
  have h1 : ∀ v, count v A + count v B ≤ 1 := fun v => Nat.le_trans (h v) (nodup_iff_count.mp hn v)
  refine ⟨nodup_iff_count.mpr fun v => by have := h1 v; omega, fun v hv => ?_, fun v hv hb => ?_⟩
  · have := h v; have := count_pos_iff.mpr hv
    exact count_pos_iff.mp (by omega)
  · have := h1 v; have := count_pos_iff.mpr hv; have := count_pos_iff.mpr hb
    omega

theorem Inv.push {fl s} (h : Inv fl s) (p : Nat) (vs : List Val)
    (hc : capOk fl (s.push p vs)) : Inv fl (s.push p vs) := by
  refine ⟨?_, h.sub, h.cons, h.nodrop, hc, ?_, h.tagR⟩
  · simp [St.push, h.seq]
  · simp [St.push, h.tagS, Function.comp_def]

theorem Inv.pop {fl s} (h : Inv fl s) (r k : Nat) (hc : capOk fl (s.pop r k)) : Inv fl (s.pop r k) := by
  refine ⟨?_, ?_, ?_, ?_, hc, h.tagS, ?_⟩
  · simp [St.pop, h.seq]
  · exact Sublist.append h.sub (Sublist.refl _)
  · intro v; simp [St.pop, count_append, h.cons v]; omega
  · intro hd; simp [St.pop, h.nodrop hd]
  · simp [St.pop, h.tagR, Function.comp_def]

theorem Inv.drainBuf {fl s} (h : Inv fl s) : Inv fl s.drainBuf := by
  refine ⟨?_, ?_, ?_, ?_, ?_, h.tagS, h.tagR⟩
  · simp [St.drainBuf, h.seq]
  · exact h.sub.trans (sublist_append_left _ _)
  · intro v; simp [St.drainBuf, count_append, h.cons v]; omega
  · intro hd
    simp only [St.drainBuf, append_eq_nil_iff] at hd
    simp [St.drainBuf, hd.2, h.nodrop hd.1]
  · exact h.cap.mono (Nat.zero_le _) rfl (.inl rfl)

theorem init_inv (fl : Flavour) : Inv fl (init fl) := by
  refine ⟨rfl, Sublist.slnil, fun _ => rfl, fun _ => rfl, ?_, rfl, rfl⟩
  rw [capOk_iff]
  cases fl.fam <;> simp [init]

/-- `s'` differs from `s` only in fields the invariant does not read (and never re-opens a oneshot) -/
structure Frame (s s' : St) : Prop where
  buf : s'.buf = s.buf
  sentOk : s'.sentOk = s.sentOk
  consumed : s'.consumed = s.consumed
  recvOk : s'.recvOk = s.recvOk
  chanDropped : s'.chanDropped = s.chanDropped
  sentBy : s'.sentBy = s.sentBy
  recvBy : s'.recvBy = s.recvBy
  os : s'.os = s.os ∨ s'.os ≠ .empty

theorem Frame.refl (s : St) : Frame s s := ⟨rfl, rfl, rfl, rfl, rfl, rfl, rfl, Or.inl rfl⟩

theorem Frame.trans {a b c : St} (h1 : Frame a b) (h2 : Frame b c) : Frame a c := by
  refine ⟨h2.buf.trans h1.buf, h2.sentOk.trans h1.sentOk, h2.consumed.trans h1.consumed,
    h2.recvOk.trans h1.recvOk, h2.chanDropped.trans h1.chanDropped, h2.sentBy.trans h1.sentBy,
    h2.recvBy.trans h1.recvBy, ?_⟩
  rcases h2.os with e | e
  · rcases h1.os with e1 | e1
    · exact Or.inl (e.trans e1)
    · exact Or.inr (e ▸ e1)
  · exact Or.inr e

theorem Inv.frame {fl s s'} (h : Inv fl s) (f : Frame s s') : Inv fl s' := by
  refine ⟨?_, ?_, ?_, ?_, ?_, ?_, ?_⟩
  · rw [f.sentOk, f.consumed, f.buf]; exact h.seq
  · rw [f.recvOk, f.consumed]; exact h.sub
  · intro v; rw [f.consumed, f.recvOk, f.chanDropped]; exact h.cons v
  · rw [f.chanDropped, f.consumed, f.recvOk]; exact h.nodrop
  · exact h.cap.mono (Nat.le_of_eq (congrArg length f.buf)) f.sentOk f.os
  · rw [f.sentBy, f.sentOk]; exact h.tagS
  · rw [f.recvBy, f.recvOk]; exact h.tagR

/-- `Frame s s'` for `s'` a record update of `s` -/
macro "frame" : tactic =>
  `(tactic| (refine ⟨?_, ?_, ?_, ?_, ?_, ?_, ?_, ?_⟩ <;> first | rfl | exact Or.inl rfl | (right; simp; done)))

theorem frame_create (s : St) (vs) : Frame s (s.create vs) := by unfold St.create; frame
theorem frame_giveBack (s : St) (vs) : Frame s (s.giveBack vs) := by unfold St.giveBack; frame
theorem frame_lose (s : St) (vs) : Frame s (s.lose vs) := by unfold St.lose; frame
theorem frame_mbFlush (fl) (s : St) : Frame s (mbFlush fl s) := by
  unfold mbFlush; split <;> frame
theorem frame_mbFlushMid (fl) (s : St) : Frame s (mbFlushMid fl s) := by
  unfold mbFlushMid; split <;> frame
theorem frame_mbGot (fl) (s : St) (k f) : Frame s (mbGot fl s k f) := by
  unfold mbGot; split <;> frame

def gotOf : P → List Val
  | .brecv _ _ _ _ got => got
  | .fin o => o.got
  | _ => []

def sentOf : P → List Val
  | .bsend _ _ _ sent _ _ => sent
  | .bsendEnd _ _ sent _ => sent
  | .stg _ _ _ sent _ => sent
  | .fin o => o.sent
  | _ => []

def backOf : P → List Val
  | .fin o => o.back
  | _ => []

def lostOf : P → List Val
  | .fin o => o.lost
  | _ => []

def freshVals : P → List Val
  | .fresh _ op => op.vals
  | _ => []

/-- values already delivered to parked rendezvous receivers that have not picked them up yet -/
def St.owed (s : St) : List Val := s.rdone.map (·.2)
/-- values already taken from parked rendezvous senders that have not noticed yet -/
def St.sdv (s : St) : List Val := s.sdone.map (·.2)

structure StepOk (fl : Flavour) (s : St) (p : P) (s' : St) (p' : P) (δ : List Val) : Prop where
  inv : Inv fl s → Inv fl s'
  created : s'.created = s.created ++ δ
  tok : ∀ v, count v δ + count v (P.inHand p) + count v s.placed = count v (P.inHand p') + count v s'.placed
  recv : ∀ v, count v s.recvOk + count v (gotOf p') + count v s'.owed
            = count v s'.recvOk + count v (gotOf p) + count v s.owed
  sent : ∀ v, count v s.sentOk + count v (sentOf p') + count v s'.sdv
            = count v s'.sentOk + count v (sentOf p) + count v s.sdv
  back : ∀ v, count v s.returned + count v (backOf p') = count v s'.returned + count v (backOf p)

theorem capOk_push_room {fl : Flavour} {s : St} (h : capOk fl s) (p : Nat) (vs : List Val)
    (hk : match room fl s with | some r => vs.length ≤ r | none => True) : capOk fl (s.push p vs) := by
  rw [capOk_iff] at h ⊢
  unfold room at hk
  cases hf : fl.fam <;> simp only [hf] at h hk ⊢ <;> simp_all [St.push] <;> omega

theorem capOk_pop {fl : Flavour} {s : St} (h : capOk fl s) (r k) : capOk fl (s.pop r k) :=
  h.mono (by simp [St.pop]) rfl (.inl rfl)

def isRecvOp : Op → Bool
  | .rcv _ _ _ => true
  | _ => false

def isSendOp : Op → Bool
  | .snd _ _ _ => true
  | _ => false

theorem isRecvOp_of_send {op : Op} (h : isSendOp op = true) : isRecvOp op = false := by
  cases op <;> simp_all [isSendOp, isRecvOp]

theorem isSendOp_of_recv {op : Op} (h : isRecvOp op = true) : isSendOp op = false := by
  cases op <;> simp_all [isSendOp, isRecvOp]

def PInv (op : Op) : P → Prop
  | .fresh _ op' => op' = op
  | .bsend _ _ _ sent rest _ => op.vals = sent ++ rest ∧ isSendOp op = true
  | .bsendEnd _ _ sent rest => op.vals = sent ++ rest ∧ isSendOp op = true
  | .brecv _ _ _ _ _ => isRecvOp op = true
  | .rvSend _ v => op.vals = [v] ∧ isSendOp op = true
  | .rvRecv _ => isRecvOp op = true
  | .rvTo _ _ => isRecvOp op = true
  | .osRecv _ _ => isRecvOp op = true
  | .stg _ _ _ sent rest => op.vals = sent ++ rest ∧ isRecvOp op = false
  | .fin o =>
    (isSendOp op = true →
      (op.vals = o.sent ++ o.back ++ o.lost ∨
        ((o.tag = .noHandle ∨ o.tag = .unsupported) ∧ o.sent = [] ∧ o.back = [] ∧ o.lost = [])) ∧ o.got = []) ∧
    (isRecvOp op = true → o.sent = [] ∧ o.back = [] ∧ o.lost = []) ∧
    (isSendOp op = false → isRecvOp op = false → o.sent = [] ∧ o.back = [] ∧ o.lost = [] ∧ o.got = [])

theorem PInv.fin_tag (op : Op) (tag : Tag) (val : PVal)
    (h : isSendOp op = false ∨ op.vals = [] ∨ tag = .noHandle ∨ tag = .unsupported) :
    PInv op (.fin { tag := tag, val := val }) := by
  refine ⟨fun hs => ⟨?_, rfl⟩, fun _ => ⟨rfl, rfl, rfl⟩, fun _ _ => ⟨rfl, rfl, rfl, rfl⟩⟩
  rcases h with h | h | h | h
  · simp [hs] at h
  · left; simp [h]
  · right; exact ⟨Or.inl h, rfl, rfl, rfl⟩
  · right; exact ⟨Or.inr h, rfl, rfl, rfl⟩

theorem PInv.fin_send {op : Op} {o : Out} (hs : isSendOp op = true) (hv : op.vals = o.sent ++ o.back ++ o.lost)
    (hg : o.got = []) : PInv op (.fin o) :=
  ⟨fun _ => ⟨Or.inl hv, hg⟩, fun hr => by simp [isRecvOp_of_send hs] at hr, fun h => by simp [hs] at h⟩

theorem PInv.fin_recv {op : Op} {o : Out} (hr : isRecvOp op = true) (h : o.sent = [] ∧ o.back = [] ∧ o.lost = []) :
    PInv op (.fin o) :=
  ⟨fun hs => by simp [isSendOp_of_recv hr] at hs, fun _ => h, fun _ h' => by simp [hr] at h'⟩

theorem PInv.sent_prefix {op : Op} {p : P} (hp : PInv op p) (hs : isSendOp op = true) : sentOf p <+: op.vals := by
  cases p with
  | fin o =>
    rcases (hp.1 hs).1 with e | e
    · exact ⟨o.back ++ o.lost, by rw [e, append_assoc]; rfl⟩
    · show o.sent <+: _; rw [e.2.1]; exact nil_prefix
  | bsend t f h sent rest q => exact ⟨rest, hp.1.symm⟩
  | bsendEnd t f sent rest => exact ⟨rest, hp.1.symm⟩
  | stg t k h sent rest => exact ⟨rest, hp.1.symm⟩
  | _ => exact nil_prefix

end Fv.Chan
