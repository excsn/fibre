import Fv.Lemmas.SyncMutexWake
/-!
`PNlw` is preserved.  The lock bit and the queue change in the few ways listed by `step_shared`; in each the
cover of the head (`PreWake` thread, `WOKEN` head, active owner) is carried over by `cover_same`, or a new one is named.
-/
namespace Fv.Sync.Mutex
open Fv.Sync
variable {cfg : Cfg} {s s' : State} {t : Tid} {l : Lbl}

theorem prewake_local (hi : Inv s) (hw : WInv s) (h : Step cfg s t l s') (hp : PreWake s t) :
    PreWake s' t ∨ s'.wl.queue = [] ∨ ∃ hd, s'.wl.queue.head? = some hd ∧ (s'.wl.node hd).woken = true := by
  have a2 := hi.asyncCur t; have b5 := hw.wnTgt t
  unfold PreWake at hp ⊢
  have hpred := hp
  clear hi hw
  revert hp
  narrow_sweep h hpred s'
  all_goals grind [List.head?_eq_none_iff]

theorem active_local (h : Step cfg s t l s') (hp : activePc (s.th t).pc = true) :
    (me t (s'.th t) = me t (s.th t) ∧ activePc (s'.th t).pc = true) ∨ s'.word.locked = true := by
  have hpred := hp
  revert hp
  narrow_sweep h hpred s'
  all_goals grind

theorem unlink_holds (hi : Inv s) (hw : WInv s) (h : Step cfg s t l s')
    (hp : (s.th t).pc = .qCas ∨ (s.th t).pc = .llSwap .spinUnlink ∨ (s.th t).pc = .llSwap .finish)
    (hq : s'.wl.queue ≠ s.wl.queue) : s'.word.locked = true := by
  have key := @holders_key s hi.lockedHeld hi.freeEmpty (t, true)
  have b8 := hw.hl t
  have hpred := hp
  clear hi hw
  revert hp hq
  narrow_sweep h hpred s'
  all_goals grind

theorem prewake_other (hi : Inv s) (h : Step cfg s t l s') {u : Tid} (hu : u ≠ t) (hp : PreWake s u) :
    PreWake s' u := by
  unfold PreWake at hp ⊢
  rw [step_th_other h u hu]
  rcases hp with hp | ⟨hd, hwk⟩
  · exact Or.inl hp
  · right
    refine ⟨hd, ?_⟩
    have hk := node_other hi h hu (Or.inr (dropPc_futPc hd).1)
    rcases hk with hk | ⟨_, _, hk⟩ <;> rw [hk]
    exact hwk

theorem prewake_cover (hi : Inv s) (hw : WInv s) (h : Step cfg s t l s') {hd : Nid}
    (hh' : s'.wl.queue.head? = some hd) {u : Tid} (hu : PreWake s u) :
    (∃ u, PreWake s' u) ∨ (s'.wl.node hd).woken = true := by
  by_cases hut : u = t
  · subst hut
    rcases prewake_local hi hw h hu with hp | hq | ⟨h2, hh2, hw2⟩
    · exact Or.inl ⟨u, hp⟩
    · rw [hq] at hh'; cases hh'
    · rw [hh'] at hh2; cases hh2; exact Or.inr hw2
  · exact Or.inl ⟨u, prewake_other hi h hut hu⟩

theorem cover_same (hi : Inv s) (hw : WInv s) (h : Step cfg s t l s') (hwf' : s'.wl.WF)
    (hL' : s'.word.locked = false)
    {hd : Nid} (hh' : s'.wl.queue.head? = some hd)
    (hc : (∃ u, PreWake s u) ∨ (s.wl.node hd).woken = true ∨ OwnerActive s hd) :
    (∃ u, PreWake s' u) ∨ (s'.wl.node hd).woken = true ∨ OwnerActive s' hd := by
  have hlk' : (s'.wl.node hd).linked = true := (hwf'.linked hd).2 (List.mem_of_mem_head? hh')
  rcases hc with ⟨u, hu⟩ | hwk | ⟨u, hme, hact⟩
  · exact (prewake_cover hi hw h hh' hu).imp id Or.inl
  · cases hwk' : (s'.wl.node hd).woken
    · obtain ⟨hme, hact⟩ := (node_trans hw h).rearmed hd hwk hwk' hlk'
      exact Or.inr (Or.inr ⟨t, hme, hact⟩)
    · exact Or.inr (Or.inl rfl)
  · by_cases hut : u = t
    · subst hut
      rcases active_local h hact with ⟨hme', hact'⟩ | hl
      · exact Or.inr (Or.inr ⟨u, by rw [hme', hme], hact'⟩)
      · rw [hl] at hL'; cases hL'
    · exact Or.inr (Or.inr ⟨u, by rw [step_th_other h u hut]; exact hme, by rw [step_th_other h u hut]; exact hact⟩)

theorem head?_erase_ne {α : Type} [DecidableEq α] {q : List α} {a m : α} (h : q.head? = some a) (hne : a ≠ m) :
    (q.erase m).head? = some a := by
  cases q with
  | nil => cases h
  | cons b r =>
    simp only [List.head?_cons, Option.some.injEq] at h
    subst h
    rw [List.erase_cons_tail (by simpa using hne)]
    rfl

theorem nlw_step (hi : Inv s) (hw : WInv s) (h : Step cfg s t l s') (hwf' : s'.wl.WF) : PNlw s' := by
  intro hL' hd hh'
  have hqueue := (step_shared h).queue
  have hlocked := (step_shared h).locked
  rcases hlocked with hl | ⟨_, hl1⟩ | ⟨_, _, hpr, hwl, hhq, hnext⟩
  · have hL : s.word.locked = false := by rw [← hl]; exact hL'
    rcases hqueue with hq | ⟨hp, hp', hme, hq⟩ | ⟨hq, hlk, hpc⟩
    · exact cover_same hi hw h hwf' hL' hh' (hw.nlw hL hd (by rw [← hq]; exact hh'))
    · -- a node was linked at the tail
      cases hqe : s.wl.queue with
      | nil =>
        rw [hq, hqe] at hh'
        simp only [List.nil_append, List.head?_cons, Option.some.injEq] at hh'
        exact Or.inr (Or.inr ⟨t, by rw [hme]; exact hh', by rw [hp']; rfl⟩)
      | cons a r =>
        have hha : s.wl.queue.head? = some a := by rw [hqe]; rfl
        have : hd = a := by
          rw [hq, hqe] at hh'; simp at hh'; exact hh'.symm
        subst this
        exact cover_same hi hw h hwf' hL' hh' (hw.nlw hL hd hha)
    · -- the stepping thread unlinked its own node
      have hne : s'.wl.queue ≠ s.wl.queue := by
        intro he
        have hmem : me t (s.th t) ∈ s.wl.queue := (hi.wf.linked _).1 hlk
        have : me t (s.th t) ∈ s'.wl.queue := by rw [he]; exact hmem
        rw [hq] at this
        exact (List.Nodup.mem_erase_iff hi.wf.nodup).1 this |>.1 rfl
      have hdrop : (s.th t).pc = .llSwap .drop := by
        have held := fun hp => unlink_holds hi hw h hp hne
        rw [hL'] at held
        rcases hpc with hp | ⟨_, k, hp, rfl | rfl | rfl⟩
        · cases held (Or.inl hp)
        · cases held (Or.inr (Or.inl hp))
        · cases held (Or.inr (Or.inr hp))
        · exact hp
      cases hqe : s.wl.queue with
      | nil => rw [hq, hqe] at hh'; cases hh'
      | cons a r =>
        have hha : s.wl.queue.head? = some a := by rw [hqe]; rfl
        by_cases hae : a = me t (s.th t)
        · -- the head itself was dropped: the dropper forwards, or somebody else is waking
          have hcov := hw.nlw hL a hha
          have tpre : (s.wl.node a).woken = true → PreWake s t := by
            intro hwk; right; rw [hdrop]; exact ⟨rfl, by rw [← hae]; exact hwk⟩
          rcases hcov with ⟨u, hu⟩ | hwk | ⟨u, hme, hact⟩
          · exact (prewake_cover hi hw h hh' hu).imp id Or.inl
          · exact (prewake_cover hi hw h hh' (tpre hwk)).imp id Or.inl
          · -- the owner of the dropped node is the dropper, which is not active
            have := Owner.unique hi (.of_class hi (activePc_own hact)) (Or.inr (by rw [hdrop]; rfl)) (hme.trans hae)
            subst this
            rw [hdrop] at hact; cases hact
        · have hh2 : s'.wl.queue.head? = some a := by rw [hq]; exact head?_erase_ne hha hae
          rw [hh'] at hh2; cases hh2
          exact cover_same hi hw h hwf' hL' hh' (hw.nlw hL hd hha)
  · rw [hl1] at hL'; cases hL'
  · -- release: the releaser read HAS_QUEUED, or the only queued node is still in its re-check
    have hqs : s.wl.queue.head? = some hd := by rw [← hwl]; exact hh'
    cases hq0 : s.word.hq with
    | true => exact Or.inl ⟨t, Or.inl (by rw [hnext hq0]; rfl)⟩
    | false =>
      rcases hw.m2 hq0 with he | ⟨u, hu, hqu⟩
      · rw [he] at hqs; cases hqs
      · have hut : u ≠ t := by intro he; subst he; rw [hu] at hpr; cases hpr
        rw [hqu] at hqs
        simp only [List.head?_cons, Option.some.injEq] at hqs
        exact Or.inr (Or.inr ⟨u, by rw [step_th_other h u hut]; exact hqs,
          by rw [step_th_other h u hut, hu]; rfl⟩)

end Fv.Sync.Mutex
