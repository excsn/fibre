import Fv.Log.Roller
import Fv.Lemmas.LogText
import Fv.Lemmas.Common
/-! C20 helper lemmas: the order on stamps and rolled files (with the uniqueness of the sorted arrangement), and the
calendar (`civilOfDays`, `stampOfSecs`) being valid and strictly monotone. -/
namespace Fv.Log.Roller

theorem ltNats_iff {a b : List Nat} : ltNats a b = true ↔ a < b := by
  fun_induction ltNats a b <;> simp_all [List.cons_lt_cons_iff]
  · omega
  · next a _ b _ h1 h2 _ => simp [Nat.le_antisymm h2 h1]

theorem Stamp.lt_iff {a b : Stamp} : a.lt b = true ↔ a.key < b.key := ltNats_iff

theorem Stamp.key_inj {a b : Stamp} (h : a.key = b.key) : a = b := by
  cases a; cases b; simp_all [Stamp.key]

theorem Stamp.lt_irrefl (a : Stamp) : a.lt a = false :=
  Bool.eq_false_iff.2 fun h => List.lt_irrefl _ (Stamp.lt_iff.1 h)
theorem Stamp.lt_trans {a b c : Stamp} (h1 : a.lt b = true) (h2 : b.lt c = true) : a.lt c = true :=
  Stamp.lt_iff.2 (List.lt_trans (Stamp.lt_iff.1 h1) (Stamp.lt_iff.1 h2))
theorem Stamp.lt_asymm {a b : Stamp} (h : a.lt b = true) : b.lt a = false :=
  Bool.eq_false_iff.2 fun h' => List.lt_asymm (Stamp.lt_iff.1 h) (Stamp.lt_iff.1 h')
theorem Stamp.eq_of_not_lt {a b : Stamp} (h1 : a.lt b = false) (h2 : b.lt a = false) : a = b :=
  Stamp.key_inj (List.le_antisymm (fun h => by simp [Stamp.lt_iff.2 h] at h2) (fun h => by simp [Stamp.lt_iff.2 h] at h1))

theorem lt_snoc {k k' : List Nat} (x y : Nat) (hl : k.length = k'.length) :
    k ++ [x] < k' ++ [y] ↔ k < k' ∨ (k = k' ∧ x < y) := by
  induction k generalizing k' with
  | nil => cases k' <;> simp_all [List.cons_lt_cons_iff]
  | cons a as ih =>
    cases k' with
    | nil => simp at hl
    | cons b bs =>
      simp only [List.cons_append, List.cons_lt_cons_iff, ih (Nat.succ.inj hl), List.cons.injEq]
      constructor
      · rintro (h | ⟨rfl, h | ⟨rfl, h⟩⟩)
        · exact Or.inl (Or.inl h)
        · exact Or.inl (Or.inr ⟨rfl, h⟩)
        · exact Or.inr ⟨⟨rfl, rfl⟩, h⟩
      · rintro ((h | ⟨rfl, h⟩) | ⟨⟨rfl, rfl⟩, h⟩)
        · exact Or.inl h
        · exact Or.inr ⟨rfl, Or.inl h⟩
        · exact Or.inr ⟨rfl, Or.inr ⟨rfl, h⟩⟩

def rfKey (rf : RolledFile) : List Nat := rf.stamp.key ++ [rf.seq]

theorem before_iff {a b : RolledFile} : a.before b = true ↔ rfKey b < rfKey a := by
  rw [rfKey, rfKey, lt_snoc (k := b.stamp.key) (k' := a.stamp.key) _ _ rfl]
  simp only [RolledFile.before, Bool.or_eq_true, Bool.and_eq_true, decide_eq_true_eq, Stamp.lt_iff]
  exact or_congr Iff.rfl (and_congr ⟨fun h => h ▸ rfl, fun h => (Stamp.key_inj h).symm⟩ Iff.rfl)

def rfLe (a b : RolledFile) : Prop := b.before a = false

theorem rfLe_iff {a b : RolledFile} : rfLe a b ↔ rfKey b ≤ rfKey a := by
  rw [rfLe, ← Bool.not_eq_true, before_iff]; exact Iff.rfl

theorem rfLe_total (a b : RolledFile) : rfLe a b ∨ rfLe b a := by
  simp only [rfLe_iff]; exact (List.le_total _ _).symm

theorem rfLe_trans {a b c : RolledFile} (h1 : rfLe a b) (h2 : rfLe b c) : rfLe a c := by
  simp only [rfLe_iff] at *; exact List.le_trans h2 h1

theorem rfLe_antisymm_key {a b : RolledFile} (h1 : rfLe a b) (h2 : rfLe b a) : rfKey a = rfKey b := by
  simp only [rfLe_iff] at *; exact List.le_antisymm h2 h1

theorem insertSorted_perm (x : RolledFile) (l : List RolledFile) : (insertSorted x l).Perm (x :: l) := by
  induction l with
  | nil => exact .refl _
  | cons y ys ih =>
    simp only [insertSorted]
    split
    · exact .refl _
    · exact (ih.cons y).trans (.swap x y ys)

theorem insertSorted_sorted (x : RolledFile) (l : List RolledFile) (h : l.Pairwise rfLe) : (insertSorted x l).Pairwise rfLe := by
  induction l with
  | nil => simp [insertSorted]
  | cons y ys ih =>
    rw [List.pairwise_cons] at h
    simp only [insertSorted]
    split
    · next hb =>
      have hxy : rfLe x y := rfLe_iff.2 (List.le_of_lt (before_iff.1 hb))
      exact List.pairwise_cons.2
        ⟨List.forall_mem_cons.2 ⟨hxy, fun z hz => rfLe_trans hxy (h.1 z hz)⟩, List.pairwise_cons.2 h⟩
    · next hb =>
      refine List.pairwise_cons.2 ⟨fun z hz => ?_, ih h.2⟩
      rcases List.mem_cons.1 ((insertSorted_perm x ys).mem_iff.1 hz) with rfl | hz
      · simpa [rfLe] using hb
      · exact h.1 z hz

theorem sortRolled_spec (l : List RolledFile) : (sortRolled l).Perm l ∧ (sortRolled l).Pairwise rfLe := by
  induction l using Fv.snoc_induction with
  | nil => exact ⟨.refl _, .nil⟩
  | snoc l x ih =>
    rw [sortRolled, List.foldl_append]
    exact ⟨((insertSorted_perm x _).trans (ih.1.cons x)).trans (List.perm_append_singleton x l).symm,
      insertSorted_sorted x _ ih.2⟩

/-- `Vec<RolledFile>::sort()`, newest first: the sorted arrangement is unique -/
theorem sortRolled_eq_of_perm {l s : List RolledFile} (hp : l.Perm s)
    (hs : s.Pairwise (fun a b => rfKey b < rfKey a)) : sortRolled l = s := by
  obtain ⟨hperm, hsorted⟩ := sortRolled_spec l
  refine List.Perm.eq_of_pairwise (le := rfLe) (fun a b ha hb h1 h2 => ?_) hsorted
    (hs.imp fun h => rfLe_iff.2 (List.le_of_lt h)) (hperm.trans hp)
  have hk := rfLe_antisymm_key h1 h2
  rcases pairwise_mem_cases hs ((hperm.trans hp).subset ha) hb with rfl | h | h
  · rfl
  · exact absurd (hk ▸ h) (List.lt_irrefl _)
  · exact absurd (hk ▸ h) (List.lt_irrefl _)

theorem yearLen_pos (y : Nat) : 365 ≤ yearLen y ∧ yearLen y ≤ 366 := by
  unfold yearLen; split <;> omega

theorem daysInMonth_pos (y m : Nat) : 28 ≤ daysInMonth y m ∧ daysInMonth y m ≤ 31 := by
  unfold daysInMonth; repeat' split
  all_goals omega

def ltPair (a b : Nat × Nat) : Prop := a.1 < b.1 ∨ (a.1 = b.1 ∧ a.2 < b.2)

/-- the common shape of `splitYear` and `splitMonth`: peel blocks of `len i`, `len (i+1)`, … off `n` -/
def peel (len : Nat → Nat) : Nat → Nat → Nat → Nat × Nat
  | 0, i, n => (i, n)
  | fuel + 1, i, n => if n < len i then (i, n) else peel len fuel (i + 1) (n - len i)

theorem splitYear_eq_peel (f y n : Nat) : splitYear f y n = peel yearLen f y n := by
  induction f generalizing y n <;> simp [splitYear, peel, *]

theorem splitMonth_eq_peel (f y m n : Nat) : splitMonth f y m n = peel (daysInMonth y) f m n := by
  induction f generalizing m n <;> simp [splitMonth, peel, *]

theorem peel_ge (len : Nat → Nat) (f i n : Nat) : i ≤ (peel len f i n).1 := by
  induction f generalizing i n with
  | zero => exact Nat.le_refl _
  | succ f ih =>
    simp only [peel]
    split
    · exact Nat.le_refl _
    · exact Nat.le_trans (Nat.le_succ i) (ih ..)

theorem peel_mono (len : Nat → Nat) (f i : Nat) {n n' : Nat} (h : n < n') : ltPair (peel len f i n) (peel len f i n') := by
  induction f generalizing i n n' with
  | zero => exact Or.inr ⟨rfl, h⟩
  | succ f ih =>
    simp only [peel]
    by_cases h1 : n < len i
    · by_cases h2 : n' < len i
      · simpa [h1, h2, ltPair] using h
      · simpa [h1, h2, ltPair] using Or.inl (Nat.lt_of_lt_of_le (Nat.lt_succ_self i) (peel_ge len f (i + 1) _))
    · simpa [h1, show ¬ n' < len i by omega] using ih (i + 1) (by omega)

theorem splitYear_fuel : ∀ (f f' y n : Nat), n ≤ f → n ≤ f' → splitYear f y n = splitYear f' y n
  | 0, 0, _, _, _, _ => rfl
  | 0, f' + 1, y, n, h, _ => by have := yearLen_pos y; simp [splitYear]; omega
  | f + 1, 0, y, n, _, h' => by have := yearLen_pos y; simp [splitYear]; omega
  | f + 1, f' + 1, y, n, h, h' => by
    have := yearLen_pos y
    simp only [splitYear]
    split
    · rfl
    · exact splitYear_fuel f f' _ _ (by omega) (by omega)

theorem splitYear_spec (f y n : Nat) (h : n ≤ f) :
    (splitYear f y n).2 < yearLen (splitYear f y n).1 ∧ (splitYear f y n).1 ≤ y + n / 365 := by
  induction f generalizing y n with
  | zero =>
    obtain rfl : n = 0 := by omega
    have := yearLen_pos y
    simp [splitYear]; omega
  | succ f ih =>
    simp only [splitYear]
    split
    · exact ⟨by assumption, by omega⟩
    · have hy := yearLen_pos y
      obtain ⟨h2, h3⟩ := ih (y + 1) (n - yearLen y) (by omega)
      have : (n - yearLen y) / 365 + 1 ≤ n / 365 := by omega
      exact ⟨h2, by omega⟩

def restDays (y m : Nat) : Nat → Nat
  | 0 => 0
  | k + 1 => daysInMonth y m + restDays y (m + 1) k

theorem splitMonth_spec (f y m n : Nat) (h : n < restDays y m (f + 1)) :
    (splitMonth f y m n).1 ≤ m + f ∧ (splitMonth f y m n).2 < daysInMonth y (splitMonth f y m n).1 := by
  induction f generalizing m n with
  | zero => simpa [restDays, splitMonth] using h
  | succ f ih =>
    simp only [splitMonth]
    split
    · next hlt => exact ⟨by omega, hlt⟩
    · obtain ⟨h2, h3⟩ := ih (m + 1) (n - daysInMonth y m) (by rw [restDays] at h; omega)
      exact ⟨by omega, h3⟩

theorem restDays_year (y : Nat) : restDays y 1 12 = yearLen y := by
  simp only [restDays, daysInMonth, yearLen]
  cases isLeap y <;> simp (decide := true)

theorem civilOfDays_valid (n : Nat) :
    validDate (civilOfDays n).1 (civilOfDays n).2.1 (civilOfDays n).2.2 = true ∧
      1970 ≤ (civilOfDays n).1 ∧ (civilOfDays n).1 ≤ 1970 + n / 365 := by
  obtain ⟨h2, h3⟩ := splitYear_spec n 1970 n (Nat.le_refl _)
  obtain ⟨m2, m3⟩ := splitMonth_spec 11 _ 1 _ (by rw [restDays_year]; exact h2)
  have h1 : 1970 ≤ (splitYear n 1970 n).1 := splitYear_eq_peel .. ▸ peel_ge ..
  have m1 : 1 ≤ (splitMonth 11 (splitYear n 1970 n).1 1 (splitYear n 1970 n).2).1 := splitMonth_eq_peel .. ▸ peel_ge ..
  refine ⟨?_, h1, h3⟩
  simp only [civilOfDays, validDate, Bool.and_eq_true]
  exact ⟨⟨⟨decide_eq_true m1, decide_eq_true (by omega)⟩, decide_eq_true (by omega)⟩, decide_eq_true (by omega)⟩

def ltTriple (a b : Nat × Nat × Nat) : Prop :=
  a.1 < b.1 ∨ (a.1 = b.1 ∧ (a.2.1 < b.2.1 ∨ (a.2.1 = b.2.1 ∧ a.2.2 < b.2.2)))

theorem civilOfDays_mono (n n' : Nat) (h : n < n') : ltTriple (civilOfDays n) (civilOfDays n') := by
  have hm := peel_mono yearLen n' 1970 h
  rw [← splitYear_eq_peel, ← splitYear_eq_peel, ← splitYear_fuel n n' _ _ (Nat.le_refl _) (by omega)] at hm
  simp only [civilOfDays, ltTriple]
  rcases hm with hm | ⟨he, hm⟩
  · exact Or.inl hm
  · refine Or.inr ⟨he, ?_⟩
    rw [he, splitMonth_eq_peel, splitMonth_eq_peel]
    rcases peel_mono (daysInMonth (splitYear n' 1970 n').1) 11 1 hm with h | ⟨h1, h2⟩
    · exact Or.inl h
    · exact Or.inr ⟨h1, by omega⟩

theorem stampOfSecs_mono (t t' : Nat) (h : t < t') : (stampOfSecs t).lt (stampOfSecs t') = true := by
  simp only [Stamp.lt_iff, Stamp.key, stampOfSecs, List.cons_lt_cons_iff]
  by_cases hd : t / 86400 < t' / 86400
  · rcases civilOfDays_mono _ _ hd with h | ⟨h1, h | ⟨h2, h3⟩⟩
    · exact Or.inl h
    · exact Or.inr ⟨h1, Or.inl h⟩
    · exact Or.inr ⟨h1, Or.inr ⟨h2, Or.inl h3⟩⟩
  · rw [show t / 86400 = t' / 86400 by omega]
    refine Or.inr ⟨rfl, Or.inr ⟨rfl, Or.inr ⟨rfl, ?_⟩⟩⟩
    have : [] < ([] : List Nat) ↔ False := by simp
    simp only [this]
    omega

theorem stampOfSecs_inj {t t' : Nat} (h : stampOfSecs t = stampOfSecs t') : t = t' := by
  rcases Nat.lt_trichotomy t t' with hlt | heq | hgt
  · have := stampOfSecs_mono _ _ hlt; rw [h, Stamp.lt_irrefl] at this; cases this
  · exact heq
  · have := stampOfSecs_mono _ _ hgt; rw [h, Stamp.lt_irrefl] at this; cases this

/-- a stamp that `parse_datetime_from_str` accepts and `format_period` prints with four year digits -/
def Stamp.Valid (s : Stamp) : Prop :=
  validDate s.y s.m s.d = true ∧ s.hh < 24 ∧ s.mm < 60 ∧ s.ss < 60 ∧ s.y < 10000

/-- the clock bound used throughout: 8030 · 365 days (2 September 9994), so that the year bound `1970 + days / 365` of
`civilOfDays_valid` stays below 10000 and years have four digits -/
def tMax : Nat := 2930950 * 86400

theorem stampOfSecs_valid (t : Nat) (h : t < tMax) : (stampOfSecs t).Valid := by
  obtain ⟨h1, h2, h3⟩ := civilOfDays_valid (t / 86400)
  refine ⟨h1, ?_⟩
  simp only [stampOfSecs, tMax] at *
  omega

def Aligned (g : Gran) (s : Stamp) : Prop :=
  match g with
  | .minutely => s.ss = 0
  | .hourly => s.mm = 0 ∧ s.ss = 0
  | .daily => s.hh = 0 ∧ s.mm = 0 ∧ s.ss = 0
  | .never => s.hh = 0 ∧ s.mm = 0 ∧ s.ss = 0

theorem aligned_periodStart (g : Gran) (t : Nat) : Aligned g (stampOfSecs (periodStart g t)) := by
  cases g <;> simp only [Aligned, periodStart, stampOfSecs]
  case never => decide
  all_goals omega

theorem periodStart_le (g : Gran) (t : Nat) : periodStart g t ≤ t := by
  cases g <;> simp only [periodStart] <;> omega

theorem periodStart_mono (g : Gran) {t t' : Nat} (h : t ≤ t') : periodStart g t ≤ periodStart g t' := by
  cases g <;> simp only [periodStart] <;> omega

theorem periodStart_idem (g : Gran) (t : Nat) : periodStart g (periodStart g t) = periodStart g t := by
  cases g <;> simp only [periodStart] <;> omega

end Fv.Log.Roller
