import Fv.Lemmas.CacheLift
/-
Eviction-listener bookkeeping of the cache model (C16).  `Eff cfg Q s s' rs ns`: between `s` and `s'` exactly the
removals `rs` were logged, exactly the notifications `ns` went to the notifier, and otherwise bindings only left the
map.  The passes of `Maint.lean` and `removeKey` satisfy `Eff … rs rs`; `evictVictims` alone logs without notifying
(`Eff … rs []`): `evictAll` sends the notifications afterwards, in the same order.  `Shape` puts a whole call (other
than `restore`, `gate`, `clear`) in the form: steps that log and notify nothing, notified removals, steps that log
and notify nothing.
-/
namespace Fv.Cache
variable {P : Type}
variable (cfg : Cfg) (ops : PolicyOps P) (o : Oracle)

theorem NView.notifyAll_nil (cfg : Cfg) (v : NView) : NView.notifyAll cfg v [] = v := rfl
theorem NView.notifyAll_cons (v : NView) (n : Notif) (ns : List Notif) :
    NView.notifyAll cfg v (n :: ns) = NView.notifyAll cfg (v.notify cfg n) ns := rfl
theorem NView.notifyAll_append (v : NView) (a b : List Notif) :
    NView.notifyAll cfg v (a ++ b) = NView.notifyAll cfg (NView.notifyAll cfg v a) b := by
  unfold NView.notifyAll; rw [List.foldl_append]

def MapRes (m' m : List (Nat × Entry)) : Prop := ∀ k, lookup m' k = none ∨ lookup m' k = lookup m k

theorem MapRes.refl (m : List (Nat × Entry)) : MapRes m m := fun _ => Or.inr rfl
theorem MapRes.trans {a b c : List (Nat × Entry)} (h1 : MapRes a b) (h2 : MapRes b c) : MapRes a c :=
  fun k => (h1 k).elim Or.inl (fun h => (h2 k).imp (h.trans ·) (h.trans ·))

structure Eff (cfg : Cfg) (Q : Notif → Entry → Prop) (s s' : State P) (rs ns : List Notif) : Prop where
  removed : s'.removed = s.removed ++ rs
  view : nview s' = (nview s).notifyAll cfg ns
  res : MapRes s'.map s.map
  was : ∀ n, n ∈ rs → ∃ e, lookup s.map n.key = some e ∧ e.vid = n.vid ∧ Q n e
  gone : ∀ n, n ∈ rs → lookup s'.map n.key = none
  nodup : (rs.map (·.key)).Nodup

def EffE (cfg : Cfg) (Q : Notif → Entry → Prop) (s s' : State P) : Prop := ∃ rs, Eff cfg Q s s' rs rs

theorem Eff.of_map_eq {cfg : Cfg} {Q : Notif → Entry → Prop} {s s' : State P} {ns : List Notif} (hm : s'.map = s.map)
    (hr : s'.removed = s.removed) (hv : nview s' = (nview s).notifyAll cfg ns) : Eff cfg Q s s' [] ns :=
  { removed := by rw [hr, List.append_nil]
    view := hv
    res := hm ▸ MapRes.refl _
    was := fun _ hn => nomatch hn
    gone := fun _ hn => nomatch hn
    nodup := List.nodup_nil }

theorem EffE.of_quiet {cfg : Cfg} {Q : Notif → Entry → Prop} {s s' : State P} (hm : s'.map = s.map)
    (hr : s'.removed = s.removed) (hv : nview s' = nview s) : EffE cfg Q s s' :=
  ⟨[], Eff.of_map_eq hm hr hv⟩

theorem Eff.trans {cfg : Cfg} {Q : Notif → Entry → Prop} {s s' s'' : State P} {rs1 ns1 rs2 ns2 : List Notif}
    (h1 : Eff cfg Q s s' rs1 ns1) (h2 : Eff cfg Q s' s'' rs2 ns2) : Eff cfg Q s s'' (rs1 ++ rs2) (ns1 ++ ns2) := by
  refine ⟨?_, ?_, h2.res.trans h1.res, ?_, ?_, ?_⟩
  · rw [h2.removed, h1.removed, List.append_assoc]
  · rw [h2.view, h1.view, NView.notifyAll_append]
  · intro n hn
    rcases List.mem_append.1 hn with hn | hn
    · exact h1.was n hn
    · obtain ⟨e, he, hv, hq⟩ := h2.was n hn
      rcases h1.res n.key with h | h
      · rw [h] at he; cases he
      · exact ⟨e, h ▸ he, hv, hq⟩
  · intro n hn
    rcases List.mem_append.1 hn with hn | hn
    · exact (h2.res n.key).elim id (·.trans (h1.gone n hn))
    · exact h2.gone n hn
  · rw [List.map_append]
    refine List.nodup_append.2 ⟨h1.nodup, h2.nodup, ?_⟩
    intro a ha b hb hab
    obtain ⟨n1, hn1, rfl⟩ := List.mem_map.1 ha
    obtain ⟨n2, hn2, rfl⟩ := List.mem_map.1 hb
    obtain ⟨e, he, _⟩ := h2.was n2 hn2
    rw [← hab, h1.gone n1 hn1] at he
    cases he

theorem Eff.mono {cfg : Cfg} {Q Q' : Notif → Entry → Prop} {s s' : State P} {rs ns : List Notif}
    (h : Eff cfg Q s s' rs ns) (hq : ∀ n e, Q n e → Q' n e) : Eff cfg Q' s s' rs ns :=
  { h with was := fun n hn => (h.was n hn).imp (fun e he => ⟨he.1, he.2.1, hq n e he.2.2⟩) }

theorem EffE.mono {cfg : Cfg} {Q Q' : Notif → Entry → Prop} {s s' : State P}
    (h : EffE cfg Q s s') (hq : ∀ n e, Q n e → Q' n e) : EffE cfg Q' s s' :=
  h.imp (fun _ e => e.mono hq)

theorem EffE.rel (Q : Notif → Entry → Prop) : Rel (fun (t s : State P) => EffE cfg Q s t) where
  refl := fun _ => EffE.of_quiet rfl rfl rfl
  trans := fun ⟨r1, e1⟩ ⟨r2, e2⟩ => ⟨r2 ++ r1, e2.trans e1⟩
  quiet := fun hq => EffE.of_quiet hq.map hq.removed hq.view

theorem Eff.of_drop {cfg : Cfg} {Q : Notif → Entry → Prop} {s s' : State P} {k : Nat} {e : Entry} {r : Reason}
    {sub told : Bool} {X : Nat → Prop} (hd : Drop cfg s' s k e r sub told X)
    (hq : Q { key := k, vid := e.vid, reason := r } e) :
    Eff cfg Q s s' [{ key := k, vid := e.vid, reason := r }] (if told then [{ key := k, vid := e.vid, reason := r }] else []) :=
  { removed := hd.removed
    view := hd.view
    res := fun k' => by rw [hd.map, lookup_erase]; split <;> simp
    was := fun n hn => by rw [List.mem_singleton.1 hn]; exact ⟨e, hd.was, rfl, hq⟩
    gone := fun n hn => by rw [List.mem_singleton.1 hn, hd.map, lookup_erase]; exact if_pos rfl
    nodup := by simp }

def QCap (n : Notif) (_ : Entry) : Prop := n.reason = .capacity
def QExp (n : Notif) (_ : Entry) : Prop := n.reason = .expired
def QMaint (n : Notif) (_ : Entry) : Prop := n.reason = .capacity ∨ n.reason = .expired

theorem evictVictims_eff :
    ∀ (vs : List Nat) (s : State P) (rel : Nat) (ns : List Notif),
      ∃ rs, Eff cfg QCap s (State.evictVictims cfg ops s vs rel ns).1 rs [] ∧
        (State.evictVictims cfg ops s vs rel ns).2.2 = ns ++ rs := by
  intro vs
  induction vs with
  | nil => intro s rel ns; exact ⟨[], Eff.of_map_eq rfl rfl rfl, (List.append_nil _).symm⟩
  | cons v rest ih =>
    intro s rel ns
    rw [evictVictims_cons]
    rcases evictVictim_cases cfg ops s v with he | ⟨e, hd, hr⟩
    · rw [he]
      obtain ⟨rs, h1, h2⟩ := ih s (rel + 0) (ns ++ [])
      exact ⟨rs, h1, h2.trans (by simp)⟩
    · rw [hr]
      obtain ⟨rs, h1, h2⟩ := ih (s.evictVictim cfg ops v).1 (rel + e.cost) (ns ++ [{ key := v, vid := e.vid, reason := .capacity }])
      exact ⟨_ :: rs, (Eff.of_drop hd rfl).trans h1, h2.trans (by simp)⟩

theorem evictAll_eff (s : State P) (vs : List Nat) :
    EffE cfg QCap s (s.evictAll cfg ops vs) := by
  obtain ⟨rs, h1, h2⟩ := evictVictims_eff cfg ops vs s 0 []
  -- after the victims `evictAll` lowers `current_cost` and hands what was logged to the notifier
  have h3 : Eff cfg QCap (State.evictVictims cfg ops s vs 0 []).1 (s.evictAll cfg ops vs) [] rs := by
    unfold State.evictAll
    dsimp only
    rw [h2, notifyAll_eq]
    exact Eff.of_map_eq rfl rfl rfl
  exact ⟨rs, by simpa using h1.trans h3⟩

theorem performShard_eff (s : State P) (i limit : Nat) :
    EffE cfg QCap s (s.performShard cfg ops o i limit) :=
  performShard_lift cfg ops o (EffE.rel cfg QCap) (fun s vs _ => evictAll_eff cfg ops s vs) s i limit

theorem flush_eff (s : State P) : EffE cfg QCap s (s.flush cfg ops o) :=
  flush_lift cfg ops o (EffE.rel cfg QCap) (fun s vs _ => evictAll_eff cfg ops s vs) s

theorem opportunistic_eff (s : State P) (k : Nat) :
    EffE cfg QCap s (s.opportunistic cfg ops o k) :=
  opportunistic_lift cfg ops o (EffE.rel cfg QCap) (fun s vs _ => evictAll_eff cfg ops s vs) s k

theorem cleanupTtl_eff (s : State P) (i : Nat) :
    EffE cfg QExp s (s.cleanupTtl cfg ops o i) :=
  cleanupTtl_lift cfg ops o (EffE.rel cfg QExp) s i (fun _ => EffE.of_quiet rfl rfl rfl)
    (fun _ _ _ _ _ _ _ hd => ⟨_, Eff.of_drop hd rfl⟩)

theorem cleanupTti_eff_mem (s : State P) (i : Nat) :
    EffE cfg (fun n e => QExp n e ∧ e.isExpired s.now cfg.tti = true) s (s.cleanupTti cfg ops o i) := by
  obtain ⟨rs, h⟩ := cleanupTti_lift cfg ops o (EffE.rel cfg (fun n e => QExp n e ∧ ExpiredIn cfg s n.key)) s i
    (fun _ _ _ _ hx hd => ⟨_, Eff.of_drop hd ⟨rfl, hx⟩⟩)
  refine ⟨rs, { h with was := fun n hn => ?_ }⟩
  obtain ⟨e, he, hv, hq, _, e0, he0, hx⟩ := h.was n hn
  rw [he] at he0; cases he0
  exact ⟨e, he, hv, hq, hx⟩

theorem cleanupTti_eff (s : State P) (i : Nat) :
    EffE cfg QExp s (s.cleanupTti cfg ops o i) :=
  (cleanupTti_eff_mem cfg ops o s i).mono (fun _ _ h => h.1)

theorem cleanupCapacity_eff (s : State P) (i : Nat) :
    EffE cfg QCap s (s.cleanupCapacity cfg ops o i) :=
  cleanupCapacity_lift cfg ops o (EffE.rel cfg QCap) s i (fun _ _ _ _ _ hd => ⟨_, Eff.of_drop hd rfl⟩)
    (fun _ _ => EffE.of_quiet rfl rfl rfl)

theorem runMaintenance_eff (s : State P) :
    EffE cfg QMaint s (s.runMaintenance cfg ops o) :=
  runMaintenance_lift cfg ops o (EffE.rel cfg QMaint)
    (fun s vs _ => (evictAll_eff cfg ops s vs).mono (fun _ _ h => Or.inl h))
    (fun _ _ _ => EffE.of_quiet rfl rfl rfl) (fun _ _ _ _ _ _ _ hr hd => ⟨_, Eff.of_drop hd hr⟩)
    (fun _ _ => EffE.of_quiet rfl rfl rfl) s

def QInv (n : Notif) (_ : Entry) : Prop := n.reason = .invalidated

theorem removeKey_eff (s : State P) (k : Nat) :
    EffE cfg (fun n e => QInv n e ∧ n.key = k) s (s.removeKey cfg ops k).1 := by
  rcases removeKey_cases cfg ops s k with ⟨_, he⟩ | ⟨e, hd, _⟩
  · rw [he]; exact EffE.of_quiet rfl rfl rfl
  · exact ⟨_, Eff.of_drop hd ⟨rfl, rfl⟩⟩

theorem multiRemoveLoop_eff (ks : List Nat) (s : State P) (acc : List (Nat × Nat)) :
    EffE cfg (fun n e => QInv n e ∧ n.key ∈ ks) s (multiRemoveLoop cfg ops s ks acc).1 :=
  (multiRemoveLoop_lift cfg ops (EffE.rel cfg _) ks s acc (fun _ _ _ _ hk hd => ⟨_, Eff.of_drop hd ⟨rfl, hk⟩⟩)).1

def Listener.outstanding (l : Listener) : List Notif := l.inFlight.toList ++ l.queue
/-- the notifier thread takes from the queue whenever it holds nothing -/
def LisWF (l : Listener) : Prop := l.inFlight = none → l.queue = []

theorem NView.notify_nolistener (v : NView) (n : Notif) (h : cfg.hasListener = false) :
    v.notify cfg n = v := by
  unfold NView.notify; simp [h]

theorem NView.notify_listener (v : NView) (n : Notif) (h : cfg.hasListener = true) :
    (v.notify cfg n).sent = v.sent ++ [n] ∧ (v.notify cfg n).lis.gateClosed = v.lis.gateClosed ∧
      (v.lis.gateClosed = false → (v.notify cfg n).delivered = v.delivered ++ [n] ∧ (v.notify cfg n).lis = v.lis) := by
  unfold NView.notify
  simp only [h, Bool.not_true, Bool.false_eq_true, if_false]
  (repeat' split) <;> simp_all

theorem NView.notify_queue (v : NView) (n : Notif) (hq : v.lis.queue.length ≤ cfg.queueCap) :
    (v.notify cfg n).lis.queue.length ≤ cfg.queueCap := by
  unfold NView.notify
  dsimp only
  split
  · exact hq
  · split
    · split
      · exact hq
      · split
        · next hlt => simp only [List.length_append, List.length_singleton]; omega
        · exact hq
    · exact hq

theorem NView.notify_closed (v : NView) (n : Notif) (h : cfg.hasListener = true)
    (hg : v.lis.gateClosed = true) (hw : LisWF v.lis) (hlen : v.lis.outstanding.length ≤ cfg.queueCap) :
    (v.notify cfg n).lis.outstanding = v.lis.outstanding ++ [n] ∧ (v.notify cfg n).delivered = v.delivered := by
  unfold NView.notify
  simp only [h, Bool.not_true, Bool.false_eq_true, if_false]
  rw [if_pos hg]
  unfold LisWF Listener.outstanding at *
  cases hin : v.lis.inFlight with
  | none =>
    have hq := hw hin
    simp [hq]
  | some m =>
    rw [hin] at hlen
    simp only [Option.toList_some, List.length_append, List.length_cons, List.length_nil] at hlen
    simp only
    rw [if_pos (by omega)]
    simp

theorem NView.notify_liswf (v : NView) (n : Notif) (hw : LisWF v.lis) : LisWF (v.notify cfg n).lis := by
  unfold NView.notify
  dsimp only
  split
  · exact hw
  · split
    · split
      · intro h; cases h
      · next m hm =>
        split
        · intro h; rw [hm] at h; cases h
        · exact hw
    · exact hw

theorem NView.notifyAll_keeps (I : NView → Prop) (h : ∀ v n, I v → I (v.notify cfg n)) :
    ∀ (ns : List Notif) (v : NView), I v → I (NView.notifyAll cfg v ns)
  | [], _, hv => hv
  | n :: ns, v, hv => NView.notifyAll_keeps I h ns _ (h v n hv)

theorem NView.notifyAll_gate (ns : List Notif) (v : NView) :
    (NView.notifyAll cfg v ns).lis.gateClosed = v.lis.gateClosed :=
  NView.notifyAll_keeps cfg (fun w => w.lis.gateClosed = v.lis.gateClosed)
    (fun w n h => by
      cases hl : cfg.hasListener
      · rw [NView.notify_nolistener cfg w n hl]; exact h
      · exact (NView.notify_listener cfg w n hl).2.1.trans h) ns v rfl

theorem NView.notifyAll_nolistener (h : cfg.hasListener = false) (ns : List Notif) (v : NView) :
    NView.notifyAll cfg v ns = v :=
  NView.notifyAll_keeps cfg (fun w => w = v) (fun w n hw => (NView.notify_nolistener cfg w n h).trans hw) ns v rfl

theorem NView.notifyAll_sent : ∀ (ns : List Notif) (v : NView),
    (NView.notifyAll cfg v ns).sent = v.sent ++ (if cfg.hasListener then ns else []) := by
  intro ns v
  cases h : cfg.hasListener with
  | false => rw [NView.notifyAll_nolistener cfg h]; simp
  | true =>
    simp only [if_true]
    induction ns generalizing v with
    | nil => simp [NView.notifyAll_nil]
    | cons n rest ih => rw [NView.notifyAll_cons, ih, (NView.notify_listener cfg v n h).1]; simp

theorem NView.notifyAll_open : ∀ (ns : List Notif) (v : NView), v.lis.gateClosed = false →
    (NView.notifyAll cfg v ns).delivered = v.delivered ++ (if cfg.hasListener then ns else []) ∧
      (NView.notifyAll cfg v ns).lis = v.lis := by
  intro ns v hg
  cases h : cfg.hasListener with
  | false => rw [NView.notifyAll_nolistener cfg h]; simp
  | true =>
    simp only [if_true]
    induction ns generalizing v with
    | nil => simp [NView.notifyAll_nil]
    | cons n rest ih =>
      obtain ⟨h1, h2⟩ := (NView.notify_listener cfg v n h).2.2 hg
      obtain ⟨g1, g2⟩ := ih (v.notify cfg n) (by rw [h2]; exact hg)
      rw [NView.notifyAll_cons, g1, g2, h1, h2]; simp

theorem NView.notifyAll_closed (h : cfg.hasListener = true) : ∀ (ns : List Notif) (v : NView),
    v.lis.gateClosed = true → LisWF v.lis → v.lis.outstanding.length + ns.length ≤ cfg.queueCap + 1 →
      (NView.notifyAll cfg v ns).lis.outstanding = v.lis.outstanding ++ ns ∧
        (NView.notifyAll cfg v ns).delivered = v.delivered := by
  intro ns
  induction ns with
  | nil => intro v _ _ _; exact ⟨by simp [NView.notifyAll_nil], rfl⟩
  | cons n rest ih =>
    intro v hg hw hlen
    simp only [List.length_cons] at hlen
    obtain ⟨h1, h3⟩ := NView.notify_closed cfg v n h hg hw (by omega)
    have hg' : (v.notify cfg n).lis.gateClosed = true := (NView.notify_listener cfg v n h).2.1.trans hg
    obtain ⟨g1, g3⟩ := ih (v.notify cfg n) hg' (NView.notify_liswf cfg v n hw)
      (by rw [h1]; simp only [List.length_append, List.length_singleton]; omega)
    rw [NView.notifyAll_cons]
    exact ⟨by rw [g1, h1]; simp, g3.trans h3⟩

def LQ (s' s : State P) : Prop := s'.removed = s.removed ∧ nview s' = nview s

theorem LQ.rel : ReadRel cfg (LQ (P := P)) where
  refl := fun _ => ⟨rfl, rfl⟩
  trans := fun h1 h2 => ⟨h1.1.trans h2.1, h1.2.trans h2.2⟩
  quiet := fun hq => ⟨hq.removed, hq.view⟩
  touch := fun _ _ ht => ⟨ht.removed, ht.view⟩

def Keep (s' s : State P) : Prop := LQ s' s ∧ ∀ k, lookup s.map k = none → lookup s'.map k = none

theorem Keep.rel : ReadRel cfg (Keep (P := P)) where
  refl := fun _ => ⟨⟨rfl, rfl⟩, fun _ h => h⟩
  trans := fun h1 h2 => ⟨(LQ.rel cfg).trans h1.1 h2.1, fun k h => h1.2 k (h2.2 k h)⟩
  quiet := fun hq => ⟨⟨hq.removed, hq.view⟩, fun _ h => hq.map ▸ h⟩
  touch := fun {t s k e} he _ ht => by
    refine ⟨⟨ht.removed, ht.view⟩, fun k' h => ?_⟩
    rw [ht.map, lookup_put]
    split
    · next hk => subst hk; rw [he] at h; cases h
    · exact h

theorem LQ.of_put {t s : State P} {k : Nat} {e : Entry} (hp : Put t s k e) : LQ t s := ⟨hp.removed, hp.view⟩

/-- the call itself wrote value id `v` under key `k` before running its own opportunistic maintenance -/
def OpWrote (op : Op) (k v : Nat) : Prop :=
  (∃ c, op = .insert false k v c) ∨ (∃ c t, op = .insertTtl false k v c t)

def OpQ (op : Op) (n : Notif) : Prop :=
  match n.reason with
  | .invalidated => op = .remove n.key ∨ op = .invalidate n.key ∨ ∃ ks, op = .multiRemove ks ∧ n.key ∈ ks
  | .cleared => op = .clear
  | .expired => op = .runMaintenance
  | .capacity => OpDrains op

theorem opq_inv {op : Op} {n : Notif} {e : Entry} (hq : QInv n e) (h : Removes op n.key) : OpQ op n := by
  unfold QInv at hq; unfold OpQ; rw [hq]
  cases op <;> first | exact h.elim | skip
  · exact .inl (congrArg _ h)
  · exact .inr (.inl (congrArg _ h))
  · exact .inr (.inr ⟨_, rfl, h⟩)

theorem opq_cap {op : Op} (h : OpDrains op) (n : Notif) (e : Entry) (hq : QCap n e) : OpQ op n := by
  unfold QCap at hq; unfold OpQ; rw [hq]; exact h

def Shape (cfg : Cfg) (op : Op) (s0 r : State P) : Prop :=
  ∃ (sm s' : State P) (rs : List Notif),
    sm.removed = [] ∧ nview sm = ⟨[], [], s0.lis⟩ ∧
    (∀ k e, lookup sm.map k = some e → lookup s0.map k = some e ∨ OpWrote op k e.vid) ∧
    Eff cfg (fun n _ => OpQ op n) sm s' rs rs ∧ LQ r s' ∧ ∀ n ∈ rs, lookup r.map n.key = none

theorem shape_of_lq {cfg : Cfg} {op : Op} {s0 r : State P} (h : LQ r s0.resetLogs) : Shape cfg op s0 r :=
  ⟨s0.resetLogs, s0.resetLogs, [], rfl, rfl, fun _ _ h => Or.inl h, Eff.of_map_eq rfl rfl rfl, h, fun _ h => nomatch h⟩

theorem shape_of_eff {cfg : Cfg} {op : Op} {s0 s' r : State P} {Q : Notif → Entry → Prop}
    (he : EffE cfg Q s0.resetLogs s') (hq : ∀ n e, Q n e → OpQ op n) (hk : Keep r s') : Shape cfg op s0 r := by
  obtain ⟨rs, he⟩ := he
  exact ⟨s0.resetLogs, s', rs, rfl, rfl, fun _ _ h => Or.inl h, he.mono hq, hk.1, fun n hn => hk.2 _ (he.gone n hn)⟩

theorem shape_insert {cfg : Cfg} {ops : PolicyOps P} {o : Oracle} {op : Op} {s0 : State P} {k vid : Nat} {e : Entry}
    {td : Option Nat} (hv : e.vid = vid) (hd : OpDrains op) (hw : OpWrote op k vid) :
    Shape cfg op s0 ((s0.resetLogs.insertCore cfg k e td true).opportunistic cfg ops o k) := by
  obtain ⟨rs, he⟩ := opportunistic_eff cfg ops o (s0.resetLogs.insertCore cfg k e td true) k
  obtain ⟨t, hp⟩ := insertCore_put cfg s0.resetLogs k e td true
  refine ⟨_, _, rs, hp.removed, hp.view, ?_, he.mono (opq_cap hd), ⟨rfl, rfl⟩, he.gone⟩
  intro k' e1 h1
  rw [hp.map, lookup_put] at h1
  split at h1
  · next hk => cases h1; subst hk; exact Or.inr (hv ▸ hw)
  · exact Or.inl h1

theorem stepOp_shape (p0 : P) (o : Oracle) (s0 : State P) (op : Op)
    (hr : op ≠ .restore) (hg : ∀ c, op ≠ .gate c) (hc : op ≠ .clear) :
    Shape cfg op s0 (stepOp cfg ops p0 o s0 op).1 := by
  have hk := Keep.rel (P := P) cfg
  have hlq : (OpDrains op → False) → (∀ k, Removes op k → False) → (Special op → False) →
      Shape cfg op s0 (stepOp cfg ops p0 o s0 op).1 := fun hd hrm hs =>
    shape_of_lq (stepOp_lift ops o (LQ.rel cfg) p0 s0 op (fun hp _ => LQ.of_put hp) (fun _ _ _ ht => ⟨ht.removed, ht.view⟩)
      (fun _ h => (hrm _ h).elim) (fun h => (hd h).elim) (fun _ _ => ⟨rfl, rfl⟩) (fun h => (hs h).elim))
  cases op <;> first | exact hlq id (fun _ => id) id | skip
  case insert async k vid cost =>
    cases async
    · exact (shape_insert (e := Entry.mk' vid cost s0.resetLogs.now cfg.ttl cfg.tti) rfl trivial (Or.inl ⟨cost, rfl⟩))
    · exact hlq id (fun _ => id) id
  case insertTtl async k vid cost ttl =>
    cases async
    · exact (shape_insert (e := Entry.mkCustom vid cost s0.resetLogs.now (s0.resetLogs.now + ttl) cfg.tti)
        rfl trivial (Or.inr ⟨cost, ttl, rfl⟩))
    · exact hlq id (fun _ => id) id
  case remove k => exact shape_of_eff (removeKey_eff cfg ops _ k) (fun _ _ h => opq_inv h.1 h.2.symm) (hk.refl _)
  case invalidate k => exact shape_of_eff (removeKey_eff cfg ops _ k) (fun _ _ h => opq_inv h.1 h.2.symm) (hk.refl _)
  case clear => exact absurd rfl hc
  case runMaintenance =>
    refine (shape_of_eff (runMaintenance_eff cfg ops o _) ?_ (hk.refl _))
    intro n _ h
    unfold OpQ
    rcases h with h | h <;> rw [h]
    trivial
  case metrics => exact (shape_of_eff (flush_eff cfg ops o _) (opq_cap trivial) (hk.refl _))
  case multiRemove ks => exact shape_of_eff (multiRemoveLoop_eff cfg ops ks _ []) (fun _ _ h => opq_inv h.1 h.2) (hk.refl _)
  case iter batch inter =>
    exact (shape_of_eff (flush_eff cfg ops o _) (opq_cap trivial) ⟨⟨rfl, rfl⟩, fun _ h => h⟩)
  case iterSnapshot inter =>
    exact (shape_of_eff (flush_eff cfg ops o _) (opq_cap trivial)
      (snapDrive_lift hk _ _ _ _ (fun _ _ _ => ⟨⟨rfl, rfl⟩, fun _ h => h⟩)).1)
  case snapshot =>
    exact (shape_of_eff (flush_eff cfg ops o _) (opq_cap trivial) ⟨⟨rfl, rfl⟩, fun _ h => h⟩)
  case restore => exact absurd rfl hr
  case release => exact shape_of_lq ⟨rfl, rfl⟩
  case gate closed => exact absurd rfl (hg closed)

theorem of_nview {s : State P} {v : NView} (h : nview s = v) :
    s.sent = v.sent ∧ s.delivered = v.delivered ∧ s.lis = v.lis := by
  subst h; exact ⟨rfl, rfl, rfl⟩

def notCleared (n : Notif) : Bool := n.reason != .cleared

theorem stepOp_clear (p0 : P) (o : Oracle) (s0 : State P) :
    (stepOp cfg ops p0 o s0 .clear).1.map = [] ∧
    (stepOp cfg ops p0 o s0 .clear).1.removed =
      s0.map.map (fun p => { key := p.1, vid := p.2.vid, reason := .cleared }) ∧
    nview (stepOp cfg ops p0 o s0 .clear).1 = ⟨[], [], s0.lis⟩ :=
  let ⟨h1, h2, _, _, h5⟩ := clearAll_spec cfg ops o s0.resetLogs
  ⟨h1, h2, h5⟩

theorem stepOp_view (p0 : P) (o : Oracle) (s0 : State P) (op : Op)
    (hg : ∀ c, op ≠ .gate c) :
    ∃ l0, (l0 = s0.lis ∨ (op = .restore ∧ l0 = {})) ∧ nview (stepOp cfg ops p0 o s0 op).1 =
      NView.notifyAll cfg ⟨[], [], l0⟩ ((stepOp cfg ops p0 o s0 op).1.removed.filter notCleared) := by
  by_cases hr : op = .restore
  · subst hr
    rcases stepOp_restore cfg ops o p0 s0 with ⟨_, he⟩ | ⟨sn, _, he⟩ <;> rw [he]
    · exact ⟨s0.lis, .inl rfl, rfl⟩
    · exact ⟨{}, .inr ⟨rfl, rfl⟩, rfl⟩
  refine ⟨s0.lis, .inl rfl, ?_⟩
  by_cases hc : op = .clear
  · subst hc
    obtain ⟨_, h1, h2⟩ := stepOp_clear cfg ops p0 o s0
    rw [h1, h2, List.filter_eq_nil_iff.2]
    · rfl
    · intro n hn
      obtain ⟨p, _, rfl⟩ := List.mem_map.1 hn
      simp [notCleared]
  · obtain ⟨sm, s', rs, h1, h2, _, he, hk, _⟩ := stepOp_shape cfg ops p0 o s0 op hr hg hc
    have hrem : (stepOp cfg ops p0 o s0 op).1.removed = rs := by
      rw [hk.1, he.removed, h1]; rfl
    rw [hrem, hk.2, he.view, h2]
    congr 1
    symm
    apply List.filter_eq_self.2
    intro n hn
    obtain ⟨e, _, _, hq⟩ := he.was n hn
    unfold notCleared
    unfold OpQ at hq
    cases hre : n.reason <;> simp
    rw [hre] at hq
    exact hc hq

theorem stepOp_lis (I : Listener → Prop) (h0 : I {}) (hgate : ∀ l, I l → I { l with gateClosed := true })
    (hn : ∀ (v : NView) n, I v.lis → I (v.notify cfg n).lis) (p0 : P) (o : Oracle) (s : State P) (op : Op)
    (hs : I s.lis) : I (stepOp cfg ops p0 o s op).1.lis := by
  by_cases hg : ∃ c, op = .gate c
  · obtain ⟨c, rfl⟩ := hg
    cases c
    · exact h0
    · exact hgate _ hs
  · obtain ⟨l0, hl, hv⟩ := stepOp_view cfg ops p0 o s op (fun c h => hg ⟨c, h⟩)
    rw [(of_nview hv).2.2]
    refine NView.notifyAll_keeps cfg (fun v => I v.lis) hn _ ⟨[], [], l0⟩ ?_
    rcases hl with rfl | ⟨_, rfl⟩
    · exact hs
    · exact h0

theorem stepOp_removed (p0 : P) (o : Oracle) (s0 : State P) (op : Op)
    (hwf : op = .clear → (keys s0.map).Nodup) :
    (∀ n, n ∈ (stepOp cfg ops p0 o s0 op).1.removed →
        ((∃ e, lookup s0.map n.key = some e ∧ e.vid = n.vid) ∨ OpWrote op n.key n.vid) ∧
        lookup (stepOp cfg ops p0 o s0 op).1.map n.key = none ∧ OpQ op n) ∧
      ((stepOp cfg ops p0 o s0 op).1.removed.map (·.key)).Nodup := by
  have hcases : (stepOp cfg ops p0 o s0 op).1.removed = [] ∨ op = .clear ∨ Shape cfg op s0 (stepOp cfg ops p0 o s0 op).1 := by
    by_cases hc : op = .clear
    · exact .inr (.inl hc)
    · by_cases hr : op = .restore
      · subst hr
        left
        rcases stepOp_restore cfg ops o p0 s0 with ⟨_, he⟩ | ⟨sn, _, he⟩ <;> rw [he] <;> rfl
      · by_cases hg : ∃ c, op = .gate c
        · obtain ⟨c, rfl⟩ := hg
          exact .inl (by cases c <;> rfl)
        · exact .inr (.inr (stepOp_shape cfg ops p0 o s0 op hr (fun c h => hg ⟨c, h⟩) hc))
  rcases hcases with h | rfl | ⟨sm, s', rs, h1, _, h3, he, hk, hgone⟩
  · rw [h]; exact ⟨fun _ h => (nomatch h), List.nodup_nil⟩
  · obtain ⟨hmap, hrem, _⟩ := stepOp_clear cfg ops p0 o s0
    rw [hrem, hmap]
    refine ⟨?_, by rw [List.map_map]; exact hwf rfl⟩
    intro n hn'
    obtain ⟨p, hp, rfl⟩ := List.mem_map.1 hn'
    exact ⟨Or.inl ⟨p.2, lookup_of_mem_nodup (hwf rfl) hp, rfl⟩, rfl, rfl⟩
  · have hrem : (stepOp cfg ops p0 o s0 op).1.removed = rs := by
      rw [hk.1, he.removed, h1]; rfl
    rw [hrem]
    refine ⟨?_, he.nodup⟩
    intro n hn
    obtain ⟨e, h4, h5, h6⟩ := he.was n hn
    refine ⟨?_, hgone n hn, h6⟩
    rcases h3 _ _ h4 with g | g
    · exact Or.inl ⟨e, g, h5⟩
    · exact Or.inr (h5 ▸ g)

end Fv.Cache
