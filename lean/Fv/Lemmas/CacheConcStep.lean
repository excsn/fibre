import Fv.Cache.Conc
/-! The transitions of the concurrent cache model `Fv.Cache.Conc` as a relation. `Step c s t a l s'`: thread `t`, at
program counter `a`, takes the step labelled `l` from `s` to `s'`. One constructor for every enabled branch of a step
function, with what the branch found (the map lookup, the guards) as hypotheses and the successor state written out;
that the step is not `blocked` is not recorded. `Step.of_step` is the one place where the step functions are unfolded;
the invariants are case analyses of `Step`, which with `s.pc t` known offer only the constructors of that program
counter. -/
namespace Fv.Cache.Conc

inductive Step (c : Cfg) (s : State) (t : Nat) : PC → Label → State → Prop
  -- the environment: a resting thread is given a call; the clock advances
  | call {op a} (ht : t < c.nThreads) :
      Step c s t .idle (.call op a)
        { s with pc := upd s.pc t (startPC c s.now op), amode := upd s.amode t a, hist := s.hist ++ [.inv t op] }
  | recall {op a r} (ht : t < c.nThreads) :
      Step c s t (.done r) (.call op a)
        { s with pc := upd s.pc t (startPC c s.now op), amode := upd s.amode t a, hist := s.hist ++ [.inv t op] }
  | advance {a d} : Step c s t a (.advance d) { s with now := s.now + d }
  -- `get` / `fetch` / `peek`: the one read-lock section
  | readMiss {k p} (hm : s.map k = none) :
      Step c s t (.rd k p) .read { s with pc := upd s.pc t (.done none), hist := s.hist ++ [.rd t k none, .ret t none] }
  | readExpired {k p e} (hm : s.map k = some e) (hx : expired c s.now e = true) :
      Step c s t (.rd k p) .read { s with pc := upd s.pc t (.done none), hist := s.hist ++ [.rdExp t k, .ret t none] }
  | readRefresh {k p e} (hm : s.map k = some e) (hx : expired c s.now e = false)
      (hp : p = false) (htti : c.tti ≠ 0) :
      Step c s t (.rd k p) .read
        { s with map := upd s.map k (some { e with la := s.now }), pc := upd s.pc t (.done (some e.val)),
                 hist := s.hist ++ [.rd t k (some e.val), .ret t (some e.val)] }
  | readHit {k p e} (hm : s.map k = some e) (hx : expired c s.now e = false)
      (hp : p = true ∨ c.tti = 0) :
      Step c s t (.rd k p) .read
        { s with map := upd s.map k (some e), pc := upd s.pc t (.done (some e.val)),
                 hist := s.hist ++ [.rd t k (some e.val), .ret t (some e.val)] }
  -- `insert`: the write-lock section, then `current_cost`, the event buffer and cooperative maintenance
  | insOver {k v co ex la e} (hm : s.map k = some e) :
      Step c s t (.ins k v co ex la) .insMap
        { s with map := upd s.map k (some ⟨v, co, ex, la⟩), dom := addDom s.dom k,
                 hist := s.hist ++ [.wr t k v], pc := upd s.pc t (.insSub k co e.cost) }
  | insNew {k v co ex la} (hm : s.map k = none) :
      Step c s t (.ins k v co ex la) .insMap
        { s with map := upd s.map k (some ⟨v, co, ex, la⟩), dom := addDom s.dom k,
                 hist := s.hist ++ [.wr t k v], pc := upd s.pc t (.insEv k co) }
  | insSub {k co old} :
      Step c s t (.insSub k co old) .insSub { s with cur := s.cur - old, pc := upd s.pc t (.insEv k co) }
  | insEv {k co} :
      Step c s t (.insEv k co) .insEv
        { s with events := upd s.events (shardOf c k) (pushEv c.evCap (s.events (shardOf c k)) (k, co)),
                 pc := upd s.pc t (.insAdd k co) }
  | insAdd {k co} :
      Step c s t (.insAdd k co) .insAdd { s with cur := s.cur + co, pc := upd s.pc t (.insMaint k) }
  | coopSkip {k} :
      Step c s t (.insMaint k) .coopSkip { s with pc := upd s.pc t (.done none), hist := s.hist ++ [.ret t none] }
  | coopLock {k} (ha : s.amode t = false) (hfree : s.mlock (shardOf c k) = none) :
      Step c s t (.insMaint k) .coopLock
        { s with mlock := upd s.mlock (shardOf c k) (some t),
                 pc := upd s.pc t (startDrain ⟨shardOf c k, false⟩ c.coopLimit) }
  -- `remove` / `invalidate`: the write-lock section, then policy, `current_cost`, notification
  | rmMiss {k} (hm : s.map k = none) :
      Step c s t (.rm k) .rmMap { s with pc := upd s.pc t (.done none), hist := s.hist ++ [.rm t k none, .ret t none] }
  | rmHit {k e} (hm : s.map k = some e) :
      Step c s t (.rm k) .rmMap
        { s with map := upd s.map k none, nextRid := s.nextRid + 1,
                 removed := s.removed ++ [⟨s.nextRid, k, e.val, .invalidated⟩],
                 hist := s.hist ++ [.rm t k (some e.val)],
                 pc := upd s.pc t (.rmPol k e.val e.cost s.nextRid) }
  | rmPol {k v co rid} :
      Step c s t (.rmPol k v co rid) .rmPol { s with pc := upd s.pc t (.rmSub k v co rid) }
  | rmSub {k v co rid} :
      Step c s t (.rmSub k v co rid) .rmSub { s with cur := s.cur - co, pc := upd s.pc t (.rmNote k v rid) }
  | rmNote {k v rid sent} :
      Step c s t (.rmNote k v rid) (.rmNote sent)
        { s with notifs := if sent then s.notifs ++ [⟨rid, k, v, .invalidated⟩] else s.notifs,
                 pc := upd s.pc t (.done (some v)), hist := s.hist ++ [.ret t (some v)] }
  -- `compute` / `try_compute` (`try_compute_val`): one write-lock section; `fail` = `Arc::get_mut` refused
  | cmpMiss {k d loop fail} (hm : s.map k = none) :
      Step c s t (.cmp k d loop) (.compute fail) { s with pc := upd s.pc t (.done none), hist := s.hist ++ [.nf t k, .ret t none] }
  | cmpRetry {k d e} (hm : s.map k = some e) : Step c s t (.cmp k d true) (.compute true) s
  | cmpRefused {k d e} (hm : s.map k = some e) :
      Step c s t (.cmp k d false) (.compute true) { s with pc := upd s.pc t (.done (some 0)), hist := s.hist ++ [.ret t (some 0)] }
  | cmpDone {k d loop e} (hm : s.map k = some e) :
      Step c s t (.cmp k d loop) (.compute false)
        { s with map := upd s.map k (some { e with val := e.val + d }),
                 pc := upd s.pc t (.done (some 1)),
                 hist := s.hist ++ [.upd t k e.val d, .ret t (some 1)] }
  -- `entry().or_insert`
  | oiOccupied {k v co e} (hm : s.map k = some e) :
      Step c s t (.oi k v co) .oiMap
        { s with pc := upd s.pc t (.done (some e.val)), hist := s.hist ++ [.oiOcc t k e.val, .ret t (some e.val)] }
  | oiVacant {k v co la} (hm : s.map k = none) (hla : la = if c.tti = 0 then 0 else s.now) :
      Step c s t (.oi k v co) .oiMap
        { s with map := upd s.map k (some ⟨v, co, deadline c s.now none, la⟩),
                 dom := addDom s.dom k,
                 hist := s.hist ++ [.oiIns t k v], pc := upd s.pc t (.oiEv k v co) }
  | oiEv {k v co} :
      Step c s t (.oiEv k v co) .oiEv
        { s with events := upd s.events (shardOf c k) (pushEv c.evCap (s.events (shardOf c k)) (k, co)),
                 pc := upd s.pc t (.oiAdd k v co) }
  | oiAdd {k v co} :
      Step c s t (.oiAdd k v co) .oiAdd
        { s with cur := s.cur + co, pc := upd s.pc t (.done (some v)), hist := s.hist ++ [.ret t (some v)] }
  -- `clear`: every shard's write lock (in order; the async handle skips held shards), then the wipe
  | clrAcq {acq pend i} (hlt : i < c.nShards) (hi : i = acq.length + pend.length)
      (hfree : s.sheld i = none) :
      Step c s t (.clr acq pend) (.clrAcq i) { s with sheld := upd s.sheld i (some t), pc := upd s.pc t (.clr (acq ++ [i]) pend) }
  | clrSkip {acq pend i u} (hlt : i < c.nShards) (hi : i = acq.length + pend.length)
      (hheld : s.sheld i = some u) (ha : s.amode t = true) :
      Step c s t (.clr acq pend) (.clrAcq i) { s with pc := upd s.pc t (.clr acq (pend ++ [i])) }
  | clrGet {acq pend i} (ha : s.amode t = true) (hi : i ∈ pend)
      (hfree : s.sheld i = none) :
      Step c s t (.clr acq pend) (.clrGet i)
        { s with sheld := upd s.sheld i (some t), pc := upd s.pc t (.clr (acq ++ [i]) (pend.erase i)) }
  | clear {acq pend} (hall : acq.length = c.nShards) (hp : pend = []) :
      Step c s t (.clr acq pend) .clear
        { s with map := fun _ => none, cur := s.cur - residentCost s,
                 sheld := fun i => if s.sheld i = some t then none else s.sheld i,
                 pc := upd s.pc t (.done none), hist := s.hist ++ [.clear t, .ret t none] }
  -- `perform_shard_maintenance`: `maintenance_lock`, drain of the write events, admission, eviction of victims
  | mLock {sh limit full} (hfree : s.mlock sh = none) :
      Step c s t (.mLock sh limit full) .mLock { s with mlock := upd s.mlock sh (some t), pc := upd s.pc t (startDrain ⟨sh, full⟩ limit) }
  | recvEmpty {m left acc} (he : s.events m.sh = []) :
      Step c s t (.mDrain m left acc) .recv { s with pc := upd s.pc t (nextAdmit m acc) }
  | recvLast {m left acc e rest} (he : s.events m.sh = e :: rest) (hl : left ≤ 1) :
      Step c s t (.mDrain m left acc) .recv { s with events := upd s.events m.sh rest, pc := upd s.pc t (nextAdmit m (acc ++ [e])) }
  | recv {m left acc e rest} (he : s.events m.sh = e :: rest) (hl : ¬ left ≤ 1) :
      Step c s t (.mDrain m left acc) .recv
        { s with events := upd s.events m.sh rest, pc := upd s.pc t (.mDrain m (left - 1) (acc ++ [e])) }
  | admit {m w ws d} (hd : d = .admit ∨ d = .reject) :
      Step c s t (.mAdmit m (w :: ws)) (.admit d) { s with pc := upd s.pc t (nextAdmit m ws) }
  | evictNone {m w ws} :
      Step c s t (.mAdmit m (w :: ws)) (.admit (.evict [])) { s with pc := upd s.pc t (.mSub m ws 0 []) }
  | evict {m w ws v vs} :
      Step c s t (.mAdmit m (w :: ws)) (.admit (.evict (v :: vs))) { s with pc := upd s.pc t (.mVictim m ws (v :: vs) 0 []) }
  | victim {m ws vk vs tot notes e} (hm : s.map vk = some e) :
      Step c s t (.mVictim m ws (vk :: vs) tot notes) .victim
        { s with map := upd s.map vk none, nextRid := s.nextRid + 1,
                 removed := s.removed ++ [⟨s.nextRid, vk, e.val, .capacity⟩],
                 hist := s.hist ++ [.forget t vk e.val],
                 pc := upd s.pc t (afterVictim m ws vs (tot + e.cost) (notes ++ [⟨s.nextRid, vk, e.val, .capacity⟩])) }
  | victimGone {m ws vk vs tot notes} (hm : s.map vk = none) :
      Step c s t (.mVictim m ws (vk :: vs) tot notes) .victim { s with pc := upd s.pc t (afterVictim m ws vs tot notes) }
  | evSub {m ws tot notes} :
      Step c s t (.mSub m ws tot notes) .evSub { s with cur := s.cur - tot, pc := upd s.pc t (afterSub m ws notes) }
  | evNote {m ws n ns sent} :
      Step c s t (.mNote m ws (n :: ns)) (.evNote sent)
        { s with notifs := if sent then s.notifs ++ [n] else s.notifs, pc := upd s.pc t (afterSub m ws ns) }
  -- `cleanup_ttl_for_shard`, `cleanup_tti_for_shard`
  | ttlNone {m} : Step c s t (.mTtl m) (.ttlAdvance []) { s with pc := upd s.pc t (.mTti m) }
  | ttlSome {m k ks} :
      Step c s t (.mTtl m) (.ttlAdvance (k :: ks)) { s with pc := upd s.pc t (.mTtlMap m (k :: ks)) }
  | ttlMap {m expired sent} :
      Step c s t (.mTtlMap m expired) (.ttlMap sent)
        (let p := removeKeys c.nShards m.sh s.map expired
         let notes := mkNotes s.nextRid .expired p.2
         { s with map := p.1, cur := s.cur - removedCost p.2, nextRid := s.nextRid + p.2.length,
                  removed := s.removed ++ notes, notifs := if sent then s.notifs ++ notes else s.notifs,
                  hist := s.hist ++ forgetEvs t p.2, pc := upd s.pc t (.mTti m) })
  | ttiOff {m victims sent} (h0 : c.tti = 0) :
      Step c s t (.mTti m) (.ttiMap victims sent) { s with pc := upd s.pc t (.mCapLoad m) }
  | ttiMap {m victims sent} (h0 : ¬ c.tti = 0) :
      Step c s t (.mTti m) (.ttiMap victims sent)
        (let p := removeKeys c.nShards m.sh s.map (expiredOf c s victims)
         let notes := mkNotes s.nextRid .expired p.2
         { s with map := p.1, cur := s.cur - removedCost p.2, nextRid := s.nextRid + p.2.length,
                  removed := s.removed ++ notes, notifs := if sent then s.notifs ++ notes else s.notifs,
                  hist := s.hist ++ forgetEvs t p.2, pc := upd s.pc t (.mCapLoad m) })
  -- `cleanup_capacity_for_shard`, and the release of `maintenance_lock`
  | capUnder {m} (hc : obs s ≤ c.capacity) :
      Step c s t (.mCapLoad m) .capLoad { s with pc := upd s.pc t (.mUnlock m) }
  | capOver {m} (hc : ¬ obs s ≤ c.capacity) :
      Step c s t (.mCapLoad m) .capLoad { s with pc := upd s.pc t (.mCapEvict m (obs s - c.capacity)) }
  | capNone {m n released} :
      Step c s t (.mCapEvict m n) (.capEvict [] released) { s with pc := upd s.pc t (.mUnlock m) }
  | capEvict {m n v vs released} :
      Step c s t (.mCapEvict m n) (.capEvict (v :: vs) released) { s with pc := upd s.pc t (.mCapMap m (v :: vs) released) }
  | capMap {m victims released sent} :
      Step c s t (.mCapMap m victims released) (.capMap sent)
        (let p := removeKeys c.nShards m.sh s.map victims
         let notes := mkNotes s.nextRid .capacity p.2
         { s with map := p.1, nextRid := s.nextRid + p.2.length,
                  removed := s.removed ++ notes, notifs := if sent then s.notifs ++ notes else s.notifs,
                  hist := s.hist ++ forgetEvs t p.2,
                  drift := s.drift + removedCost p.2 - released,
                  dirty := s.dirty || decide (removedCost p.2 ≠ released),
                  pc := upd s.pc t (.mCapSub m released) })
  | capSub {m released} :
      Step c s t (.mCapSub m released) .capSub { s with cur := s.cur - released, pc := upd s.pc t (.mUnlock m) }
  | unlock {m} :
      Step c s t (.mUnlock m) .unlock
        { s with mlock := upd s.mlock m.sh none, pc := upd s.pc t (.done none), hist := s.hist ++ [.ret t none] }

theorem Step.of_step {c : Cfg} {s s' : State} {t : Nat} {l : Label} (h : step c s t l = some s') {a : PC}
    (hpc : s.pc t = a) : Step c s t a l s' := by
  replace h : step0 c s t l = some s' := by
    unfold step at h; split at h
    · cases h
    · exact h
  cases l <;>
    simp only [step0, stepCall, stepRead, stepInsMap, stepInsSub, stepInsEv, stepInsAdd, stepCoopSkip, stepCoopLock,
      stepRmMap, stepRmPol, stepRmSub, stepRmNote, stepCompute, stepOiMap, stepOiEv, stepOiAdd, stepClrAcq, stepClrGet,
      stepClear, stepMLock, stepRecv, stepAdmit, stepVictim, stepEvSub, stepEvNote, stepTtlAdvance, stepTtlMap,
      stepTtiMap, stepCapLoad, stepCapEvict, stepCapMap, stepCapSub, stepUnlock] at h
  all_goals try rw [hpc] at h
  -- one goal for every enabled branch
  all_goals (repeat' split at h)
  all_goals cases h
  all_goals try simp only [Bool.and_eq_true, Bool.or_eq_true, decide_eq_true_eq, beq_iff_eq, List.contains_iff_mem,
    List.isEmpty_iff, not_or, Bool.not_eq_true] at *
  all_goals subst_vars
  all_goals constructor <;> first | assumption | omega | simp [*]

theorem Reach.inv {c : Cfg} {P : State → Prop} (h0 : P Conc.init)
    (hstep : ∀ {s s' t l a}, P s → s.pc t = a → Step c s t a l s' → P s') {s : State} (h : Reach c s) : P s := by
  induction h with
  | init => exact h0
  | step _ hs ih => exact hstep ih rfl (.of_step hs rfl)

end Fv.Cache.Conc
