import Fv.Lemmas.Mpsc3BCore
/-! Every step of the `Mpsc3B` model is a core transition (`CStep`) on the ticket-level projection
`absC` or leaves it unchanged; hence `CInv` holds of every reachable state. -/
namespace Fv.Chan.Mpsc3B

def claimOf (x : Th) : Option Claim :=
  match x.pc with
  | .tCred => some ⟨x.tk, none⟩
  | .eId | .eRet | .eSpin | .eCas | .wSt => some ⟨x.tk, some x.okc⟩
  | _ => none

def phOf (x : Th) : CPh :=
  match x.pc with
  | .dRetire => .retire
  | .dEmpty => .taking x.skipd x.got
  | .pDr => .pub1 x.freed
  | .pPr => .pub2 x.freed
  | _ => .other

def cphOf (s : State) : CPh :=
  match s.mHead with
  | some t => phOf (s.th t)
  | none => .other

def absC (s : State) : Core :=
  { gtail := s.gtail, progress := s.progress, drained := s.drained, pos := s.hPos, unpub := s.hUnpub,
    cid := s.hCid, idx := s.hIdx, slot := s.slot, log := s.log, recvd := s.recvd, seq := s.seq,
    claim := fun p => claimOf (s.th p), cph := cphOf s }

theorem claimOf_quiet {x : Th} (h : quiet x.pc = true) : claimOf x = none := by
  unfold claimOf; generalize x.pc = p at h; cases p <;> first | rfl | cases h
theorem phOf_quiet {x : Th} (h : quiet x.pc = true) : phOf x = .other := by
  unfold phOf; generalize x.pc = p at h; cases p <;> first | rfl | cases h
theorem claimOf_hold {x : Th} (h : hold x.pc = true) : claimOf x = some ⟨x.tk, some x.okc⟩ := by
  unfold claimOf; generalize x.pc = p at h; cases p <;> first | rfl | cases h
theorem phOf_hold {x : Th} (h : hold x.pc = true) : phOf x = .other := by
  unfold phOf; generalize x.pc = p at h; cases p <;> first | rfl | cases h

theorem quiet_retPending (x : Th) : quiet (retPending x).pc = true := by unfold retPending; split <;> rfl
theorem quiet_parkSeqS (c : Cfg) (x : Th) : quiet (parkSeqS c x).pc = true := by unfold parkSeqS; split <;> rfl
theorem quiet_parkSeqR (c : Cfg) (x : Th) : quiet (parkSeqR c x).pc = true := by unfold parkSeqR; split <;> rfl
theorem quiet_tsOk (x : Th) : quiet (tsOk x).pc = true := by
  unfold tsOk retWith; repeat' split
  all_goals rfl
theorem quiet_deqDone (x : Th) : quiet (deqDone x).pc = true := by
  unfold deqDone retWith flushCall retPending; repeat' split
  all_goals rfl
theorem quiet_flushDone (c : Cfg) (x : Th) : quiet (flushDone c x).pc = true := by
  unfold flushDone retWith parkSeqR deqCall; repeat' split
  all_goals rfl

theorem claimOf_retPending (x : Th) : claimOf (retPending x) = none := claimOf_quiet (quiet_retPending x)
theorem phOf_retPending (x : Th) : phOf (retPending x) = .other := phOf_quiet (quiet_retPending x)
theorem claimOf_enterLoop (x : Th) : claimOf (enterLoop x) = none := rfl
theorem phOf_enterLoop (x : Th) : phOf (enterLoop x) = .other := rfl
theorem claimOf_parkSeqS (c : Cfg) (x : Th) : claimOf (parkSeqS c x) = none := claimOf_quiet (quiet_parkSeqS c x)
theorem phOf_parkSeqS (c : Cfg) (x : Th) : phOf (parkSeqS c x) = .other := phOf_quiet (quiet_parkSeqS c x)
theorem claimOf_parkSeqR (c : Cfg) (x : Th) : claimOf (parkSeqR c x) = none := claimOf_quiet (quiet_parkSeqR c x)
theorem phOf_parkSeqR (c : Cfg) (x : Th) : phOf (parkSeqR c x) = .other := phOf_quiet (quiet_parkSeqR c x)
theorem claimOf_flushCall (x : Th) (k : FlSite) : claimOf (flushCall x k) = none := rfl
theorem phOf_flushCall (x : Th) (k : FlSite) : phOf (flushCall x k) = .other := rfl
theorem claimOf_tsOk (x : Th) : claimOf (tsOk x) = none := claimOf_quiet (quiet_tsOk x)
theorem phOf_tsOk (x : Th) : phOf (tsOk x) = .other := phOf_quiet (quiet_tsOk x)
theorem phOf_deqDone (x : Th) : phOf (deqDone x) = .other := phOf_quiet (quiet_deqDone x)
theorem phOf_flushDone (c : Cfg) (x : Th) : phOf (flushDone c x) = .other := phOf_quiet (quiet_flushDone c x)

theorem tkRecv_match (r : List Tok) (sk : Bool) (g : Option Tok) :
    (match sk, g with
     | false, some y => r ++ [y]
     | _, _ => r) = tkRecv r sk g := by
  cases sk <;> cases g <;> rfl

theorem cphOf_free {s : State} (h : s.mHead = none) : cphOf s = .other := by
  simp [cphOf, h]

theorem cph_abs_holder {s : State} {t : Tid} (hm : s.mHead = some t) : (absC s).cph = phOf (s.th t) := by
  simp [absC, cphOf, hm]

theorem cph_holder {s' : State} {t : Tid} {x' : Th} {th : Tid → Th} (hm' : s'.mHead = some t) (hth : s'.th = upd th t x') :
    (absC s').cph = phOf x' := by
  rw [cph_abs_holder hm', hth, upd_same]

theorem cphOf_congr {s s' : State} {t : Tid} {x' : Th} (hth : s'.th = upd s.th t x') (hm : s'.mHead = s.mHead)
    (hp : phOf (s.th t) = phOf x') : cphOf s = cphOf s' := by
  unfold cphOf; rw [hm, hth]
  cases s.mHead with
  | none => rfl
  | some u => exact forall_upd (P := fun u y => phOf (s.th u) = phOf y) hp (fun _ _ => rfl) u

theorem absC_ext {s s' : State} {t : Tid} {x' : Th} {k : Core} (hth : s'.th = upd s.th t x')
    (hf : { absC s' with claim := k.claim, cph := k.cph } = k)
    (hc : k.claim = upd (absC s).claim t (claimOf x')) (hp : k.cph = cphOf s') : absC s' = k := by
  rw [← hf, hc, hp]
  simp only [absC, hth]
  congr 1
  funext u; simp only [upd_apply]; split <;> rfl

theorem sim_frame {l p s s' t x'} (hs : StepSum l p s s' t x') (hp : (s.th t).pc = p) (hc : coreStep p = false) :
    absC s' = absC s := by
  have e := hs.core.eq hc
  simp only [coreOf, Prod.mk.injEq] at e
  obtain ⟨e1, e2, e3, e4, e5, e6, e7, e8, e9, e10, e11, em⟩ := e
  have hq : claimOf x' = claimOf (s.th t) ∧ phOf x' = phOf (s.th t) := by
    rcases (flow_spec hs.loc.flow).core with h | ⟨h1, h2⟩ | ⟨h1, h2⟩
    · rw [hc] at h; cases h
    · rw [← hp] at h1
      exact ⟨(claimOf_quiet h2).trans (claimOf_quiet h1).symm, (phOf_quiet h2).trans (phOf_quiet h1).symm⟩
    · have := hs.loc.claim.eq (by rw [h1]; rfl)
      simp only [Prod.mk.injEq] at this
      rw [← hp] at h1
      exact ⟨by rw [claimOf_hold h2, claimOf_hold h1, this.1, this.2], (phOf_hold h2).trans (phOf_hold h1).symm⟩
  refine absC_ext hs.th ?_ (upd_self _ _ hq.1.symm) (cphOf_congr hs.th em hq.2.symm)
  simp only [absC, e1, e2, e3, e4, e5, e6, e7, e8, e9, e10, e11]

theorem CStep.to_eq {c : Cfg} {k k' k'' : Core} (h : CStep c k k'') (e : k' = k'') : CStep c k k' := e ▸ h

section Steps
variable {c : Cfg} {s s' : State} {t : Tid} {a : Act}

theorem sim_tFadd (hpc : (s.th t).pc = .tFadd) (h : nxTFadd c s t = some (a, s')) : CStep c (absC s) (absC s') := by
  simp only [nxTFadd, Option.some.injEq, Prod.mk.injEq] at h
  obtain ⟨-, rfl⟩ := h
  exact (CStep.fadd (absC s) t (claimOf_quiet (by rw [hpc]; rfl))).to_eq
    (absC_ext rfl rfl rfl (cphOf_congr rfl rfl (phOf_quiet (by rw [hpc]; rfl))))

theorem sim_tCred (hpc : (s.th t).pc = .tCred) (h : nxTCred c s t = some (a, s')) : CStep c (absC s) (absC s') := by
  simp only [nxTCred, Option.some.injEq, Prod.mk.injEq] at h
  obtain ⟨-, rfl⟩ := h
  exact (CStep.cred (absC s) t (s.th t).tk (s.th t).cold (by simp only [absC, claimOf, hpc])).to_eq
    (absC_ext rfl rfl rfl (cphOf_congr rfl rfl (by simp only [phOf, hpc])))

theorem sim_wSt (hpc : (s.th t).pc = .wSt) (h : nxWSt c s t = some (a, s')) : CStep c (absC s) (absC s') := by
  have hcl : ∀ b, (s.th t).okc = b → (absC s).claim t = some ⟨(s.th t).tk, some b⟩ :=
    fun b e => by simp only [absC, claimOf, hpc, e]
  simp only [nxWSt] at h
  split at h <;> simp only [Option.some.injEq, Prod.mk.injEq] at h <;> obtain ⟨-, rfl⟩ := h
  · exact (CStep.wset (absC s) t (s.th t).tk (s.th t).v (hcl _ ‹_›)).to_eq
      (absC_ext rfl rfl rfl (cphOf_congr rfl rfl (by simp only [phOf, hpc])))
  · exact (CStep.wskip (absC s) t (s.th t).tk (hcl _ (Bool.eq_false_iff.2 ‹_›))).to_eq
      (absC_ext rfl rfl rfl (cphOf_congr rfl rfl (by simp only [phOf, hpc])))

/-- `absC_ext` for a step that leaves `t` holding the head mutex, at pcs without a claim -/
theorem absC_holder {k : Core} {x' : Th} {s1 : State} (hm : s1.mHead = some t) (hth : s1.th = upd s.th t x')
    (hf : { absC s1 with claim := k.claim, cph := k.cph } = k) (hc : k.claim = (absC s).claim)
    (hcl : claimOf x' = claimOf (s.th t)) (hp : k.cph = phOf x') : absC s1 = k :=
  absC_ext hth hf (hc.trans (upd_self _ _ hcl.symm)) (hp.trans (by simp only [cphOf, hm, hth, upd_same]))

theorem sim_dId (hL : LInv s) (hpc : (s.th t).pc = .dId) (h : nxDId c s t = some (a, s')) :
    absC s' = absC s ∨ CStep c (absC s) (absC s') := by
  have hm := hL.head t (by rw [hpc]; rfl)
  have hph : (absC s).cph = .other := by rw [cph_abs_holder hm]; simp only [phOf, hpc]
  simp only [nxDId, Option.some.injEq, Prod.mk.injEq] at h
  obtain ⟨-, rfl⟩ := h
  split
  · exact .inl (absC_holder hm rfl rfl rfl (by simp only [claimOf, hpc]) hph)
  · split
    · exact .inr ((CStep.toRetire _ hph ‹_›).to_eq (absC_holder hm rfl rfl rfl (by simp only [claimOf, hpc]) rfl))
    · exact .inl (absC_holder hm rfl rfl rfl (by simp only [claimOf, hpc]) hph)

theorem sim_dRetire (hL : LInv s) (hpc : (s.th t).pc = .dRetire) (h : nxDRetire c s t = some (a, s')) :
    CStep c (absC s) (absC s') := by
  have hm := hL.head t (by rw [hpc]; rfl)
  simp only [nxDRetire, Option.some.injEq, Prod.mk.injEq] at h
  obtain ⟨-, rfl⟩ := h
  exact (CStep.retire _ (by rw [cph_abs_holder hm]; simp only [phOf, hpc])).to_eq
    (absC_holder hm rfl rfl rfl (by simp only [claimOf, hpc]) rfl)

theorem sim_dSlot (hL : LInv s) (hpc : (s.th t).pc = .dSlot) (h : nxDSlot c s t = some (a, s')) :
    absC s' = absC s ∨ CStep c (absC s) (absC s') := by
  have hm := hL.head t (by rw [hpc]; rfl)
  have hph : (absC s).cph = .other := by rw [cph_abs_holder hm]; simp only [phOf, hpc]
  simp only [nxDSlot] at h
  split at h <;> simp only [Option.some.injEq, Prod.mk.injEq] at h <;> obtain ⟨-, rfl⟩ := h
  · exact .inr ((CStep.look _ false (some _) hph ‹_›).to_eq (absC_holder hm rfl rfl rfl (by simp only [claimOf, hpc]) rfl))
  · exact .inr ((CStep.look _ true (s.th t).got hph ‹_›).to_eq (absC_holder hm rfl rfl rfl (by simp only [claimOf, hpc]) rfl))
  · exact .inl (absC_holder hm rfl rfl rfl (by simp only [claimOf, hpc]) hph)

theorem sim_dEmpty (hL : LInv s) (hpc : (s.th t).pc = .dEmpty) (h : nxDEmpty c s t = some (a, s')) :
    CStep c (absC s) (absC s') := by
  have hm := hL.head t (by rw [hpc]; rfl)
  have hph : (absC s).cph = .taking (s.th t).skipd (s.th t).got := by rw [cph_abs_holder hm]; simp only [phOf, hpc]
  simp only [nxDEmpty, Option.some.injEq, Prod.mk.injEq] at h
  obtain ⟨-, rfl⟩ := h
  by_cases hp : s.hK ≤ s.hUnpub + 1
  · refine (CStep.drainPub _ _ _ hph).to_eq (absC_holder hm rfl ?_ rfl ?_ ?_)
    · simp only [absC, hp, decide_true, if_true]; cases (s.th t).skipd <;> cases (s.th t).got <;> rfl
    · simp only [hp, decide_true, if_true, claimOf, hpc]
    · simp only [hp, decide_true, if_true, phOf]; rfl
  · refine (CStep.drainKeep _ _ _ hph).to_eq (absC_holder hm rfl ?_ rfl ?_ ?_)
    · simp only [absC, hp, decide_false, Bool.false_eq_true, if_false]; cases (s.th t).skipd <;> cases (s.th t).got <;> rfl
    · simp only [hp, decide_false, Bool.false_eq_true, if_false]; split <;> simp only [claimOf, hpc]
    · simp only [hp, decide_false, Bool.false_eq_true, if_false]; split <;> rfl

theorem sim_dDr (hL : LInv s) (hpc : (s.th t).pc = .dDr) (h : nxDDr c s t = some (a, s')) : CStep c (absC s) (absC s') := by
  have hm := hL.head t (by rw [hpc]; rfl)
  simp only [nxDDr, Option.some.injEq, Prod.mk.injEq] at h
  obtain ⟨-, rfl⟩ := h
  refine (CStep.mirror _ (by rw [cph_abs_holder hm]; simp only [phOf, hpc])).to_eq (absC_holder hm rfl rfl rfl ?_ ?_)
  · split <;> simp only [claimOf, hpc]
  · rw [cph_abs_holder hm]; split <;> simp only [phOf, hpc]

theorem sim_pDr (hL : LInv s) (hpc : (s.th t).pc = .pDr) (h : nxPDr c s t = some (a, s')) : CStep c (absC s) (absC s') := by
  have hm := hL.head t (by rw [hpc]; rfl)
  simp only [nxPDr, Option.some.injEq, Prod.mk.injEq] at h
  obtain ⟨-, rfl⟩ := h
  exact (CStep.pubDr _ (s.th t).freed (by rw [cph_abs_holder hm]; simp only [phOf, hpc])).to_eq
    (absC_holder hm rfl rfl rfl (by simp only [claimOf, hpc]) rfl)

theorem sim_pPr (hL : LInv s) (hpc : (s.th t).pc = .pPr) (h : nxPPr c s t = some (a, s')) : CStep c (absC s) (absC s') := by
  have hm := hL.head t (by rw [hpc]; rfl)
  simp only [nxPPr, Option.some.injEq, Prod.mk.injEq] at h
  obtain ⟨-, rfl⟩ := h
  exact (CStep.pubPr _ (s.th t).freed (by rw [cph_abs_holder hm]; simp only [phOf, hpc])).to_eq
    (absC_holder hm rfl rfl rfl (by simp only [claimOf, hpc]) rfl)

theorem sim_fLock (hpc : (s.th t).pc = .fLock) (h : nxFLock c s t = some (a, s')) :
    absC s' = absC s ∨ CStep c (absC s) (absC s') := by
  simp only [nxFLock] at h
  split at h
  · rename_i hm
    have hph : (absC s).cph = .other := cphOf_free hm
    split at h <;> simp only [Option.some.injEq, Prod.mk.injEq] at h <;> obtain ⟨-, rfl⟩ := h
    · exact .inr ((CStep.flushPub _ hph).to_eq (absC_holder rfl rfl rfl rfl (by simp only [claimOf, hpc]) rfl))
    · exact .inl (absC_holder rfl rfl rfl rfl (by simp only [claimOf, hpc]) hph)
  · cases h

theorem sim_dLock (hpc : (s.th t).pc = .dLock) (h : nxDLock c s t = some (a, s')) : absC s' = absC s := by
  simp only [nxDLock] at h
  split at h
  · rename_i hm
    simp only [Option.some.injEq, Prod.mk.injEq] at h
    obtain ⟨-, rfl⟩ := h
    exact absC_holder rfl rfl rfl rfl (by simp only [claimOf, hpc]) (cphOf_free hm)
  · cases h

theorem sim_unlock {x' : Th} (hL : LInv s) (hh : inHead (s.th t).pc = true) (hq : quiet (s.th t).pc = true)
    (hq' : quiet x'.pc = true) : absC { s with mHead := none, th := upd s.th t x' } = absC s := by
  have hm := hL.head t hh
  refine absC_ext rfl rfl (upd_self _ _ ((claimOf_quiet hq).trans (claimOf_quiet hq').symm)) ?_
  rw [show (absC s).cph = phOf (s.th t) from cph_abs_holder hm, phOf_quiet hq]; rfl

end Steps

theorem sim_step {c s t l s'} (hL : LInv s) (h : step c s t l = some s') :
    absC s' = absC s ∨ CStep c (absC s) (absC s') := by
  obtain ⟨⟨a, s1⟩, hA, rfl⟩ := Option.map_eq_some_iff.1 h
  obtain ⟨x', hs⟩ := step_sum rfl hA
  generalize hp : (s.th t).pc = p at hs
  by_cases hc : coreStep p = false
  · exact .inl (sim_frame hs hp hc)
  have hl : l = .act := by
    cases l <;> first | rfl | exact absurd (Bool.or_eq_false_iff.1 (Bool.or_eq_false_iff.1 hs.env).1).1 hc
  subst hl
  simp only [stepA, next, hp] at hA
  cases p <;> first | exact absurd rfl hc | skip
  case tFadd => exact .inr (sim_tFadd hp hA)
  case tCred => exact .inr (sim_tCred hp hA)
  case wSt => exact .inr (sim_wSt hp hA)
  case dLock => exact .inl (sim_dLock hp hA)
  case dId => exact sim_dId hL hp hA
  case dRetire => exact .inr (sim_dRetire hL hp hA)
  case dSlot => exact sim_dSlot hL hp hA
  case dEmpty => exact .inr (sim_dEmpty hL hp hA)
  case dDr => exact .inr (sim_dDr hL hp hA)
  case dUnlock =>
    simp only [nxDUnlock, Option.some.injEq, Prod.mk.injEq] at hA
    exact .inl (hA.2 ▸ sim_unlock hL (by rw [hp]; rfl) (by rw [hp]; rfl) (quiet_deqDone _))
  case pDr => exact .inr (sim_pDr hL hp hA)
  case pPr => exact .inr (sim_pPr hL hp hA)
  case fLock => exact sim_fLock hp hA
  case fUnlock =>
    simp only [nxFUnlock, Option.some.injEq, Prod.mk.injEq] at hA
    exact .inl (hA.2 ▸ sim_unlock hL (by rw [hp]; rfl) (by rw [hp]; rfl) (quiet_flushDone _ _))

theorem cinv_reach {c p s} (h : Reach c p s) : CInv c (absC s) :=
  reach_inv (cinv_init c) (fun hr ih hs => (sim_step (linv_reach hr) hs).elim (fun e => e ▸ ih) (cinv_step ih)) h

end Fv.Chan.Mpsc3B
