import Fv.Lemmas.IocSpec
/-!
For C18.  `World.Ext w w'` is everything a resolution (finished, panicked or out of fuel) can have done: same
slots, every provider only *evolved* (an empty singleton cell filled by one more factory run, a
transient counter grown), the id counter did not go back, the thread-local resolving set is restored.
`Reg.Kept r r' s` is what it says of one slot `s`; registrations of other slots keep that too.

Termination: `World.room w` counts the registered keys not in the resolving set. A nested resolution
that runs a factory first pushes such a key, so `room` strictly decreases along the nesting and
`regs.length + 1` levels of fuel always suffice.
-/
namespace Fv.Ioc

def Reg.slots (r : Reg) : List Slot := r.map (·.1)

theorem Reg.get_set_same (r : Reg) (s : Slot) (p : Provider) : (r.set s p).get s = some p := by
  induction r with
  | nil => simp [Reg.set, Reg.get]
  | cons e r ih =>
    obtain ⟨s', p'⟩ := e
    by_cases h : s' = s
    · simp [Reg.set, Reg.get, h]
    · simp [Reg.set, Reg.get, h, ih]

theorem Reg.get_set_other (r : Reg) {s s' : Slot} (p : Provider) (h : s ≠ s') :
    (r.set s' p).get s = r.get s := by
  induction r with
  | nil => simp [Reg.set, Reg.get, Ne.symm h]
  | cons e r ih =>
    obtain ⟨s'', p''⟩ := e
    by_cases h1 : s'' = s'
    · subst h1; simp [Reg.set, Reg.get, Ne.symm h]
    · by_cases h2 : s'' = s
      · subst h2; simp [Reg.set, Reg.get, h1]
      · simp [Reg.set, Reg.get, h1, h2, ih]

theorem Reg.get_eq_none_iff (r : Reg) (s : Slot) : r.get s = none ↔ s ∉ r.slots := by
  induction r with
  | nil => simp [Reg.get, Reg.slots]
  | cons e r ih =>
    obtain ⟨s', p'⟩ := e
    by_cases h : s' = s
    · simp [Reg.get, Reg.slots, h]
    · have h' : ¬ s = s' := fun e => h e.symm
      simp only [Reg.get, h, if_false, ih, Reg.slots, List.map_cons, List.mem_cons, h', false_or]

theorem Reg.slots_set_of_mem (r : Reg) (s : Slot) (p : Provider) (h : r.get s ≠ none) :
    (r.set s p).slots = r.slots := by
  induction r with
  | nil => simp [Reg.get] at h
  | cons e r ih =>
    obtain ⟨s', p'⟩ := e
    by_cases h1 : s' = s
    · simp [Reg.set, Reg.slots, h1]
    · have ih' := ih (by simpa [Reg.get, h1] using h)
      simp only [Reg.slots] at ih'
      simp [Reg.set, Reg.slots, h1, ih']

theorem Reg.keys_eq_map_slots (r : Reg) : r.keys = r.slots.map (·.k) := by
  simp [Reg.keys, Reg.slots, List.map_map, Function.comp_def]

theorem Reg.length_eq_of_slots_eq {r r' : Reg} (h : r'.slots = r.slots) : r'.length = r.length := by
  have := congrArg List.length h
  simpa [Reg.slots] using this

theorem Reg.key_mem_of_get {r : Reg} {s : Slot} {p : Provider} (h : r.get s = some p) : s.k ∈ r.keys := by
  have : s ∈ r.slots := Classical.not_not.1 fun hn => by simp [(Reg.get_eq_none_iff r s).2 hn] at h
  rw [Reg.keys_eq_map_slots]
  exact List.mem_map_of_mem this


def Provider.Evolves : Provider → Provider → Prop
  | .inst a, p' => p' = .inst a
  | .singleton sc (some id) r, p' => p' = .singleton sc (some id) r
  | .singleton sc none r, p' => p' = .singleton sc none r ∨ ∃ id, p' = .singleton sc (some id) (r + 1)
  | .transient sc r, p' => ∃ r', r ≤ r' ∧ p' = .transient sc r'

theorem Provider.Evolves.refl (p : Provider) : p.Evolves p := by
  cases p with
  | inst a => rfl
  | singleton sc cell r => cases cell <;> simp [Provider.Evolves]
  | transient sc r => exact ⟨r, Nat.le_refl _, rfl⟩

theorem Provider.Evolves.cases {p p' : Provider} (h : p.Evolves p') :
    p' = p ∨ (∃ sc r id, p = .singleton sc none r ∧ p' = .singleton sc (some id) (r + 1))
      ∨ ∃ sc r r', p = .transient sc r ∧ r ≤ r' ∧ p' = .transient sc r' := by
  cases p with
  | inst a => exact .inl h
  | singleton sc cell r =>
    cases cell with
    | some id => exact .inl h
    | none => exact h.imp id fun ⟨id, h⟩ => .inl ⟨sc, r, id, rfl, h⟩
  | transient sc r =>
    obtain ⟨r', hr, h⟩ := h
    exact .inr (.inr ⟨sc, r, r', rfl, hr, h⟩)

theorem Provider.Evolves.trans {p q t : Provider} (h1 : p.Evolves q) (h2 : q.Evolves t) : p.Evolves t := by
  rcases h1.cases with rfl | ⟨sc, r, id, rfl, rfl⟩ | ⟨sc, r, r', rfl, hr, rfl⟩
  · exact h2
  · simp only [Provider.Evolves] at h2
    subst h2; exact h1
  · obtain ⟨r'', hr', rfl⟩ := h2
    exact ⟨r'', Nat.le_trans hr hr', rfl⟩

structure World.Ext (w w' : World) : Prop where
  slots : w'.regs.slots = w.regs.slots
  evolves : ∀ s p, w.regs.get s = some p → ∃ p', w'.regs.get s = some p' ∧ p.Evolves p'
  next_le : w.next ≤ w'.next
  resolving : w'.resolving = w.resolving

theorem World.Ext.refl (w : World) : w.Ext w :=
  ⟨rfl, fun _ p h => ⟨p, h, Provider.Evolves.refl p⟩, Nat.le_refl _, rfl⟩

theorem World.Ext.trans {a b c : World} (h1 : a.Ext b) (h2 : b.Ext c) : a.Ext c := by
  refine ⟨h2.slots.trans h1.slots, ?_, Nat.le_trans h1.next_le h2.next_le, h2.resolving.trans h1.resolving⟩
  intro s p hp
  obtain ⟨p', hp', e1⟩ := h1.evolves s p hp
  obtain ⟨p'', hp'', e2⟩ := h2.evolves s p' hp'
  exact ⟨p'', hp'', e1.trans e2⟩

theorem World.Ext.get_none {w w' : World} (h : w.Ext w') {s : Slot} (hs : w.regs.get s = none) :
    w'.regs.get s = none := by
  rw [Reg.get_eq_none_iff] at hs ⊢
  rw [h.slots]; exact hs

def Reg.Kept (r r' : Reg) (s : Slot) : Prop :=
  (r.get s = none → r'.get s = none) ∧
  ∀ p, r.get s = some p → ∃ p', r'.get s = some p' ∧ p.Evolves p'

theorem World.Ext.kept {w w' : World} (h : w.Ext w') (s : Slot) : Reg.Kept w.regs w'.regs s :=
  ⟨h.get_none, h.evolves s⟩

theorem Reg.Kept.of_eq {r r' : Reg} {s : Slot} (h : r'.get s = r.get s) : Reg.Kept r r' s :=
  ⟨fun e => h.trans e, fun p e => ⟨p, h.trans e, .refl p⟩⟩

theorem Reg.Kept.trans {a b c : Reg} {s : Slot} (h1 : Reg.Kept a b s) (h2 : Reg.Kept b c s) :
    Reg.Kept a c s := by
  refine ⟨fun e => h2.1 (h1.1 e), fun p e => ?_⟩
  obtain ⟨p', hp', e1⟩ := h1.2 p e
  obtain ⟨p'', hp'', e2⟩ := h2.2 p' hp'
  exact ⟨p'', hp'', e1.trans e2⟩

theorem Reg.Kept.back {r r' : Reg} {s : Slot} (h : Reg.Kept r r' s) {p' : Provider}
    (hp' : r'.get s = some p') : ∃ p, r.get s = some p ∧ p.Evolves p' := by
  cases hget : r.get s with
  | none => rw [h.1 hget] at hp'; cases hp'
  | some p =>
    obtain ⟨p'', hp'', e⟩ := h.2 p hget
    rw [hp''] at hp'; cases hp'
    exact ⟨p, rfl, e⟩

theorem World.Ext.of_regs_next {w w' : World} (hr : w'.regs = w.regs) (hn : w'.next = w.next)
    (hs : w'.resolving = w.resolving) : w.Ext w' :=
  ⟨by rw [hr], fun s p h => ⟨p, by rw [hr]; exact h, Provider.Evolves.refl p⟩, by rw [hn]; exact Nat.le_refl _, hs⟩

theorem pop_push (w : World) (k : Key) : (w.push k).pop k = w := by
  cases w
  simp [World.push, World.pop]


def Outcome.abort? (o : Outcome) (req : Bool) : Option Abort :=
  match o with
  | .some _ => Option.none
  | .none => if req then Option.some (.panic .missing) else Option.none
  | .panic p => Option.some (.panic p)
  | .diverge => Option.some .diverge

theorem runScript_cons (res : World → Nat → Key → World × Outcome) (w : World) (d : Dep) (ds : List Dep) :
    runScript res w (d :: ds) =
      match (res w d.c d.k).2.abort? d.req with
      | some a => ((res w d.c d.k).1, some a)
      | none => runScript res (res w d.c d.k).1 ds := by
  simp only [runScript]
  generalize res w d.c d.k = r
  obtain ⟨w', o⟩ := r
  cases o <;> simp only [Outcome.abort?]
  split <;> rfl

theorem runScript_spec {res : World → Nat → Key → World × Outcome} {I : World → Prop}
    (hres : ∀ w c k, I w → I (res w c k).1) : ∀ (ds : List Dep) (w : World), I w →
    I (runScript res w ds).1 ∧
    match (runScript res w ds).2 with
    | some a => ∃ d ∈ ds, ∃ w', I w' ∧ (res w' d.c d.k).2.abort? d.req = some a
    | none => ∀ d ∈ ds, ∃ w', I w' ∧ (res w' d.c d.k).2.abort? d.req = none := by
  intro ds
  induction ds with
  | nil => intro w h; exact ⟨h, by simp [runScript]⟩
  | cons d ds ih =>
    intro w h
    rw [runScript_cons]
    cases hab : (res w d.c d.k).2.abort? d.req with
    | some a => exact ⟨hres _ _ _ h, d, List.mem_cons_self .., w, h, hab⟩
    | none =>
      obtain ⟨hi, hrest⟩ := ih _ (hres w d.c d.k h)
      refine ⟨hi, ?_⟩
      dsimp only at hrest ⊢
      split at hrest
      · next a heq =>
        rw [heq]
        obtain ⟨d', hd', hw'⟩ := hrest
        exact ⟨d', List.mem_cons_of_mem _ hd', hw'⟩
      · next heq =>
        rw [heq]
        intro d' hd'
        rcases List.mem_cons.1 hd' with rfl | hd'
        · exact ⟨w, h, hab⟩
        · exact hrest d' hd'

theorem runScript_inv {res : World → Nat → Key → World × Outcome} {I : World → Prop}
    (hres : ∀ w c k, I w → I (res w c k).1) {ds : List Dep} {w w2 : World} {r : Option Abort}
    (hr : runScript res w ds = (w2, r)) (h : I w) : I w2 := by
  have := (runScript_spec hres ds w h).1
  rwa [hr] at this

theorem runScript_ext {res : World → Nat → Key → World × Outcome}
    (hres : ∀ (w : World) c k, w.Ext (res w c k).1) {ds : List Dep} {w w2 : World} {r : Option Abort}
    (hr : runScript res w ds = (w2, r)) : w.Ext w2 :=
  runScript_inv (I := w.Ext) (fun w' c k h => h.trans (hres w' c k)) hr (.refl w)

theorem Provider.active_eq_some {p : Provider} {sc : List Dep} (h : p.active = some sc) :
    (∃ r, p = .singleton sc none r) ∨ ∃ r, p = .transient sc r := by
  cases p with
  | inst a => cases h
  | singleton sc0 cell r => cases cell <;> cases h; exact .inl ⟨r, rfl⟩
  | transient sc0 r => cases h; exact .inr ⟨r, rfl⟩

def Provider.ran : Provider → Nat → Provider
  | .singleton sc _ r, id => .singleton sc (some id) (r + 1)
  | .transient sc r, _ => .transient sc (r + 1)
  | p, _ => p

def Provider.id? : Provider → Option Nat
  | .inst id => some id
  | .singleton _ cell _ => cell
  | .transient _ _ => none

theorem resolveF_cases {motive : World × Outcome → Prop} {fuel : Nat} {w : World} {c : Nat} {k : Key}
    (cycle : k ∈ w.resolving → motive (w, .panic .cycle))
    (unreg : k ∉ w.resolving → w.regs.get ⟨c, k⟩ = none → motive (w, .none))
    (ready : ∀ p id, k ∉ w.resolving → w.regs.get ⟨c, k⟩ = some p → p.active = none →
      p.id? = some id → motive (w, .some id))
    (abort : ∀ p sc w2 a, k ∉ w.resolving → w.regs.get ⟨c, k⟩ = some p → p.active = some sc →
      runScript (resolveF fuel) (w.push k) sc = (w2, some a) → motive (w2.pop k, a.outcome))
    (made : ∀ p sc w2, k ∉ w.resolving → w.regs.get ⟨c, k⟩ = some p → p.active = some sc →
      runScript (resolveF fuel) (w.push k) sc = (w2, none) →
      motive ((w2.made ⟨c, k⟩ p.ran).1.pop k, .some w2.next)) :
    motive (resolveF (fuel + 1) w c k) := by
  simp only [resolveF]
  by_cases hk : k ∈ w.resolving
  · rw [if_pos hk]; exact cycle hk
  · rw [if_neg hk]
    have hg : (w.push k).regs.get ⟨c, k⟩ = w.regs.get ⟨c, k⟩ := rfl
    -- the two providers with a factory to run
    have run : ∀ p sc, w.regs.get ⟨c, k⟩ = some p → p.active = some sc →
        motive (match runScript (resolveF fuel) (w.push k) sc with
          | (w2, some a) => (w2.pop k, a.outcome)
          | (w2, none) => ((w2.made ⟨c, k⟩ p.ran).1.pop k, .some w2.next)) := by
      intro p sc hget hact
      split
      · next heq => exact abort p sc _ _ hk hget hact heq
      · next heq => exact made p sc _ hk hget hact heq
    rw [hg]
    cases hget : w.regs.get ⟨c, k⟩ with
    | none => simpa [pop_push] using unreg hk hget
    | some p =>
      cases p with
      | inst id => simpa [pop_push] using ready _ id hk hget rfl rfl
      | singleton sc cell runs =>
        cases cell with
        | some id => simpa [pop_push] using ready _ id hk hget rfl rfl
        | none => exact run _ sc hget rfl
      | transient sc runs => exact run _ sc hget rfl

theorem Provider.evolves_ran {p : Provider} {sc : List Dep} (h : p.active = some sc) (id : Nat) :
    p.Evolves (p.ran id) := by
  rcases Provider.active_eq_some h with ⟨r, rfl⟩ | ⟨r, rfl⟩
  · exact .inr ⟨id, rfl⟩
  · exact ⟨r + 1, Nat.le_succ _, rfl⟩

theorem made_ext {w w2 : World} {k : Key} {c : Nat} {p : Provider} (q : Nat → Provider)
    (hget : w.regs.get ⟨c, k⟩ = some p)
    (h12 : (w.push k).Ext w2) (hq : ∀ id, p.Evolves (q id)) :
    w.Ext ((w2.made ⟨c, k⟩ q).1.pop k) := by
  obtain ⟨p2, hp2, _⟩ := h12.evolves _ _ (show (w.push k).regs.get ⟨c, k⟩ = some p from hget)
  have hne : w2.regs.get ⟨c, k⟩ ≠ none := by rw [hp2]; simp
  refine ⟨?_, ?_, ?_, ?_⟩
  · simp only [World.made, World.pop]
    rw [Reg.slots_set_of_mem _ _ _ hne]
    exact h12.slots
  · intro s p0 hp0
    by_cases hs : s = ⟨c, k⟩
    · subst hs
      rw [hget] at hp0
      cases hp0
      exact ⟨q w2.next, by simp [World.made, World.pop, Reg.get_set_same], hq _⟩
    · obtain ⟨p', hp', e⟩ := h12.evolves s p0 hp0
      exact ⟨p', by simp only [World.made, World.pop]; rw [Reg.get_set_other _ _ hs]; exact hp', e⟩
  · have := h12.next_le
    simp only [World.made, World.pop, World.push] at this ⊢
    omega
  · have := h12.resolving
    simp only [World.made, World.pop, World.push] at this ⊢
    rw [this]; simp

theorem abort_ext {w w2 : World} {k : Key} (h12 : (w.push k).Ext w2) : w.Ext (w2.pop k) := by
  refine ⟨h12.slots, h12.evolves, h12.next_le, ?_⟩
  have := h12.resolving
  simp only [World.pop, World.push] at this ⊢
  rw [this]; simp

theorem resolveF_ext : ∀ (fuel : Nat) (w : World) (c : Nat) (k : Key), w.Ext (resolveF fuel w c k).1 := by
  intro fuel
  induction fuel with
  | zero => intro w c k; exact .refl w
  | succ fuel ih =>
    intro w c k
    exact resolveF_cases (motive := fun r => w.Ext r.1) (fun _ => .refl w) (fun _ _ => .refl w)
      (fun _ _ _ _ _ _ => .refl w) (fun _ _ _ _ _ _ _ hr => abort_ext (runScript_ext ih hr))
      (fun _ _ _ _ hget hact hr => made_ext _ hget (runScript_ext ih hr) (Provider.evolves_ran hact))

theorem resolve_ext (w : World) (c : Nat) (k : Key) : w.Ext (resolve w c k).1 := resolveF_ext _ w c k


def World.room (w : World) : Nat := w.regs.keys.countP (fun k => decide (k ∉ w.resolving))

theorem countP_lt_countP {α} {l : List α} {p q : α → Bool} (hqp : ∀ x, q x = true → p x = true)
    {k : α} (hk : k ∈ l) (hpk : p k = true) (hqk : q k = false) : l.countP q < l.countP p := by
  induction l with
  | nil => cases hk
  | cons a l ih =>
    have hmono : l.countP q ≤ l.countP p := List.countP_mono_left fun x _ => hqp x
    simp only [List.countP_cons]
    rcases List.mem_cons.1 hk with rfl | hk'
    · simp only [hpk, hqk, if_true]; simp; omega
    · have := ih hk'
      have : (if q a = true then 1 else 0) ≤ (if p a = true then 1 else 0) := by
        cases hq : q a <;> simp [hqp a, hq]
      omega

theorem World.room_le (w : World) : w.room ≤ w.regs.length := by
  have := List.countP_le_length (p := fun k => decide (k ∉ w.resolving)) (l := w.regs.keys)
  simpa [World.room, Reg.keys] using this

theorem World.room_push_lt {w : World} {k : Key} (hk : k ∈ w.regs.keys) (hn : k ∉ w.resolving) :
    (w.push k).room < w.room := by
  refine countP_lt_countP (fun x hx => ?_) hk (by simp [hn]) (by simp [World.push])
  simp only [World.push, List.mem_cons, not_or, decide_eq_true_eq] at hx ⊢
  exact hx.2

theorem World.Ext.room_eq {w w' : World} (h : w.Ext w') : w'.room = w.room := by
  simp only [World.room, Reg.keys_eq_map_slots, h.slots, h.resolving]

theorem Outcome.abort?_eq_some {o : Outcome} {req : Bool} {a : Abort}
    (h : o.abort? req = Option.some a) : o = a.outcome ∨ a = .panic .missing := by
  cases o <;> simp only [Outcome.abort?, Option.some.injEq, reduceCtorEq] at h
  · split at h <;> simp at h; exact .inr h.symm
  all_goals subst h; exact .inl rfl

theorem resolveF_total : ∀ (fuel : Nat) (w : World) (c : Nat) (k : Key),
    w.room < fuel → (resolveF fuel w c k).2 ≠ .diverge := by
  intro fuel
  induction fuel with
  | zero => intro w c k h; omega
  | succ fuel ih =>
    intro w c k hroom
    refine resolveF_cases (motive := fun r => r.2 ≠ .diverge) (fun _ => by simp) (fun _ _ => by simp)
      (fun _ _ _ _ _ _ => by simp) ?_ (fun _ _ _ _ _ _ _ => by simp)
    intro p sc w2 a hk hget hact hrun
    -- the nested resolutions start with less room, so none of them runs out of fuel
    have hlt : (w.push k).room < fuel := by
      have := World.room_push_lt (k := k) (Reg.key_mem_of_get (s := ⟨c, k⟩) hget) hk
      omega
    have := (runScript_spec (I := fun w' => w'.room = (w.push k).room)
      (fun w' c' k' hw' => ((resolveF_ext fuel w' c' k').room_eq).trans hw') sc _ rfl).2
    rw [hrun] at this
    obtain ⟨d, _, w', hw', hab⟩ := this
    cases a with
    | panic p => simp [Abort.outcome]
    | diverge =>
      exact absurd ((Outcome.abort?_eq_some hab).resolve_right (by simp)) (ih w' d.c d.k (by omega))

theorem resolve_total (w : World) (c : Nat) (k : Key) : (resolve w c k).2 ≠ .diverge :=
  resolveF_total _ w c k (by have := w.room_le; simp only [World.fuel]; omega)

end Fv.Ioc
