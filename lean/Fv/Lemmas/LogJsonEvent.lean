import Fv.Lemmas.LogJson
/-! C20 helper lemmas: what `format_event` puts into the map, what a reader finds there, and the event-level
round trip and single-line output of `JsonLinesFormatter`. -/
namespace Fv.Log.Json
open Fv.Log

theorem lookup_insertKV {α} (k k' : Text) (v : α) (m : List (Text × α)) :
    lookup k (insertKV k' v m) = if k = k' then some v else lookup k m := by
  fun_induction insertKV k' v m <;> simp_all [lookup]
  next k2 _ _ _ hne _ => by_cases h1 : k = k2 <;> by_cases h2 : k = k' <;> simp_all

theorem mem_insertKV {α} {k : Text} {v : α} {m : List (Text × α)} {e : Text × α} (h : e ∈ insertKV k v m) :
    e = (k, v) ∨ e ∈ m := by
  fun_induction insertKV k v m <;> simp_all
  · exact h.imp_right .inr
  · next ih => exact h.elim (.inr ∘ .inl) fun h => (ih h).imp_right .inr

theorem containsKey_eq_lookup {α} (k : Text) (m : List (Text × α)) : containsKey k m = (lookup k m).isSome := by
  fun_induction containsKey k m <;> simp_all [lookup]
  split <;> simp_all

/-- every map of `format_event` is built the same way: the entries `(k, x)` with `f x = some v` are inserted one by
one as `(k, v)`, and the flattened layout (`skip`) leaves a key alone that is already present -/
def addAll {α β} (f : β → Option α) (skip : Bool) (m : List (Text × α)) : List (Text × β) → List (Text × α)
  | [] => m
  | (k, x) :: rest =>
    addAll f skip (match f x with | some v => if skip && containsKey k m then m else insertKV k v m | none => m) rest

theorem lookup_addAll {α β} (f : β → Option α) (skip : Bool) (l : List (Text × β)) (hnd : (l.map (·.1)).Nodup)
    (m : List (Text × α)) (k : Text) :
    lookup k (addAll f skip m l) =
      if skip = true ∧ (lookup k m).isSome = true then lookup k m else ((lookup k l).bind f).or (lookup k m) := by
  induction l generalizing m with
  | nil => simp [addAll, lookup]
  | cons e rest ih =>
    obtain ⟨k2, x⟩ := e
    simp only [List.map_cons, List.nodup_cons] at hnd
    have hrest : lookup k2 rest = none := lookup_eq_none_of_not_mem _ _ hnd.1
    rw [addAll, ih hnd.2, lookup, containsKey_eq_lookup]
    by_cases hk : k = k2
    · subst hk
      cases skip <;> cases hfx : f x <;> cases hm : lookup k m <;> simp [hm, hfx, hrest, lookup_insertKV]
    · cases skip <;> cases f x <;> cases lookup k2 m <;> simp [hk, lookup_insertKV]

theorem forall_addAll {α β} {P : Text × α → Prop} (f : β → Option α) (skip : Bool) (l : List (Text × β)) (m : List (Text × α))
    (hm : ∀ e ∈ m, P e) (hl : ∀ k x v, (k, x) ∈ l → f x = some v → P (k, v)) : ∀ e ∈ addAll f skip m l, P e := by
  induction l generalizing m with
  | nil => exact hm
  | cons e rest ih =>
    refine ih _ ?_ fun k x v h => hl k x v (List.mem_cons_of_mem _ h)
    split
    · next v hv =>
      split
      · exact hm
      · exact fun e' he => (mem_insertKV he).elim (· ▸ hl e.1 e.2 v List.mem_cons_self hv) (hm e')
    · exact hm

theorem flattenInto_eq (m : List (Text × Value)) (l : List (Text × LogValue)) :
    flattenInto m l = addAll (fun v => some (.scalar (toJson v))) true m l := by
  induction l generalizing m with
  | nil => rfl
  | cons e rest ih => simp only [flattenInto, addAll, Bool.true_and, ih]

theorem nestedFields_eq (l : List (Text × LogValue)) (acc : List (Text × Scalar)) :
    nestedFields l acc = addAll (fun v => some (toJson v)) false acc l := by
  induction l generalizing acc with
  | nil => rfl
  | cons e rest ih => simp only [nestedFields, addAll, Bool.false_and, Bool.false_eq_true, if_false, ih]

theorem lookup_flattenInto_of_contains (l : List (Text × LogValue)) (m : List (Text × Value)) (k : Text)
    (h : containsKey k m = true) : lookup k (flattenInto m l) = lookup k m := by
  induction l generalizing m with
  | nil => rfl
  | cons e rest ih =>
    obtain ⟨k2, v2⟩ := e
    simp only [flattenInto]
    by_cases hc : containsKey k2 m = true
    · simp only [hc, if_true]; exact ih m h
    · simp only [hc, Bool.false_eq_true, if_false]
      have hne : k ≠ k2 := by intro hk; subst hk; exact hc h
      rw [ih _ (by rw [containsKey_eq_lookup, lookup_insertKV] at *; simp [hne, h]), lookup_insertKV, if_neg hne]


/-- the nine core keys with their values, in the order of the source -/
def coreList (ev : Event) : List (Text × Option Text) :=
  [(kTimestamp, some ev.timestamp), (kLevel, some ev.level.text), (kTarget, some ev.target), (kMessage, ev.message),
   (kName, some ev.name), (kSpanId, ev.spanId), (kParentId, ev.parentId), (kThreadId, ev.threadId),
   (kThreadName, ev.threadName)]

def strValue (o : Option Text) : Option Value := o.map fun s => .scalar (.str s)

theorem coreMap_eq (ev : Event) : coreMap ev = addAll strValue false [] (coreList ev) := by
  have opt : ∀ k o m rest, addAll strValue false m ((k, o) :: rest) = addAll strValue false (insertOpt k o m) rest :=
    fun k o m rest => by cases o <;> rfl
  simp only [coreList, opt]
  rfl

theorem lookup_coreMap (ev : Event) (k : Text) : lookup k (coreMap ev) = strValue ((lookup k (coreList ev)).join) := by
  rw [coreMap_eq, lookup_addAll strValue false (coreList ev) (show coreKeys.Nodup by decide)]
  rcases lookup k (coreList ev) with _ | _ | _ <;> rfl

theorem mem_coreMap {ev : Event} {e : Text × Value} (h : e ∈ coreMap ev) : e.1 ∈ coreKeys ∧ ∃ s, e.2 = .scalar (.str s) := by
  refine forall_addAll (P := fun e => e.1 ∈ coreKeys ∧ ∃ s, e.2 = .scalar (.str s)) strValue false (coreList ev) [] (by simp)
    (fun k x v hkx hv => ⟨(List.mem_map.2 ⟨_, hkx, rfl⟩ : k ∈ (coreList ev).map (·.1)), ?_⟩) e (coreMap_eq ev ▸ h)
  obtain ⟨s, _, rfl⟩ := Option.map_eq_some_iff.1 hv
  exact ⟨s, rfl⟩

/-- the float renderings supplied for finite floats are number tokens (serde_json always prints a
`.` or an exponent, so they are never integer tokens) -/
def FloatsOk (ev : Event) : Prop := ∀ k r d, (k, LogValue.float (some r) d) ∈ ev.fields → FloatTok r

/-- `fields` is a `HashMap`: keys are distinct -/
def KeysDistinct (ev : Event) : Prop := (ev.fields.map (·.1)).Nodup

theorem clean_record (fl : Bool) (ev : Event) (hf : FloatsOk ev) : ∀ e ∈ record fl ev, CleanValue e.2 := by
  have hcore : ∀ e ∈ coreMap ev, CleanValue e.2 := fun e he => by
    obtain ⟨_, s, hs⟩ := mem_coreMap he
    rw [hs]; trivial
  have hfield : ∀ {k v}, (k, v) ∈ ev.fields → CleanScalar (toJson v) := fun {k v} h => by
    match v, h with
    | .float (some r) d, h => exact hf k r d h
    | .float none _, _ | .str _, _ | .int _, _ | .bool _, _ | .debug _, _ => trivial
  intro e he
  simp only [record] at he
  split at he
  · exact hcore e he
  · split at he
    · exact forall_addAll (P := fun e => CleanValue e.2) (fun v => some (.scalar (toJson v))) _ _ _ hcore
        (fun k x v h hv => Option.some.inj hv ▸ hfield h) e (flattenInto_eq .. ▸ he)
    · rcases mem_insertKV he with rfl | h
      · exact nestedFields_eq .. ▸ forall_addAll (P := fun e => CleanScalar e.2) _ _ _ _ (by simp)
          (fun k x v h hv => Option.some.inj hv ▸ hfield h)
      · exact hcore e h

theorem parseLine_formatEvent (fl : Bool) (ev : Event) (hf : FloatsOk ev) :
    parseLine (formatEvent fl ev) = some (record fl ev) :=
  parseLine_serObj _ (clean_record fl ev hf)

theorem optionMatch_eq_map {α β} (o : Option α) (f : α → β) :
    (match o with | some v => some (f v) | none => none) = o.map f := by
  cases o <;> rfl

theorem lookup_record {fl : Bool} {ev : Event} {k : Text} (hk : k ≠ kFields) (hnd : KeysDistinct ev)
    (hf : fl = true → k ∉ ev.fields.map (·.1)) : lookup k (record fl ev) = lookup k (coreMap ev) := by
  simp only [record]
  split
  · rfl
  · split
    · next h => rw [flattenInto_eq, lookup_addAll _ _ _ hnd, lookup_eq_none_of_not_mem _ _ (hf h)]; simp
    · rw [lookup_insertKV, if_neg hk]

theorem viewOf_record {fl : Bool} {ev : Event} (hnd : KeysDistinct ev) (hf : fl = true → ∀ k ∈ coreKeys, k ∉ ev.fields.map (·.1)) :
    ∃ v, viewOf fl (record fl ev) = some v ∧ v.level = ev.level.text ∧ v.target = ev.target ∧ v.message = ev.message ∧
      v.fields = if fl then flatFields (record fl ev)
        else match lookup kFields (record fl ev) with
          | some (.obj kvs) => kvs
          | _ => [] := by
  have core : ∀ k ∈ coreKeys, k ≠ kFields → lookup k (record fl ev) = strValue ((lookup k (coreList ev)).join) :=
    fun k hk hne => (lookup_record hne hnd (hf · k hk)).trans (lookup_coreMap ev k)
  simp only [viewOf, core kLevel (by decide) (by decide), core kTarget (by decide) (by decide),
    core kMessage (by decide) (by decide)]
  exact ⟨_, rfl, rfl, rfl, by cases h : ev.message <;> simp (decide := true) [coreList, lookup, h, strValue, strOf], rfl⟩

theorem lookup_flatFields (rec : List (Text × Value)) (hs : ∀ e ∈ rec, ∃ s, e.2 = .scalar s) (k : Text) :
    lookup k (flatFields rec) =
      if coreKeys.contains k then none
      else match lookup k rec with
        | some (.scalar s) => some s
        | _ => none := by
  induction rec with
  | nil => simp [flatFields, lookup]
  | cons e rest ih =>
    obtain ⟨k2, v2⟩ := e
    obtain ⟨s, rfl⟩ : ∃ s, v2 = .scalar s := hs (k2, v2) (by simp)
    have ih' := ih (fun e he => hs e (by simp [he]))
    simp only [flatFields]
    by_cases hc : coreKeys.contains k2 = true <;> by_cases hkk : k = k2 <;> simp_all [lookup]

end Fv.Log.Json
