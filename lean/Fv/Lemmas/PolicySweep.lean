import Fv.Lemmas.PolicySpec
/-!
For C14: the policies whose victims come out of the middle of one list, named by an oracle (Random) or
found by a hand that sweeps over per-entry flags (SIEVE, Clock). Flags and hand do not show in
`tracked`; each eviction loop pops one tracked entry per round, so it is `Drained`.
-/
namespace Fv.Cache.Policy

/-- the loops run `while need > 0 && !items.is_empty()` -/
theorem done_of_not_guard {α} {need : Nat} {l : List α} (h : ¬(need > 0 ∧ l ≠ [])) :
    need ≤ 0 ∨ l = [] := by
  by_cases hl : l = []
  · exact .inr hl
  · exact .inl (Nat.le_of_not_lt fun hn => h ⟨hn, hl⟩)

namespace Random

theorem Inv_init : Inv init := by simp [Inv, init]

theorem Inv_remove {s : State} (h : Inv s) (k) : Inv (remove s k) := nodup_without k h

theorem evictWith_spec : ∀ (picks : List Nat) (s : State) (need : Nat) (vs : List Nat) (freed : Nat)
    (s' : State) (freed' : Nat), Inv s → evictWith s need picks freed = some (s', freed') →
    Inv s' ∧ Drained.Loop (· = []) s.items s'.items need vs freed (vs ++ picks, freed') := by
  intro picks
  induction picks with
  | nil =>
    intro s need vs freed s' freed' hinv he
    unfold evictWith at he
    split at he
    · simp at he
    · next hc =>
      simp only [Option.some.injEq, Prod.mk.injEq] at he
      obtain ⟨rfl, rfl⟩ := he
      exact ⟨hinv, by rw [List.append_nil]; exact .stop (done_of_not_guard hc)⟩
  | cons k ks ih =>
    intro s need vs freed s' freed' hinv he
    unfold evictWith at he
    split at he
    · split at he
      · next c hc =>
        obtain ⟨hi, hl⟩ := ih _ _ (vs ++ [k]) _ _ _ (Inv_remove hinv k) he
        exact ⟨hi, by simpa using hl.round (p := (k, c)) (perm_without hinv (mem_of_costOf hc))⟩
      · simp at he
    · simp at he

/-- `evictWith` as a total function of the picks, in the form of the other policies' `evict`: an
inadmissible pick list is not a run of the code and evicts nothing (so does `step`) -/
def ev (s : State) (n : Nat) (picks : List Nat) : State × List Nat × Nat :=
  match evictWith s n picks 0 with
  | some (s', f) => (s', picks, f)
  | none => (s, [], 0)

theorem ev_of_some {s s' : State} {n f : Nat} {picks : List Nat}
    (he : evictWith s n picks 0 = some (s', f)) : ev s n picks = (s', picks, f) := by
  simp [ev, he]

theorem mem_ev {s s' : State} {n f k : Nat} {picks : List Nat}
    (he : evictWith s n picks 0 = some (s', f)) (h : k ∈ picks) : k ∈ (ev s n picks).2.1 := by
  rw [ev_of_some he]; exact h

theorem contract : Contract step tracked Inv ev where
  admit h k c := ⟨nodup_push k c h, _, .of_push _ k c⟩
  access h k _ := ⟨h, .rfl' k⟩
  remove h k := ⟨Inv_remove h k, .of_without _ k⟩
  evict {s} h n p := by
    unfold ev; split
    · next s' f he =>
      obtain ⟨hi, hl⟩ := evictWith_spec p s n [] 0 s' f h he
      exact ⟨hl.evict.1.sound h, hi⟩
    · exact ⟨(Drained.nil _).sound h, h⟩
  step_evict s n p := by
    simp only [ev, step]
    cases evictWith s n p 0 <;> rfl
  clear _ := ⟨Inv_init, rfl⟩

end Random

namespace Sieve

theorem Inv_init : Inv init := by simp [Inv, init, tracked]

theorem tracked_access (s : State) (k c : Nat) : tracked (access s k c) = tracked s :=
  map_map_of_comp_eq (fun e => by simp only [pair]; split <;> rfl) _

theorem tracked_admit (s : State) (k c : Nat) :
    tracked (admit s k c).1 = (k, c) :: LruList.without (tracked s) k := by
  simp only [tracked, admit, List.map_cons, without_map]; rfl

theorem tracked_remove (s : State) (k : Nat) :
    tracked (remove s k) = LruList.without (tracked s) k := by
  simp only [tracked, remove, without_map]; rfl

theorem scan_spec : ∀ (fuel : Nat) (s s1 : State) (r : Option Ent), scan fuel s = (s1, r) →
    match r with
    | some e => (tracked s).Perm (pair e :: tracked s1)
    | none => tracked s1 = tracked s := by
  intro fuel
  induction fuel with
  | zero => intro s s1 r h; cases h; rfl
  | succ fuel ih =>
    intro s s1 r h
    unfold scan at h
    split at h
    · dsimp only at h
      split at h
      · cases h; rfl
      · next e0 he0 =>
        split at h
        · cases h; exact (perm_eraseIdx he0).map pair
        · have := ih _ _ _ h
          simp only [tracked] at this ⊢
          rwa [map_set_same (f := pair) (e' := { e0 with visited := false }) he0 rfl] at this
    · cases h; rfl

theorem evictLoop_spec : ∀ (fuel : Nat) (s : State) (need : Nat) (vs : List Nat) (freed : Nat),
    s.order.length < fuel →
    Drained.Loop (· = []) (tracked s) (tracked (evictLoop fuel s need vs freed).1) need vs freed
      (evictLoop fuel s need vs freed).2 := by
  intro fuel
  induction fuel with
  | zero => intro s _ _ _ hf; omega
  | succ fuel ih =>
    intro s need vs freed hf
    unfold evictLoop
    split
    · split
      · next s1 e hs =>
        have hp : (tracked s).Perm (pair e :: tracked s1) := scan_spec _ _ _ _ hs
        exact (ih s1 _ _ _ (by have := hp.length_eq; simp [tracked] at this; omega)).round hp
      · next s1 hs =>
        -- no unvisited entry up to the head: the hand wraps and the oldest entry goes
        have ht : tracked s1 = tracked s := scan_spec _ _ _ _ hs
        dsimp only
        split
        · next e hl =>
          obtain ⟨init, hinit⟩ := List.getLast?_eq_some_iff.1 hl
          have hp : (tracked s).Perm (pair e :: tracked { order := init, hand := 0 }) := by
            rw [← ht]; simp only [tracked, hinit, List.map_append, List.map_cons, List.map_nil]
            exact List.perm_append_comm
          simp only [hinit, List.dropLast_concat]
          exact (ih { order := init, hand := 0 } _ _ _ (show init.length < fuel by
            have := hp.length_eq; simp [tracked] at this; omega)).round hp
        · next hl =>
          have hnil : tracked s = [] := by rw [← ht]; simp [tracked, List.getLast?_eq_none_iff.1 hl]
          rw [show tracked { s1 with hand := 0 } = tracked s from ht]
          exact .stop (.inr hnil)
    · next hcond => exact .stop ((done_of_not_guard hcond).imp id (by simp [tracked]))

theorem evict_spec (s : State) (n : Nat) :
    Drained (tracked s) (tracked (evict s n).1) (evict s n).2.1 (evict s n).2.2
      ∧ (n ≤ (evict s n).2.2 ∨ tracked (evict s n).1 = []) :=
  (evictLoop_spec (s.order.length + 1) s n [] 0 (by omega)).evict

theorem contract : Contract step tracked Inv fun s n _ => evict s n where
  admit {s} h k c := by
    simp only [step, Inv, tracked_admit]; exact ⟨nodup_push k c h, _, .of_push _ k c⟩
  access {s} h k c := by simp only [step, Inv, tracked_access]; exact ⟨h, .rfl' k⟩
  remove {s} h k := by
    simp only [step, Inv, tracked_remove]; exact ⟨nodup_without k h, .of_without _ k⟩
  evict {s} h n _ := have := (evict_spec s n).1.sound h; ⟨this, this.nodup'⟩
  step_evict _ _ _ := rfl
  clear _ := ⟨Inv_init, rfl⟩

end Sieve

namespace Clock

theorem Inv_init : Inv init := by simp [Inv, init, tracked]

theorem tracked_access (s : State) (k c : Nat) : tracked (access s k c) = tracked s :=
  map_map_of_comp_eq (fun e => by simp only [pair]; split <;> rfl) _

theorem any_iff (s : State) (k : Nat) :
    s.order.any (fun e => e.key == k) = true ↔ k ∈ keys (tracked s) := by
  simp only [List.any_eq_true, tracked, keys, List.map_map, List.mem_map, Function.comp, pair, beq_iff_eq]

theorem admit_fst (s : State) (k c : Nat) :
    (admit s k c).1 = if k ∈ keys (tracked s) then s
      else { s with order := s.order ++ [{ key := k, cost := c, ref := false }] } := by
  simp only [admit, ← any_iff]

theorem tracked_admit_new (s : State) (k c : Nat) :
    tracked { s with order := s.order ++ [{ key := k, cost := c, ref := false }] }
      = tracked s ++ [(k, c)] := by
  simp [tracked, pair]

theorem admit_spec (s : State) (k c : Nat) : KeepOrAdd tracked Inv s (admit s k c).1 k c :=
  .of_ite (admit_fst s k c) fun hk => by
    have hp : (tracked s ++ [(k, c)]).Perm ((k, c) :: tracked s) := List.perm_append_comm
    rw [Inv, Inv, tracked_admit_new]
    exact ⟨fun h => (keys_perm hp).nodup_iff.2 (List.nodup_cons.2 ⟨hk, h⟩), hp⟩

theorem remove_spec {s : State} (h : Inv s) (k : Nat) :
    Inv (remove s k) ∧ RemoveOk (tracked s) (tracked (remove s k)) k := by
  unfold remove
  split
  · next pos hpos =>
    obtain ⟨hlt, hkey, _⟩ := List.findIdx?_eq_some_iff_getElem.1 hpos
    have hp : (tracked s).Perm ((k, s.order[pos].cost) :: (s.order.eraseIdx pos).map pair) := by
      have := (perm_eraseIdx (List.getElem?_eq_getElem hlt)).map pair
      simp only [beq_iff_eq] at hkey
      simpa [tracked, pair, hkey] using this
    -- removing the entry is draining it
    have hes := ((Drained.nil _).cons hp).sound h
    exact ⟨hes.nodup', fun p => (hes.kept p).trans (by simp)⟩
  · next hnone =>
    have hk : k ∉ keys (tracked s) := fun hk => by
      rw [List.findIdx?_eq_none_iff] at hnone
      obtain ⟨e, he, hek⟩ := List.any_eq_true.1 ((any_iff s k).2 hk)
      simp [hnone e he] at hek
    exact ⟨h, by simpa [without_eq_self hk] using RemoveOk.of_without (tracked s) k⟩

theorem countP_set_clear {l : List Ent} {i : Nat} {e : Ent} (h : l[i]? = some e) (hr : e.ref = true) :
    (l.set i { e with ref := false }).countP (·.ref) + 1 = l.countP (·.ref) := by
  induction l generalizing i with
  | nil => simp at h
  | cons a l ih =>
    cases i with
    | zero => simp at h; subst h; simp [hr]
    | succ i => simp at h; simp only [List.set_cons_succ, List.countP_cons]; have := ih h; omega

/-- the budget suffices: every step either takes the victim or uses up one referenced entry -/
theorem sweep_spec : ∀ (budget : Nat) (s : State), s.order ≠ [] →
    s.order.countP (·.ref) < budget →
    ∃ s1 e, sweep budget s = (s1, some e) ∧ (tracked s).Perm (pair e :: tracked s1) := by
  intro budget
  induction budget with
  | zero => intro s _ h; omega
  | succ budget ih =>
    intro s hne hc
    unfold sweep
    dsimp only
    have hlt : (if s.hand ≥ s.order.length then 0 else s.hand) < s.order.length := by
      have := List.length_pos_iff.2 hne
      split <;> omega
    generalize (if s.hand ≥ s.order.length then 0 else s.hand) = hd at hlt ⊢
    have hget := List.getElem?_eq_getElem hlt
    rw [hget]
    dsimp only
    by_cases href : s.order[hd].ref = true
    · rw [if_pos href]
      have hcnt := countP_set_clear hget href
      obtain ⟨s1, e, hs, hp⟩ := ih
        { order := s.order.set hd { s.order[hd] with ref := false }, hand := hd + 1 }
        (fun he => hne (by simpa using he)) (by simp only; omega)
      refine ⟨s1, e, hs, ?_⟩
      simp only [tracked] at hp ⊢
      rwa [map_set_same (f := pair) (e' := { s.order[hd] with ref := false }) hget rfl] at hp
    · rw [if_neg href]; exact ⟨_, _, rfl, (perm_eraseIdx hget).map pair⟩

theorem evictLoop_spec : ∀ (fuel : Nat) (s : State) (need : Nat) (vs : List Nat) (freed : Nat),
    s.order.length < fuel →
    Drained.Loop (· = []) (tracked s) (tracked (evictLoop fuel s need vs freed).1) need vs freed
      (evictLoop fuel s need vs freed).2 := by
  intro fuel
  induction fuel with
  | zero => intro s _ _ _ hf; omega
  | succ fuel ih =>
    intro s need vs freed hf
    unfold evictLoop
    split
    · next hcond =>
      obtain ⟨s1, e, hs, hp⟩ := sweep_spec (s.order.length * 2) s hcond.2 (by
        have := List.countP_le_length (p := (·.ref)) (l := s.order)
        have := List.length_pos_iff.2 hcond.2
        omega)
      rw [hs]
      exact (ih s1 _ _ _ (by have := hp.length_eq; simp [tracked] at this; omega)).round hp
    · next hcond => exact .stop ((done_of_not_guard hcond).imp id (by simp [tracked]))

theorem evict_spec (s : State) (n : Nat) :
    Drained (tracked s) (tracked (evict s n).1) (evict s n).2.1 (evict s n).2.2
      ∧ (n ≤ (evict s n).2.2 ∨ tracked (evict s n).1 = []) :=
  (evictLoop_spec (s.order.length + 1) s n [] 0 (by omega)).evict

theorem contract : Contract step tracked Inv fun s n _ => evict s n where
  admit h k c := ⟨(admit_spec _ k c).inv h, _, (admit_spec _ k c).ok⟩
  access {s} h k c := by simp only [step, Inv, tracked_access]; exact ⟨h, .rfl' k⟩
  remove h k := remove_spec h k
  evict {s} h n _ := have := (evict_spec s n).1.sound h; ⟨this, this.nodup'⟩
  step_evict _ _ _ := rfl
  clear _ := ⟨Inv_init, rfl⟩

end Clock

end Fv.Cache.Policy
