import Fv.Lemmas.OneshotBBase
/-! Every transition of the step-level oneshot model preserves `D6`, `W8`. The clauses of `W8` that speak of
some handle on its way to a wake have frame lemmas saying what a transition must leave alone. -/
namespace Fv.Chan.OneshotB

variable {s s' : State} {a : Ag}

theorem D6.step (A : AInv s) (t : Tr s a (s.loc a) s') : D6 s' := by
  have hi := A.d6
  have ha := hi.each a
  cases t
  case sCasEW | sStEmpty | sSwapSent =>
    have hI2 := A.i2
    exact ⟨by grind, each_upd (by grind) fun b _ => by grind⟩
  -- `closed`, `rdrop`, the state word: a sender claims the orphaned value only after it has seen `receiver_dropped`
  case cCasOwn | dSwapOwn | dcCasEC | dcCasST | ciStRdrop | ciCasEC | ciCasST =>
    have hJ3 := A.j3
    exact ⟨by grind, each_upd (by grind) fun b _ => by grind⟩
  -- the receiver is not inside a `send`: what it returns after a close or drop is not `Disconnected`
  case xLock | arcRel | fLdState_sent | fLdState =>
    have hJ1 := A.j1
    exact ⟨by grind, each_upd (by grind) fun b _ => by grind⟩
  case tLdState_sent | tCasST | tLock | tLock_none | tStClosed =>
    have hJ3 := A.j3; have hI3b := A.i3b
    exact ⟨by grind, each_upd (by grind) fun b _ => by grind⟩
  -- `Disconnected` after a failed CAS EMPTY→CLOSED: the state found is TAKEN or CLOSED
  case tLdCount2_zero | tCasEC | tCasEC_fail | pCasEC | pCasEC_fail =>
    have hI3b := A.i3b; have hSt := W.cases5 s.st
    exact ⟨by grind, each_upd (by grind) fun b _ => by grind⟩
  case ret | ret_poll =>
    exact ⟨by grind, each_upd (by grind) fun b _ => by grind⟩
  all_goals exact ⟨hi.g, each_upd (by grind) fun b _ => hi.each b⟩

theorem W8.At.step (A : AInv s) (t : Tr s a (s.loc a) s') : ∀ b, W8.At s'.waker s'.armed s'.rClosedIt b (s'.loc b) := by
  have hi := A.w8
  have ha := hi.each a
  cases t
  -- the waker is taken or registered, the receiver closes the state word itself, a try of a poll answers
  case wake_task | wake_fut | ciCasEC | tLdState_taken | tLdState_closed | tLdState_empty | tLdState_writing | tUnlock
      | tLdState2_taken | tLdState2_closed | tLdCount2_zero | tLdCount2 | tLdCount | tCasEC | tCasEC_fail | pCasEC
      | pReg_task | pReg_fut =>
    have hI3b := A.i3b; have hD6 := A.d6
    exact each_upd (by grind) fun b _ => by grind
  all_goals exact each_upd (by grind) fun b _ => hi.each b

theorem W8.W1.frame {l' : Loc} (h : W8.W1 s) (hl : s'.loc = upd s.loc a l') (hw : s'.waker = s.waker)
    (htok : s'.tok = s.tok)
    (hR : a = .R → ∀ t, l'.k = .recv t → (2 ≤ l'.stage ∨ l'.m = .park) →
      (s.loc a).k = .recv t ∧ (2 ≤ (s.loc a).stage ∨ (s.loc a).m = .park))
    (hk : ∀ t, (s.loc a).m = .wkUnpark t → l'.m = .wkUnpark t) : W8.W1 s' := by
  intro t hk' hst'
  rw [hl, hw, htok]
  refine (h t ?_ ?_).imp id (Or.imp id fun h => exists_upd (P := (·.m = .wkUnpark t)) h (hk t))
  all_goals
    rw [hl, upd_apply] at hk' hst'
    grind

theorem W8.W1.step (A : AInv s) (t : Tr s a (s.loc a) s') : W8.W1 s' := by
  have ha := A.w8.each a
  have h1 := A.w8.w1
  cases t
  -- the waker is taken (an executor waker goes on to `wkUnpark`) or registered, a token is given or consumed
  case wake_task | wake_fut | wkUnpark | pReg_task | pReg_fut | park =>
    unfold W8.W1 at h1 ⊢
    dsimp only [setLoc, sendDone, tryEnd, upd, updN]
    grind
  all_goals exact h1.frame rfl rfl rfl (by grind) (by grind)

theorem W8.C2.frame {G : State → Prop} {P : Mic → Prop} {l' : Loc} (h : W8.C2 G P s) (hl : s'.loc = upd s.loc a l')
    (hw : s'.waker = s.waker) (hG : G s' → G s) (har : s'.armed = true → s.armed = true)
    (hR : a = .R → 2 ≤ l'.stage → l'.m = .tLdCount → 2 ≤ (s.loc a).stage ∧ (s.loc a).m = .tLdCount)
    (hk : P (s.loc a).m → P l'.m) : W8.C2 G P s' := by
  intro hw' har' hG'
  rw [hl]
  refine exists_upd (P := (P ·.m)) (h (hw ▸ hw') ?_ (hG hG')) hk
  rw [hl, upd_apply] at har'
  grind

theorem W8.C2s.step (A : AInv s) (t : Tr s a (s.loc a) s') : W8.C2s s' := by
  have ha := A.w8.each a
  have h1 := A.w8.c2s
  cases t
  -- SENT is written only by `sSwapSent`, which goes on to `wake`; a try of a poll answers Pending only when it found
  -- the state word not SENT
  case sCasEW | sStEmpty | sSwapSent | wake_none | wake_task | wake_fut | dcCasEC | dcCasST | ciCasEC | ciCasST
      | tLdState_taken | tLdState_empty | tLdState_writing | tCasST | tStClosed | tUnlock | tLdState2_taken | tLdCount2
      | tLdCount | tCasEC | pCasEC | pReg_task | pReg_fut =>
    have hR := A.i3b.each .R; have hU := (A.d6.each .R).dU
    unfold W8.C2s W8.C2 at h1 ⊢
    dsimp only [setLoc, sendDone, tryEnd, upd, updN]
    grind
  all_goals exact h1.frame rfl rfl id (by grind) (by grind) (by grind)

theorem W8.C2c.step (A : AInv s) (t : Tr s a (s.loc a) s') : W8.C2c s' := by
  have ha := A.w8.each a
  have h1 := A.w8.c2c
  cases t
  -- as for `C2s`; `decrement_senders` leaves its tail without a wake only when it found SENT or TAKEN; a sender that
  -- closes the state word goes on to `wake`, the receiver sets `rClosedIt`
  case sCasEW | sStEmpty | sSwapSent | wake_none | wake_task | wake_fut | cCasOwn | dSwapOwn | dcCasEC | dcLdState_sent
      | dcCasST | dcLdState3_taken | dcLdState4_sent | ciCasEC | ciCasST | tLdState_taken | tLdState_empty
      | tLdState_writing | tCasST | tStClosed | tUnlock | tLdState2_taken | tLdCount2 | tLdCount | tCasEC | pCasEC
      | pReg_task | pReg_fut =>
    have hp := (A.w8.each .R).pns; have hR := A.i3b.each .R; have hU := (A.d6.each .R).dU
    unfold W8.C2c W8.C2 at h1 ⊢
    dsimp only [setLoc, sendDone, tryEnd, upd, updN]
    grind
  all_goals exact h1.frame rfl rfl id (by grind) (by grind) (by grind)

theorem W8.step (A : AInv s) (t : Tr s a (s.loc a) s') : W8 s' :=
  ⟨W8.At.step A t, W8.W1.step A t, W8.C2s.step A t, W8.C2c.step A t⟩

end Fv.Chan.OneshotB
