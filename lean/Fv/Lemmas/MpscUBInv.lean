import Fv.Chan.MpscUB
import Fv.Lemmas.ChainBStep
import Fv.Lemmas.ChainBFrame
import Fv.Lemmas.Common
/-!
`MpscUB` on top of `ChainB`. Every step of the channel model leaves the chain component unchanged or performs exactly
one step of the chain model on it, so the chain component of a reachable channel state is a reachable chain state and
every chain theorem applies to it. Group A of the channel-level invariants: the values handed to receive calls are
exactly the values taken out of the chain, in order (`taken ++ rout ++ pending = ch.recvd`).

Both are read off one case analysis of each step function. Outside the receiver's pop phase a step delivers nothing and
moves the chain, if at all, by a label other than `pop_node`'s load and return (`QuietCh`).
-/
namespace Fv.Chan.MpscUB
open Fv.Chan.ChainB (cPend step_recvd popLoad_recvd cRet_recvd)

variable {cfg : Cfg} {s s' : State}

def ChainMove (cfg : Cfg) (s s' : State) : Prop :=
  s'.ch = s.ch ∨ ∃ a cl, ChainB.step cfg.chain s.ch a cl = some s'.ch

abbrev quietL (l : ChainB.Label) : Prop := l ≠ .cPopLoad ∧ l ≠ .cRet

abbrev QuietCh (cfg : Cfg) (s s' : State) : Prop :=
  s'.ch = s.ch ∨ ∃ a l, quietL l ∧ ChainB.step cfg.chain s.ch a l = some s'.ch

theorem QuietCh.move (h : QuietCh cfg s s') : ChainMove cfg s s' :=
  h.imp id fun ⟨a, l, _, hc⟩ => ⟨a, l, hc⟩

theorem ChainMove.congr {s1 : State} (h : s'.ch = s1.ch) (hm : ChainMove cfg s s1) : ChainMove cfg s s' := by
  unfold ChainMove; rw [h]; exact hm

theorem pNext_quiet {c : ChainB.State} {h : Nat} {l : ChainB.Label} (e : pNext cfg c h = some l) : quietL l := by
  unfold pNext at e
  repeat' split at e
  all_goals cases e <;> exact ⟨nofun, nofun⟩

theorem cNext_quiet {c : ChainB.State} {l : ChainB.Label} (e : cNext c = some l) : quietL l := by
  unfold cNext at e
  repeat' split at e
  all_goals cases e <;> exact ⟨nofun, nofun⟩

/-- from `hs : o = some s'`, where every branch of `o` is `none`, `some _` or `(ChainB.step …).map/.bind _`:
in each branch replace `s'` by its value and hand the fact `QuietCh cfg s s'` to `k` -/
syntax "quiet_close " ident " => " term : tactic
macro_rules
  | `(tactic| quiet_close $hs => $k) => `(tactic| (
      repeat' split at $hs:ident
      all_goals first
        | cases $hs:ident
        | (simp only [Option.map_eq_some_iff, Option.bind_eq_some_iff] at $hs:ident; obtain ⟨c, hc, he⟩ := $hs)
      all_goals try (repeat' split at he)
      all_goals try cases he
      all_goals first
        | exact $k (.inl rfl)
        | exact $k (.inr ⟨_, _, pNext_quiet (by assumption), hc⟩)
        | exact $k (.inr ⟨_, _, cNext_quiet (by assumption), hc⟩)
        | exact $k (.inr ⟨_, _, by simp [quietL], hc⟩)))

theorem callS_quiet {t h : Nat} {op : SOp} (hs : stepCallS cfg s t h op = some s') :
    s'.taken = s.taken ∧ s'.rout = s.rout ∧ s'.rpc = s.rpc ∧ QuietCh cfg s s' := by
  unfold stepCallS at hs
  dsimp only [sArcRelease] at hs
  quiet_close hs => fun q => ⟨rfl, rfl, rfl, q⟩

theorem stepS_quiet {h : Nat} (hs : stepS cfg s h = some s') :
    s'.taken = s.taken ∧ s'.rout = s.rout ∧ s'.rpc = s.rpc ∧ QuietCh cfg s s' := by
  unfold stepS stepS_chk stepS_chain stepS_rec stepS_nLoadS stepS_nLockS stepS_nUnlockS stepS_nUnparkS stepS_nLoadA
    stepS_nLockA stepS_nUnlockA stepS_wakeA stepS_unparkA stepS_closeChain stepS_wLockS stepS_wUnparkS stepS_wLockA
    stepS_fin at hs
  dsimp only [sArcRelease, sAfterClose] at hs
  quiet_close hs => fun q => ⟨rfl, rfl, rfl, q⟩

def popPhase : RPC → Bool
  | .pop | .inPop | .cons | .senders => true
  | _ => false

structure InvA (s : State) : Prop where
  out : s.ch.recvd = s.taken ++ s.rout ++ cPend s.ch.cpc
  quiet : popPhase s.rpc = false → s.rout = []
  send0 : s.rpc = .senders → s.rout = []
  pend : s.rpc ≠ .inPop → cPend s.ch.cpc = []

theorem invA_init : InvA init := by
  constructor <;> simp [init, ChainB.init, cPend, popPhase]

theorem InvA.quiet_step (hi : InvA s) (ht : s'.taken = s.taken) (hq : QuietCh cfg s s')
    (hr : s'.rout = s.rout ∧ s'.rpc = s.rpc ∨ popPhase s.rpc = false ∧ (s'.rout = s.rout ∨ s'.rout = [])) :
    InvA s' := by
  obtain ⟨hrec, hpe⟩ : s'.ch.recvd = s.ch.recvd ∧ cPend s'.ch.cpc = cPend s.ch.cpc := by
    rcases hq with e | ⟨a, l, ⟨h1, h2⟩, hc⟩
    · rw [e]; exact ⟨rfl, rfl⟩
    · exact step_recvd h1 h2 hc
  rcases hr with ⟨hr, hp⟩ | ⟨hp, hr⟩
  · exact ⟨by rw [hrec, hpe, ht, hr]; exact hi.out, by rw [hp, hr]; exact hi.quiet,
      by rw [hp, hr]; exact hi.send0, by rw [hp, hpe]; exact hi.pend⟩
  · have h0 := hi.quiet hp
    have hpd := hi.pend (by intro e; rw [e] at hp; cases hp)
    have hr' : s'.rout = [] := by rcases hr with e | e <;> simp [e, h0]
    have ho := hi.out
    rw [h0, hpd] at ho
    exact ⟨by rw [hrec, hpe, ht, hr', hpd]; exact ho, fun _ => hr', fun _ => hr', fun _ => by rw [hpe]; exact hpd⟩

theorem triDone_eff {res : TRes} (hs : triDone s res = some s') :
    s'.ch = s.ch ∧ ((∃ vs, res = .ok vs ∧ s'.taken = s.taken ++ vs ∧ s'.rout = []) ∨
      (s'.taken = s.taken ∧ s'.rout = s.rout ∧ ∀ vs, res ≠ .ok vs)) := by
  cases res <;> simp only [triDone, rTry] at hs <;> (repeat' split at hs) <;> cases hs <;> simp

theorem invA_triDone {res : TRes} (hout : s.ch.recvd = s.taken ++ s.rout) (hp : cPend s.ch.cpc = [])
    (hres : res = .ok s.rout ∨ s.rout = [] ∧ ∀ vs, res ≠ .ok vs) (hs : triDone s res = some s') : InvA s' := by
  obtain ⟨hc, he⟩ := triDone_eff hs
  have h0 : s'.rout = [] ∧ s'.taken = s.taken ++ s.rout := by
    rcases he with ⟨vs, e, ht, hr⟩ | ⟨ht, hr, hn⟩ <;> rcases hres with e' | ⟨e', hn'⟩
    · rw [e'] at e; cases e; exact ⟨hr, ht⟩
    · exact absurd e (hn' vs)
    · exact absurd e' (hn _)
    · simp [hr, ht, e']
  exact ⟨by rw [hc, hp, h0.1, h0.2, hout]; simp, fun _ => h0.1, fun _ => h0.1, fun _ => by rw [hc]; exact hp⟩

theorem invA_callR {t : Nat} {op : ROp} (hi : InvA s) (hs : stepCallR s t op = some s') :
    InvA s' ∧ ChainMove cfg s s' := by
  unfold stepCallR at hs
  split at hs
  · rename_i hg
    quiet_close hs => fun q => ⟨hi.quiet_step rfl q (.inr ⟨by rw [hg.2.1]; rfl, .inr rfl⟩), q.move⟩
  · cases hs

theorem invA_ret {t : Nat} (hi : InvA s) (hs : stepRet s t = some s') : InvA s' ∧ ChainMove cfg s s' := by
  unfold stepRet at hs
  repeat' split at hs
  all_goals cases hs
  · exact ⟨hi.quiet_step (cfg := cfg) rfl (.inl rfl) (.inl ⟨rfl, rfl⟩), .inl rfl⟩
  · rename_i hd
    exact ⟨hi.quiet_step (cfg := cfg) rfl (.inl rfl) (.inr ⟨by rw [hd]; rfl, .inl rfl⟩), .inl rfl⟩

theorem invA_stepR (hi : InvA s) (hs : stepR cfg s = some s') : InvA s' ∧ ChainMove cfg s s' := by
  have ho := hi.out
  unfold stepR at hs
  split at hs
  case h_4 hpc =>  -- pop: `pop_node`'s load
    have hp := hi.pend (by rw [hpc]; simp)
    obtain ⟨c, hc, he⟩ := Option.map_eq_some_iff.1 hs
    subst he
    have hf := popLoad_recvd hc
    exact ⟨by constructor <;> simp_all [popPhase], .inr ⟨_, _, hc⟩⟩
  case h_5 hpc =>  -- inPop
    unfold stepR_inPop at hs
    split at hs
    · rename_i r hcpc  -- `pop_node` returns
      obtain ⟨c, hc, he⟩ := Option.bind_eq_some_iff.1 hs
      obtain ⟨hrec, hidle, _⟩ := cRet_recvd hc
      have hmv : ChainMove cfg s { s with ch := c } := .inr ⟨_, _, hc⟩
      rw [hcpc] at ho
      cases r with
      | some v =>
        cases he
        exact ⟨by constructor <;> simp_all [popPhase], hmv⟩
      | none =>
        have hout : c.recvd = s.taken ++ s.rout := by simpa [hrec] using ho
        have hpe : cPend c.cpc = [] := by rw [hidle]; rfl
        dsimp only at he
        repeat' split at he
        · rename_i hne
          exact ⟨invA_triDone (s := { s with ch := c }) hout hpe (.inl rfl) he, hmv.congr (triDone_eff he).1⟩
        · rename_i hne _
          exact ⟨invA_triDone (s := { s with ch := c }) (res := .disc) hout hpe
              (.inr ⟨by simpa using hne, fun _ => nofun⟩) he,
            hmv.congr (triDone_eff he).1⟩
        · rename_i hne _
          cases he
          exact ⟨by constructor <;> simp_all [popPhase], hmv⟩
    · split at hs  -- retire actions
      · rename_i l hl
        obtain ⟨c, hc, he⟩ := Option.map_eq_some_iff.1 hs
        subst he
        obtain ⟨h1, h2⟩ := cNext_quiet hl
        have hf := step_recvd h1 h2 hc
        have := hi.quiet; have := hi.send0
        exact ⟨by constructor <;> simp_all [popPhase], .inr ⟨_, _, hc⟩⟩
      · cases hs
  case h_6 hpc =>  -- cons
    have hp := hi.pend (by rw [hpc]; simp)
    rw [hp] at ho
    unfold stepR_cons at hs
    split at hs
    · cases hs; exact ⟨by constructor <;> simp_all [popPhase], .inl rfl⟩
    · exact ⟨invA_triDone (s := { s with consumed := s.consumed + 1 }) (by simpa using ho) hp (.inl rfl) hs,
        .inl (triDone_eff hs).1⟩
  case h_7 hpc =>  -- senders
    have hp := hi.pend (by rw [hpc]; simp)
    have h0 := hi.send0 hpc
    rw [hp] at ho
    unfold stepR_senders at hs
    repeat' split at hs
    · exact ⟨invA_triDone (res := .empty) (by simpa using ho) hp (.inr ⟨h0, fun _ => nofun⟩) hs,
        .inl (triDone_eff hs).1⟩
    all_goals cases hs; exact ⟨by constructor <;> simp_all [popPhase], .inl rfl⟩
  all_goals
    try simp only [stepR_closedLoad, stepR_park, stepR_swapFlag, stepR_uCntA, stepR_closeCas, stepR_closeSwap,
      stepR_dropStore, stepR_emptyLoad, stepR_fin, rTry, rArcRelease] at hs
    quiet_close hs => fun q => ⟨hi.quiet_step rfl q (.inr ⟨by simp [popPhase, *], by simp⟩), q.move⟩

theorem invA_step {t : Nat} {l : Label} (hi : InvA s) (hs : step cfg s t l = some s') :
    InvA s' ∧ ChainMove cfg s s' := by
  have sender : s'.taken = s.taken ∧ s'.rout = s.rout ∧ s'.rpc = s.rpc ∧ QuietCh cfg s s' →
      InvA s' ∧ ChainMove cfg s s' :=
    fun ⟨ht, hr, hp, hq⟩ => ⟨hi.quiet_step ht hq (.inl ⟨hr, hp⟩), hq.move⟩
  cases l <;> simp only [step] at hs
  · exact sender (callS_quiet hs)
  · exact invA_callR hi hs
  · unfold stepAdv at hs
    repeat' split at hs
    · cases hs
    · exact sender (stepS_quiet hs)
    · cases hs
    · exact invA_stepR hi hs
    · cases hs
  · exact invA_ret hi hs

theorem reach_both {s : State} (h : Reach cfg s) : InvA s ∧ ChainB.Reach cfg.chain s.ch := by
  induction h with
  | init => exact ⟨invA_init, ChainB.Reach.init⟩
  | step _ hs ih =>
    obtain ⟨hA, e | ⟨a, cl, hc⟩⟩ := invA_step ih.1 hs
    · exact ⟨hA, e ▸ ih.2⟩
    · exact ⟨hA, ChainB.Reach.step ih.2 hc⟩

theorem invA_reach {cfg : Cfg} {s : State} (h : Reach cfg s) : InvA s := (reach_both h).1

theorem reach_chain {cfg : Cfg} {s : State} (h : Reach cfg s) : ChainB.Reach cfg.chain s.ch := (reach_both h).2

theorem chain_inv {cfg : Cfg} {s : State} (hN : 0 < cfg.chain.N) (h : Reach cfg s) : ChainB.Inv cfg.chain s.ch :=
  ChainB.inv_reach hN (reach_chain h)

theorem reach_run {cfg : Cfg} (tr : List (Nat × Label)) (s0 s : State) (h0 : Reach cfg s0)
    (h : run cfg s0 tr = some s) : Reach cfg s :=
  run_closed (fun _ => rfl) (fun _ _ _ _ => rfl) Reach.step tr s0 s h0 h

end Fv.Chan.MpscUB
