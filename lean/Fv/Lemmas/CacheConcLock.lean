import Fv.Lemmas.CacheConc
/-! Lock discipline of the concurrent cache model. A thread is inside a maintenance pass of shard `sh`
iff it holds `maintenance_lock[sh]`, so at most one thread at a time drains a shard's write-event buffer
(what `store.rs` relies on for its `unsafe impl Sync for Shard`). A thread holds a shard's map write lock
across steps iff it is a `clear` that has acquired it. -/
namespace Fv.Cache.Conc

/-- `f x i`: a thread at program counter `x` holds lock `i` -/
def Owns (f : PC → Nat → Prop) (pc : Nat → PC) (lk : Nat → Option Nat) : Prop :=
  ∀ t i, f (pc t) i ↔ lk i = some t

namespace Owns
variable {f : PC → Nat → Prop} {pc : Nat → PC} {lk : Nat → Option Nat} (h : Owns f pc lk) (t : Nat) (x : PC)
include h

theorem frame (hx : ∀ i, f x i ↔ f (pc t) i) : Owns f (upd pc t x) lk := by
  intro u i
  by_cases hu : u = t
  · rw [hu, upd_same, hx]; exact h t i
  · rw [upd_other _ _ _ _ hu]; exact h u i

theorem acquire (i : Nat) (hf : lk i = none) (hx : ∀ j, f x j ↔ f (pc t) j ∨ j = i) :
    Owns f (upd pc t x) (upd lk i (some t)) := by
  intro u j
  have := h u j
  by_cases hu : u = t <;> by_cases hj : j = i <;> simp_all [upd, eq_comm]

theorem release (R : Nat → Prop) [DecidablePred R] (hR : ∀ j, R j ↔ lk j = some t) (hx : ∀ j, ¬ f x j) :
    Owns f (upd pc t x) (fun j => if R j then none else lk j) := by
  intro u j
  have := h u j
  by_cases hu : u = t <;> by_cases hj : R j <;> simp_all [upd, eq_comm]

theorem unique {t u i : Nat} (ht : f (pc t) i) (hu : f (pc u) i) : t = u :=
  Option.some.inj (((h t i).1 ht).symm.trans ((h u i).1 hu))

theorem free {i : Nat} (hn : ∀ t, ¬ f (pc t) i) : lk i = none := by
  cases hl : lk i with
  | none => rfl
  | some t => exact absurd ((h t i).2 hl) (hn t)

end Owns

/-- the shard whose maintenance pass the thread is in -/
def holds : PC → Option Nat
  | .mDrain m _ _ => some m.sh
  | .mAdmit m _ => some m.sh
  | .mVictim m _ _ _ _ => some m.sh
  | .mSub m _ _ _ => some m.sh
  | .mNote m _ _ => some m.sh
  | .mTtl m => some m.sh
  | .mTtlMap m _ => some m.sh
  | .mTti m => some m.sh
  | .mCapLoad m => some m.sh
  | .mCapEvict m _ => some m.sh
  | .mCapMap m _ _ => some m.sh
  | .mCapSub m _ => some m.sh
  | .mUnlock m => some m.sh
  | _ => none

@[simp] theorem holds_idle  : holds (.idle ) = none := rfl
@[simp] theorem holds_done {r} : holds (.done r) = none := rfl
@[simp] theorem holds_rd {k p} : holds (.rd k p) = none := rfl
@[simp] theorem holds_ins {k v c e l} : holds (.ins k v c e l) = none := rfl
@[simp] theorem holds_insSub {k} {c} {old} : holds (.insSub k c old) = none := rfl
@[simp] theorem holds_insEv {k} {c} : holds (.insEv k c) = none := rfl
@[simp] theorem holds_insAdd {k} {c} : holds (.insAdd k c) = none := rfl
@[simp] theorem holds_insMaint {k} : holds (.insMaint k) = none := rfl
@[simp] theorem holds_rm {k} : holds (.rm k) = none := rfl
@[simp] theorem holds_rmPol {k} {v} {c} {rid} : holds (.rmPol k v c rid) = none := rfl
@[simp] theorem holds_rmSub {k} {v} {c} {rid} : holds (.rmSub k v c rid) = none := rfl
@[simp] theorem holds_rmNote {k} {v} {rid} : holds (.rmNote k v rid) = none := rfl
@[simp] theorem holds_cmp {k} {d} {l} : holds (.cmp k d l) = none := rfl
@[simp] theorem holds_oi {k} {v} {c} : holds (.oi k v c) = none := rfl
@[simp] theorem holds_oiEv {k} {v} {c} : holds (.oiEv k v c) = none := rfl
@[simp] theorem holds_oiAdd {k} {v} {c} : holds (.oiAdd k v c) = none := rfl
@[simp] theorem holds_clr {a p} : holds (.clr a p) = none := rfl
@[simp] theorem holds_mLock {a} {b} {f} : holds (.mLock a b f) = none := rfl
@[simp] theorem holds_mDrain {m} {l} {a} : holds (.mDrain m l a) = some m.sh := rfl
@[simp] theorem holds_mAdmit {m} {ws} : holds (.mAdmit m ws) = some m.sh := rfl
@[simp] theorem holds_mVictim {m} {ws} {vs} {tot} {ns} : holds (.mVictim m ws vs tot ns) = some m.sh := rfl
@[simp] theorem holds_mSub {m} {ws} {tot} {ns} : holds (.mSub m ws tot ns) = some m.sh := rfl
@[simp] theorem holds_mNote {m} {ws} {ns} : holds (.mNote m ws ns) = some m.sh := rfl
@[simp] theorem holds_mTtl {m} : holds (.mTtl m) = some m.sh := rfl
@[simp] theorem holds_mTtlMap {m} {e} : holds (.mTtlMap m e) = some m.sh := rfl
@[simp] theorem holds_mTti {m} : holds (.mTti m) = some m.sh := rfl
@[simp] theorem holds_mCapLoad {m} : holds (.mCapLoad m) = some m.sh := rfl
@[simp] theorem holds_mCapEvict {m} {n} : holds (.mCapEvict m n) = some m.sh := rfl
@[simp] theorem holds_mCapMap {m} {v} {r} : holds (.mCapMap m v r) = some m.sh := rfl
@[simp] theorem holds_mCapSub {m} {r} : holds (.mCapSub m r) = some m.sh := rfl
@[simp] theorem holds_mUnlock {m} : holds (.mUnlock m) = some m.sh := rfl
@[simp] theorem holds_afterWrites (m : MCtx) : holds (afterWrites m) = some m.sh := by unfold afterWrites; split <;> rfl
@[simp] theorem holds_nextAdmit (m : MCtx) (ws) : holds (nextAdmit m ws) = some m.sh := by
  cases ws <;> simp [nextAdmit]
@[simp] theorem holds_startDrain (m : MCtx) (l) : holds (startDrain m l) = some m.sh := by
  unfold startDrain; split <;> simp
@[simp] theorem holds_afterSub (m : MCtx) (ws ns) : holds (afterSub m ws ns) = some m.sh := by
  cases ns <;> simp [afterSub]
@[simp] theorem holds_afterVictim (m : MCtx) (ws vs tot ns) : holds (afterVictim m ws vs tot ns) = some m.sh := by
  cases vs <;> rfl
@[simp] theorem holds_startPC (c : Cfg) (n : Nat) (op : Op) : holds (startPC c n op) = none := by cases op <;> rfl

def InvL (s : State) : Prop := Owns (fun pc sh => holds pc = some sh) s.pc s.mlock

theorem invL_init : InvL init := by intro t i; simp [init]

theorem invL_step {c : Cfg} {s s' : State} {t : Nat} {l : Label} {a : PC} (hi : InvL s) (hpc : s.pc t = a)
    (h : Step c s t a l s') : InvL s' := by
  cases h with
  | advance | cmpRetry => exact hi
  -- `insert`'s cooperative maintenance and `maint` calls take the lock …
  | coopLock _ hfree | mLock hfree => exact hi.acquire t _ _ hfree fun j => by simp [hpc, eq_comm]
  -- … and the end of the pass gives it back
  | unlock => exact hi.release t _ _ (fun j => by rw [← hi t j, hpc]; simp [eq_comm]) (by simp)
  | _ => exact hi.frame t _ fun i => by simp [*]

theorem invL_reach {c : Cfg} {s : State} (h : Reach c s) : InvL s := h.inv invL_init invL_step

/-- the shards whose map write lock the thread holds between steps (only `clear` does) -/
def holdsShards : PC → List Nat
  | .clr acq _ => acq
  | _ => []

@[simp] theorem hsh_clr {a p} : holdsShards (.clr a p) = a := rfl
@[simp] theorem hsh_idle  : holdsShards (.idle ) = [] := rfl
@[simp] theorem hsh_done {r} : holdsShards (.done r) = [] := rfl
@[simp] theorem hsh_rd {k} {p} : holdsShards (.rd k p) = [] := rfl
@[simp] theorem hsh_ins {k} {v} {c} {e} {l} : holdsShards (.ins k v c e l) = [] := rfl
@[simp] theorem hsh_insSub {k} {c} {old} : holdsShards (.insSub k c old) = [] := rfl
@[simp] theorem hsh_insEv {k} {c} : holdsShards (.insEv k c) = [] := rfl
@[simp] theorem hsh_insAdd {k} {c} : holdsShards (.insAdd k c) = [] := rfl
@[simp] theorem hsh_insMaint {k} : holdsShards (.insMaint k) = [] := rfl
@[simp] theorem hsh_rm {k} : holdsShards (.rm k) = [] := rfl
@[simp] theorem hsh_rmPol {k} {v} {c} {rid} : holdsShards (.rmPol k v c rid) = [] := rfl
@[simp] theorem hsh_rmSub {k} {v} {c} {rid} : holdsShards (.rmSub k v c rid) = [] := rfl
@[simp] theorem hsh_rmNote {k} {v} {rid} : holdsShards (.rmNote k v rid) = [] := rfl
@[simp] theorem hsh_cmp {k} {d} {l} : holdsShards (.cmp k d l) = [] := rfl
@[simp] theorem hsh_oi {k} {v} {c} : holdsShards (.oi k v c) = [] := rfl
@[simp] theorem hsh_oiEv {k} {v} {c} : holdsShards (.oiEv k v c) = [] := rfl
@[simp] theorem hsh_oiAdd {k} {v} {c} : holdsShards (.oiAdd k v c) = [] := rfl
@[simp] theorem hsh_mLock {a} {b} {f} : holdsShards (.mLock a b f) = [] := rfl
@[simp] theorem hsh_mDrain {m} {l} {a} : holdsShards (.mDrain m l a) = [] := rfl
@[simp] theorem hsh_mAdmit {m} {ws} : holdsShards (.mAdmit m ws) = [] := rfl
@[simp] theorem hsh_mVictim {m} {ws} {vs} {tot} {ns} : holdsShards (.mVictim m ws vs tot ns) = [] := rfl
@[simp] theorem hsh_mSub {m} {ws} {tot} {ns} : holdsShards (.mSub m ws tot ns) = [] := rfl
@[simp] theorem hsh_mNote {m} {ws} {ns} : holdsShards (.mNote m ws ns) = [] := rfl
@[simp] theorem hsh_mTtl {m} : holdsShards (.mTtl m) = [] := rfl
@[simp] theorem hsh_mTtlMap {m} {e} : holdsShards (.mTtlMap m e) = [] := rfl
@[simp] theorem hsh_mTti {m} : holdsShards (.mTti m) = [] := rfl
@[simp] theorem hsh_mCapLoad {m} : holdsShards (.mCapLoad m) = [] := rfl
@[simp] theorem hsh_mCapEvict {m} {n} : holdsShards (.mCapEvict m n) = [] := rfl
@[simp] theorem hsh_mCapMap {m} {v} {r} : holdsShards (.mCapMap m v r) = [] := rfl
@[simp] theorem hsh_mCapSub {m} {r} : holdsShards (.mCapSub m r) = [] := rfl
@[simp] theorem hsh_mUnlock {m} : holdsShards (.mUnlock m) = [] := rfl
@[simp] theorem hsh_afterWrites (m : MCtx) : holdsShards (afterWrites m) = [] := by unfold afterWrites; split <;> rfl
@[simp] theorem hsh_nextAdmit (m : MCtx) (ws) : holdsShards (nextAdmit m ws) = [] := by
  cases ws <;> simp [nextAdmit]
@[simp] theorem hsh_startDrain (m : MCtx) (l) : holdsShards (startDrain m l) = [] := by
  unfold startDrain; split <;> simp
@[simp] theorem hsh_afterSub (m : MCtx) (ws ns) : holdsShards (afterSub m ws ns) = [] := by
  cases ns <;> simp [afterSub]
@[simp] theorem hsh_afterVictim (m : MCtx) (ws vs tot ns) : holdsShards (afterVictim m ws vs tot ns) = [] := by
  cases vs <;> rfl
@[simp] theorem hsh_startPC (c : Cfg) (n : Nat) (op : Op) : holdsShards (startPC c n op) = [] := by cases op <;> rfl

def InvS (s : State) : Prop := Owns (fun pc i => i ∈ holdsShards pc) s.pc s.sheld

theorem invS_init : InvS init := by intro t i; simp [init]

theorem invS_step {c : Cfg} {s s' : State} {t : Nat} {l : Label} {a : PC} (hi : InvS s) (hpc : s.pc t = a)
    (h : Step c s t a l s') : InvS s' := by
  cases h with
  | advance | cmpRetry => exact hi
  -- `clear` takes a free shard (first poll, or a later poll of the async handle) …
  | clrAcq _ _ hfree | clrGet _ _ hfree => exact hi.acquire t _ _ hfree fun j => by simp [hpc]
  -- … and releases all of them when it is done
  | clear => exact hi.release t _ _ (fun _ => Iff.rfl) (by simp)
  | _ => exact hi.frame t _ fun i => by simp [*]

theorem invS_reach {c : Cfg} {s : State} (h : Reach c s) : InvS s := h.inv invS_init invS_step

end Fv.Cache.Conc
