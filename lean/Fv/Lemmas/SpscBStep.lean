import Fv.Lemmas.SpscBRing
/-! What one step of the SPSC step-level model does, as a relation `Act` proved once against `step`: the steps that
change only the acting thread's locals (`QAct`), those of `Ring::push` / `pop` (`RingAct`), and one constructor for
each action on a waiter slot, the close flags or the handle. Only `afterPush` and `afterPop` stay as terms; result
values, and the locals of a fresh call that no invariant reads, are left open. -/
namespace Fv.Chan.SpscB

/-- steps of `r` (at `l`) that change only its locals; the value is the successor locals -/
inductive QAct (s : State) (r : Role) (l : Loc) : Loc → Prop
  -- `notify_*`
  | nfFence : l.m = .nfFence → QAct s r l { l with m := .nfLdGate }
  | nfLdGateSome : l.m = .nfLdGate → s.gate (other r) ≠ 0 → QAct s r l { l with m := .wkLock }
  | nfLdGateZero (res) : l.m = .nfLdGate → s.gate (other r) = 0 → QAct s r l { l with m := .ret res }
  -- wait loop
  | rgFence (m) : l.m = .rgFence → l.k = .sL ∧ m = .ldDropped ∨ l.k = .rL ∧ m = .popLdHead →
      QAct s r l { l with m := m }
  | spin (m) : l.m = .spin → l.k = .sL ∧ m = .ldDropped ∨ l.k = .rL ∧ m = .popLdHead →
      QAct s r l { l with spun := true, m := m }
  | deadlinePark : l.m = .park → l.tm = true ∧ l.k = .rL → QAct s r l { l with k := .rTo, m := .urLock }
  | deadlineRgLock : l.m = .rgLock → l.tm = true ∧ l.k = .rL → QAct s r l { l with k := .rTo, m := .ret .timeout }
  -- the checks of `closed`, `consumer_dropped`, `sender_count`
  | ldClosedRet (res) : l.m = .ldClosed → s.closed r = true → QAct s r l { l with m := .ret res }
  | ldClosedSend : l.m = .ldClosed → l.k = .sA ∨ l.k = .tS → QAct s r l { l with m := .ldDropped }
  | ldClosedRecv : l.m = .ldClosed → l.k ≠ .sA → l.k ≠ .tS → QAct s r l { l with m := .popLdHead }
  | ldDroppedRet (res) : l.m = .ldDropped → l.k = .sA ∨ l.k = .tS → QAct s r l { l with m := .ret res }
  | ldDroppedLoop : l.m = .ldDropped → s.dropped (other r) = true → l.k ≠ .sA → l.k ≠ .tS →
      QAct s r l { l with k := .sClosed, m := if l.reg then .urLock else .ret .closed }
  | ldDroppedGo : l.m = .ldDropped → s.dropped (other r) = false → QAct s r l { l with m := .pushLdTail }
  | ldCountGone (k') : l.m = .ldCount → s.count (other r) = 0 →
      l.k = .rL ∧ k' = .rL2 ∨ l.k = .tR ∧ k' = .tR2 ∨ l.k ≠ .rL ∧ l.k ≠ .tR ∧ k' = .toL2 →
      QAct s r l { l with k := k', m := .popLdHead }
  | ldCountWait (m) : l.m = .ldCount → s.count (other r) ≠ 0 → l.k = .rL →
      l.reg = true ∧ m = .park ∨ l.reg = false ∧ (m = .spin ∨ m = .rgLock) → QAct s r l { l with m := m }
  | ldCountRet (res) : l.m = .ldCount → l.k ≠ .rL → QAct s r l { l with m := .ret res }
  | casClosedErr : l.m = .casClosed → QAct s r l { l with m := .ret .closeErr }
  -- `len`
  | lenLdHead : l.m = .lenLdHead → QAct s r l { l with h := s.head, m := .lenLdTail }
  | lenLdTail (n) : l.m = .lenLdTail → QAct s r l { l with m := .ret (.n n) }

inductive RingAct (s : State) (r : Role) (l : Loc) : State → Prop
  | pushLdTailFull : l.m = .pushLdTail → s.tail - s.cachedHead ≥ s.cap →
      RingAct s r l (setLoc s r { l with t := s.tail, m := .pushLdHead })
  | pushLdTailRoom : l.m = .pushLdTail → ¬ s.tail - s.cachedHead ≥ s.cap →
      RingAct s r l { s with slots := updN s.slots (s.tail % s.phys) (some l.v),
                             loc := upd s.loc r { l with t := s.tail, m := .pushStTail } }
  | pushLdHeadFull : l.m = .pushLdHead → l.t - s.head ≥ s.cap →
      RingAct s r l { s with cachedHead := s.head, loc := upd s.loc r (afterPush l false) }
  | pushLdHeadRoom : l.m = .pushLdHead → ¬ l.t - s.head ≥ s.cap →
      RingAct s r l { s with cachedHead := s.head, slots := updN s.slots (l.t % s.phys) (some l.v),
                             loc := upd s.loc r { l with m := .pushStTail } }
  | pushStTail : l.m = .pushStTail →
      RingAct s r l { s with tail := l.t + 1, pushed := s.pushed ++ [l.v], loc := upd s.loc r (afterPush l true) }
  | popLdHeadEmpty : l.m = .popLdHead → s.head = s.cachedTail →
      RingAct s r l (setLoc s r { l with h := s.head, m := .popLdTail })
  | popLdHeadItem : l.m = .popLdHead → s.head ≠ s.cachedTail →
      RingAct s r l (setLoc s r { l with h := s.head, v := (s.slots (s.head % s.phys)).getD 0, m := .popStHead })
  | popLdTailEmpty : l.m = .popLdTail → l.h = s.tail →
      RingAct s r l { s with cachedTail := s.tail, loc := upd s.loc r (afterPop l none) }
  | popLdTailItem : l.m = .popLdTail → l.h ≠ s.tail →
      RingAct s r l { s with cachedTail := s.tail,
                             loc := upd s.loc r { l with v := (s.slots (l.h % s.phys)).getD 0, m := .popStHead } }
  | popStHeadDrain : l.m = .popStHead → l.k = .drn →
      RingAct s r l { s with head := l.h + 1, drained := s.drained ++ [l.v], slots := updN s.slots (l.h % s.phys) none,
                             loc := upd s.loc r (afterPop l (some l.v)) }
  | popStHead : l.m = .popStHead → l.k ≠ .drn →
      RingAct s r l { s with head := l.h + 1, popped := s.popped ++ [l.v], slots := updN s.slots (l.h % s.phys) none,
                             loc := upd s.loc r (afterPop l (some l.v)) }

/-- the return from `wake_one` or `close_internal` to the call site -/
inductive Leave (s : State) (r : Role) (l : Loc) : State → Prop
  | notify (res) : ¬ (l.k = .cl ∨ l.k = .dr) → Leave s r l (setLoc s r { l with m := .ret res })
  | close : l.k ≠ .dr → Leave s r l (setLoc s r { l with m := .ret .ok })
  | dropLast : l.k = .dr → s.gone (other r) = true →
      Leave s r l { s with gone := upd s.gone r true, loc := upd s.loc r { l with k := .drn, m := .popLdHead } }
  | dropFirst : l.k = .dr → s.gone (other r) = false →
      Leave s r l { s with gone := upd s.gone r true, loc := upd s.loc r { l with m := .ret .ok } }

inductive Act (s : State) (r : Role) (l : Loc) : State → Prop
  | quiet {l'} : QAct s r l l' → Act s r l (setLoc s r l')
  | ring {s'} : RingAct s r l s' → Act s r l s'
  -- call and return of an operation; a blocking call resets its `notified` flag
  | callWait (rest l') : l.m = .idle → s.gone r = false → l'.m = .ldClosed → l'.reg = false →
      r = .P ∧ l'.k = .sA ∨ r = .C ∧ l'.k = .rA →
      Act s r l { s with prog := upd s.prog r rest, flag := upd s.flag r false, loc := upd s.loc r l' }
  | call (rest l') : l.m = .idle → s.gone r = false → l'.reg = false →
      r = .P ∧ l'.k = .tS ∧ l'.m = .ldClosed ∨ r = .C ∧ (l'.k = .tR ∨ l'.k = .toA) ∧ l'.m = .ldClosed ∨
        l'.k = .pr ∧ l'.m = .lenLdHead ∨ l'.k = .cl ∧ l'.m = .casClosed ∨ l'.k = .dr ∧ l'.m = .swapClosed →
      Act s r l { s with prog := upd s.prog r rest, loc := upd s.loc r l' }
  | ret (res) : l.m = .ret res →
      Act s r l { s with results := upd s.results r (s.results r ++ [res]), flag := upd s.flag r false,
                         loc := upd s.loc r {} }
  -- `wake_one` on the other side's slot
  | wkLockTake (f) : l.m = .wkLock → s.locked (other r) = false → s.slot (other r) = some f →
      Act s r l { s with locked := upd s.locked (other r) true, slot := upd s.slot (other r) none,
                         loc := upd s.loc r { l with m := .wkStGate f } }
  | wkLockNone : l.m = .wkLock → s.locked (other r) = false → s.slot (other r) = none →
      Act s r l { s with locked := upd s.locked (other r) true, loc := upd s.loc r { l with m := .wkUnlock false } }
  | wkStGate (f) : l.m = .wkStGate f →
      Act s r l { s with gate := upd s.gate (other r) 0,
                         loc := upd s.loc r { l with m := if f then .wkStFlag else .wkUnlock true } }
  | wkStFlag : l.m = .wkStFlag →
      Act s r l { s with flag := upd s.flag (other r) true, loc := upd s.loc r { l with m := .wkUnlock true } }
  | wkUnlockTook (took) : l.m = .wkUnlock took → took = true →
      Act s r l { s with locked := upd s.locked (other r) false, loc := upd s.loc r { l with m := .wkUnpark } }
  | wkUnlockNone (took) {s'} : l.m = .wkUnlock took → took = false →
      Leave { s with locked := upd s.locked (other r) false } r l s' → Act s r l s'
  | wkUnpark {s'} : l.m = .wkUnpark → Leave { s with tok := upd s.tok (other r) true } r l s' → Act s r l s'
  -- `register` on the own slot
  | rgLock : l.m = .rgLock → s.locked r = false →
      Act s r l { s with locked := upd s.locked r true, slot := upd s.slot r (some true),
                         loc := upd s.loc r { l with m := .rgStGate } }
  | rgStGate : l.m = .rgStGate → Act s r l { s with gate := upd s.gate r 1, loc := upd s.loc r { l with m := .rgUnlock } }
  | rgUnlock : l.m = .rgUnlock →
      Act s r l { s with locked := upd s.locked r false, loc := upd s.loc r { l with reg := true, m := .rgFence } }
  -- `unregister`
  | urLock : l.m = .urLock → s.locked r = false →
      Act s r l { s with locked := upd s.locked r true, slot := upd s.slot r none,
                         loc := upd s.loc r { l with m := .urStGate } }
  | urStGate : l.m = .urStGate → Act s r l { s with gate := upd s.gate r 0, loc := upd s.loc r { l with m := .urUnlock } }
  | urUnlock (m) : l.m = .urUnlock →
      (l.k = .sOk ∨ l.k = .rOk) ∧ m = .nfFence ∨ l.k ≠ .sOk ∧ l.k ≠ .rOk ∧ (∃ res, m = .ret res) →
      Act s r l { s with locked := upd s.locked r false, loc := upd s.loc r { l with reg := false, m := m } }
  -- `park` and the flag swap after it
  | park : l.m = .park → s.tok r = true →
      Act s r l { s with tok := upd s.tok r false, loc := upd s.loc r { l with m := .swapFlag } }
  | parkSpurious : l.m = .park → Act s r l (setLoc s r { l with m := .swapFlag })
  | swapFlagSet (m) : l.m = .swapFlag → s.flag r = true →
      l.k = .sL ∧ m = .ldDropped ∨ l.k = .rL ∧ m = .popLdHead →
      Act s r l { s with flag := upd s.flag r false,
                         loc := upd s.loc r { l with reg := false, spun := false, m := m } }
  | swapFlagClear (m) : l.m = .swapFlag → s.flag r = false →
      l.k = .sL ∧ m = .ldDropped ∨ l.k = .rL ∧ m = .popLdHead → Act s r l (setLoc s r { l with m := m })
  -- `close` and `Drop` of the handle
  | casClosed : l.m = .casClosed → s.closed r = false →
      Act s r l { s with closed := upd s.closed r true, loc := upd s.loc r { l with m := .stDropped } }
  | swapClosedDone {s'} : l.m = .swapClosed → s.closed r = true → Leave s r l s' → Act s r l s'
  | swapClosed : l.m = .swapClosed → s.closed r = false →
      Act s r l { s with closed := upd s.closed r true, loc := upd s.loc r { l with m := .stDropped } }
  | stDropped : l.m = .stDropped →
      Act s r l { s with dropped := upd s.dropped r true, loc := upd s.loc r { l with m := .subCount } }
  | subCountLast : l.m = .subCount → s.count r = 1 →
      Act s r l { s with count := upd s.count r 0, loc := upd s.loc r { l with m := .wkLock } }
  | subCountMore {s'} : l.m = .subCount → s.count r ≠ 1 →
      Leave { s with count := upd s.count r (s.count r - 1) } r l s' → Act s r l s'

/-! Most steps take a thread from one position to another where no invariant has a clause about the position left or the
one entered. `CQuiet` is what the control invariant asks of such a move, `Quiet` what the waiter invariants ask, given
the two facts `Lw` they keep about a thread's own `reg`. -/

def loopish : K → Bool
  | .sL | .sOk | .sClosed | .rL | .rL2 | .rOk | .rDisc | .rTo => true
  | _ => false
def exitK : K → Bool
  | .sOk | .sClosed | .rOk | .rDisc | .rTo => true
  | _ => false
def isUr : Mic → Bool
  | .urLock | .urStGate | .urUnlock => true
  | _ => false

/-- positions inside `register`, `unregister`, `wake_one`, at the flag swap or inside `close_internal`: the ones the
clauses of the waiter invariants name -/
def insec : Mic → Bool
  | .rgStGate | .rgUnlock | .urStGate | .urUnlock | .swapFlag | .wkStGate _ | .wkStFlag | .wkUnlock _ | .wkUnpark
  | .stDropped | .subCount => true
  | _ => false

def CQuiet (l l' : Loc) : Prop :=
  okAt l'.k l'.m ∧ kSide l'.k = kSide l.k ∧ (l'.k = .drn ↔ l.k = .drn) ∧ l.m ≠ .idle ∧ isRet l.m = false

def Quiet (l l' : Loc) : Prop :=
  l'.reg = l.reg ∧ insec l.m = false ∧ insec l'.m = false ∧
  (l'.m = .park → l.reg = true) ∧ (l'.m = .rgLock → l.reg = false) ∧ (isRet l'.m = true → l.reg = false) ∧
  (l.reg = true → l'.k = .sL ∨ l'.k = .rL ∨ l'.k = .rL2 ∨ l'.m = .urLock) ∧
  (loopish l.k = true → loopish l'.k = true) ∧ (exitK l.k = true → exitK l'.k = true)

def Lw (l : Loc) : Prop :=
  (l.m = .rgLock → l.reg = false) ∧ (l.reg = true → l.k = .sL ∨ l.k = .rL ∨ l.k = .rL2 ∨ isUr l.m = true)

def Move (l l' : Loc) : Prop := CQuiet l l' ∧ (Lw l → Quiet l l')

theorem afterPush_move {l : Loc} (b : Bool) (ok : l.k = .sA ∨ l.k = .sL ∨ l.k = .tS)
    (hm : l.m = .pushLdHead ∨ l.m = .pushStTail) : Move l (afterPush l b) := by
  obtain ⟨k, m, reg, spun, v, t, h, tm⟩ := l
  rcases ok with rfl | rfl | rfl <;> rcases hm with rfl | rfl <;> cases b <;> cases reg <;>
    simp [Move, CQuiet, Quiet, Lw, afterPush, waitStep, okAt, kSide, isRet, insec, isUr, loopish, exitK, inNotify] <;>
    cases spun <;> cases tm <;> simp

theorem afterPop_move {l : Loc} (x : Option Nat) (ok : okAt l.k .popLdTail) (hm : l.m = .popLdTail ∨ l.m = .popStHead) :
    Move l (afterPop l x) := by
  obtain ⟨k, m, reg, spun, v, t, h, tm⟩ := l
  simp only [okAt] at ok
  rcases ok with rfl | rfl | rfl | rfl | rfl | rfl | rfl | rfl | rfl <;> rcases hm with rfl | rfl <;> cases x <;>
    cases reg <;>
    simp [Move, CQuiet, Quiet, Lw, afterPop, okAt, kSide, isRet, insec, isUr, loopish, exitK, inNotify]

theorem loopTop_eq {l : Loc} (ok : l.k = .sL ∨ l.k = .rL) :
    ∃ m, loopTop l = { l with m := m } ∧ (l.k = .sL ∧ m = .ldDropped ∨ l.k = .rL ∧ m = .popLdHead) := by
  rcases ok with h | h <;> simp [loopTop, h]
theorem waitStep_eq (l : Loc) :
    ∃ m, waitStep l = { l with m := m } ∧ (l.reg = true ∧ m = .park ∨ l.reg = false ∧ (m = .spin ∨ m = .rgLock)) := by
  unfold waitStep
  split
  · exact ⟨_, rfl, .inl ⟨‹_›, rfl⟩⟩
  · split <;> exact ⟨_, rfl, .inr ⟨eq_false_of_ne_true ‹_›, by simp⟩⟩
theorem afterNotify_eq (l : Loc) : ∃ res, afterNotify l = { l with m := .ret res } := by
  unfold afterNotify; split <;> exact ⟨_, rfl⟩
theorem afterUnreg_eq {l : Loc} (ok : okAt l.k .urUnlock) : ∃ m, afterUnreg l = { l with reg := false, m := m } ∧
    ((l.k = .sOk ∨ l.k = .rOk) ∧ m = .nfFence ∨ l.k ≠ .sOk ∧ l.k ≠ .rOk ∧ ∃ res, m = .ret res) := by
  simp only [okAt] at ok
  rcases ok with h | h | h | h | h <;> simp [afterUnreg, h]

variable {s s' : State} {r : Role}

theorem of_ite_none {α} {c : Prop} [Decidable c] {x : Option α} {a : α} (h : (if c then x else none) = some a) :
    x = some a := by
  split at h
  · exact h
  · cases h

theorem leave_afterClose (s : State) (r : Role) (l : Loc) : Leave s r l (afterClose s r l) := by
  unfold afterClose
  split
  · split
    · exact .dropLast ‹_› ‹_›
    · exact .dropFirst ‹_› (eq_false_of_ne_true ‹_›)
  · exact .close ‹_›
theorem leave_afterWake (s : State) (r : Role) (l : Loc) : Leave s r l (afterWake s r l) := by
  unfold afterWake
  split
  · exact leave_afterClose s r l
  · obtain ⟨res, e⟩ := afterNotify_eq l
    rw [e]; exact .notify res ‹_›

/-- `ok` rules out the arms of the continuations that no call site reaches -/
theorem step_act {lb : Label} (ok : okAt (s.loc r).k (s.loc r).m) (h : step s r lb = some s') :
    Act s r (s.loc r) s' := by
  unfold step at h
  split at h <;> (try replace h := of_ite_none h) <;>
    try simp only [stepCall, stepRet, stepLdTail, stepLdHead, stepStTail, stepStHead, stepFence, stepLdGate, stepLock,
      stepStGate, stepStFlag, stepUnlock, stepUnpark, stepPark, stepSpurious, stepSwapFlag, stepSpin, stepDeadline,
      stepLdClosed, stepLdDropped, stepLdCount, stepCasClosed, stepSwapClosed, stepStDropped, stepSubCount] at h <;>
    repeat' first | cases h | split at h
  · exact .callWait _ _ ‹_› (eq_false_of_ne_true ‹_›) rfl rfl (by simp)
  · exact .call _ _ ‹_› (eq_false_of_ne_true ‹_›) rfl (by simp)
  · exact .callWait _ _ ‹_› (eq_false_of_ne_true ‹_›) rfl rfl (by simp)
  · exact .call _ _ ‹_› (eq_false_of_ne_true ‹_›) rfl (by simp)
  · exact .call _ _ ‹_› (eq_false_of_ne_true ‹_›) rfl (by simp)
  · exact .callWait _ _ ‹_› (eq_false_of_ne_true ‹_›) rfl rfl (by simp)
  · exact .call _ _ ‹_› (eq_false_of_ne_true ‹_›) rfl (by simp)
  · exact .call _ _ ‹_› (eq_false_of_ne_true ‹_›) rfl (by simp)
  · exact .call _ _ ‹_› (eq_false_of_ne_true ‹_›) rfl (by simp)
  · exact .ret _ ‹_›
  · exact .ring (.pushLdTailFull ‹_› ‹_›)
  · exact .ring (.pushLdTailRoom ‹_› ‹_›)
  · exact .ring (.popLdTailEmpty ‹_› ‹_›)
  · exact .ring (.popLdTailItem ‹_› ‹_›)
  · exact .quiet (.lenLdTail _ ‹_›)
  · exact .ring (.pushLdHeadFull ‹_› ‹_›)
  · exact .ring (.pushLdHeadRoom ‹_› ‹_›)
  · exact .ring (.popLdHeadEmpty ‹_› ‹_›)
  · exact .ring (.popLdHeadItem ‹_› ‹_›)
  · exact .quiet (.lenLdHead ‹_›)
  · exact .ring (.pushStTail ‹_›)
  · exact .ring (.popStHeadDrain ‹_› ‹_›)
  · exact .ring (.popStHead ‹_› ‹_›)
  · exact .quiet (.nfFence ‹_›)
  · obtain ⟨m, e, hm⟩ := loopTop_eq (l := s.loc r) (by simpa [okAt, *] using ok)
    rw [e]; exact .quiet (.rgFence m ‹_› hm)
  · exact .quiet (.nfLdGateSome ‹_› ‹_›)
  · obtain ⟨res, e⟩ := afterNotify_eq (s.loc r)
    rw [e]; exact .quiet (.nfLdGateZero res ‹_› (Decidable.of_not_not ‹_›))
  · exact .wkLockTake _ ‹_› (eq_false_of_ne_true ‹_›) ‹_›
  · exact .wkLockNone ‹_› (eq_false_of_ne_true ‹_›) ‹_›
  · exact .rgLock ‹_› (eq_false_of_ne_true ‹_›)
  · exact .urLock ‹_› (eq_false_of_ne_true ‹_›)
  · exact .wkStGate _ ‹_›
  · exact .rgStGate ‹_›
  · exact .urStGate ‹_›
  · exact .wkStFlag ‹_›
  · exact .wkUnlockTook _ ‹_› ‹_›
  · exact .wkUnlockNone _ ‹_› (eq_false_of_ne_true ‹_›) (leave_afterWake ..)
  · exact .rgUnlock ‹_›
  · obtain ⟨m, e, hm⟩ := afterUnreg_eq (l := s.loc r) (by simpa [*] using ok)
    rw [e]; exact .urUnlock m ‹_› hm
  · exact .wkUnpark ‹_› (leave_afterWake ..)
  · exact .park ‹_› ‹_›
  · exact .parkSpurious ‹_›
  · obtain ⟨m, e, hm⟩ := loopTop_eq (l := { s.loc r with reg := false, spun := false }) (by simpa [okAt, *] using ok)
    rw [e]; exact .swapFlagSet m ‹_› ‹_› hm
  · obtain ⟨m, e, hm⟩ := loopTop_eq (l := s.loc r) (by simpa [okAt, *] using ok)
    rw [e]; exact .swapFlagClear m ‹_› (eq_false_of_ne_true ‹_›) hm
  · obtain ⟨m, e, hm⟩ := loopTop_eq (l := { s.loc r with spun := true }) (by simpa [okAt, *] using ok)
    rw [e]; exact .quiet (.spin m ‹_› hm)
  · exact .quiet (.deadlinePark ‹_› ‹_›)
  · exact .quiet (.deadlineRgLock ‹_› ‹_›)
  · exact .quiet (.ldClosedRet _ ‹_› ‹_›)
  · exact .quiet (.ldClosedRet _ ‹_› ‹_›)
  · exact .quiet (.ldClosedRet _ ‹_› ‹_›)
  · exact .quiet (.ldClosedSend ‹_› (.inl ‹_›))
  · exact .quiet (.ldClosedSend ‹_› (.inr ‹_›))
  · exact .quiet (.ldClosedRecv ‹_› ‹_› ‹_›)
  · exact .quiet (.ldDroppedRet _ ‹_› (.inl ‹_›))
  · exact .quiet (.ldDroppedRet _ ‹_› (.inr ‹_›))
  · exact .quiet (.ldDroppedLoop ‹_› ‹_› ‹_› ‹_›)
  · exact .quiet (.ldDroppedGo ‹_› (eq_false_of_ne_true ‹_›))
  · exact .quiet (.ldCountGone _ ‹_› ‹_› (.inl ⟨‹_›, rfl⟩))
  · exact .quiet (.ldCountGone _ ‹_› ‹_› (.inr (.inl ⟨‹_›, rfl⟩)))
  · exact .quiet (.ldCountGone _ ‹_› ‹_› (.inr (.inr ⟨‹_›, ‹_›, rfl⟩)))
  · obtain ⟨m, e, hm⟩ := waitStep_eq (s.loc r)
    rw [e]; exact .quiet (.ldCountWait m ‹_› ‹_› ‹_› hm)
  · exact .quiet (.ldCountRet _ ‹_› (by simp [*]))
  · exact .quiet (.ldCountRet _ ‹_› ‹_›)
  · exact .quiet (.casClosedErr ‹_›)
  · exact .casClosed ‹_› (eq_false_of_ne_true ‹_›)
  · exact .swapClosedDone ‹_› ‹_› (leave_afterClose ..)
  · exact .swapClosed ‹_› (eq_false_of_ne_true ‹_›)
  · exact .stDropped ‹_›
  · exact .subCountLast ‹_› ‹_›
  · exact .subCountMore ‹_› ‹_› (leave_afterClose ..)
  · cases h

variable {l l' : Loc}

attribute [local grind] okAt kSide isRet insec isUr loopish exitK inNotify

theorem QAct.move (ok : okAt l.k l.m) (h : QAct s r l l') : Move l l' := by
  cases h <;> (simp only [Move, CQuiet, Quiet, Lw]; grind (splits := 20))

theorem RingAct.move (ok : okAt l.k l.m) (h : RingAct s r l s') :
    Move l (s'.loc r) ∧ s'.loc (other r) = s.loc (other r) := by
  cases h with
  | pushLdHeadFull hm _ | pushStTail hm =>
    exact ⟨by simpa using afterPush_move _ (by simpa [hm, okAt] using ok) (by simp [hm]), upd_other ..⟩
  | popLdTailEmpty hm _ | popStHeadDrain hm _ | popStHead hm _ =>
    exact ⟨by simpa using afterPop_move _ (by simpa [hm, okAt] using ok) (by simp [hm]), upd_other ..⟩
  | _ => refine ⟨?_, upd_other ..⟩; simp only [setLoc, upd_same, Move, CQuiet, Quiet, Lw]; grind

end Fv.Chan.SpscB
