import Fv.Lemmas.PolicyList
import Fv.Cache.Policy.Lru
import Fv.Cache.Policy.Fifo
import Fv.Cache.Policy.Sieve
import Fv.Cache.Policy.Clock
import Fv.Cache.Policy.Random
import Fv.Cache.Policy.Slru
import Fv.Cache.Policy.Arc
import Fv.Cache.Policy.TinyLfu
/-!
Specification vocabulary for C14.  For every policy `P`: the list of tracked (evictable) `(key, cost)` pairs
`P.tracked`, the inductive invariant `P.Inv`, and the history semantics `P.run : List Op → State` (a left fold of
`P.step` from `P.init`).  Also the history-only notions of recency of the order theorems, and `Contract`: what C14
asks of any policy, with the theorems about histories that follow from it alone.
-/
namespace Fv.Cache.Policy

/-- One call of the `CachePolicy` trait. `picks` is the victim sequence chosen by the random
number generator; only the Random policy looks at it (an inadmissible `picks` leaves the state
unchanged, i.e. it is not a possible run of the code). -/
inductive Op where
  | admit (k c : Nat)
  | access (k c : Nat)
  | remove (k : Nat)
  | evict (n : Nat) (picks : List Nat)
  | clear
deriving Repr, DecidableEq

def Op.touches : Op → Nat → Bool
  | .admit k _, x => k == x
  | .access k _, x => k == x
  | _, _ => false

/-- 1-based position of the last admit/access of `k` in `ops`, `0` if none: history only, no policy state -/
def lastUse (ops : List Op) (k : Nat) : Nat :=
  ops.length - ops.reverse.findIdx (fun op => op.touches k)

namespace Lru
def tracked (s : State) : List (Nat × Nat) := s.items
def Inv (s : State) : Prop := LruList.WF s
def step (s : State) : Op → State
  | .admit k c => (admit s k c).1
  | .access k c => access s k c
  | .remove k => remove s k
  | .evict n _ => (evict s n).1
  | .clear => clear s
def run (ops : List Op) : State := ops.foldl step init
end Lru

namespace Fifo
def tracked (s : State) : List (Nat × Nat) := s.items
def Inv (s : State) : Prop := LruList.WF s
def step (s : State) : Op → State
  | .admit k c => (admit s k c).1
  | .access k c => access s k c
  | .remove k => remove s k
  | .evict n _ => (evict s n).1
  | .clear => clear s
def run (ops : List Op) : State := ops.foldl step init

/-- History semantics instrumented with a ghost clock and, per key, the time of the admission
that inserted it (an `admit` of a key that is already tracked does not refresh it). -/
def stepT (x : State × (Nat → Nat) × Nat) (op : Op) : State × (Nat → Nat) × Nat :=
  (step x.1 op,
   (match op with
    | .admit k _ => if x.1.contains k then x.2.1 else fun y => if y = k then x.2.2 + 1 else x.2.1 y
    | _ => x.2.1),
   x.2.2 + 1)
def runT (ops : List Op) : State × (Nat → Nat) × Nat := ops.foldl stepT (init, fun _ => 0, 0)
def insertedAt (ops : List Op) (k : Nat) : Nat := (runT ops).2.1 k
end Fifo

namespace Random
def tracked (s : State) : List (Nat × Nat) := s.items
def Inv (s : State) : Prop := (keys s.items).Nodup
def step (s : State) : Op → State
  | .admit k c => (admit s k c).1
  | .access k c => access s k c
  | .remove k => remove s k
  | .evict n picks => match evictWith s n picks 0 with
    | some (s', _) => s'
    | none => s
  | .clear => clear s
def run (ops : List Op) : State := ops.foldl step init
end Random

namespace Sieve
def pair (e : Ent) : Nat × Nat := (e.key, e.cost)
def tracked (s : State) : List (Nat × Nat) := s.order.map pair
def Inv (s : State) : Prop := (keys (tracked s)).Nodup
def step (s : State) : Op → State
  | .admit k c => (admit s k c).1
  | .access k c => access s k c
  | .remove k => remove s k
  | .evict n _ => (evict s n).1
  | .clear => clear s
def run (ops : List Op) : State := ops.foldl step init
end Sieve

namespace Clock
def pair (e : Ent) : Nat × Nat := (e.key, e.cost)
def tracked (s : State) : List (Nat × Nat) := s.order.map pair
def Inv (s : State) : Prop := (keys (tracked s)).Nodup
def step (s : State) : Op → State
  | .admit k c => (admit s k c).1
  | .access k c => access s k c
  | .remove k => remove s k
  | .evict n _ => (evict s n).1
  | .clear => clear s
def run (ops : List Op) : State := ops.foldl step init
end Clock

namespace Slru
def tracked (s : State) : List (Nat × Nat) := s.prob.items ++ s.prot.items
def Inv (s : State) : Prop :=
  s.prob.WF ∧ s.prot.WF ∧ ∀ x, x ∈ keys s.prob.items → x ∉ keys s.prot.items
def step (protCap : Nat) (s : State) : Op → State
  | .admit k c => (admit s k c).1
  | .access k c => access s k c protCap
  | .remove k => remove s k
  | .evict n _ => (evict s n protCap).1
  | .clear => clear s
def run (protCap : Nat) (ops : List Op) : State := ops.foldl (step protCap) init
end Slru

namespace Arc
/-- the resident lists T1, T2; the ghost lists B1, B2 hold keys that are NOT resident -/
def tracked (s : State) : List (Nat × Nat) := s.t1.items ++ s.t2.items
/-- nothing is required of the ghost lists -/
def Inv (s : State) : Prop :=
  s.t1.WF ∧ s.t2.WF ∧ ∀ x, x ∈ keys s.t1.items → x ∉ keys s.t2.items
def step (cap : Nat) (s : State) : Op → State
  | .admit k c => (admit s k c cap).1
  | .access k c => access s k c
  | .remove k => remove s k
  | .evict n _ => (evict s n cap).1
  | .clear => clear s
def run (cap : Nat) (ops : List Op) : State := ops.foldl (step cap) init
end Arc

namespace TinyLfu
def tracked (s : State) : List (Nat × Nat) := s.window.items ++ Slru.tracked s.main
def Inv (s : State) : Prop :=
  s.window.WF ∧ Slru.Inv s.main ∧ ∀ x, x ∈ keys s.window.items → x ∉ keys (Slru.tracked s.main)
def step (cfg : Cfg) (s : State) : Op → State
  | .admit k c => (admit s cfg k c).1
  | .access k c => access s cfg k c
  | .remove k => remove s k
  | .evict n _ => (evict s cfg n).1
  | .clear => clear s
def run (cfg : Cfg) (ops : List Op) : State := ops.foldl (step cfg) (init cfg)
end TinyLfu

theorem foldl_snoc {σ α} (f : σ → α → σ) (i : σ) (l : List α) (a : α) :
    (l ++ [a]).foldl f i = f (l.foldl f i) a := List.foldl_append

@[simp] theorem lastUse_nil (k) : lastUse [] k = 0 := by simp [lastUse]

theorem lastUse_snoc (ops : List Op) (op : Op) (k) :
    lastUse (ops ++ [op]) k = if op.touches k then ops.length + 1 else lastUse ops k := by
  simp only [lastUse, List.reverse_append, List.reverse_cons, List.reverse_nil, List.nil_append,
    List.singleton_append, List.findIdx_cons, List.length_append, List.length_cons, List.length_nil]
  cases op.touches k <;> simp

theorem lastUse_le (ops : List Op) (k) : lastUse ops k ≤ ops.length := by
  simp [lastUse]

theorem AdmitOk.mem_keys_imp {t t' : List (Nat × Nat)} {k : Nat} {v : List Nat} (h : AdmitOk t t' k v)
    {x : Nat} (hx : x ∈ keys t') : x ∈ keys t ∨ x = k := by
  by_cases hxk : x = k
  · exact Or.inr hxk
  · obtain ⟨c, hc⟩ := mem_keys.1 hx
    exact Or.inl (mem_keys_of_mem ((h.others (x, c) hxk).1 hc).1)

theorem RemoveOk.mem_keys_imp {t t' : List (Nat × Nat)} {k : Nat} (h : RemoveOk t t' k)
    {x : Nat} (hx : x ∈ keys t') : x ∈ keys t := by
  obtain ⟨c, hc⟩ := mem_keys.1 hx
  exact mem_keys_of_mem ((h (x, c)).1 hc).1

theorem EvictSound.mem_keys_imp {t t' : List (Nat × Nat)} {vs : List Nat} {f : Nat}
    (h : EvictSound t t' vs f) {x : Nat} (hx : x ∈ keys t') : x ∈ keys t := by
  obtain ⟨c, hc⟩ := mem_keys.1 hx
  exact mem_keys_of_mem ((h.kept (x, c)).1 hc).1

/-- What C14 asks of a policy, read off its list of tracked pairs `tr`: every call keeps `I` and
changes `tr` only as the `CachePolicy` trait allows.  `ev s n picks` is what `step` runs on
`.evict n picks`, with the victims and the freed cost it reports. -/
structure Contract {σ : Type} (step : σ → Op → σ) (tr : σ → List (Nat × Nat)) (I : σ → Prop)
    (ev : σ → Nat → List Nat → σ × List Nat × Nat) : Prop where
  admit : ∀ {s}, I s → ∀ k c,
    I (step s (.admit k c)) ∧ ∃ v, AdmitOk (tr s) (tr (step s (.admit k c))) k v
  access : ∀ {s}, I s → ∀ k c,
    I (step s (.access k c)) ∧ AccessOk (tr s) (tr (step s (.access k c))) k
  remove : ∀ {s}, I s → ∀ k, I (step s (.remove k)) ∧ RemoveOk (tr s) (tr (step s (.remove k))) k
  evict : ∀ {s}, I s → ∀ n p,
    EvictSound (tr s) (tr (ev s n p).1) (ev s n p).2.1 (ev s n p).2.2 ∧ I (ev s n p).1
  step_evict : ∀ s n p, step s (.evict n p) = (ev s n p).1
  clear : ∀ s, I (step s .clear) ∧ tr (step s .clear) = []

namespace Contract
variable {σ : Type} {step : σ → Op → σ} {tr : σ → List (Nat × Nat)} {I : σ → Prop}
  {ev : σ → Nat → List Nat → σ × List Nat × Nat} (C : Contract step tr I ev)
include C

theorem inv_step {s : σ} (h : I s) : ∀ op, I (step s op)
  | .admit k c => (C.admit h k c).1
  | .access k c => (C.access h k c).1
  | .remove k => (C.remove h k).1
  | .evict n p => C.step_evict s n p ▸ (C.evict h n p).2
  | .clear => (C.clear s).1

theorem inv_run {init : σ} (hi : I init) (ops : List Op) : I (ops.foldl step init) :=
  List.foldlRecOn ops step hi fun _ h op _ => C.inv_step h op

theorem tracks_only_on_admit {s : σ} (h : I s) (op : Op) {x : Nat}
    (hx : x ∈ keys (tr (step s op))) : x ∈ keys (tr s) ∨ ∃ c, op = .admit x c := by
  cases op with
  | admit k c =>
    obtain ⟨v, hv⟩ := (C.admit h k c).2
    exact (hv.mem_keys_imp hx).imp_right fun e => ⟨c, by rw [e]⟩
  | access k c => exact .inl (((C.access h k c).2.mem_keys x).1 hx)
  | remove k => exact .inl ((C.remove h k).2.mem_keys_imp hx)
  | evict n p => rw [C.step_evict] at hx; exact .inl ((C.evict h n p).1.mem_keys_imp hx)
  | clear => rw [(C.clear s).2] at hx; simp at hx

theorem retracked_only_by_admit {s : σ} (hs : I s) {k : Nat} (hk : k ∉ keys (tr s)) {ops : List Op}
    (hin : k ∈ keys (tr (ops.foldl step s))) : ∃ c, Op.admit k c ∈ ops := by
  induction ops generalizing s with
  | nil => exact absurd hin hk
  | cons op ops ih =>
    by_cases hk' : k ∈ keys (tr (step s op))
    · rcases C.tracks_only_on_admit hs op hk' with h | ⟨c, rfl⟩
      · exact absurd h hk
      · exact ⟨c, by simp⟩
    · obtain ⟨c, hc⟩ := ih (C.inv_step hs op) hk' hin
      exact ⟨c, List.mem_cons_of_mem _ hc⟩

theorem no_renomination {init : σ} (hi : I init) {ops1 ops2 : List Op} {n n' k : Nat}
    {p p' : List Nat} (h1 : k ∈ (ev (ops1.foldl step init) n p).2.1)
    (h2 : k ∈ (ev ((ops1 ++ .evict n p :: ops2).foldl step init) n' p').2.1) :
    ∃ c, Op.admit k c ∈ ops2 := by
  have h := C.inv_run hi ops1
  have ht := (C.evict (C.inv_run hi _) n' p').1.tracked k h2
  rw [List.foldl_append, List.foldl_cons, C.step_evict] at ht
  exact C.retracked_only_by_admit (C.evict h n p).2 ((C.evict h n p).1.gone k h1) ht

end Contract

end Fv.Cache.Policy
