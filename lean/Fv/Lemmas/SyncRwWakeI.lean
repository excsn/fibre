import Fv.Lemmas.SyncRwWake
/-!
`HybridRwLock` model: the wake invariant `WInv` (definitions).

Differences from the mutex: `wake_waiters` marks either the first queued writer (it stays linked)
or every queued reader AFTER unlinking it.  So a blocked reader's node may already be out of the
queue: it is then `WOKEN` (and accounted for by `PWk`), or it is the node a waker at `wrStore` is
about to mark (`MarkPending`).  Linked reader nodes are never `WOKEN` (`Inv.nodeWoken`).
-/
namespace Fv.Sync.RwLock
open Fv.Sync
variable {cfg : Cfg} {s s' : State} {t : Tid} {l : Lbl}

/-- a waker in the reader loop has unlinked `n` and is about to mark it -/
def MarkPending (s : State) (n : Nid) : Prop := ∃ v, (s.th v).pc = .wrStore ∧ (s.th v).tgt = n

/-- the owner of a node that a waker has unlinked but not yet marked is waiting -/
def TgtOwn (s : State) (n : Nid) : Prop :=
  match n with
  | .thr u => (s.th u).cur = none ∧ ((s.th u).pc = .wLoad ∨ (s.th u).pc = .wPark)
  | .fut f => (s.fut f).phase = .startedNode ∧ ∀ d, (s.th d).cur = some f → (s.th d).pc ≠ .dLoad

/-- the node table entry is current: a stack node always, a heap node while it is allocated -/
def Live (s : State) (n : Nid) : Prop :=
  match n with
  | .thr _ => True
  | .fut f => (s.fut f).phase = .startedNode

/-- `n` is a queued node whose owner keeps the lock from being forgotten: a writer (or any node
if no writer is queued) that is `WOKEN` or whose owner is in its acquisition / re-check phase -/
def Cov (s : State) (n : Nid) : Prop :=
  n ∈ s.wl.queue ∧ ((s.wl.node n).isWriter = true ∨ s.wl.writers = 0)
    ∧ ((s.wl.node n).woken = true ∨ OwnerActive s n)

def PBoc (s : State) : Prop :=
  ∀ u f, (s.th u).cur = some f → futPc (s.th u).pc = true → (s.th u).blockOn = (s.fut f).bo
/-- a `block_on` future is busy for its whole life -/
def PBb (s : State) : Prop := ∀ f, (s.fut f).bo = true → (s.fut f).busy = true ∨ (s.fut f).phase = .absent
def PBoPark (s : State) : Prop :=
  ∀ u, (s.th u).pc = .boPark → (s.th u).blockOn = true ∧ ∀ f, (s.th u).cur = some f → (s.fut f).phase = .startedNode
def PW1 (s : State) : Prop :=
  ∀ n w, (s.wl.node n).linked = true → (s.wl.node n).waiter = some w → Targets s w n
def PW2 (s : State) : Prop :=
  ∀ n, (s.wl.node n).linked = true → (s.wl.node n).waiter = none → (s.wl.node n).woken = true
def PQw (s : State) : Prop :=
  ∀ t, (s.th t).pc = .qRearm → (s.wl.node (me t (s.th t))).waiter = some (myWaiter t (s.th t))
def PQz (s : State) : Prop :=
  ∀ t, armedPc (s.th t).pc = true →
    (s.wl.node (me t (s.th t))).linked = true ∧ (s.wl.node (me t (s.th t))).woken = false
/-- a parked waiter's node is queued, or marked, or about to be marked -/
def PPk (s : State) : Prop :=
  ∀ t, ((s.th t).pc = .wLoad ∨ (s.th t).pc = .wPark ∨ (s.th t).pc = .boPark) →
    (s.wl.node (me t (s.th t))).linked = true ∨ (s.wl.node (me t (s.th t))).woken = true
      ∨ MarkPending s (me t (s.th t))
def PFl (s : State) : Prop :=
  ∀ f, (s.fut f).phase = .startedNode → (s.fut f).busy = false →
    (s.wl.node (.fut f)).linked = true ∨ (s.wl.node (.fut f)).woken = true ∨ MarkPending s (.fut f)
/-- the node a waker at `wrStore` is about to mark: still `WAITING`, its handle designates the
owner, and the owner is waiting -/
def PTw (s : State) : Prop :=
  ∀ v, (s.th v).pc = .wrStore →
    (s.wl.node (s.th v).tgt).woken = false
    ∧ (∃ w, (s.wl.node (s.th v).tgt).waiter = some w ∧ Targets s w (s.th v).tgt)
    ∧ TgtOwn s (s.th v).tgt
def PM2 (s : State) : Prop :=
  s.word.hq = false → s.wl.queue = [] ∨ ∃ u, (s.th u).pc = .qFetchOr ∧ s.wl.queue = [me u (s.th u)]
def PHl (s : State) : Prop := ∀ t, holdUnlinkPc (s.th t).pc = true → (t, (s.th t).wr) ∈ s.holders
/-- a `WOKEN` node whose owner is blocked is accounted for: the handle is in flight -/
def PWk (s : State) : Prop :=
  ∀ n, (s.wl.node n).woken = true → Live s n → OwnerBlocked s n → ∃ t, PostWake s t n
/-- NO LOST WAKEUP: with the lock free, a non-empty queue is covered -/
def PNlw (s : State) : Prop :=
  LockFree s → s.wl.queue ≠ [] → (∃ t, PreWake s t) ∨ ∃ n, Cov s n

structure WInv (s : State) : Prop where
  boc : PBoc s
  boPark : PBoPark s
  bb : PBb s
  w1 : PW1 s
  w2 : PW2 s
  qw : PQw s
  qz : PQz s
  pk : PPk s
  fl : PFl s
  tw : PTw s
  m2 : PM2 s
  hl : PHl s
  wk : PWk s
  nlw : PNlw s

end Fv.Sync.RwLock
