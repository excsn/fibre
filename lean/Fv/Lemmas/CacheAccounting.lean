import Fv.Lemmas.CacheReads
/-
Well-formedness (distinct keys in the map and in the stored snapshot) and cost accounting
(`current_cost` = resident cost sum mod 2^64) of the cache model (C13).  `Pres H t s`: the steps from
`s` to `t` keep well-formedness unconditionally — every removal goes through `erase`, every write
through `put`, whatever the policy reports — and the accounting equation under `H`, which only the
capacity pass needs (it subtracts what the POLICY reports).
-/
namespace Fv.Cache
variable {P : Type}
variable (cfg : Cfg) (ops : PolicyOps P) (o : Oracle)

def WF (s : State P) : Prop :=
  (keys s.map).Nodup ∧ ∀ sn, s.snap = some sn → (sn.entries.map (·.key)).Nodup

def costSum (s : State P) : Nat := costOf s.map

def Acc (s : State P) : Prop := s.met.currentCost = costSum s % U64

def Same (s' s : State P) : Prop :=
  s'.map = s.map ∧ s'.met.currentCost = s.met.currentCost ∧ s'.snap = s.snap

theorem same_cancelTimer (s : State P) (i : Nat) (h : Option Nat) : Same (s.cancelTimer i h) s := ⟨rfl, rfl, rfl⟩
theorem same_pushEvent (cfg : Cfg) (s : State P) (k c : Nat) : Same (s.pushEvent cfg k c) s := ⟨rfl, rfl, rfl⟩

theorem Acc.sub {s t : State P} {c c' : Nat} (ha : Acc s) (hc : t.met.currentCost = subW s.met.currentCost c)
    (hm : costOf t.map + c' = costOf s.map) (hcc : c % U64 = c' % U64) : Acc t := by
  unfold Acc costSum subW U64 at *
  omega

def Pres (H : Prop) (t s : State P) : Prop := WF s → WF t ∧ (H → Acc s → Acc t)

variable {H : Prop}

theorem Pres.weaken {H' : Prop} {t s : State P} (h : Pres H t s) (hh : WF s → H' → H) : Pres H' t s :=
  fun hw => ⟨(h hw).1, fun h' => (h hw).2 (hh hw h')⟩

theorem Pres.of_same {t s : State P} (h : Same t s) : Pres H t s := by
  obtain ⟨hm, hc, hs⟩ := h
  unfold Pres WF Acc costSum
  rw [hm, hc, hs]
  exact fun hw => ⟨hw, fun _ ha => ha⟩

theorem Pres.put_same {t s : State P} {k : Nat} {o e : Entry} (hl : lookup s.map k = some o) (hce : e.cost = o.cost)
    (hm : t.map = put s.map k e) (hc : t.met.currentCost = s.met.currentCost) (hs : t.snap = s.snap) : Pres H t s := by
  rintro ⟨hn, hsn⟩
  refine ⟨⟨hm ▸ nodup_keys_put k e hn, hs ▸ hsn⟩, fun _ ha => ?_⟩
  have := costOf_put k e hn
  rw [costAt, hl] at this
  unfold Acc costSum at *
  rw [hc, hm, ha]
  simp only at this
  congr 1; omega

theorem Pres.of_put {t s : State P} {k : Nat} {e : Entry} (h : Put t s k e) : Pres H t s := by
  rintro ⟨hn, hsn⟩
  refine ⟨⟨h.map ▸ nodup_keys_put k e hn, h.snap ▸ hsn⟩, fun _ ha => ?_⟩
  have := costOf_put k e hn
  unfold Acc costSum at *
  rw [h.cost, h.map, ha]
  revert this
  generalize costOf (put s.map k e) = a
  generalize costOf s.map = b
  generalize costAt s.map k = c
  intro; unfold U64; omega

theorem Pres.drop {cfg : Cfg} {t s : State P} {k : Nat} {e : Entry} {r : Reason} {told : Bool} {X : Nat → Prop}
    (hd : Drop cfg t s k e r true told X) : Pres H t s := by
  rintro ⟨hn, hsn⟩
  exact ⟨⟨hd.map ▸ nodup_keys_of_sublist (erase_sublist _ _) hn, hd.snap ▸ hsn⟩, fun _ ha =>
    ha.sub (by rw [hd.cost, if_pos rfl]) (by rw [hd.map]; have := costOf_erase_some hn hd.was; omega) rfl⟩

theorem Pres.rel (H : Prop) : ReadRel cfg (Pres (P := P) H) where
  refl := fun _ hw => ⟨hw, fun _ ha => ha⟩
  trans := fun h1 h2 hw => ⟨(h1 (h2 hw).1).1, fun hh ha => (h1 (h2 hw).1).2 hh ((h2 hw).2 hh ha)⟩
  quiet := fun hq => Pres.of_same ⟨hq.map, hq.cost, hq.snap⟩
  touch := fun he _ ht => Pres.put_same he (touch_cost _ _ _) ht.map ht.cost ht.snap

theorem evictVictims_cost :
    ∀ (vs : List Nat) (s : State P) (rel : Nat) (ns : List Notif), WF s →
      WF (State.evictVictims cfg ops s vs rel ns).1 ∧
      (State.evictVictims cfg ops s vs rel ns).1.met.currentCost = s.met.currentCost ∧
      (State.evictVictims cfg ops s vs rel ns).2.1 + costOf (State.evictVictims cfg ops s vs rel ns).1.map =
        rel + costOf s.map := by
  intro vs
  induction vs with
  | nil => intro s rel ns hw; exact ⟨hw, rfl, rfl⟩
  | cons v rest ih =>
    intro s rel ns hw
    rw [evictVictims_cons]
    rcases evictVictim_cases cfg ops s v with he | ⟨e, hd, hr⟩
    · rw [he]; exact ih s _ _ hw
    · obtain ⟨h1, h2, h3⟩ := ih (s.evictVictim cfg ops v).1 (rel + (s.evictVictim cfg ops v).2.1)
        (ns ++ (s.evictVictim cfg ops v).2.2.toList)
        ⟨hd.map ▸ nodup_keys_of_sublist (erase_sublist _ _) hw.1, hd.snap ▸ hw.2⟩
      refine ⟨h1, h2.trans hd.cost, ?_⟩
      have := costOf_erase_some hw.1 hd.was
      rw [h3, hr, hd.map]; dsimp only; omega

theorem evictAll_pres (s : State P) (vs : List Nat) : Pres H (s.evictAll cfg ops vs) s := by
  intro hw
  obtain ⟨h1, h2, h3⟩ := evictVictims_cost cfg ops vs s 0 [] hw
  unfold State.evictAll
  rw [notifyAll_eq]
  exact ⟨h1, fun _ ha => ha.sub (c := (State.evictVictims cfg ops s vs 0 []).2.1) (congrArg (subW · _) h2)
    (by rw [Nat.add_comm]; simpa using h3) rfl⟩

theorem flush_pres (s : State P) : Pres H (s.flush cfg ops o) s :=
  flush_lift cfg ops o (Pres.rel cfg H).toRel (fun s vs _ => evictAll_pres cfg ops s vs) s

theorem flush_wf (s : State P) (hw : WF s) : WF (s.flush cfg ops o) :=
  (flush_pres (H := True) cfg ops o s hw).1

def capRemovedCost (cfg : Cfg) (i : Nat) (s : State P) (vs : List Nat) : Nat :=
  costSum s - costSum (vs.foldl (State.capRemove cfg i) s)

/-- what the policy reports as released is (mod 2^64) the cost `capRemove` really takes out of the map -/
def CapHonest (cfg : Cfg) (ops : PolicyOps P) (o : Oracle) (s1 : State P) (i : Nat) : Prop :=
  (s1.polEvict ops i (s1.met.currentCost - cfg.capacity) (o.evictHint.getD i [])).2.2 % U64 =
    capRemovedCost cfg i (s1.polEvict ops i (s1.met.currentCost - cfg.capacity) (o.evictHint.getD i [])).1
      (s1.polEvict ops i (s1.met.currentCost - cfg.capacity) (o.evictHint.getD i [])).2.1 % U64

theorem capRemoves_spec (i : Nat) (vs : List Nat) (s : State P) :
    MStep (fun _ => True) (fun _ => True) (vs.foldl (State.capRemove cfg i) s) s ∧
      (vs.foldl (State.capRemove cfg i) s).met.currentCost = s.met.currentCost :=
  ⟨capRemoves_lift cfg (MStep.rel _ _) i vs s (fun _ _ _ _ _ hd => MStep.of_drop hd trivial (fun _ h => h.elim)),
    capRemoves_lift (R := fun t s => t.met.currentCost = s.met.currentCost) cfg ⟨fun _ => rfl, Eq.trans, fun h => h.cost⟩
      i vs s (fun _ _ _ _ _ hd => hd.cost)⟩

theorem cleanupCapacity_pres (s : State P) (i : Nat) :
    Pres (CapHonest cfg ops o s i) (s.cleanupCapacity cfg ops o i) s := by
  intro hw
  unfold CapHonest
  rcases cleanupCapacity_cases cfg ops o s i with ⟨_, he⟩ | ⟨s1, victims, released, _, hp, hq, _, he⟩
  · rw [he]; exact ⟨hw, fun _ ha => ha⟩
  · obtain ⟨hw1, ha1⟩ := (Pres.rel cfg True).quiet hq hw
    rw [hp]
    rcases he with ⟨_, he⟩ | ⟨_, m, hm, he⟩ <;> rw [he]
    · exact ⟨hw1, fun _ ha => ha1 trivial ha⟩
    · obtain ⟨g1, g2⟩ := capRemoves_spec cfg i victims s1
      have g3 := costOf_le_of_sublist g1.sub
      refine ⟨⟨nodup_keys_of_sublist g1.sub hw1.1, g1.snap ▸ hw1.2⟩, fun hh ha => ?_⟩
      refine (ha1 trivial ha).sub (t := { victims.foldl (State.capRemove cfg i) s1 with met := m })
        (c' := capRemovedCost cfg i s1 victims) (hm.trans (by rw [g2])) ?_ hh
      show costOf (victims.foldl (State.capRemove cfg i) s1).map + (costOf s1.map - costOf (victims.foldl _ s1).map) = _
      omega

theorem cleanupCapacity_costSum_le (s : State P) (i : Nat) :
    costSum (s.cleanupCapacity cfg ops o i) ≤ costSum s :=
  costOf_le_of_sublist (cleanupCapacity_mstep cfg ops o s i).sub

theorem runMaintenance_pres (s : State P) :
    Pres (∀ (s1 : State P) (i : Nat), WF s1 → CapHonest cfg ops o s1 i) (s.runMaintenance cfg ops o) s := by
  have hr := (Pres.rel (P := P) cfg (∀ (s1 : State P) (i : Nat), WF s1 → CapHonest cfg ops o s1 i)).toRel
  unfold State.runMaintenance
  refine hr.foldl _ _ _ (fun s i _ => ?_)
  refine hr.trans ((cleanupCapacity_pres cfg ops o _ i).weaken (fun hw hh => hh _ i hw)) ?_
  refine hr.trans (cleanupTti_lift cfg ops o hr _ i (fun _ _ _ _ _ hd => Pres.drop hd)) ?_
  exact hr.trans (cleanupTtl_lift cfg ops o hr _ i (fun _ => Pres.of_same ⟨rfl, rfl, rfl⟩) (fun _ _ _ _ _ _ _ hd => Pres.drop hd))
    (performShard_lift cfg ops o hr (fun s vs _ => evictAll_pres cfg ops s vs) s i cfg.drainLimit)

theorem toSnapshot_pres (s : State P) : Pres H (s.toSnapshot cfg ops o).1 s := by
  intro hw
  obtain ⟨⟨hn, _⟩, ha⟩ := flush_pres (H := H) cfg ops o s hw
  refine ⟨⟨hn, fun sn hsn => ?_⟩, ha⟩
  have h2 : (s.toSnapshot cfg ops o).1.snap = some (snapshotOf cfg (s.flush cfg ops o).map (s.flush cfg ops o).now) := rfl
  rw [h2] at hsn
  rw [← Option.some.inj hsn]
  exact hn.sublist (snapshotOf_keys_sublist cfg _ _)

theorem restore_keys_nodup (p0 : P) (now : Nat) (sn : Snapshot) :
    (keys (State.restore cfg p0 now sn).map).Nodup := by
  have : ∀ (ps : List SnapEntry) (m0 : List (Nat × Entry)), (keys m0).Nodup → (keys (restoreMap cfg now ps m0)).Nodup := by
    intro ps
    induction ps with
    | nil => intro m0 h; exact h
    | cons p ps ih => intro m0 h; rw [restoreMap]; exact ih _ (nodup_keys_put _ _ h)
  exact this sn.entries [] List.nodup_nil

theorem foldl_addW (ps : List SnapEntry) : ∀ a : Nat,
    ps.foldl (fun a p => addW a p.cost) a = if ps = [] then a else (a + (ps.map (·.cost)).sum) % U64 := by
  induction ps with
  | nil => intro a; rfl
  | cons p ps ih =>
    intro a
    rw [List.foldl_cons, ih]
    by_cases hps : ps = []
    · subst hps; simp [addW]
    · simp only [hps, if_false, List.map_cons, List.sum_cons, addW, reduceCtorEq]
      rw [Nat.mod_add_mod, Nat.add_assoc]

theorem restore_currentCost (p0 : P) (now : Nat) (sn : Snapshot) :
    (State.restore cfg p0 now sn).met.currentCost = ((sn.entries.map (·.cost)).sum) % U64 := by
  show sn.entries.foldl (fun a p => addW a p.cost) 0 = _
  rw [foldl_addW]
  split
  · next h => rw [h]; rfl
  · simp

theorem costOf_restoreMap (now : Nat) : ∀ (ps : List SnapEntry) (m : List (Nat × Entry)),
    (ps.map (·.key)).Nodup → (∀ p, p ∈ ps → p.key ∉ keys m) →
      costOf (restoreMap cfg now ps m) = costOf m + (ps.map (·.cost)).sum := by
  intro ps
  induction ps with
  | nil => intro m _ _; simp [restoreMap]
  | cons p rest ih =>
    intro m hps hdis
    obtain ⟨hp1, hp2⟩ := List.nodup_cons.1 hps
    have hl : lookup m p.key = none := lookup_none_iff.2 (hdis p List.mem_cons_self)
    rw [restoreMap, ih _ hp2 ?_, put, costOf_cons, erase_of_lookup_none hl]
    · simp only [List.map_cons, List.sum_cons]
      show p.cost + costOf m + _ = _
      omega
    · intro q hq hmem
      rw [put, erase_of_lookup_none hl, keys_cons] at hmem
      rcases List.mem_cons.1 hmem with h | h
      · exact hp1 (List.mem_map.2 ⟨q, hq, h⟩)
      · exact hdis q (List.mem_cons_of_mem _ hq) h

theorem restore_inv (p0 : P) (now : Nat) (sn : Snapshot) (hsn : (sn.entries.map (·.key)).Nodup) :
    WF (State.restore cfg p0 now sn) ∧ Acc (State.restore cfg p0 now sn) := by
  refine ⟨⟨restore_keys_nodup cfg p0 now sn, fun sn' h => ?_⟩, ?_⟩
  · rw [← Option.some.inj h]; exact hsn
  · unfold Acc
    rw [restore_currentCost]
    show _ = costOf (restoreMap cfg now sn.entries []) % U64
    rw [costOf_restoreMap cfg now sn.entries [] hsn (fun _ _ h => nomatch h), costOf_nil, Nat.zero_add]

/-- `clear` subtracts exactly what it removed (`fetch_sub`, /repo 7e5c084), so the accounting
equation is preserved by `clear`, not established by it. -/
theorem clearAll_invD (cfg : Cfg) (ops : PolicyOps P) (o : Oracle) (s : State P) (hw : WF s) :
    WF (s.clearAll cfg ops o) ∧ (Acc s → Acc (s.clearAll cfg ops o)) := by
  obtain ⟨hm, _, hc, hs, _⟩ := clearAll_spec cfg ops o s
  exact ⟨⟨hm ▸ List.nodup_nil, hs ▸ hw.2⟩, fun ha => ha.sub hc (by rw [hm]; simp) rfl⟩

theorem release_pres (s : State P) :
    Pres H ({ s with map := s.map.map (fun (k, e) => (k, { e with pinned := false })) } : State P) s := by
  have hk : keys (s.map.map (fun (k, e) => (k, { e with pinned := false }))) = keys s.map := by
    unfold keys; rw [List.map_map]; rfl
  have hc : costOf (s.map.map (fun (k, e) => (k, { e with pinned := false }))) = costOf s.map := by
    unfold costOf; rw [List.map_map]; rfl
  unfold Pres WF Acc costSum
  rw [hk, hc]
  exact fun hw => ⟨hw, fun _ ha => ha⟩

theorem stepOp_pres (p0 : P) (o : Oracle) (s : State P) (op : Op)
    (hh : H → op = .runMaintenance → ∀ (s1 : State P) (i : Nat), WF s1 → CapHonest cfg ops o s1 i) :
    Pres H (stepOp cfg ops p0 o s op).1 s := by
  have hr := Pres.rel (P := P) cfg H
  refine hr.trans ?_ (Pres.of_same (s := s) (t := s.resetLogs) ⟨rfl, rfl, rfl⟩)
  refine stepOp_lift ops o hr p0 s op (fun hp _ => Pres.of_put hp) (fun he hc _ ht => Pres.put_same he hc ht.map ht.cost ht.snap)
    (fun hd _ => Pres.drop hd) (fun _ s vs _ => evictAll_pres cfg ops s vs) (fun _ _ => Pres.of_same ⟨rfl, rfl, rfl⟩)
    (fun hs => ?_)
  cases op <;> first | exact hs.elim | skip
  case clear => exact fun hw => ⟨(clearAll_invD cfg ops o _ hw).1, fun _ => (clearAll_invD cfg ops o _ hw).2⟩
  case runMaintenance => exact (runMaintenance_pres cfg ops o _).weaken (fun _ h => hh h rfl)
  case snapshot => exact toSnapshot_pres cfg ops o _
  case restore =>
    intro hw
    rcases stepOp_restore cfg ops o p0 s with ⟨_, he⟩ | ⟨sn, hsn, he⟩ <;> rw [he]
    · exact ⟨hw, fun _ ha => ha⟩
    · exact ⟨(restore_inv cfg p0 _ sn (hw.2 sn hsn)).1, fun _ _ => (restore_inv cfg p0 _ sn (hw.2 sn hsn)).2⟩
  case release => exact release_pres _
  case gate closed => cases closed <;> exact Pres.of_same ⟨rfl, rfl, rfl⟩

theorem fresh_wf (p0 : P) (t0 : Nat) : WF (State.fresh cfg p0 t0) :=
  ⟨List.nodup_nil, fun _ h => nomatch h⟩

theorem WF_step (p0 : P) (o : Oracle) (s : State P) (op : Op) (hwf : WF s) :
    WF (stepOp cfg ops p0 o s op).1 := (stepOp_pres (H := False) cfg ops p0 o s op (fun h => h.elim) hwf).1

theorem WF_run (p0 : P) (t0 : Nat) (hist : List (Op × Oracle)) :
    WF (run cfg ops p0 (State.fresh cfg p0 t0) hist).1 :=
  (run_inv cfg ops (fun s (_ : Unit) => WF s) p0 hist (fun s _ op o _ h => ⟨(), WF_step cfg ops p0 o s op h⟩) _ ()
    (fresh_wf cfg p0 t0)).elim (fun _ h => h)

theorem WF_run_prefix (cfg : Cfg) (ops : PolicyOps P) (p0 : P) (t0 : Nat) (hist : List (Op × Oracle)) (n : Nat) :
    WF (run cfg ops p0 (State.fresh cfg p0 t0) (hist.take n)).1 :=
  WF_run cfg ops p0 t0 _

def Reachable (cfg : Cfg) (ops : PolicyOps P) (p0 : P) (t0 : Nat) (s : State P) : Prop :=
  ∃ hist : List (Op × Oracle), s = (run cfg ops p0 (State.fresh cfg p0 t0) hist).1

theorem Reachable.fresh (cfg : Cfg) (ops : PolicyOps P) (p0 : P) (t0 : Nat) :
    Reachable cfg ops p0 t0 (State.fresh cfg p0 t0) := ⟨[], rfl⟩

theorem run_append_fst (p0 : P) :
    ∀ (h1 h2 : List (Op × Oracle)) (s : State P),
      (run cfg ops p0 s (h1 ++ h2)).1 = (run cfg ops p0 (run cfg ops p0 s h1).1 h2).1 := by
  intro h1
  induction h1 with
  | nil => intro h2 s; rfl
  | cons x rest ih =>
    intro h2 s
    obtain ⟨op, o⟩ := x
    rw [List.cons_append, run_cons_fst, run_cons_fst, ih]

theorem Reachable.step {cfg : Cfg} {ops : PolicyOps P} {p0 : P} {t0 : Nat} {s : State P}
    (h : Reachable cfg ops p0 t0 s) (o : Oracle) (op : Op) :
    Reachable cfg ops p0 t0 (stepOp cfg ops p0 o s op).1 := by
  obtain ⟨hist, rfl⟩ := h
  exact ⟨hist ++ [(op, o)], by rw [run_append_fst]; rfl⟩

theorem WF_reachable {cfg : Cfg} {ops : PolicyOps P} {p0 : P} {t0 : Nat} {s : State P}
    (h : Reachable cfg ops p0 t0 s) : WF s := by
  obtain ⟨hist, rfl⟩ := h
  exact WF_run cfg ops p0 t0 hist

-- non-vacuity: a reachable state with content
example : Reachable (P := Unit) { nshards := 2 } nullOps () 0
    (run { nshards := 2 } nullOps () (State.fresh { nshards := 2 } () 0)
      [(.insert false 1 101 1, {}), (.insert false 1 102 2, {}), (.runMaintenance, {})]).1 := ⟨_, rfl⟩

/-- F8b: `try_send` on a full write-event buffer drops the event; the entry stays resident and no
    policy hears of it -/
theorem pushEvent_full (s : State P) (k c : Nat) (a : Aux P)
    (ha : s.aux[cfg.shardOf k]? = some a) (hfull : cfg.eventCap ≤ a.events.length) :
    (s.pushEvent cfg k c).aux = s.aux := by
  unfold State.pushEvent State.modAux
  dsimp only
  apply List.ext_getElem?
  intro j
  rw [getElem?_modAt]
  split
  · next hj =>
    subst hj
    rw [ha]
    simp only [Option.map_some]
    rw [if_neg (by omega)]
  · rfl

end Fv.Cache
