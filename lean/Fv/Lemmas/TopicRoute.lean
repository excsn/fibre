import Fv.Lemmas.TopicCalls
/-! Routing invariant: while some sender handle is left (the dispatcher is reachable), the topic
lists and the live receivers' own subscription sets agree; as long as `subscribe` is not called on a
closed handle, a closed receiver holds no subscription. -/
namespace Fv.Chan.Topic

structure Routed (s : St) : Prop where
  inRange : ∀ t r, (t, r) ∈ s.regs → r < s.rxs.length
  ok : ∀ (r : Nat) (x : Rx), s.rxs[r]? = some x → x.live = true → x.hasDisp = true ∧ ∀ t, (t, r) ∈ s.regs ↔ t ∈ x.subs

def ClosedEmpty (s : St) : Prop :=
  ∀ (r : Nat) (x : Rx), s.rxs[r]? = some x → x.live = true → x.closed = true → x.subs = []

/-- `ClosedEmpty` needs a history in which `subscribe` is never called on a closed handle, hence the guard `P`
(`True` for such histories, `False` for arbitrary ones). -/
structure Routing (P : Prop) (s : St) : Prop where
  routed : Routed s
  closedEmpty : P → ClosedEmpty s

/-- Once every sender handle is dropped nothing is claimed: receivers cloned from then on have no dispatcher. -/
def RI (P : Prop) (s : St) : Prop := dispAlive s = true → Routing P s

def OkSub (s : St) (op : Op) : Prop :=
  ∀ r t x, op = .subscribe r t → s.rxs[r]? = some x → x.closed = false

theorem Routed.upgradable {s : St} (h : Routed s) (hd : dispAlive s = true) {r : Nat} {x : Rx}
    (hx : s.rxs[r]? = some x) (hl : x.live = true) : upgradable s x = true := by
  simp [Topic.upgradable, (h.ok r x hx hl).1, hd]

theorem Routed.frame {s s' : St} (h : Routed s) (hr : s'.regs = s.regs) (hlen : s.rxs.length ≤ s'.rxs.length)
    (hx : ∀ (r : Nat) (y : Rx), s'.rxs[r]? = some y → y.live = true →
      ∃ x, s.rxs[r]? = some x ∧ x.live = true ∧ y.hasDisp = x.hasDisp ∧ y.subs = x.subs) : Routed s' := by
  refine ⟨fun t r hm => Nat.lt_of_lt_of_le (h.inRange t r (hr ▸ hm)) hlen, fun r y hy hl => ?_⟩
  obtain ⟨x, hx, hxl, hd, hs⟩ := hx r y hy hl
  rw [hr, hd, hs]
  exact h.ok r x hx hxl

theorem ClosedEmpty.frame {s s' : St} (h : ClosedEmpty s)
    (hx : ∀ (r : Nat) (y : Rx), s'.rxs[r]? = some y → y.live = true → y.closed = true →
      ∃ x, s.rxs[r]? = some x ∧ x.live = true ∧ x.closed = true ∧ y.subs = x.subs) : ClosedEmpty s' := by
  intro r y hy hl hc
  obtain ⟨x, hx, hxl, hxc, hs⟩ := hx r y hy hl hc
  rw [hs]; exact h r x hx hxl hxc

theorem RI_move {P : Prop} {op : Op} {s s' : St} (h : Move op s s') (hop : op.isRxHandle = false)
    (hri : Routing P s) : Routing P s' := by
  have old : ∀ (r : Nat) (y : Rx), s'.rxs[r]? = some y → ∃ x, s.rxs[r]? = some x ∧ RxFrame op x y := by
    intro r y hy
    obtain ⟨x, hf, hx | ⟨_, _, _, q, rfl⟩⟩ := h.get hy
    · exact ⟨x, hx, hf⟩
    · cases hop
  refine ⟨hri.routed.frame (h.regs_eq hop) h.length_le fun r y hy hl => ?_,
    fun hP => (hri.closedEmpty hP).frame fun r y hy hl hc => ?_⟩
  · obtain ⟨x, hx, hf⟩ := old r y hy
    exact ⟨x, hx, hf.live hl, hf.hasDisp, (hf.subs hop).1⟩
  · obtain ⟨x, hx, hf⟩ := old r y hy
    exact ⟨x, hx, hf.live hl, (hf.subs hop).2 hc, (hf.subs hop).1⟩

theorem Routed.setSubs {s s' : St} (h : Routed s) {r : Nat} {x : Rx} {g : Rx → List Topic} (hx : s.rxs[r]? = some x)
    (hl : x.live = true) (hrxs : s'.rxs = modAt s.rxs r (fun x => { x with subs := g x }))
    (hself : ∀ u, (u, r) ∈ s'.regs ↔ u ∈ g x)
    (hoth : ∀ u q, r ≠ q → isLive s.rxs q = true → ((u, q) ∈ s'.regs ↔ (u, q) ∈ s.regs))
    (hin : ∀ u q, (u, q) ∈ s'.regs → (u, q) ∈ s.regs ∨ q = r) : Routed s' := by
  refine ⟨fun u q hq => ?_, fun q y hy hly => ?_⟩
  · rw [hrxs, length_modAt]
    rcases hin u q hq with hq | rfl
    · exact h.inRange u q hq
    · exact (List.getElem?_eq_some_iff.1 hx).1
  · rw [hrxs] at hy
    rcases getElem?_modAt_some hy with ⟨hq, hy⟩ | ⟨rfl, x', hx', rfl⟩
    · exact ⟨(h.ok q y hy hly).1, fun u =>
        (hoth u q hq ((isLive_true_iff _ _).2 ⟨y, hy, hly⟩)).trans ((h.ok q y hy hly).2 u)⟩
    · cases hx.symm.trans hx'
      exact ⟨(h.ok r x hx hl).1, hself⟩

theorem Routed.sub {s : St} (h : Routed s) {r : Nat} {x : Rx} (t : Topic) (hd : dispAlive s = true)
    (hx : s.rxs[r]? = some x) (hl : x.live = true) : Routed (subscribeCore s r t) := by
  by_cases hm : t ∈ x.subs
  · rw [subscribeCore_of_mem hx hm]; exact h
  obtain ⟨hrxs, hmem⟩ := subscribeCore_spec hx hm (h.upgradable hd hx hl)
  refine h.setSubs hx hl hrxs (fun u => ?_) (fun u q hq hlq => ?_) (fun u q hq => ?_)
  · simp [hmem, (h.ok r x hx hl).2 u, (isLive_true_iff _ _).2 ⟨x, hx, hl⟩]
  · simp [hmem, hlq, Ne.symm hq]
  · exact ((hmem u q).1 hq).imp And.left fun e => (Prod.mk.inj e).2

theorem Routed.unsub {s : St} (h : Routed s) {r : Nat} {x : Rx} (t : Topic) (hd : dispAlive s = true)
    (hx : s.rxs[r]? = some x) (hl : x.live = true) : Routed (unsubscribeCore s r t) := by
  by_cases hm : t ∉ x.subs
  · rw [unsubscribeCore_of_not_mem hx hm]; exact h
  obtain ⟨hrxs, hmem⟩ := unsubscribeCore_spec hx (Decidable.not_not.1 hm) (h.upgradable hd hx hl)
  refine h.setSubs hx hl hrxs (fun u => ?_) (fun u q hq hlq => ?_) (fun u q hq => .inl ((hmem u q).1 hq).1)
  · simp [hmem, (h.ok r x hx hl).2 u]
  · simp [hmem, hlq, Ne.symm hq]

theorem ClosedEmpty.isOpen {s : St} (h : ClosedEmpty s) {r : Nat} {x : Rx} {t : Topic} (hx : s.rxs[r]? = some x)
    (hl : x.live = true) (hm : t ∈ x.subs) : x.closed = false :=
  Bool.eq_false_iff.2 fun hc => List.ne_nil_of_mem hm (h r x hx hl hc)

theorem ClosedEmpty.setSubs {s : St} (h : ClosedEmpty s) {r : Nat} {x : Rx} (hx : s.rxs[r]? = some x)
    (hc : x.closed = false) {rxs' : List Rx} {g : Rx → List Topic}
    (hrxs : rxs' = modAt s.rxs r (fun x => { x with subs := g x })) :
    ∀ (q : Nat) (y : Rx), rxs'[q]? = some y → y.live = true → y.closed = true → y.subs = [] := by
  intro q y hy hl hcl
  rw [hrxs] at hy
  rcases getElem?_modAt_some hy with ⟨_, hy⟩ | ⟨rfl, x', hx', rfl⟩
  · exact h q y hy hl hcl
  · cases hx.symm.trans hx'
    rw [hc] at hcl; cases hcl

theorem RI_subscribeCore {P : Prop} {s : St} {r : Nat} {x : Rx} (t : Topic) (hd : dispAlive s = true)
    (hx : s.rxs[r]? = some x) (hl : x.live = true) (hc : P → x.closed = false)
    (h : Routing P s) : Routing P (subscribeCore s r t) :=
  ⟨h.routed.sub t hd hx hl, fun hP =>
    (subscribeCore_edit s r t).rxs.elim fun _ e => (h.closedEmpty hP).setSubs hx (hc hP) e⟩

/-- the `subscribe` loop of a receiver's `Clone` -/
theorem RI_foldl_subscribeCore {P : Prop} (l : List Topic) {s : St} {r : Nat} {x : Rx} (hd : dispAlive s = true)
    (hx : s.rxs[r]? = some x) (hl : x.live = true) (hc : x.closed = false) (h : Routing P s) :
    Routing P (l.foldl (fun s t => subscribeCore s r t) s) := by
  induction l generalizing s x with
  | nil => exact h
  | cons t l ih =>
    obtain ⟨g, e⟩ := (subscribeCore_edit s r t).rxs
    exact ih ((subscribeCore_edit s r t).dispAlive.trans hd) (x := { x with subs := g x })
      (by rw [e, getElem?_modAt_self, hx]; rfl) hl hc (RI_subscribeCore t hd hx hl (fun _ => hc) h)

/-- the unsubscribe loop of `close_internal` -/
theorem Routed.unsubLoop {s : St} (h : Routed s) (l : List Topic) {r : Nat} {x : Rx}
    (hd : dispAlive s = true) (hx : s.rxs[r]? = some x) (hl : x.live = true) :
    Routed (l.foldl (fun s t => unsubscribeCore s r t) s) ∧
    (l.foldl (fun s t => unsubscribeCore s r t) s).rxs[r]? =
      some { x with subs := x.subs.filter (fun u => !l.contains u) } ∧
    ∀ q, r ≠ q → (l.foldl (fun s t => unsubscribeCore s r t) s).rxs[q]? = s.rxs[q]? := by
  induction l generalizing s x with
  | nil =>
    have : x.subs.filter (fun u => !([] : List Topic).contains u) = x.subs := List.filter_eq_self.2 fun _ _ => rfl
    exact ⟨h, by rw [List.foldl_nil, hx, this], fun _ _ => rfl⟩
  | cons t l ih =>
    obtain ⟨h1, h2, h3⟩ := ih (h.unsub t hd hx hl) ((unsubscribeCore_edit s r t).dispAlive.trans hd)
      (unsubscribeCore_get_self hx t) hl
    refine ⟨h1, ?_, fun q hq => (h3 q hq).trans (unsubscribeCore_get_ne s t hq)⟩
    rw [List.foldl_cons, h2]
    simp only [List.filter_filter, Option.some.injEq]
    congr 1
    apply List.filter_congr
    intro a _
    simp only [List.contains_cons, Bool.not_or, bne, Bool.and_comm]

/-- `close()` / drop of an open receiver: the flag is invisible to `Routed`, and `close_internal`'s loop keeps it
while emptying the receiver's own set -/
theorem RI_closePart {P : Prop} {s : St} {r : Nat} {x : Rx} (hd : dispAlive s = true) (hx : s.rxs[r]? = some x)
    (hl : x.live = true) (h : Routing P s) :
    Routing P (rxCloseInternal { s with rxs := modAt s.rxs r (fun x => { x with closed := true }) } r) := by
  have hx1 : ({ s with rxs := modAt s.rxs r (fun x => { x with closed := true }) } : St).rxs[r]? =
      some { x with closed := true } := by simp [getElem?_modAt_self, hx]
  have h1 : Routed { s with rxs := modAt s.rxs r (fun x => { x with closed := true }) } := by
    refine h.routed.frame rfl (by simp) fun q y hy hly => ?_
    rcases getElem?_modAt_some hy with ⟨_, hy⟩ | ⟨_, x', hx', rfl⟩
    · exact ⟨y, hy, hly, rfl, rfl⟩
    · exact ⟨x', hx', hly, rfl, rfl⟩
  rw [rxCloseInternal_eq hx1, if_pos (h1.upgradable hd hx1 hl)]
  obtain ⟨h2, hself, hoth⟩ := h1.unsubLoop x.subs hd hx1 hl
  refine ⟨⟨h2.inRange, h2.ok⟩, fun hP q y (hy : (x.subs.foldl (fun s t => unsubscribeCore s r t) _).rxs[q]? = some y)
    hly hcl => ?_⟩
  by_cases hq : r = q
  · subst hq
    rw [hself] at hy
    cases hy
    exact List.filter_eq_nil_iff.2 fun u hu => by simp [hu]
  · rw [hoth q hq, getElem?_modAt_ne _ _ _ _ hq] at hy
    exact h.closedEmpty hP q y hy hly hcl

/-- both invariants speak of live receivers only -/
theorem RI_dropRx {P : Prop} {s : St} (r : Nat) (h : Routing P s) :
    Routing P { s with rxs := modAt s.rxs r (fun x => { x with live := false, disc := true }) } := by
  have old : ∀ (q : Nat) (y : Rx), (modAt s.rxs r (fun x => { x with live := false, disc := true }))[q]? = some y →
      y.live = true → s.rxs[q]? = some y := by
    intro q y hy hl
    rcases getElem?_modAt_some hy with ⟨_, hy⟩ | ⟨_, x, _, rfl⟩
    · exact hy
    · cases hl
  exact ⟨h.routed.frame rfl (by simp) fun q y hy hl => ⟨y, old q y hy hl, hl, rfl, rfl⟩,
    fun hP => (h.closedEmpty hP).frame fun q y hy hl hc => ⟨y, old q y hy hl, hl, hc, rfl⟩⟩

theorem RI_push {P : Prop} {s s' : St} {y : Rx} (hr : s'.regs = s.regs) (hrxs : s'.rxs = s.rxs ++ [y])
    (hy : y.hasDisp = true) (hs : y.subs = []) (h : Routing P s) : Routing P s' := by
  have get : ∀ (q : Nat) (z : Rx), s'.rxs[q]? = some z → s.rxs[q]? = some z ∨ (q = s.rxs.length ∧ z = y) :=
    fun q z hz => getElem?_concat_some (hrxs ▸ hz)
  refine ⟨⟨fun t q hq => ?_, fun q z hz hl => ?_⟩, fun hP q z hz hl hc => ?_⟩
  · have := h.routed.inRange t q (hr ▸ hq)
    simp [hrxs]; omega
  · rw [hr]
    rcases get q z hz with hz | ⟨rfl, rfl⟩
    · exact h.routed.ok q z hz hl
    · exact ⟨hy, fun t => by simpa [hs] using fun hm => Nat.lt_irrefl _ (h.routed.inRange t _ hm)⟩
  · rcases get q z hz with hz | ⟨_, rfl⟩
    · exact h.closedEmpty hP q z hz hl hc
    · exact hs

theorem RI_step (s : St) (op : Op) {P : Prop} (hop : P → OkSub s op) (hri : RI P s) : RI P (step s op).1 := by
  intro hd'
  have hd := (step_move s op).dispAlive hd'
  have h := hri hd
  cases op with
  | subscribe r t =>
    simp only [step, subscribe]; split
    · exact h
    · rename_i x hx
      obtain ⟨hx, hl⟩ := rxLive_some hx
      exact RI_subscribeCore t hd hx hl (fun hP => hop hP r t x rfl hx) h
  | unsubscribe r t =>
    simp only [step, unsubscribe]; split
    · exact h
    · rename_i x hx
      obtain ⟨hx, hl⟩ := rxLive_some hx
      refine ⟨h.routed.unsub t hd hx hl, fun hP => ?_⟩
      by_cases hm : t ∈ x.subs
      · exact (unsubscribeCore_edit s r t).rxs.elim fun _ e =>
          (h.closedEmpty hP).setSubs hx ((h.closedEmpty hP).isOpen hx hl hm) e
      · rw [unsubscribeCore_of_not_mem hx hm]; exact h.closedEmpty hP
  | rClone r =>
    simp only [step, rClone]; split
    · exact h
    · rename_i x hx
      obtain ⟨hx, hl⟩ := rxLive_some hx
      rw [if_pos (h.routed.upgradable hd hx hl)]
      exact RI_foldl_subscribeCore x.subs (x := freshRx x) hd (by simp) rfl rfl (RI_push (s := s) rfl rfl rfl rfl h)
  | rClose r =>
    simp only [step, rClose]; split
    · exact h
    · rename_i x hx
      obtain ⟨hx, hl⟩ := rxLive_some hx
      split
      · exact h
      · exact RI_closePart hd hx hl h
  | rDrop r =>
    simp only [step, rDrop]; split
    · exact h
    · rename_i x hx
      obtain ⟨hx, hl⟩ := rxLive_some hx
      refine RI_dropRx r ?_
      split
      · exact h
      · exact RI_closePart hd hx hl h
  | _ => exact RI_move (step_move s _) rfl h

theorem RI_init (cap : Nat) (k : Kind) (P : Prop) : RI P (init cap k) := by
  refine fun _ => ⟨⟨by simp [init], fun r x hx _ => ?_⟩, fun _ r x hx _ hc => ?_⟩ <;>
    cases r <;> simp [init] at hx <;> subst hx
  · simp [init]
  · cases hc

theorem routed_iff (s : St) (hri : RI True s) (hd : dispAlive s = true) (t : Topic) (r : Nat) :
    ((t, r) ∈ s.regs ∧ isLive s.rxs r = true) ↔ subscribedTo s r t = true := by
  obtain ⟨hr, hc⟩ := hri hd
  unfold subscribedTo
  constructor
  · rintro ⟨hm, hl⟩
    obtain ⟨x, hx, hl⟩ := (isLive_true_iff _ _).1 hl
    have hs := ((hr.ok r x hx hl).2 t).1 hm
    simp [hx, hl, (hc trivial).isOpen hx hl hs, hs]
  · intro hs
    cases hx : s.rxs[r]? with
    | none => simp [hx] at hs
    | some x =>
      simp only [hx, Bool.and_eq_true, List.contains_iff_mem] at hs
      exact ⟨((hr.ok r x hx hs.1.1).2 t).2 hs.2, (isLive_true_iff _ _).2 ⟨x, hx, hs.1.1⟩⟩

end Fv.Chan.Topic
