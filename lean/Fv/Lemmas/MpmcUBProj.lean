import Fv.Chan.MpmcUB
import Fv.Lemmas.ChainBStep
import Fv.Lemmas.Common
/-!
`MpmcUB` embeds `ChainB`: every step of the channel model leaves the chain component unchanged or
performs exactly one step of the chain model on it.  The same case analysis shows that a step of thread `t`
leaves alone which handle (`tpc`) every other thread operates.
-/
namespace Fv.Chan.MpmcUB

variable {cfg : Cfg} {s s' : State}

def ChainMove (cfg : Cfg) (s s' : State) : Prop :=
  s'.ch = s.ch ∨ ∃ a cl, ChainB.step cfg.chain s.ch a cl = some s'.ch

theorem unlockWith_ch (s : State) (r : Nat) (res : Res) (a : After) : (unlockWith s r res a).ch = s.ch := rfl

@[simp] theorem startCancel_same (s : State) (r : Nat) (p : RPC) :
    (startCancel s r p).ch = s.ch ∧ (startCancel s r p).tpc = s.tpc := by
  unfold startCancel; split <;> exact ⟨rfl, rfl⟩

@[simp] theorem gotItems_same (s : State) (r : Nat) (vs : List Nat) :
    (gotItems s r vs).ch = s.ch ∧ (gotItems s r vs).tpc = s.tpc := by
  unfold gotItems unlockWith; repeat' split
  all_goals exact ⟨rfl, rfl⟩

@[simp] theorem gotDisc_same (s : State) (r : Nat) : (gotDisc s r).ch = s.ch ∧ (gotDisc s r).tpc = s.tpc := by
  unfold gotDisc unlockWith; split <;> exact ⟨rfl, rfl⟩

@[simp] theorem afterRemove_same (s : State) (r : Nat) :
    (afterRemove s r).ch = s.ch ∧ (afterRemove s r).tpc = s.tpc := by
  unfold afterRemove; split <;> simp

@[simp] theorem removeReg_same (s : State) (r : Nat) : (removeReg s r).ch = s.ch ∧ (removeReg s r).tpc = s.tpc := by
  unfold removeReg; repeat' split
  all_goals simp

@[simp] theorem toRegister_same (s : State) (r : Nat) :
    (toRegister s r).ch = s.ch ∧ (toRegister s r).tpc = s.tpc := by
  unfold toRegister; repeat' split
  all_goals exact ⟨rfl, rfl⟩

@[simp] theorem popNone_same (s : State) (r : Nat) : (popNone s r).ch = s.ch ∧ (popNone s r).tpc = s.tpc := by
  unfold popNone unlockWith; repeat' split
  all_goals simp

abbrev Eff (cfg : Cfg) (t : Nat) (s s' : State) : Prop :=
  (∀ u, u ≠ t → s'.tpc u = s.tpc u) ∧ ChainMove cfg s s'

/-- `Eff cfg t s s'` from `hs : o = some s'`, where every branch of `o` is `none`, `some _` or
`(ChainB.step …).map/.bind _` -/
syntax "eff_close " ident : tactic
macro_rules
  | `(tactic| eff_close $hs) => `(tactic| (
      repeat' split at $hs:ident
      all_goals first
        | cases $hs:ident
        | (simp only [Option.map_eq_some_iff, Option.bind_eq_some_iff] at $hs:ident; obtain ⟨c, hc, he⟩ := $hs)
      all_goals try (repeat' split at he)
      all_goals try cases he
      all_goals refine ⟨fun u hu => by simp [upd, ChainB.upd, hu], ?_⟩
      all_goals first
        | exact .inr ⟨_, _, by simpa using hc⟩
        | exact .inl (by simp)))

theorem callS_eff {t h : Nat} {op : SOp} (hs : stepCallS cfg s t h op = some s') : Eff cfg t s s' := by
  unfold stepCallS at hs
  dsimp only [sArcRelease] at hs
  eff_close hs

theorem callR_eff {t r : Nat} {op : ROp} (hs : stepCallR s t r op = some s') : Eff cfg t s s' := by
  unfold stepCallR at hs
  eff_close hs

theorem stepS_eff {t h : Nat} (hs : stepS cfg s t h = some s') : Eff cfg t s s' := by
  unfold stepS stepS_chk stepS_chain stepS_rec stepS_nLock stepS_wLock stepS_state stepS_cnt stepS_unlock stepS_fire
    stepS_fireUnpark stepS_closeChain stepS_fin at hs
  dsimp only [sArcRelease, sAfterClose] at hs
  eff_close hs

theorem stepR_eff {t r : Nat} (hs : stepR cfg s t r = some s') : Eff cfg t s s' := by
  unfold stepR at hs
  split at hs
  all_goals try simp only [stepR_closedLoad, stepR_lock, stepR_pop, stepR_inPop, stepR_cons, stepR_senders, stepR_rmCnt,
    stepR_regCnt, stepR_unlock, stepR_park, stepR_stLoad, stepR_termLoad, stepR_tfLock, stepR_cwLock, stepR_selfWake,
    stepR_selfUnpark, stepR_rcntDec, stepR_fin, rArcRelease, unlockWith] at hs
  all_goals eff_close hs

theorem step_eff {t : Nat} {l : Label} (hs : step cfg s t l = some s') : Eff cfg t s s' := by
  cases l <;> simp only [step] at hs
  · exact callS_eff hs
  · exact callR_eff hs
  · unfold stepAdv at hs
    repeat' split at hs
    · cases hs
    · exact stepS_eff hs
    · cases hs
    · exact stepR_eff hs
    · cases hs
  · unfold stepRet at hs; eff_close hs
  · unfold stepEnv at hs; eff_close hs

theorem reach_chain {cfg : Cfg} {s : State} (h : Reach cfg s) : ChainB.Reach cfg.chain s.ch := by
  induction h with
  | init => exact ChainB.Reach.init
  | step _ hs ih =>
    rcases (step_eff hs).2 with e | ⟨a, cl, hc⟩
    · rw [e]; exact ih
    · exact ChainB.Reach.step ih hc

theorem chain_inv {cfg : Cfg} {s : State} (hN : 0 < cfg.chain.N) (h : Reach cfg s) : ChainB.Inv cfg.chain s.ch :=
  ChainB.inv_reach hN (reach_chain h)

theorem reach_run {cfg : Cfg} (tr : List (Nat × Label)) (s0 s : State) (h0 : Reach cfg s0)
    (h : run cfg s0 tr = some s) : Reach cfg s :=
  run_closed (fun _ => rfl) (fun _ _ _ _ => rfl) Reach.step tr s0 s h0 h

theorem run_tpc_other {cfg : Cfg} (t0 : Nat) (tr : List (Nat × Label)) (htr : ∀ x ∈ tr, x.1 = t0) (s0 s : State)
    (h : run cfg s0 tr = some s) (u : Nat) (hu : u ≠ t0) : s.tpc u = s0.tpc u := by
  induction tr generalizing s0 with
  | nil => simp [run] at h; subst h; rfl
  | cons x rest ih =>
    obtain ⟨a, l⟩ := x
    have ha : a = t0 := htr (a, l) (by simp)
    subst ha
    simp only [run, Option.bind] at h
    split at h
    · simp at h
    · rename_i s1 hs1
      rw [ih (fun y hy => htr y (by simp [hy])) s1 h, (step_eff hs1).1 u hu]

end Fv.Chan.MpmcUB
