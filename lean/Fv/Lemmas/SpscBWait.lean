import Fv.Lemmas.SpscBCtl
/-! Waiter-protocol invariants of the SPSC step-level model, each stated for one waiter slot in terms of what it
reads: `w` are the locals of the waiter, `n` those of the thread that notifies it. `W s`: all three, both slots. -/
namespace Fv.Chan.SpscB

/-- `w` holds its own slot mutex (inside `register` / `unregister`) -/
def holdsSelf : Mic → Bool
  | .rgStGate | .rgUnlock | .urStGate | .urUnlock => true
  | _ => false
/-- `n` holds the other side's slot mutex (inside `wake_one`) -/
def holdsW : Mic → Bool
  | .wkStGate _ | .wkStFlag | .wkUnlock _ => true
  | _ => false
/-- `n` has taken the waiter out of the slot and has not yet set its `notified` flag -/
def wkPre : Mic → Bool
  | .wkStGate true | .wkStFlag => true
  | _ => false
/-- `n` has set the flag and is about to unlock / unpark -/
def wkPost : Mic → Bool
  | .wkUnlock true | .wkUnpark => true
  | _ => false

theorem wkPre_holdsW {m : Mic} (h : wkPre m = true) : holdsW m = true := by
  cases m <;> simp_all [wkPre, holdsW]

def WA (w n : Loc) (locked : Bool) (gate : Nat) (slot : Option Bool) : Prop :=
  (holdsSelf w.m = true → locked = true) ∧
  (holdsW n.m = true → locked = true) ∧
  (locked = true → holdsSelf w.m = true ∨ holdsW n.m = true) ∧
  (holdsSelf w.m = true → holdsW n.m = false) ∧
  (slot ≠ none → gate = 1 ∨ w.m = .rgStGate) ∧
  (slot = none → gate = 0 ∨ w.m = .urStGate ∨ n.m = .wkStGate true ∨ n.m = .wkStGate false) ∧
  (w.m = .rgStGate ∨ w.m = .rgUnlock → slot = some true) ∧
  (holdsW n.m = true → slot = none) ∧
  (slot = none ∨ slot = some true) ∧
  (w.m = .urStGate ∨ w.m = .urUnlock → slot = none)

def WC (w n : Loc) (slot : Option Bool) (flag tok : Bool) : Prop :=
  (w.reg = true → loopish w.k = true) ∧
  (slot ≠ none → w.reg = true ∨ w.m = .rgStGate ∨ w.m = .rgUnlock) ∧
  (w.reg = true → slot = none → flag = true ∨ wkPre n.m = true ∨ w.m = .urStGate ∨ w.m = .urUnlock) ∧
  (wkPre n.m = true → w.reg = true ∧ flag = false) ∧
  (slot ≠ none → flag = false) ∧
  (flag = true → loopish w.k = true ∧ (w.reg = true ∨ exitK w.k = true)) ∧
  (flag = true → tok = true ∨ wkPost n.m = true ∨ w.m = .swapFlag ∨ exitK w.k = true) ∧
  (w.m = .park → w.reg = true) ∧
  (w.m = .rgLock ∨ w.m = .rgStGate ∨ w.m = .rgUnlock → w.reg = false) ∧
  (isRet w.m = true → w.reg = false) ∧
  (w.reg = true → w.k = .sL ∨ w.k = .rL ∨ w.k = .rL2 ∨ isUr w.m = true)

def WD (w : Loc) (closed dropped : Bool) (count : Nat) : Prop :=
  (closed = false → count = 1) ∧
  (w.m = .stDropped ∨ w.m = .subCount → count = 1 ∧ closed = true) ∧
  (dropped = true → closed = true) ∧
  count ≤ 1

def W1 (s : State) (q : Role) : Prop :=
  WA (s.loc q) (s.loc (other q)) (s.locked q) (s.gate q) (s.slot q) ∧
  WC (s.loc q) (s.loc (other q)) (s.slot q) (s.flag q) (s.tok q) ∧
  WD (s.loc q) (s.closed q) (s.dropped q) (s.count q)

def W (s : State) : Prop := ∀ q, W1 s q

theorem w_init (cap : Nat) (pp pc : List Op) : W (init cap pp pc) := by
  intro q; simp [W1, WA, WC, WD, init, holdsSelf, holdsW, wkPre]

theorem insec_false {m : Mic} (h : insec m = false) :
    holdsSelf m = false ∧ holdsW m = false ∧ wkPre m = false ∧ wkPost m = false ∧ m ≠ .swapFlag ∧ m ≠ .stDropped ∧
    m ≠ .subCount ∧ m ≠ .rgStGate ∧ m ≠ .rgUnlock ∧ m ≠ .urStGate ∧ m ≠ .urUnlock ∧ m ≠ .wkStGate true ∧
    m ≠ .wkStGate false := by
  cases m <;> simp_all [insec, holdsSelf, holdsW, wkPre, wkPost]

variable {s s' : State} {r : Role}

theorem W.holder (hw : W s) (q : Role) (h : s.locked q = true) :
    holdsSelf (s.loc q).m = true ∨ holdsW (s.loc (other q)).m = true := (hw q).1.2.2.1 h
theorem W.gate_of_slot (hw : W s) (q : Role) (h : s.slot q ≠ none) : s.gate q = 1 ∨ (s.loc q).m = .rgStGate :=
  (hw q).1.2.2.2.2.1 h
theorem W.taken (hw : W s) (q : Role) (hr : (s.loc q).reg = true) (hs : s.slot q = none) :
    s.flag q = true ∨ wkPre (s.loc (other q)).m = true ∨ (s.loc q).m = .urStGate ∨ (s.loc q).m = .urUnlock :=
  (hw q).2.1.2.2.1 hr hs
theorem W.tok_of_flag (hw : W s) (q : Role) (h : s.flag q = true) :
    s.tok q = true ∨ wkPost (s.loc (other q)).m = true ∨ (s.loc q).m = .swapFlag ∨ exitK (s.loc q).k = true :=
  (hw q).2.1.2.2.2.2.2.2.1 h
theorem W.reg_of_park (hw : W s) (q : Role) (h : (s.loc q).m = .park) : (s.loc q).reg = true :=
  (hw q).2.1.2.2.2.2.2.2.2.1 h
theorem W.last_count (hw : W s) (q : Role) (h : (s.loc q).m = .stDropped ∨ (s.loc q).m = .subCount) :
    s.count q = 1 ∧ s.closed q = true := (hw q).2.2.2.1 h

theorem W.lw (hw : W s) (r : Role) : Lw (s.loc r) := by
  obtain ⟨-, -, -, -, -, -, -, -, c9, -, c11⟩ := (hw r).2.1
  exact ⟨fun h => c9 (.inl h), c11⟩

def waitOf (s : State) := (s.locked, s.gate, s.slot, s.flag, s.tok, s.closed, s.dropped, s.count)

attribute [local grind] holdsSelf holdsW wkPre wkPost loopish exitK okAt inNotify isRet isUr

/-- the clauses of `r`'s own slot name only positions inside sections, `reg` and the class of `k`; those of the other
slot see `r` only inside `wake_one` -/
theorem W.quiet (r : Role) (hw : W s) (hq : Quiet (s.loc r) (s'.loc r))
    (ho : s'.loc (other r) = s.loc (other r)) (hs : waitOf s' = waitOf s) : W s' := by
  obtain ⟨q1, q2, q3, q4, q5, q6, q7, q8, q9⟩ := hq
  simp only [waitOf, Prod.mk.injEq] at hs
  obtain ⟨e1, e2, e3, e4, e5, e6, e7, e8⟩ := hs
  rw [W, forall_role r] at hw ⊢
  simp only [W1, WA, WC, WD, other_other, e1, e2, e3, e4, e5, e6, e7, e8, ho] at hw ⊢
  generalize s'.loc r = l' at *
  generalize s.loc r = l at *
  have i2 := insec_false q2
  have i3 := insec_false q3
  grind (splits := 60)

/-- The steps of `push`, `pop`, `notify_*`, the checks and a non-blocking call are quiet moves. The others write a
waiter slot, a flag, a token or the close flags: the clauses are checked at the positions left and entered. -/
theorem w_step (hc : CInv s) (hw : W s) (h : Act s r (s.loc r) s') : W s' := by
  have ok := hc.ok r
  have lw := hw.lw r
  have hw' := hw
  rw [W, forall_role r] at hw'
  simp only [W1, WA, WC, WD, other_other] at hw'
  cases h with
  | quiet hq => exact hw.quiet r (by simpa [setLoc] using (hq.move ok).2 lw) (upd_other ..) rfl
  | ring hr =>
    obtain ⟨hm, ho⟩ := hr.move ok
    cases hr <;> exact hw.quiet r (hm.2 lw) ho rfl
  | call _ _ hm =>
    refine hw.quiet r ?_ (upd_other ..) rfl
    simp only [upd_same, Quiet, Lw] at lw ⊢
    grind [insec]
  -- a handle's count is 1 until its `close_internal` gives it up
  | subCountMore hm hne => exact absurd (hw.last_count r (.inr hm)).1 hne
  | wkUnlockNone _ _ _ hl | wkUnpark _ hl | swapClosedDone _ _ hl =>
    cases hl <;> (
      simp only [W, forall_role r, W1, WA, WC, WD, other_other, setLoc, upd_same, upd_other, upd_other']
      grind (splits := 60) [wkPre_holdsW])
  | callWait | ret
  | wkLockTake | wkLockNone | wkStGate | wkStFlag | wkUnlockTook
  | rgLock | rgStGate | rgUnlock | urLock | urStGate | urUnlock
  | park | parkSpurious | swapFlagSet | swapFlagClear
  | casClosed | swapClosed | stDropped | subCountLast =>
    simp only [W, forall_role r, W1, WA, WC, WD, other_other, setLoc, upd_same, upd_other, upd_other']
    grind (splits := 60) [wkPre_holdsW]

end Fv.Chan.SpscB
