import Fv.Lemmas.SyncRwInv
/-!
`Inv2`, the queue flags of the state word.  `WRITER_PENDING` and `HAS_QUEUED` are written only inside list critical
sections (`qFetchOr`, `ff1`, `ff2`), and so are the counters `writers` / `len` of the wait list.  Outside the windows
`wpWin` / `hqWin` - in particular whenever the list spinlock is free - `WRITER_PENDING ⇔ 0 < writers` and
`HAS_QUEUED ⇔ 0 < len`.
-/
namespace Fv.Sync.RwLock
open Fv.Sync
variable {cfg : Cfg} {s s' : State} {t : Tid} {l : Lbl}

def PWpFree (s : State) : Prop := s.wl.locked = false → (s.word.wp = true ↔ 0 < s.wl.writers)
def PWpIn (s : State) : Prop :=
  ∀ t, inLL (s.th t).pc = true → wpWin (s.th t).pc = false → (s.word.wp = true ↔ 0 < s.wl.writers)
/-- just before the `fetch_or` of the queue block: a writer has its node linked; a reader has not
changed `writers` -/
def PWpFo (s : State) : Prop :=
  ∀ t, (s.th t).pc = .qFetchOr →
    (s.word.wp = true → 0 < s.wl.writers)
    ∧ ((s.th t).wr = false → 0 < s.wl.writers → s.word.wp = true)
    ∧ ((s.th t).wr = true → 0 < s.wl.writers)
def PHqFree (s : State) : Prop := s.wl.locked = false → (s.word.hq = true ↔ 0 < s.wl.len)
def PHqIn (s : State) : Prop :=
  ∀ t, inLL (s.th t).pc = true → hqWin (s.th t).pc = false → (s.word.hq = true ↔ 0 < s.wl.len)
def PHqFo (s : State) : Prop := ∀ t, (s.th t).pc = .qFetchOr → 0 < s.wl.len

structure Inv2 (s : State) : Prop where
  wpFree : PWpFree s
  wpIn : PWpIn s
  wpFo : PWpFo s
  hqFree : PHqFree s
  hqIn : PHqIn s
  hqFo : PHqFo s

theorem flags_local (hi : Inv s) (h2 : Inv2 s) (h : Step cfg s t l s') :
    (s'.wl.locked = false → (s'.word.wp = true ↔ 0 < s'.wl.writers))
    ∧ (inLL (s'.th t).pc = true → wpWin (s'.th t).pc = false → (s'.word.wp = true ↔ 0 < s'.wl.writers))
    ∧ ((s'.th t).pc = .qFetchOr →
        (s'.word.wp = true → 0 < s'.wl.writers)
        ∧ ((s'.th t).wr = false → 0 < s'.wl.writers → s'.word.wp = true)
        ∧ ((s'.th t).wr = true → 0 < s'.wl.writers))
    ∧ (s'.wl.locked = false → (s'.word.hq = true ↔ 0 < s'.wl.len))
    ∧ (inLL (s'.th t).pc = true → hqWin (s'.th t).pc = false → (s'.word.hq = true ↔ 0 < s'.wl.len))
    ∧ ((s'.th t).pc = .qFetchOr → 0 < s'.wl.len) := by
  have c1 := h2.wpFree; have c2 := h2.wpIn t; have c3 := h2.wpFo t
  have d1 := h2.hqFree; have d2 := h2.hqIn t; have d3 := h2.hqFo t
  have a : inLL (s.th t).pc = true → s.wl.locked = true := fun ht => (hi.ll t ht).1
  have e1 := hi.thrWr t; have e2 := hi.phNode t; have e3 := hi.futWr t; have e4 := hi.futNodeWr
  have b2 := hi.wrTgt t; have e5 := hi.syncLinked t
  have g1 : ∀ n, (s.wl.node n).linked = true → (s.wl.node n).isWriter = true → 0 < s.wl.writers :=
    fun n hl hw => hi.wf.writers_pos hl hw
  have g2 : ∀ n, (s.wl.node n).linked = true → 0 < s.wl.len := fun n hl => hi.wf.len_pos hl
  unfold PWpFree at c1; unfold PHqFree at d1; unfold PFutNodeWr at e4
  by_cases hpred : inLL (s.th t).pc = true ∨ ∃ k, (s.th t).pc = .llSwap k
  · clear hi h2
    narrow_sweep h hpred s s' t
    all_goals grind
  · -- outside the list critical sections (and the `swap` that opens one) nothing that is mentioned changes
    obtain ⟨hn, hk⟩ := not_or.1 hpred
    obtain ⟨f1, f2, f3⟩ := (step_word h).outside (by simpa using hn)
    obtain ⟨f4, f5, f6, f7⟩ := f3 (.inr fun k hp => hk ⟨k, hp⟩)
    have hq : (s'.th t).pc ≠ .qFetchOr := fun hp => by rw [hp] at f7; cases f7
    rw [f1, f2, f4, f5, f6, f7]
    exact ⟨c1, nofun, (absurd · hq), d1, nofun, (absurd · hq)⟩

theorem Inv2_step (hi : Inv s) (h2 : Inv2 s) (h : Step cfg s t l s') : Inv2 s' := by
  obtain ⟨w1, w2, w3, q1, q2, q3⟩ := flags_local hi h2 h
  have ho := step_th_other h
  refine ⟨w1, ?_, ?_, q1, ?_, ?_⟩ <;> intro u <;> by_cases hu : u = t
  · subst hu; exact w2
  · rw [ho u hu]; intro hin hw
    have fz := frozen hi h hu hin
    rw [fz.wp, fz.writers]; exact h2.wpIn u hin hw
  · subst hu; exact w3
  · rw [ho u hu]; intro hp
    have fz := frozen hi h hu (by rw [hp]; rfl)
    rw [fz.wp, fz.writers]; exact h2.wpFo u hp
  · subst hu; exact q2
  · rw [ho u hu]; intro hin hw
    have fz := frozen hi h hu hin
    rw [fz.hq, fz.len]; exact h2.hqIn u hin hw
  · subst hu; exact q3
  · rw [ho u hu]; intro hp
    rw [(frozen hi h hu (by rw [hp]; rfl)).len]; exact h2.hqFo u hp

theorem Inv2_init (prog : Tid → List ROp) : Inv2 (init prog) := by
  constructor <;> simp [init, PWpFree, PWpIn, PWpFo, PHqFree, PHqIn, PHqFo, inLL]

theorem Inv2_reach {s : State} (h : Reach cfg s) : Inv2 s := by
  have : Inv s ∧ Inv2 s := by
    refine ReachOf.inv (fun s => Inv s ∧ Inv2 s) ?_ ?_ s h
    · rintro s ⟨prog, rfl⟩; exact ⟨Inv_init prog, Inv2_init prog⟩
    · intro s t l s' hi hm
      exact ⟨Inv_step hi.1 (step_of_mem hm), Inv2_step hi.1 hi.2 (step_of_mem hm)⟩
  exact this.2

end Fv.Sync.RwLock
