import Fv.Lemmas.SyncMutexFrame
/-!
`Inv` is inductive.  What the stepping thread establishes comes from three passes over all step cases (`ctl_local`,
`fut_local`, `wf_step`), the conjuncts of the other threads from the frame lemmas, the two exclusion conjuncts
(`PLl`, `PBusy`) from `excl_step`.
-/
namespace Fv.Sync.Mutex
open Fv.Sync
variable {cfg : Cfg} {s s' : State} {t : Tid} {l : Lbl}

structure CtlLocal (s s' : State) (t : Tid) : Prop where
  lockedHeld : PLockedHeld s'
  freeEmpty : PFreeEmpty s'
  cas : isCas (s'.th t).pc = true → (s'.th t).sv.locked = false
  /-- from the `holders` check at `call` -/
  rel : (s'.th t).pc = .relAnd → (t, true) ∈ s'.holders
  syncCur : syncOnly (s'.th t).pc = true → (s'.th t).cur = none
  asyncCur : asyncOnly (s'.th t).pc = true → (s'.th t).cur ≠ none
  ffOk : (s'.th t).pc ≠ .ff .parkLoad ∧ (s'.th t).pc ≠ .ff .pending
  syncLinked : (s'.th t).cur = none → slowL (s'.th t).pc = true →
    (s'.th t).linked = (s'.wl.node (.thr t)).linked
  thrNode : (s'.wl.node (.thr t)).linked = true → (s'.th t).cur = none ∧ slowL (s'.th t).pc = true
  /-- `llEnter` and `llKeep` are the `enter` and `keep` hypotheses of `excl_step` -/
  llEnter : inLL (s'.th t).pc = true → s'.wl.locked = true ∧ (inLL (s.th t).pc = true ∨ s.wl.locked = false)
  llKeep : inLL (s.th t).pc = false → s.wl.locked = true → s'.wl.locked = true ∧ inLL (s'.th t).pc = false

theorem ctl_local (hi : Inv s) (h : Step cfg s t l s') : CtlLocal s s' t := by
  suffices hc : _ ∧ _ ∧ _ ∧ _ ∧ _ ∧ _ ∧ _ ∧ _ ∧ _ ∧ _ ∧ _ from
    ⟨hc.1, hc.2.1, hc.2.2.1, hc.2.2.2.1, hc.2.2.2.2.1, hc.2.2.2.2.2.1, hc.2.2.2.2.2.2.1, hc.2.2.2.2.2.2.2.1,
     hc.2.2.2.2.2.2.2.2.1, hc.2.2.2.2.2.2.2.2.2.1, hc.2.2.2.2.2.2.2.2.2.2⟩
  have h1 := hi.lockedHeld; have h2 := hi.freeEmpty
  have key := @holders_key s h1 h2 (t, true)
  have a0 := hi.svFree t; have a1 := hi.syncCur t; have a2 := hi.asyncCur t; have a3 := hi.syncLinked t
  have a4 := hi.thrNode t; have a5 := hi.ffOk t; have a6 := hi.relHolds t
  have a7 : inLL (s.th t).pc = true → s.wl.locked = true := fun h => (hi.ll t h).1
  clear hi
  step_split h s'
  all_goals (step_simp [PLockedHeld, PFreeEmpty])
  all_goals grind

structure FutLocal (s s' : State) (t : Tid) : Prop where
  own : ∀ f, (s'.th t).cur = some f → futPc (s'.th t).pc = true →
    (s'.fut f).busy = true ∧ (opOn s t f ∨ ((s.fut f).busy = false ∧ (s.th t).pc = .idle))
  fresh : ∀ f, (s'.th t).cur = some f →
    ((s'.th t).pc = .taLoad .asyncFirst ∨ (s'.th t).pc = .taCas .asyncFirst) → (s'.fut f).phase = .fresh
  started : ∀ f, (s'.th t).cur = some f →
    ((s'.th t).pc = .taLoad .pollTry ∨ (s'.th t).pc = .taCas .pollTry ∨ (s'.th t).pc = .boPark) →
    ((s'.fut f).phase = .startedNoNode ∨ (s'.fut f).phase = .startedNode)
  node : ∀ f, (s'.th t).cur = some f → futNodePc (s'.th t).pc = true → (s'.fut f).phase = .startedNode
  /-- from the unlink in `finish_node` / `drop` / the successful re-check to the end of the operation -/
  unl : ∀ f, (s'.th t).cur = some f → futUnlPc (s'.th t).pc = true → (s'.wl.node (.fut f)).linked = false
  futNode : PFutNode s'
  opOn : ∀ f, (opOn s t f → opOn s' t f ∨ (s'.fut f).busy = false)
    ∧ ((s.fut f).busy = false → (s'.fut f).busy = true → opOn s' t f)

theorem fut_local (hi : Inv s) (h : Step cfg s t l s') : FutLocal s s' t := by
  suffices hc : _ ∧ _ ∧ _ ∧ _ ∧ _ ∧ _ ∧ _ from
    ⟨hc.1, hc.2.1, hc.2.2.1, hc.2.2.2.1, hc.2.2.2.2.1, hc.2.2.2.2.2.1, hc.2.2.2.2.2.2⟩
  have a1 := hi.syncCur t; have a2 := hi.asyncCur t
  have b1 : ∀ f, (s.th t).cur = some f → futPc (s.th t).pc = true → (s.fut f).busy = true :=
    fun f hc hp => (hi.busy t f hc hp).1
  have b2 := hi.phFresh t; have b3 := hi.phStarted t; have b4 := hi.phNode t; have b5 := hi.futUnl t
  have c := hi.futNode
  clear hi
  step_split h s'
  all_goals (step_simp [opOn, PFutNode])
  all_goals grind

section
-- keep the unifier from matching `X.WF` against `(?wl.setLocked ?b).WF` by structure eta
attribute [local irreducible] WaitList.setLocked WaitList.putNode WaitList.setWaiter WaitList.setWoken
  WaitList.takeAndMark WaitList.linkBack WaitList.unlink

/-- only `link_back` and writing a fresh node have a side condition (the node is not queued) -/
theorem wf_step (hi : Inv s) (h : Step cfg s t l s') : s'.wl.WF := by
  have hWf := hi.wf
  have a2 := hi.asyncCur t; have a3 := hi.syncLinked t; have a4 := hi.thrNode t
  have b2 := hi.phFresh t; have c := hi.futNode
  clear hi
  step_split h s'
  all_goals (try simp only [withPc, setTh])
  all_goals repeat' (first
    | exact hWf
    | apply WaitList.WF.setLocked
    | apply WaitList.WF.setWaiter
    | apply WaitList.WF.setWoken
    | apply WaitList.WF.takeAndMark
    | apply WaitList.WF.unlink
    | apply WaitList.WF.linkBack
    | apply WaitList.WF.putNode)
  all_goals (clear hWf)
  all_goals (step_simp [PFutNode])
  all_goals grind
end

theorem futNodePc_futPc {pc : Pc} (h : futNodePc pc = true) : futPc pc = true := by
  cases pc <;> simp_all [futNodePc, futPc]
theorem futUnlPc_futPc {pc : Pc} (h : futUnlPc pc = true) : futPc pc = true := by
  cases pc <;> (try (rename_i a; cases a)) <;> simp_all [futUnlPc, futPc, After.async]

theorem ll_step (hi : Inv s) (h : Step cfg s t l s') : PLl s' := by
  have k := ctl_local hi h
  refine excl_step hi.ll (fun u hu => by rw [step_th_other h u hu]) (fun hu => ?_) (fun hn hl => ?_)
  · exact (k.llEnter hu).imp id (Or.imp id (by simp))
  · exact (k.llKeep (by simpa using hn) hl).1

theorem busy_step (hi : Inv s) (h : Step cfg s t l s') : PBusy s' := by
  intro u f hc hp
  have := excl_step (inR := fun u => opOn s u f) (inR' := fun u => opOn s' u f) (flag' := (s'.fut f).busy = true)
    (t := t)
    (fun u ⟨hc, hp⟩ => ⟨(hi.busy u f hc hp).1, fun v ⟨h1, h2⟩ => (hi.busy u f hc hp).2 v h1 h2⟩)
    (fun u hu => by unfold opOn; rw [step_th_other h u hu])
    (fun ⟨hc, hp⟩ => ((fut_local hi h).own f hc hp).imp id (Or.imp id (fun x => by simp [x.1])))
    (fun hn hb => by rw [((step_frame hi h).fut f hb hn).1]; exact hb) u ⟨hc, hp⟩
  exact ⟨this.1, fun v h1 h2 => this.2 v ⟨h1, h2⟩⟩

theorem ph_step (hi : Inv s) (h : Step cfg s t l s') : PPhFresh s' ∧ PPhStarted s' ∧ PPhNode s' ∧ PFutUnl s' := by
  have ho := step_th_other h
  have k := fut_local hi h
  refine ⟨?_, ?_, ?_, ?_⟩ <;> intro u f hc hp <;> by_cases hu : u = t
  · subst hu; exact k.fresh f hc hp
  · rw [ho u hu] at hc hp
    have hfp : futPc (s.th u).pc = true := by rcases hp with hp | hp <;> rw [hp] <;> rfl
    rw [(fut_of_other hi h hu hc hfp).1]; exact hi.phFresh u f hc hp
  · subst hu; exact k.started f hc hp
  · rw [ho u hu] at hc hp
    have hfp : futPc (s.th u).pc = true := by rcases hp with hp | hp | hp <;> rw [hp] <;> rfl
    rw [(fut_of_other hi h hu hc hfp).1]; exact hi.phStarted u f hc hp
  · subst hu; exact k.node f hc hp
  · rw [ho u hu] at hc hp
    rw [(fut_of_other hi h hu hc (futNodePc_futPc hp)).1]; exact hi.phNode u f hc hp
  · subst hu; exact k.unl f hc hp
  · rw [ho u hu] at hc hp
    rw [(fut_of_other hi h hu hc (futUnlPc_futPc hp)).2.linked]; exact hi.futUnl u f hc hp

theorem Inv_step (hi : Inv s) (h : Step cfg s t l s') : Inv s' := by
  have k := ctl_local hi h
  obtain ⟨q1, q2, q3, q4⟩ := ph_step hi h
  have ho := step_th_other h
  refine { lockedHeld := k.lockedHeld, freeEmpty := k.freeEmpty, svFree := ?_, relHolds := ?_, ll := ll_step hi h,
           wf := wf_step hi h, syncCur := ?_, asyncCur := ?_, syncLinked := ?_, thrNode := ?_,
           futNode := (fut_local hi h).futNode, busy := busy_step hi h, phFresh := q1, phStarted := q2,
           phNode := q3, futUnl := q4, ffOk := ?_ } <;> intro u <;> by_cases hu : u = t
  · subst hu; exact k.cas
  · rw [ho u hu]; exact hi.svFree u
  · subst hu; exact k.rel
  · rw [ho u hu]; exact fun hp => (step_frame hi h).holders u true hu (hi.relHolds u hp)
  · subst hu; exact k.syncCur
  · rw [ho u hu]; exact hi.syncCur u
  · subst hu; exact k.asyncCur
  · rw [ho u hu]; exact hi.asyncCur u
  · subst hu; exact k.syncLinked
  · rw [ho u hu, (kept_thr h u hu).linked]; exact hi.syncLinked u
  · subst hu; exact k.thrNode
  · rw [ho u hu, (kept_thr h u hu).linked]; exact hi.thrNode u
  · subst hu; exact k.ffOk
  · rw [ho u hu]; exact hi.ffOk u

theorem Inv_init (prog : Tid → List MOp) : Inv (init prog) := by
  constructor
  case wf => exact WaitList.WF.init
  all_goals
    simp [init, PLockedHeld, PFreeEmpty, PSvFree, PRelHolds, PLl, PSyncCur, PAsyncCur, PSyncLinked, PThrNode,
      PFutNode, PBusy, PPhFresh, PPhStarted, PPhNode, PFutUnl, PFfOk, inLL, isCas, syncOnly, asyncOnly, slowL,
      futPc, futNodePc, futUnlPc]

theorem Inv_reach {s : State} (h : Reach cfg s) : Inv s := by
  refine ReachOf.inv Inv ?_ ?_ s h
  · rintro s ⟨prog, rfl⟩; exact Inv_init prog
  · intro s t l s' hi hm; exact Inv_step hi (step_of_mem hm)

end Fv.Sync.Mutex
