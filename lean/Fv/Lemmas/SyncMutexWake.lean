import Fv.Lemmas.SyncMutexFrame
/-!
Wake accounting of the `HybridMutex` model (C10(c), wake conservation of C10(d)): the wake invariant `WInv` and the
preservation of its conjuncts other than `PWk` and `PNlw`.

* `PreWake s t` — `t` is inside a `wake_next` before the head is marked: it released the lock having read
  `HAS_QUEUED`, or it is dropping a future whose node is `WOKEN` and has not yet forwarded the wake;
* `PostWake s t n` — `t` has marked a node and still carries the handle that unblocks the owner of `n`;
* `OwnerActive s n` — the owner of `n` is in its own acquisition attempt / re-check phase;
* `OwnerBlocked s n` — the owner of `n` is parked without a token (sync thread or `block_on` executor), or is a
  manually polled future that is `Pending` with no wake recorded.
-/
namespace Fv.Sync.Mutex
open Fv.Sync
variable {cfg : Cfg} {s s' : State} {t : Tid} {l : Lbl}

def PreWake (s : State) (t : Tid) : Prop :=
  preWakePc (s.th t).pc = true ∨ (dropPc (s.th t).pc = true ∧ (s.wl.node (me t (s.th t))).woken = true)

def OwnerActive (s : State) (n : Nid) : Prop := ∃ u, me u (s.th u) = n ∧ activePc (s.th u).pc = true

/-- delivering handle `w` unblocks the owner of node `n` -/
def Targets (s : State) (w : Waiter) (n : Nid) : Prop :=
  match w, n with
  | .thread u, .thr u' => u = u'
  | .thread u, .fut f => (s.fut f).bo = true ∧ (s.th u).cur = some f ∧ futPc (s.th u).pc = true
  | .task f, .fut f' => f = f' ∧ (s.fut f).bo = false
  | .task _, .thr _ => False

def PostWake (s : State) (t : Tid) (n : Nid) : Prop :=
  postWakePc (s.th t).pc = true ∧ ∃ w, (s.th t).w = some w ∧ Targets s w n

def OwnerBlocked (s : State) (n : Nid) : Prop :=
  match n with
  | .thr u => (s.th u).pc = .wPark ∧ s.token u = false
  | .fut f =>
    if (s.fut f).bo then ∃ u, (s.th u).cur = some f ∧ (s.th u).pc = .boPark ∧ s.token u = false
    else (s.fut f).busy = false ∧ s.wakes f = 0

inductive Blocked (s : State) : Nid → Prop
  | sync {u} (hp : (s.th u).pc = .wPark) (htk : s.token u = false) : Blocked s (.thr u)
  | exec {u f} (hbo : (s.fut f).bo = true) (hc : (s.th u).cur = some f) (hp : (s.th u).pc = .boPark)
      (htk : s.token u = false) : Blocked s (.fut f)
  | manual {f} (hbo : (s.fut f).bo = false) (hbz : (s.fut f).busy = false) (hwz : s.wakes f = 0) :
      Blocked s (.fut f)

theorem ownerBlocked_iff {s : State} {n : Nid} : OwnerBlocked s n ↔ Blocked s n := by
  constructor
  · intro h
    cases n with
    | thr u => exact .sync h.1 h.2
    | fut f =>
      unfold OwnerBlocked at h
      cases hbo : (s.fut f).bo <;> simp only [hbo, Bool.false_eq_true, if_true, if_false] at h
      · exact .manual hbo h.1 h.2
      · obtain ⟨u, hc, hp, htk⟩ := h
        exact .exec hbo hc hp htk
  · intro h
    cases h with
    | sync hp htk => exact ⟨hp, htk⟩
    | exec hbo hc hp htk => unfold OwnerBlocked; simp only [hbo, if_true]; exact ⟨_, hc, hp, htk⟩
    | manual hbo hbz hwz => unfold OwnerBlocked; simp only [hbo, Bool.false_eq_true, if_false]; exact ⟨hbz, hwz⟩

def Delivered (s : State) (w : Waiter) : Prop :=
  (∃ u, w = .thread u ∧ s.token u = true) ∨ (∃ f, w = .task f ∧ 0 < s.wakes f)

def PBoc (s : State) : Prop :=
  ∀ u f, (s.th u).cur = some f → futPc (s.th u).pc = true → (s.th u).blockOn = (s.fut f).bo
/-- a `block_on` future is busy for its whole life -/
def PBb (s : State) : Prop := ∀ f, (s.fut f).bo = true → (s.fut f).busy = true ∨ (s.fut f).phase = .absent
def PBoPark (s : State) : Prop := ∀ u, (s.th u).pc = .boPark → (s.th u).blockOn = true
def PW1 (s : State) : Prop :=
  ∀ n w, (s.wl.node n).linked = true → (s.wl.node n).waiter = some w → Targets s w n
def PW2 (s : State) : Prop :=
  ∀ n, (s.wl.node n).linked = true → (s.wl.node n).waiter = none → (s.wl.node n).woken = true
def PQw (s : State) : Prop :=
  ∀ t, (s.th t).pc = .qRearm → (s.wl.node (me t (s.th t))).waiter = some (myWaiter t (s.th t))
def PQz (s : State) : Prop :=
  ∀ t, armedPc (s.th t).pc = true →
    (s.wl.node (me t (s.th t))).linked = true ∧ (s.wl.node (me t (s.th t))).woken = false
def PPk (s : State) : Prop :=
  ∀ t, ((s.th t).pc = .wLoad ∨ (s.th t).pc = .wPark ∨ (s.th t).pc = .boPark) →
    (s.wl.node (me t (s.th t))).linked = true
def PFl (s : State) : Prop :=
  ∀ f, (s.fut f).phase = .startedNode → (s.fut f).busy = false → (s.wl.node (.fut f)).linked = true
def PWnTgt (s : State) : Prop := ∀ t, (s.th t).pc = .wnStore → s.wl.queue.head? = some (s.th t).tgt
def PM2 (s : State) : Prop :=
  s.word.hq = false → s.wl.queue = [] ∨ ∃ u, (s.th u).pc = .qFetchOr ∧ s.wl.queue = [me u (s.th u)]
def PHl (s : State) : Prop := ∀ t, holdUnlinkPc (s.th t).pc = true → (t, true) ∈ s.holders
/-- a `WOKEN` queued node is accounted for: its owner will run, or the token is in flight -/
def PWk (s : State) : Prop :=
  ∀ n, (s.wl.node n).linked = true → (s.wl.node n).woken = true → ¬ OwnerBlocked s n ∨ ∃ t, PostWake s t n
/-- NO LOST WAKEUP: with the lock free, the queue head is covered -/
def PNlw (s : State) : Prop :=
  s.word.locked = false → ∀ h, s.wl.queue.head? = some h →
    (∃ t, PreWake s t) ∨ (s.wl.node h).woken = true ∨ OwnerActive s h

structure WInv (s : State) : Prop where
  boc : PBoc s
  boPark : PBoPark s
  bb : PBb s
  w1 : PW1 s
  w2 : PW2 s
  qw : PQw s
  qz : PQz s
  pk : PPk s
  fl : PFl s
  wnTgt : PWnTgt s
  m2 : PM2 s
  hl : PHl s
  wk : PWk s
  nlw : PNlw s

theorem armed_inLL {pc : Pc} (h : armedPc pc = true) : inLL pc = true := by
  cases pc <;> simp_all [armedPc, inLL]
theorem armed_own {pc : Pc} (h : armedPc pc = true) : syncOnly pc = true ∨ futPc pc = true := by
  cases pc <;> (try (rename_i a; cases a)) <;> simp_all [armedPc, syncOnly, futPc, After.sync, After.async]
theorem activePc_own {pc : Pc} (h : activePc pc = true) : syncOnly pc = true ∨ futPc pc = true := by
  cases pc <;> (try (rename_i k; cases k)) <;> simp_all [activePc, syncOnly, futPc, TaK.sync]
theorem dropPc_futPc {pc : Pc} (h : dropPc pc = true) : futPc pc = true ∧ asyncOnly pc = true := by
  cases pc <;> (try (rename_i k; cases k)) <;> simp_all [dropPc, asyncOnly, futPc, After.async]

theorem armed_local (hi : Inv s) (hw : WInv s) (h : Step cfg s t l s') (hp : armedPc (s'.th t).pc = true) :
    (s'.wl.node (me t (s'.th t))).linked = true ∧ (s'.wl.node (me t (s'.th t))).woken = false := by
  have hpred := (hi.entry h).armed hp
  have a1 := hi.syncCur t; have a3 := hi.syncLinked t
  have b3 := hw.qz t
  clear hi hw
  revert hp
  narrow_sweep h hpred s'
  all_goals grind

theorem holdUnlink_local (hi : Inv s) (hw : WInv s) (h : Step cfg s t l s')
    (hp : holdUnlinkPc (s'.th t).pc = true) : (t, true) ∈ s'.holders := by
  have hpred := (hi.entry h).holdUnlink hp
  have b6 := hw.hl t
  clear hi hw
  revert hp
  narrow_sweep h hpred s'
  all_goals grind

theorem qRearm_local (hi : Inv s) (h : Step cfg s t l s') (hp : (s'.th t).pc = .qRearm) :
    (s'.wl.node (me t (s'.th t))).waiter = some (myWaiter t (s'.th t)) := by
  have hpred := (hi.entry h).qRearm hp
  clear hi
  revert hp
  narrow_sweep h hpred s'
  all_goals grind

theorem boPark_local (hi : Inv s) (hw : WInv s) (h : Step cfg s t l s') (hp : (s'.th t).pc = .boPark) :
    (s'.th t).blockOn = true ∧ ∀ f, (s'.th t).cur = some f → (s'.wl.node (.fut f)).woken = false := by
  have hpred := (hi.entry h).boPark hp
  have b3 := hw.qz t
  clear hi hw
  revert hp
  narrow_sweep h hpred s'
  all_goals grind

theorem wPark_local (hi : Inv s) (h : Step cfg s t l s') (hp : (s'.th t).pc = .wPark) :
    (s'.wl.node (.thr t)).woken = false := by
  have hpred := (hi.entry h).wPark hp
  have a1 := hi.syncCur t
  clear hi
  revert hp
  narrow_sweep h hpred s'
  all_goals grind

theorem parked_local (hi : Inv s) (hw : WInv s) (h : Step cfg s t l s')
    (hp : (s'.th t).pc = .wLoad ∨ (s'.th t).pc = .wPark ∨ (s'.th t).pc = .boPark) :
    (s'.wl.node (me t (s'.th t))).linked = true := by
  have e := hi.entry h
  have hpred : ((s.th t).pc = .wPark ∨ (s.th t).pc = .llRel .parkLoad) ∨ (s.th t).pc = .wLoad
      ∨ (s.th t).pc = .llRel .pending :=
    hp.elim (fun h1 => Or.inl (e.wLoad h1)) (fun h1 => Or.inr (h1.imp e.wPark e.boPark))
  have b3 := hw.qz t; have b4 := hw.pk t
  clear hi hw e
  revert hp
  narrow_sweep h hpred s'
  all_goals grind

theorem wnStore_local (hi : Inv s) (h : Step cfg s t l s') (hp : (s'.th t).pc = .wnStore) :
    s'.wl.queue.head? = some (s'.th t).tgt := by
  have hpred := (hi.entry h).wnStore hp
  clear hi
  revert hp
  narrow_sweep h hpred s'
  all_goals grind

theorem wnWake_local (hi : Inv s) (h : Step cfg s t l s') (hp : (s'.th t).pc = .wnWake) :
    ∃ u, (s'.th t).w = some (.thread u) := by
  have hpred := (hi.entry h).wnWake hp
  clear hi
  revert hp
  narrow_sweep h hpred s'
  all_goals grind

structure FutTrans (s s' : State) (t : Tid) : Prop where
  boc : ∀ f, (s'.th t).cur = some f → futPc (s'.th t).pc = true → (s'.th t).blockOn = (s'.fut f).bo
  bb : PBb s'
  fl : PFl s'
  blockOn : ∀ f, (s.th t).cur = some f → futPc (s.th t).pc = true → (s.th t).blockOn = true →
    ((s'.th t).cur = some f ∧ futPc (s'.th t).pc = true) ∨ (s'.wl.node (.fut f)).linked = false
  idle : ∀ f, (s.th t).cur = some f → futPc (s.th t).pc = true → (s'.fut f).busy = false →
    (s'.wl.node (.fut f)).linked = false ∨ (s.wl.node (.fut f)).woken = false

theorem fut_trans (hi : Inv s) (hw : WInv s) (h : Step cfg s t l s') : FutTrans s s' t := by
  suffices hc : _ ∧ _ ∧ _ ∧ _ ∧ _ from ⟨hc.1, hc.2.1, hc.2.2.1, hc.2.2.2.1, hc.2.2.2.2⟩
  have a1 := hi.syncCur t; have a2 := hi.asyncCur t
  have b0 := hw.boc t
  have b1 : ∀ f, (s.th t).cur = some f → futPc (s.th t).pc = true → (s.fut f).busy = true :=
    fun f hc hp => (hi.busy t f hc hp).1
  have b3 := hw.qz t
  have b5 := hi.futUnl t; have b6 := hi.phFresh t
  have c0 := hi.futNode; have c1 := hw.bb; have c3 := hw.fl
  clear hi hw
  step_split h s'
  all_goals (step_simp [PFutNode, PBb, PFl])
  all_goals grind

structure NodeTrans (s s' : State) (t : Tid) : Prop where
  w2 : PW2 s'
  /-- `rearm` stores `myWaiter` -/
  registered : ∀ n w, (s'.wl.node n).linked = true → (s'.wl.node n).waiter = some w →
    ((s.wl.node n).linked = true ∧ (s.wl.node n).waiter = some w)
    ∨ (n = me t (s'.th t) ∧ w = myWaiter t (s'.th t) ∧ Owner s' t)
  /-- only through `take_and_mark_woken`, whose caller then carries the handle -/
  marked : ∀ n, (s'.wl.node n).linked = true → (s'.wl.node n).woken = true →
    ((s.wl.node n).linked = true ∧ (s.wl.node n).woken = true)
    ∨ ((s.wl.node n).linked = true ∧ postWakePc (s'.th t).pc = true ∧ (s'.th t).w = (s.wl.node n).waiter
        ∧ (s.wl.node n).waiter ≠ none)
  /-- only by the owner's `rearm` -/
  rearmed : ∀ n, (s.wl.node n).woken = true → (s'.wl.node n).woken = false → (s'.wl.node n).linked = true →
    me t (s'.th t) = n ∧ activePc (s'.th t).pc = true

/-- by the kind of write (`NodeEff`); what `rearm` finds in the node is `PQw` -/
theorem node_trans (hw : WInv s) (h : Step cfg s t l s') : NodeTrans s s' t := by
  have qw := hw.qw t
  refine ⟨fun n hl hwt => ?_, fun n w hl hwt => ?_, fun n hl hwk => ?_, fun n hwk hwk' hl => ?_⟩ <;>
    rcases node_eff h n with e | ⟨e, -⟩ | ⟨hn, hp, e⟩ | ⟨hp, hn, hn', hmw, hp', e⟩ | ⟨hp, hn, hp', hw', e⟩
  · rw [e] at hl hwt ⊢; exact hw.w2 n hl hwt
  · rw [e] at hl; cases hl
  · rw [e] at hwt; cases hwt
  · rw [e] at hwt; rw [hn, qw hp] at hwt; cases hwt
  · rw [e]
  · rw [e] at hl hwt; exact Or.inl ⟨hl, hwt⟩
  · rw [e] at hl; cases hl
  · rw [e] at hwt; cases hwt
    exact Or.inr ⟨hn, rfl, Or.inr (by rw [hp]; rfl)⟩
  · rw [e] at hwt; rw [hn, qw hp] at hwt; cases hwt
    exact Or.inr ⟨hn'.symm, hmw.symm, Or.inr (by rw [hp']; rfl)⟩
  · rw [e] at hwt; cases hwt
  · rw [e] at hl hwk; exact Or.inl ⟨hl, hwk⟩
  · rw [e] at hl; cases hl
  · rw [e] at hl hwk; exact Or.inl ⟨hl, hwk⟩
  · rw [e] at hwk; cases hwk
  · rw [e] at hl
    cases hwt : (s.wl.node n).waiter with
    | none => exact Or.inl ⟨hl, hw.w2 n hl hwt⟩
    | some w => exact Or.inr ⟨hl, by rw [hp']; rfl, by rw [hw', hwt], by simp⟩
  · rw [e, hwk] at hwk'; cases hwk'
  · rw [e] at hl; cases hl
  · rw [e] at hwk'; rw [hwk] at hwk'; cases hwk'
  · exact ⟨hn', by rw [hp']; rfl⟩
  · rw [e] at hwk'; cases hwk'

theorem carried_local (h : Step cfg s t l s') {w : Waiter} (hp : postWakePc (s.th t).pc = true)
    (hw : (s.th t).w = some w) :
    (postWakePc (s'.th t).pc = true ∧ (s'.th t).w = some w) ∨ Delivered s' w := by
  unfold Delivered
  have hpred := hp
  revert hp hw
  narrow_sweep h hpred s'
  all_goals grind

theorem perthread_step (hi : Inv s) (hw : WInv s) (h : Step cfg s t l s') :
    PBoc s' ∧ PBoPark s' ∧ PQw s' ∧ PQz s' ∧ PPk s' ∧ PWnTgt s' ∧ PHl s' := by
  have ho := step_th_other h
  refine ⟨?_, ?_, ?_, ?_, ?_, ?_, ?_⟩
  · intro u f hc hp
    by_cases hu : u = t
    · subst hu; exact (fut_trans hi hw h).boc f hc hp
    · rw [ho u hu] at hc hp ⊢
      rw [(fut_of_other hi h hu hc hp).1]
      exact hw.boc u f hc hp
  · intro u hp
    by_cases hu : u = t
    · subst hu; exact (boPark_local hi hw h hp).1
    · rw [ho u hu] at hp ⊢; exact hw.boPark u hp
  · intro u hp
    by_cases hu : u = t
    · subst hu; exact qRearm_local hi h hp
    · rw [ho u hu] at hp ⊢
      rw [(frozen hi h hu (by rw [hp]; rfl)).own (Or.inr (by rw [hp]; rfl))]
      exact hw.qw u hp
  · intro u hp
    by_cases hu : u = t
    · subst hu; exact armed_local hi hw h hp
    · rw [ho u hu] at hp ⊢
      rw [(frozen hi h hu (armed_inLL hp)).own (.of_class hi (armed_own hp))]
      exact hw.qz u hp
  · intro u hp
    by_cases hu : u = t
    · subst hu; exact parked_local hi hw h hp
    · rw [ho u hu] at hp ⊢
      have hown : Owner s u := .of_class hi (by rcases hp with hp | hp | hp <;> rw [hp] <;> simp [syncOnly, futPc])
      rw [(node_other hi h hu hown).linked]
      exact hw.pk u hp
  · intro u hp
    by_cases hu : u = t
    · subst hu; exact wnStore_local hi h hp
    · rw [ho u hu] at hp ⊢
      rw [(frozen hi h hu (by rw [hp]; rfl)).queue]
      exact hw.wnTgt u hp
  · intro u hp
    by_cases hu : u = t
    · subst hu; exact holdUnlink_local hi hw h hp
    · rw [ho u hu] at hp
      exact (step_frame hi h).holders u true hu (hw.hl u hp)

theorem targets_step (hi : Inv s) (hw : WInv s) (h : Step cfg s t l s') {w : Waiter} {n : Nid}
    (ht : Targets s w n) (hl : (s.wl.node n).linked = true) (hl' : (s'.wl.node n).linked = true) :
    Targets s' w n := by
  cases w with
  | thread u =>
    cases n with
    | thr u' => exact ht
    | fut f =>
      obtain ⟨hb, hc, hp⟩ := ht
      by_cases hu : u = t
      · subst hu
        have hblk : (s.th u).blockOn = true := by rw [hw.boc u f hc hp]; exact hb
        rcases (fut_trans hi hw h).blockOn f hc hp hblk with ⟨h1, h2⟩ | h1
        · exact ⟨by rw [bo_kept h (hi.futNode _ hl)]; exact hb, h1, h2⟩
        · rw [hl'] at h1; cases h1
      · refine ⟨by rw [bo_kept h (hi.futNode _ hl)]; exact hb, ?_, ?_⟩ <;> rw [step_th_other h u hu] <;> assumption
  | task f =>
    cases n with
    | thr u' => cases ht
    | fut f' =>
      obtain ⟨he, hb⟩ := ht
      subst he
      exact ⟨rfl, by rw [bo_kept h (hi.futNode _ hl)]; exact hb⟩

theorem own_targets (hb : ∀ f, (s.th t).cur = some f → futPc (s.th t).pc = true → (s.th t).blockOn = (s.fut f).bo)
    (hown : Owner s t) : Targets s (myWaiter t (s.th t)) (me t (s.th t)) := by
  unfold myWaiter me
  cases hc : (s.th t).cur with
  | none => rfl
  | some f =>
    have hp := hown.resolve_left (by simp [hc])
    have := hb f hc hp
    cases hbl : (s.th t).blockOn <;> rw [hbl] at this
    · exact ⟨rfl, this.symm⟩
    · exact ⟨this.symm, hc, hp⟩

theorem w1_step (hi : Inv s) (hw : WInv s) (h : Step cfg s t l s') : PW1 s' := by
  intro n w hl hwt
  rcases (node_trans hw h).registered n w hl hwt with ⟨hl0, hw0⟩ | ⟨rfl, rfl, hown⟩
  · exact targets_step hi hw h (hw.w1 n w hl0 hw0) hl0 hl
  · exact own_targets (fut_trans hi hw h).boc hown

theorem m2_step (hi : Inv s) (hw : WInv s) (h : Step cfg s t l s') : PM2 s' := by
  intro hq'
  have ho := step_th_other h
  have sh := step_shared h
  rcases sh.hq with h1 | h1 | ⟨-, hlen, hq2, -⟩
  · rcases hw.m2 (by rw [← h1]; exact hq') with he | ⟨u, hu, hqu⟩
    · rcases sh.queue with hq1 | ⟨-, hp2, hme, hq2⟩ | ⟨hq3, -⟩
      · left; rw [hq1, he]
      · right; exact ⟨t, hp2, by rw [hq2, he, hme]; rfl⟩
      · left; rw [hq3, he]; rfl
    · by_cases hut : u = t
      · subst hut
        rw [sh.fetchOr hu] at hq'; cases hq'
      · right
        refine ⟨u, by rw [ho u hut]; exact hu, ?_⟩
        rw [ho u hut, (frozen hi h hut (by rw [hu]; rfl)).queue]; exact hqu
  · rw [h1] at hq'; cases hq'
  · left
    rw [hq2]
    have := hi.wf.len
    rw [hlen] at this
    exact List.length_eq_zero_iff.1 this.symm

end Fv.Sync.Mutex
