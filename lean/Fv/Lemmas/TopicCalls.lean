import Fv.Chan.TopicB
import Fv.Lemmas.Common
/-! What an API call of the topic model does to the state. Every call is a sequence of a few elementary changes
(`Move`, `step_move`); what it can do to the topic lists, the handle lists and one receiver's record (`RxFrame`) is
read off those once. Mailboxes: an accepted publish appends; any other call keeps, per receiver, what was obtained
followed by what is buffered (`step_buf`). -/
namespace Fv.Chan.Topic

theorem modAt_eq_modify {α} (l : List α) (i : Nat) (f : α → α) : modAt l i f = l.modify i f := by
  fun_induction modAt l i f <;> simp_all

@[simp] theorem length_modAt {α} (l : List α) (i : Nat) (f : α → α) : (modAt l i f).length = l.length := by
  simp [modAt_eq_modify]

theorem getElem?_modAt {α} (l : List α) (i j : Nat) (f : α → α) :
    (modAt l i f)[j]? = if i = j then l[j]?.map f else l[j]? := by
  rw [modAt_eq_modify, List.getElem?_modify]; split <;> simp [*]

theorem getElem?_modAt_self {α} (l : List α) (i : Nat) (f : α → α) :
    (modAt l i f)[i]? = l[i]?.map f := by simp [getElem?_modAt]

theorem getElem?_modAt_ne {α} (l : List α) (i j : Nat) (f : α → α) (h : i ≠ j) :
    (modAt l i f)[j]? = l[j]? := by simp [getElem?_modAt, h]

theorem getElem?_modAt_some {α} {l : List α} {i j : Nat} {f : α → α} {y : α} (h : (modAt l i f)[j]? = some y) :
    (i ≠ j ∧ l[j]? = some y) ∨ (i = j ∧ ∃ x, l[j]? = some x ∧ y = f x) := by
  rw [getElem?_modAt] at h
  split at h
  · cases hx : l[j]? with
    | none => simp [hx] at h
    | some x => simp only [hx, Option.map_some, Option.some.injEq] at h; exact .inr ⟨‹_›, x, rfl, h.symm⟩
  · exact .inl ⟨‹_›, h⟩

theorem getElem?_concat_some {α} {l : List α} {y z : α} {q : Nat} (h : (l ++ [y])[q]? = some z) :
    l[q]? = some z ∨ (q = l.length ∧ z = y) := by
  by_cases hq : q < l.length
  · exact .inl (List.getElem?_append_left hq ▸ h)
  · have : q = l.length := by
      have := (List.getElem?_eq_some_iff.1 h).1
      simp at this; omega
    subst this
    exact .inr ⟨rfl, by simpa using h.symm⟩

theorem modAt_id_of_none {α} (l : List α) (i : Nat) (f : α → α) (h : l[i]? = none) : modAt l i f = l := by
  fun_induction modAt l i f <;> simp_all

theorem mem_modAt {α} (l : List α) (i : Nat) (f : α → α) (y : α) (h : y ∈ modAt l i f) :
    y ∈ l ∨ ∃ x ∈ l, y = f x := by
  obtain ⟨j, hj⟩ := List.getElem?_of_mem h
  rcases getElem?_modAt_some hj with ⟨_, hy⟩ | ⟨_, x, hx, e⟩
  · exact .inl (List.mem_of_getElem? hy)
  · exact .inr ⟨x, List.mem_of_getElem? hx, e⟩

theorem getElem?_deliverTo (m : Msg) (rxs : List Rx) (is : List Nat) (nd : is.Nodup) (j : Nat) :
    (deliverTo m rxs is)[j]? =
      if j ∈ is then rxs[j]?.map (fun x => if x.live then deliver m x else x) else rxs[j]? := by
  fun_induction deliverTo m rxs is with
  | case1 => simp
  | case2 rxs i is ih =>
    rw [List.nodup_cons] at nd
    rw [ih nd.2, getElem?_modAt]
    by_cases hij : i = j
    · subst hij; simp [nd.1]
    · simp [hij, Ne.symm hij]

theorem getElem?_disconnectTo (rxs : List Rx) (is : List Nat) (j : Nat) :
    (disconnectTo rxs is)[j]? = if j ∈ is then rxs[j]?.map (fun x => if x.live then disconnect x else x) else rxs[j]? := by
  fun_induction disconnectTo rxs is with
  | case1 => simp
  | case2 rxs i is ih =>
    rw [ih, getElem?_modAt]
    by_cases hij : i = j
    · subst hij
      -- a second `disconnect` changes nothing
      cases rxs[i]? with
      | none => simp
      | some x => by_cases hl : x.live <;> simp [hl, disconnect]
    · simp [hij, Ne.symm hij]

theorem rxLive_some {s : St} {r : Nat} {x : Rx} (h : rxLive s r = some x) : s.rxs[r]? = some x ∧ x.live = true := by
  unfold rxLive at h
  split at h
  · split at h
    · cases h; exact ⟨‹_›, ‹_›⟩
    · cases h
  · cases h

theorem txLive_some {s : St} {h : Nat} {x : Tx} (hx : txLive s h = some x) : s.txs[h]? = some x ∧ x.live = true := by
  unfold txLive at hx
  split at hx
  · split at hx
    · cases hx; exact ⟨‹_›, ‹_›⟩
    · cases hx
  · cases hx

theorem dispAlive_of_txLive {s : St} {h : Nat} {x : Tx} (hx : txLive s h = some x) : dispAlive s = true :=
  List.any_eq_true.2 ⟨x, List.mem_of_getElem? (txLive_some hx).1, (txLive_some hx).2⟩

theorem isLive_true_iff (rxs : List Rx) (m : Nat) : isLive rxs m = true ↔ ∃ y, rxs[m]? = some y ∧ y.live = true := by
  unfold isLive
  cases rxs[m]? <;> simp

theorem modAt_self {α} (l : List α) (i : Nat) : modAt l i (fun x => x) = l := by
  rw [modAt_eq_modify]; exact List.modify_id i l

/-- what `subscribe`/`unsubscribe` touch: the topic lists (kept duplicate-free) and receiver `r`'s subscription set -/
def SubsEdit (s : St) (r : Nat) (s' : St) : Prop :=
  ∃ (regs : List (Topic × Nat)) (g : Rx → List Topic), (s.regs.Nodup → regs.Nodup) ∧
    s' = { s with regs := regs, rxs := modAt s.rxs r (fun x => { x with subs := g x }) }

theorem SubsEdit.refl (s : St) (r : Nat) : SubsEdit s r s :=
  ⟨s.regs, fun x => x.subs, id, by rw [modAt_self]⟩

theorem SubsEdit.dispAlive {s s' : St} {r : Nat} (h : SubsEdit s r s') : dispAlive s' = dispAlive s := by
  obtain ⟨_, _, _, rfl⟩ := h; rfl

theorem SubsEdit.rcount {s s' : St} {r : Nat} (h : SubsEdit s r s') : s'.rcount = s.rcount := by
  obtain ⟨_, _, _, rfl⟩ := h; rfl

theorem SubsEdit.rxs {s s' : St} {r : Nat} (h : SubsEdit s r s') :
    ∃ g : Rx → List Topic, s'.rxs = modAt s.rxs r (fun x => { x with subs := g x }) := by
  obtain ⟨_, g, _, rfl⟩ := h; exact ⟨g, rfl⟩

theorem subscribeCore_edit (s : St) (r : Nat) (t : Topic) : SubsEdit s r (subscribeCore s r t) := by
  unfold subscribeCore; split
  · exact .refl s r
  · split
    · exact .refl s r
    · split
      · refine ⟨_, _, fun nd => ?_, rfl⟩
        have h1 := nd.sublist (List.filter_sublist
          (p := fun p => p.1 != t || isLive (modAt s.rxs r (fun x => { x with subs := x.subs ++ [t] })) p.2))
        split
        · exact h1
        · rename_i hc
          exact Fv.nodup_snoc.2 ⟨h1, fun ha => hc (by simpa using ha)⟩
      · exact ⟨_, _, id, rfl⟩

theorem unsubscribeCore_edit (s : St) (r : Nat) (t : Topic) : SubsEdit s r (unsubscribeCore s r t) := by
  unfold unsubscribeCore; split
  · exact .refl s r
  · split
    · exact .refl s r
    · split
      · exact ⟨_, _, fun nd => nd.sublist List.filter_sublist, rfl⟩
      · exact ⟨_, _, id, rfl⟩

theorem subscribeCore_rcount (s : St) (r : Nat) (t : Topic) : (subscribeCore s r t).rcount = s.rcount :=
  (subscribeCore_edit s r t).rcount

theorem unsubscribeCore_rcount (s : St) (r : Nat) (t : Topic) : (unsubscribeCore s r t).rcount = s.rcount :=
  (unsubscribeCore_edit s r t).rcount

theorem isLive_modAt_subs (rxs : List Rx) (r : Nat) (g : Rx → List Topic) (q : Nat) :
    isLive (modAt rxs r (fun x => { x with subs := g x })) q = isLive rxs q := by
  unfold isLive; rw [getElem?_modAt]
  by_cases h : r = q <;> cases rxs[q]? <;> simp [h]

theorem subscribeCore_of_mem {s : St} {r : Nat} {t : Topic} {x : Rx} (hx : s.rxs[r]? = some x) (hm : t ∈ x.subs) :
    subscribeCore s r t = s := by
  unfold subscribeCore; simp [hx, hm]

/-- subscribing also purges the topic's list of its dead entries -/
theorem subscribeCore_spec {s : St} {r : Nat} {t : Topic} {x : Rx} (hx : s.rxs[r]? = some x) (hm : t ∉ x.subs)
    (hu : upgradable s x = true) :
    (subscribeCore s r t).rxs = modAt s.rxs r (fun x => { x with subs := x.subs ++ [t] }) ∧
    ∀ u q, (u, q) ∈ (subscribeCore s r t).regs ↔
      ((u, q) ∈ s.regs ∧ (u ≠ t ∨ isLive s.rxs q = true)) ∨ (u, q) = (t, r) := by
  have hc : x.subs.contains t = false := by simpa using hm
  unfold subscribeCore
  simp only [hx, hu, hc, Bool.false_eq_true, if_false, if_true, isLive_modAt_subs]
  refine ⟨trivial, fun u q => ?_⟩
  split
  · rename_i hin
    constructor
    · exact fun h => .inl (by simpa using h)
    · rintro (h | h)
      · simpa using h
      · rw [h]; simpa using hin
  · simp [List.mem_append]

theorem unsubscribeCore_of_not_mem {s : St} {r : Nat} {t : Topic} {x : Rx} (hx : s.rxs[r]? = some x) (hm : t ∉ x.subs) :
    unsubscribeCore s r t = s := by
  unfold unsubscribeCore; simp [hx, hm]

theorem unsubscribeCore_spec {s : St} {r : Nat} {t : Topic} {x : Rx} (hx : s.rxs[r]? = some x) (hm : t ∈ x.subs)
    (hu : upgradable s x = true) :
    (unsubscribeCore s r t).rxs = modAt s.rxs r (fun x => { x with subs := x.subs.filter (fun u => u != t) }) ∧
    ∀ u q, (u, q) ∈ (unsubscribeCore s r t).regs ↔
      (u, q) ∈ s.regs ∧ (u ≠ t ∨ (isLive s.rxs q = true ∧ q ≠ r)) := by
  have hc : x.subs.contains t = true := by simpa using hm
  unfold unsubscribeCore
  simp only [hx, hu, hc, isLive_modAt_subs]
  simp

theorem unsubscribeCore_get_self {s : St} {r : Nat} {x : Rx} (hx : s.rxs[r]? = some x) (t : Topic) :
    (unsubscribeCore s r t).rxs[r]? = some { x with subs := x.subs.filter (fun u => u != t) } := by
  by_cases hm : t ∈ x.subs
  · have hc : x.subs.contains t = true := by simpa using hm
    unfold unsubscribeCore
    simp only [hx, hc, Bool.not_true, Bool.false_eq_true, if_false]
    split <;> simp [getElem?_modAt_self, hx]
  · rw [unsubscribeCore_of_not_mem hx hm, hx]
    have : x.subs.filter (fun u => u != t) = x.subs :=
      List.filter_eq_self.2 fun a ha => by simpa using fun (e : a = t) => hm (e ▸ ha)
    rw [this]

theorem unsubscribeCore_get_ne (s : St) {r q : Nat} (t : Topic) (hq : r ≠ q) :
    (unsubscribeCore s r t).rxs[q]? = s.rxs[q]? := by
  obtain ⟨g, h⟩ := (unsubscribeCore_edit s r t).rxs
  rw [h, getElem?_modAt_ne _ _ _ _ hq]

theorem rxCloseInternal_eq {s : St} {r : Nat} {x : Rx} (hx : s.rxs[r]? = some x) :
    rxCloseInternal s r =
      if upgradable s x then
        { (x.subs.foldl (fun s t => unsubscribeCore s r t) s) with
          rcount := wrapDec (x.subs.foldl (fun s t => unsubscribeCore s r t) s).rcount }
      else s := by
  unfold rxCloseInternal
  simp only [hx]

def Op.isQuiet : Op → Bool
  | .send .. | .tryRecv _ | .recv _ | .recvTimeout0 _ | .pollNext _ => false
  | _ => true

def Op.isSenderEnd : Op → Bool
  | .sClose _ | .sDrop _ => true
  | _ => false

/-- they alone touch the topic lists, the local sets and (setting it) the `closed` flag -/
def Op.isRxHandle : Op → Bool
  | .subscribe .. | .unsubscribe .. | .rClone _ | .rClose _ | .rDrop _ => true
  | _ => false

structure RxFrame (op : Op) (x y : Rx) : Prop where
  live : y.live = true → x.live = true
  disc : x.disc = true → y.disc = true
  hasDisp : y.hasDisp = x.hasDisp
  discBy : op.isSenderEnd = false → y.live = true → y.disc = true → x.disc = true
  buf : op.isQuiet = true → y.buf = x.buf
  subs : op.isRxHandle = false → y.subs = x.subs ∧ (y.closed = true → x.closed = true)

theorem RxFrame.refl (op : Op) (x : Rx) : RxFrame op x x :=
  ⟨id, id, rfl, fun _ _ => id, fun _ => rfl, fun _ => ⟨rfl, id⟩⟩

theorem RxFrame.trans {op : Op} {x y z : Rx} (h1 : RxFrame op x y) (h2 : RxFrame op y z) : RxFrame op x z :=
  ⟨h1.live ∘ h2.live, h2.disc ∘ h1.disc, h2.hasDisp.trans h1.hasDisp,
    fun ho hl hd => h1.discBy ho (h2.live hl) (h2.discBy ho hl hd),
    fun ho => (h2.buf ho).trans (h1.buf ho),
    fun ho => ⟨(h2.subs ho).1.trans (h1.subs ho).1, (h1.subs ho).2 ∘ (h2.subs ho).2⟩⟩

theorem RxFrame.deliver {op : Op} (hop : op.isQuiet = false) (m : Msg) (x : Rx) :
    RxFrame op x (if x.live then deliver m x else x) := by
  split
  · unfold Topic.deliver
    split <;> exact { RxFrame.refl op x with buf := fun h => by simp [hop] at h }
  · exact .refl op x

theorem RxFrame.disconnect {op : Op} (hop : op.isSenderEnd = true) (x : Rx) :
    RxFrame op x (if x.live then disconnect x else x) := by
  split
  · exact { RxFrame.refl op x with disc := fun _ => rfl, discBy := fun h => by simp [hop] at h }
  · exact .refl op x

/-- The elementary changes the API calls are composed of; `op` is the call, since some changes are made by
some calls only. -/
inductive Move (op : Op) : St → St → Prop
  | refl (s : St) : Move op s s
  | trans {s₁ s₂ s₃ : St} : Move op s₁ s₂ → Move op s₂ s₃ → Move op s₁ s₃
  | rx (s : St) (i : Nat) (f : Rx → Rx) : (∀ x, RxFrame op x (f x)) → Move op s { s with rxs := modAt s.rxs i f }
  | regs (s : St) (l : List (Topic × Nat)) : op.isRxHandle = true → (s.regs.Nodup → l.Nodup) →
      Move op s { s with regs := l }
  | rcount (s : St) (n : Nat) : Move op s { s with rcount := n }
  | push (s : St) (x : Rx) : (∃ q, op = .rClone q) → x.buf = [] → x.disc = false →
      Move op s { s with rxs := s.rxs ++ [x] }
  /-- a sender handle is closed, dropped or converted -/
  | tx (s : St) (h : Nat) (f : Tx → Tx) :
      (∀ x, ((f x).live = true → x.live = true) ∧ (x.closed = true → (f x).closed = true)) →
      Move op s { s with txs := modAt s.txs h f }
  | txPush (s : St) (x : Tx) : (∃ h, op = .sClone h) → dispAlive s = true → Move op s { s with txs := s.txs ++ [x] }

theorem RxFrame.handle {op : Op} (hop : op.isRxHandle = true) (x : Rx) (l : List Topic) (c : Bool) :
    RxFrame op x { x with subs := l, closed := c } :=
  { RxFrame.refl op x with subs := fun h => by simp [hop] at h }

theorem Move.edit {op : Op} (hop : op.isRxHandle = true) {s s' : St} {r : Nat} (h : SubsEdit s r s') : Move op s s' := by
  obtain ⟨l, g, nd, rfl⟩ := h
  exact .trans (.regs s l hop nd) (.rx _ r _ fun x => RxFrame.handle hop x (g x) x.closed)

theorem Move.foldl {op : Op} {f : St → Topic → St} (hf : ∀ s t, Move op s (f s t)) (l : List Topic) (s : St) :
    Move op s (l.foldl f s) :=
  List.foldlRecOn l f (.refl s) fun s' h t _ => h.trans (hf s' t)

theorem Move.deliverTo {op : Op} (hop : op.isQuiet = false) (m : Msg) (s : St) (is : List Nat) :
    Move op s { s with rxs := deliverTo m s.rxs is } := by
  induction is generalizing s with
  | nil => exact .refl s
  | cons i is ih => exact .trans (.rx s i _ (RxFrame.deliver hop m)) (ih _)

theorem Move.disconnectTo {op : Op} (hop : op.isSenderEnd = true) (s : St) (is : List Nat) :
    Move op s { s with rxs := disconnectTo s.rxs is } := by
  induction is generalizing s with
  | nil => exact .refl s
  | cons i is ih => exact .trans (.rx s i _ (RxFrame.disconnect hop)) (ih _)

theorem Move.sClose {op : Op} (hop : op.isSenderEnd = true) (s : St) (h : Nat) : Move op s (sClose s h).1 := by
  unfold Topic.sClose
  split
  · exact .refl s
  · split
    · exact .refl s
    · exact .trans (.tx s h (fun x => { x with closed := true }) fun _ => ⟨id, fun _ => rfl⟩)
        (Move.disconnectTo hop _ _)

theorem Move.rxCloseInternal {op : Op} (hop : op.isRxHandle = true) (s : St) (r : Nat) :
    Move op s (rxCloseInternal s r) := by
  unfold Topic.rxCloseInternal
  split
  · exact .refl s
  · split
    · exact .trans (Move.foldl (fun s t => .edit hop (unsubscribeCore_edit s r t)) _ s) (.rcount _ _)
    · exact .refl s

theorem Move.setClosed {op : Op} (hop : op.isRxHandle = true) (s : St) (r : Nat) :
    Move op s { s with rxs := modAt s.rxs r (fun x => { x with closed := true }) } :=
  .rx s r _ fun x => RxFrame.handle hop x x.subs true

theorem Move.recvWith {op : Op} (hop : op.isQuiet = false) (s : St) (r : Nat) (x : Rx) (d e : Res) :
    Move op s (recvWith s r x d e).1 := by
  unfold Topic.recvWith
  split
  · exact .rx s r _ fun x => { RxFrame.refl op x with buf := fun h => by simp [hop] at h }
  · split <;> exact .refl s

theorem recvWith_cases (s : St) (r : Nat) (x : Rx) (d e : Res) :
    (∃ t v rest, x.buf = (t, v) :: rest ∧
      recvWith s r x d e = ({ s with rxs := modAt s.rxs r (fun x => { x with buf := rest }) }, .msg t v)) ∨
    (x.buf = [] ∧ recvWith s r x d e = (s, if x.disc then d else e)) := by
  unfold recvWith
  split
  · exact .inl ⟨_, _, _, ‹_›, rfl⟩
  · refine .inr ⟨‹_›, ?_⟩
    split <;> simp [*]

/-- the receive forms differ only in what they answer on an empty mailbox: `d` when its flag is
set, `e` otherwise -/
theorem recv_form (s : St) (op : Op) (r : Nat) (ht : recvTarget op = some r) :
    step s op = (s, .invalid) ∨
    ∃ x d e, rxLive s r = some x ∧ step s op = recvWith s r x d e ∧ (d = .disc ∨ d = .none) ∧
      (e = .empty ∨ e = .wouldBlock ∨ e = .pending ∨ e = .timeout ∨
        (e = .disc ∧ x.closed = true ∧ op = .recvTimeout0 r)) := by
  cases op with
  | tryRecv q =>
    cases ht; simp only [step, tryRecv]; split
    · exact .inl rfl
    · exact .inr ⟨_, _, _, ‹_›, rfl, .inl rfl, .inl rfl⟩
  | recv q =>
    cases ht; simp only [step, recv]; split
    · exact .inl rfl
    · split
      · exact .inr ⟨_, _, _, ‹_›, rfl, .inl rfl, .inr (.inl rfl)⟩
      · exact .inr ⟨_, _, _, ‹_›, rfl, .inl rfl, .inr (.inr (.inl rfl))⟩
  | recvTimeout0 q =>
    cases ht; simp only [step, recvTimeout0]; split
    · exact .inl rfl
    · split
      · exact .inl rfl
      · split
        · exact .inr ⟨_, _, _, ‹_›, rfl, .inl rfl, .inr (.inr (.inr (.inr ⟨rfl, ‹_›, trivial⟩)))⟩
        · exact .inr ⟨_, _, _, ‹_›, rfl, .inl rfl, .inr (.inr (.inr (.inl rfl)))⟩
  | pollNext q =>
    cases ht; simp only [step, pollNext]; split
    · exact .inl rfl
    · split
      · exact .inl rfl
      · exact .inr ⟨_, _, _, ‹_›, rfl, .inr rfl, .inr (.inr (.inl rfl))⟩
  | _ => cases ht

theorem step_move (s : St) (op : Op) : Move op s (step s op).1 := by
  have recv : ∀ r, recvTarget op = some r → op.isQuiet = false → Move op s (step s op).1 := fun r ht hq => by
    rcases recv_form s op r ht with he | ⟨x, d, e, _, he, _⟩ <;> rw [he]
    · exact .refl s
    · exact Move.recvWith hq ..
  cases op with
  | send h t v =>
    simp only [step, send]; split
    · exact .refl s
    · split
      · exact .refl s
      · exact Move.deliverTo rfl _ s _
  | sClone h =>
    simp only [step, sClone]; split
    · exact .refl s
    · split
      · exact .refl s
      · exact .txPush s _ ⟨h, rfl⟩ (dispAlive_of_txLive ‹_›)
  | sClose h => exact Move.sClose rfl s h
  | sDrop h =>
    simp only [step, sDrop]; split
    · exact .refl s
    · exact .trans (Move.sClose rfl s h) (.tx _ h (fun x => { x with live := false }) fun _ => ⟨nofun, id⟩)
  | sConv h =>
    simp only [step, sConv]; split
    · exact .refl s
    · exact .tx s h (fun x => { x with kind := x.kind.flip }) fun _ => ⟨id, id⟩
  | subscribe r t =>
    simp only [step, subscribe]; split
    · exact .refl s
    · exact .edit rfl (subscribeCore_edit s r t)
  | unsubscribe r t =>
    simp only [step, unsubscribe]; split
    · exact .refl s
    · exact .edit rfl (unsubscribeCore_edit s r t)
  | rClone r =>
    simp only [step, rClone]; split
    · exact .refl s
    · rename_i x _
      split
      · exact .trans (.trans (.rcount s (wrapInc s.rcount)) (.push _ (freshRx x) ⟨r, rfl⟩ rfl rfl))
          (Move.foldl (fun s' t => .edit rfl (subscribeCore_edit s' s.rxs.length t)) _ _)
      · exact .push s (deadRx x) ⟨r, rfl⟩ rfl rfl
  | rClose r =>
    simp only [step, rClose]; split
    · exact .refl s
    · split
      · exact .refl s
      · exact .trans (Move.setClosed rfl s r) (Move.rxCloseInternal rfl _ r)
  | rDrop r =>
    simp only [step, rDrop]; split
    · exact .refl s
    · refine .trans ?_ (.rx _ r (fun x => { x with live := false, disc := true }) fun x =>
        { RxFrame.refl _ x with live := nofun, disc := fun _ => rfl, discBy := fun _ => nofun })
      split
      · exact .refl s
      · exact .trans (Move.setClosed rfl s r) (Move.rxCloseInternal rfl _ r)
  | rConv r =>
    simp only [step, rConv]; split
    · exact .refl s
    · exact .rx s r (fun x => { x with kind := x.kind.flip, closed := false }) fun x =>
        { RxFrame.refl _ x with subs := fun _ => ⟨rfl, nofun⟩ }
  | tryRecv r | recv r | recvTimeout0 r | pollNext r => exact recv r rfl rfl
  | _ => simp only [step, sIsClosed, rIsClosed, isEmpty, capacity]; split <;> exact .refl s

theorem Move.regs_nodup {op : Op} {s s' : St} (h : Move op s s') : s.regs.Nodup → s'.regs.Nodup := by
  induction h with
  | trans _ _ ih1 ih2 => exact ih2 ∘ ih1
  | regs _ _ _ nd => exact nd
  | _ => exact id

theorem Move.regs_eq {op : Op} {s s' : St} (h : Move op s s') (hop : op.isRxHandle = false) : s'.regs = s.regs := by
  induction h with
  | trans _ _ ih1 ih2 => exact ih2.trans ih1
  | regs _ _ h => rw [hop] at h; cases h
  | _ => rfl

theorem Move.length_le {op : Op} {s s' : St} (h : Move op s s') : s.rxs.length ≤ s'.rxs.length := by
  induction h with
  | trans _ _ ih1 ih2 => exact Nat.le_trans ih1 ih2
  | _ => simp

theorem Move.get {op : Op} {s s' : St} (h : Move op s s') {r : Nat} {y : Rx} (hy : s'.rxs[r]? = some y) :
    ∃ x, RxFrame op x y ∧
      (s.rxs[r]? = some x ∨ (s.rxs[r]? = none ∧ x.buf = [] ∧ x.disc = false ∧ ∃ q, op = .rClone q)) := by
  induction h generalizing y with
  | refl s => exact ⟨y, .refl op y, .inl hy⟩
  | trans h1 _ ih1 ih2 =>
    obtain ⟨x₂, f₂, hx₂ | hnew⟩ := ih2 hy
    · obtain ⟨x₁, f₁, hx₁⟩ := ih1 hx₂
      exact ⟨x₁, f₁.trans f₂, hx₁⟩
    · have := Nat.le_trans h1.length_le (List.getElem?_eq_none_iff.1 hnew.1)
      exact ⟨x₂, f₂, .inr ⟨List.getElem?_eq_none_iff.2 this, hnew.2⟩⟩
  | rx s i f hf =>
    rcases getElem?_modAt_some hy with ⟨_, hy⟩ | ⟨_, x, hx, rfl⟩
    · exact ⟨y, .refl op y, .inl hy⟩
    · exact ⟨x, hf x, .inl hx⟩
  | push s x hop hb hd =>
    refine ⟨y, .refl op y, (getElem?_concat_some hy).imp_right fun ⟨hr, hy⟩ => ?_⟩
    exact ⟨by simp [hr], hy ▸ hb, hy ▸ hd, hop⟩
  | _ => exact ⟨y, .refl op y, .inl hy⟩

/-- the dispatcher does not come back: a sender is cloned from a live sender only -/
theorem Move.dispAlive {op : Op} {s s' : St} (h : Move op s s') : dispAlive s' = true → dispAlive s = true := by
  induction h with
  | trans _ _ ih1 ih2 => exact ih1 ∘ ih2
  | tx s i f hf =>
    intro hd
    obtain ⟨y, hy, hl⟩ := List.any_eq_true.1 hd
    rcases mem_modAt _ _ _ _ hy with hy | ⟨x, hx, rfl⟩
    · exact List.any_eq_true.2 ⟨y, hy, hl⟩
    · exact List.any_eq_true.2 ⟨x, hx, (hf x).1 hl⟩
  | txPush _ _ _ hd => exact fun _ => hd
  | _ => exact id

theorem gone_mono {x y : Tx} (h : (y.live = true → x.live = true) ∧ (x.closed = true → y.closed = true))
    (hg : (x.closed || !x.live) = true) : (y.closed || !y.live) = true := by
  simp only [Bool.or_eq_true, Bool.not_eq_eq_eq_not, Bool.not_true] at hg ⊢
  rcases hg with hc | hl
  · exact .inl (h.2 hc)
  · cases hyl : y.live with
    | false => exact .inr rfl
    | true => rw [h.1 hyl] at hl; cases hl

theorem Move.txs {op : Op} {s s' : St} (h : Move op s s') (hop : ∀ q, op ≠ .sClone q) :
    s'.txs.length = s.txs.length ∧ (sendersGone s = true → sendersGone s' = true) := by
  induction h with
  | trans _ _ ih1 ih2 => exact ⟨ih2.1.trans ih1.1, ih2.2 ∘ ih1.2⟩
  | tx s i f hf =>
    refine ⟨length_modAt .., fun hg => List.all_eq_true.2 fun y hy => ?_⟩
    have hg := List.all_eq_true.1 hg
    rcases mem_modAt _ _ _ _ hy with hy | ⟨x, hx, rfl⟩
    · exact hg y hy
    · exact gone_mono (hf x) (hg x hx)
  | txPush _ _ h => exact absurd h.choose_spec (hop _)
  | _ => exact ⟨rfl, id⟩

theorem step_regs_nodup (s : St) (op : Op) (nd : s.regs.Nodup) : (step s op).1.regs.Nodup :=
  (step_move s op).regs_nodup nd

def bufL (rxs : List Rx) (r : Nat) : List Msg :=
  match rxs[r]? with
  | some x => x.buf
  | none => []

theorem bufOf_eq (s : St) (r : Nat) : bufOf s r = bufL s.rxs r := rfl

theorem bufL_deliverTo (m : Msg) (rxs : List Rx) (is : List Nat) (nd : is.Nodup) (r : Nat) :
    bufL (deliverTo m rxs is) r =
      match rxs[r]? with
      | some x => if r ∈ is ∧ x.live = true ∧ x.buf.length < x.cap then x.buf ++ [m] else x.buf
      | none => [] := by
  unfold bufL
  rw [getElem?_deliverTo m rxs is nd]
  cases rxs[r]? with
  | none => simp
  | some x =>
    by_cases hm : r ∈ is
    · by_cases hl : x.live = true
      · by_cases hc : x.buf.length < x.cap
        · simp [hm, hl, hc, deliver, Nat.not_le.2 hc]
        · simp [hm, hl, hc, deliver, Nat.not_lt.1 hc]
      · simp [hm, hl]
    · simp [hm]

theorem mem_subsOf (s : St) (t : Topic) (r : Nat) : r ∈ subsOf s t ↔ (t, r) ∈ s.regs := by
  simp [subsOf]

theorem nodup_subsOf (s : St) (t : Topic) (nd : s.regs.Nodup) : (subsOf s t).Nodup := by
  refine List.pairwise_map.2 ((List.Pairwise.filter _ nd).imp_of_mem fun {a b} ha hb hne h2 => hne ?_)
  have ha := (List.mem_filter.1 ha).2
  have hb := (List.mem_filter.1 hb).2
  simp only [beq_iff_eq] at ha hb
  exact Prod.ext (ha.trans hb.symm) h2

theorem quiet_buf (s : St) (op : Op) (hq : op.isQuiet = true) (r : Nat) : bufOf (step s op).1 r = bufOf s r := by
  unfold bufOf
  cases hy : (step s op).1.rxs[r]? with
  | none =>
    rw [List.getElem?_eq_none_iff.2 (Nat.le_trans (step_move s op).length_le (List.getElem?_eq_none_iff.1 hy))]
  | some y =>
    obtain ⟨x, hf, hx | ⟨hx, hb, _⟩⟩ := (step_move s op).get hy
    · rw [hx]; exact hf.buf hq
    · rw [hx]; exact (hf.buf hq).trans hb

theorem send_ok {s : St} {h : Nat} {t : Topic} {v : Val} (hok : (send s h t v).2 = .ok) :
    ∃ x, txLive s h = some x ∧ x.closed = false ∧
      (send s h t v).1 = { s with rxs := deliverTo (t, v) s.rxs (subsOf s t) } := by
  cases hx : txLive s h with
  | none => simp [send, hx] at hok
  | some x =>
    simp only [send, hx] at hok ⊢
    split at hok
    · cases hok
    · rename_i hc
      refine ⟨x, rfl, ?_, by rw [if_neg hc]⟩
      cases hcl : x.closed with
      | false => rfl
      | true => simp [hcl] at hc

theorem send_not_ok {s : St} {h : Nat} {t : Topic} {v : Val} (hok : (send s h t v).2 ≠ .ok) : (send s h t v).1 = s := by
  cases hx : txLive s h with
  | none => simp [send, hx]
  | some x =>
    simp only [send, hx] at hok ⊢
    split
    · rfl
    · rename_i hc; simp [hc] at hok

open TopicB (recordGot)

/-- `recordGot`, the bookkeeping of model B, is the one of `gnext` too (`gnext_quiet`) -/
theorem recv_buf (s : St) (op : Op) (r : Nat) (ht : recvTarget op = some r) (got : Nat → List Msg) (q : Nat) :
    recordGot got (recvTarget op) (step s op).2 q ++ bufOf (step s op).1 q = got q ++ bufOf s q := by
  rw [ht]
  rcases recv_form s op r ht with he | ⟨x, d, e, hx, he, hd, hne⟩ <;> rw [he]
  · rfl
  · have hx := (rxLive_some hx).1
    rcases recvWith_cases s r x d e with ⟨t, v, rest, hb, hw⟩ | ⟨_, hw⟩ <;> rw [hw]
    · by_cases hq : q = r
      · subst hq; simp [recordGot, bufOf, hx, hb, getElem?_modAt_self]
      · simp [recordGot, bufOf, hq, getElem?_modAt_ne _ _ _ _ (Ne.symm hq)]
    · split
      · rcases hd with rfl | rfl <;> rfl
      · rcases hne with rfl | rfl | rfl | rfl | ⟨rfl, _⟩ <;> rfl

theorem step_buf (s : St) (op : Op) :
    (∃ h t v, op = .send h t v ∧ (step s op).2 = .ok ∧ (s.regs.Nodup → ∀ r, bufOf (step s op).1 r =
        if (t, r) ∈ s.regs ∧ isLive s.rxs r = true ∧ mailboxFull s r = false
        then bufOf s r ++ [(t, v)] else bufOf s r)) ∨
    ((∀ h t v, op = .send h t v → (step s op).2 ≠ .ok) ∧ ∀ (got : Nat → List Msg) (q : Nat),
        recordGot got (recvTarget op) (step s op).2 q ++ bufOf (step s op).1 q = got q ++ bufOf s q) := by
  cases op with
  | send h t v =>
    by_cases hok : (step s (.send h t v)).2 = .ok
    · refine .inl ⟨h, t, v, rfl, hok, fun nd r => ?_⟩
      obtain ⟨_, _, _, he⟩ := send_ok hok
      simp only [step, he, bufOf_eq, bufL_deliverTo (t, v) s.rxs (subsOf s t) (nodup_subsOf s t nd) r, mem_subsOf]
      unfold bufL isLive mailboxFull
      cases s.rxs[r]? <;> simp
    · exact .inr ⟨fun _ _ _ _ => hok, fun got q => by simp only [step]; rw [send_not_ok hok]; rfl⟩
  | tryRecv r | recv r | recvTimeout0 r | pollNext r => exact .inr ⟨nofun, recv_buf s _ r rfl⟩
  | _ => exact .inr ⟨nofun, fun got q => by rw [quiet_buf s _ rfl q]; rfl⟩

end Fv.Chan.Topic
