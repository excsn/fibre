import Fv.Lemmas.ChainBBasic
/-! Value of every pc / slab-state observer on every constructor (for `simp` and `grind`). -/
namespace Fv.Chan.ChainB

@[simp, grind =] theorem obs_1  : pRelOf .idle = none := rfl
@[simp, grind =] theorem obs_2  : pRelOf .build = none := rfl
@[simp, grind =] theorem obs_3  : pRelOf .sealing = none := rfl
@[simp, grind =] theorem obs_4 (b : Nat) : pRelOf (.relFence b .bump) = some b := rfl
@[simp, grind =] theorem obs_5 (b : Nat) : pRelOf (.relFence b .close) = some b := rfl
@[simp, grind =] theorem obs_6 (b : Nat) : pRelOf (.relLock b .bump) = some b := rfl
@[simp, grind =] theorem obs_7 (b : Nat) : pRelOf (.relLock b .close) = some b := rfl
@[simp, grind =] theorem obs_8 (b : Nat) : pRelOf (.relUnlock b .bump) = some b := rfl
@[simp, grind =] theorem obs_9 (b : Nat) : pRelOf (.relUnlock b .close) = some b := rfl
@[simp, grind =] theorem obs_10  : pRelOf .acqLock = none := rfl
@[simp, grind =] theorem obs_11  : pRelOf .acqUnlock = none := rfl
@[simp, grind =] theorem obs_12 (b : Nat) : pRelOf (.rearmRem b) = none := rfl
@[simp, grind =] theorem obs_13 (b : Nat) (i : Nat) : pRelOf (.rearmNode b i) = none := rfl
@[simp, grind =] theorem obs_14  : pRelOf .alloc = none := rfl
@[simp, grind =] theorem obs_15  : pRelOf .prelink = none := rfl
@[simp, grind =] theorem obs_16 (i : Nat) (o : NodeId) (f : NodeId) : pRelOf (.link i o f) = none := rfl
@[simp, grind =] theorem obs_17  : pRelOf .dropDec = none := rfl
@[simp, grind =] theorem obs_18  : pHoldsLock .idle = false := rfl
@[simp, grind =] theorem obs_19  : pHoldsLock .build = false := rfl
@[simp, grind =] theorem obs_20  : pHoldsLock .sealing = false := rfl
@[simp, grind =] theorem obs_21 (b : Nat) : pHoldsLock (.relFence b .bump) = false := rfl
@[simp, grind =] theorem obs_22 (b : Nat) : pHoldsLock (.relFence b .close) = false := rfl
@[simp, grind =] theorem obs_23 (b : Nat) : pHoldsLock (.relLock b .bump) = false := rfl
@[simp, grind =] theorem obs_24 (b : Nat) : pHoldsLock (.relLock b .close) = false := rfl
@[simp, grind =] theorem obs_25 (b : Nat) : pHoldsLock (.relUnlock b .bump) = true := rfl
@[simp, grind =] theorem obs_26 (b : Nat) : pHoldsLock (.relUnlock b .close) = true := rfl
@[simp, grind =] theorem obs_27  : pHoldsLock .acqLock = false := rfl
@[simp, grind =] theorem obs_28  : pHoldsLock .acqUnlock = true := rfl
@[simp, grind =] theorem obs_29 (b : Nat) : pHoldsLock (.rearmRem b) = false := rfl
@[simp, grind =] theorem obs_30 (b : Nat) (i : Nat) : pHoldsLock (.rearmNode b i) = false := rfl
@[simp, grind =] theorem obs_31  : pHoldsLock .alloc = false := rfl
@[simp, grind =] theorem obs_32  : pHoldsLock .prelink = false := rfl
@[simp, grind =] theorem obs_33 (i : Nat) (o : NodeId) (f : NodeId) : pHoldsLock (.link i o f) = false := rfl
@[simp, grind =] theorem obs_34  : pHoldsLock .dropDec = false := rfl
@[simp, grind =] theorem obs_35  : building .idle = false := rfl
@[simp, grind =] theorem obs_36  : building .build = true := rfl
@[simp, grind =] theorem obs_37  : building .sealing = false := rfl
@[simp, grind =] theorem obs_38 (b : Nat) : building (.relFence b .bump) = true := rfl
@[simp, grind =] theorem obs_39 (b : Nat) : building (.relFence b .close) = false := rfl
@[simp, grind =] theorem obs_40 (b : Nat) : building (.relLock b .bump) = true := rfl
@[simp, grind =] theorem obs_41 (b : Nat) : building (.relLock b .close) = false := rfl
@[simp, grind =] theorem obs_42 (b : Nat) : building (.relUnlock b .bump) = true := rfl
@[simp, grind =] theorem obs_43 (b : Nat) : building (.relUnlock b .close) = false := rfl
@[simp, grind =] theorem obs_44  : building .acqLock = true := rfl
@[simp, grind =] theorem obs_45  : building .acqUnlock = true := rfl
@[simp, grind =] theorem obs_46 (b : Nat) : building (.rearmRem b) = true := rfl
@[simp, grind =] theorem obs_47 (b : Nat) (i : Nat) : building (.rearmNode b i) = true := rfl
@[simp, grind =] theorem obs_48  : building .alloc = true := rfl
@[simp, grind =] theorem obs_49  : building .prelink = true := rfl
@[simp, grind =] theorem obs_50 (i : Nat) (o : NodeId) (f : NodeId) : building (.link i o f) = false := rfl
@[simp, grind =] theorem obs_51  : building .dropDec = false := rfl
@[simp, grind =] theorem obs_52  : needing .idle = false := rfl
@[simp, grind =] theorem obs_53  : needing .build = false := rfl
@[simp, grind =] theorem obs_54  : needing .sealing = false := rfl
@[simp, grind =] theorem obs_55 (b : Nat) : needing (.relFence b .bump) = true := rfl
@[simp, grind =] theorem obs_56 (b : Nat) : needing (.relFence b .close) = false := rfl
@[simp, grind =] theorem obs_57 (b : Nat) : needing (.relLock b .bump) = true := rfl
@[simp, grind =] theorem obs_58 (b : Nat) : needing (.relLock b .close) = false := rfl
@[simp, grind =] theorem obs_59 (b : Nat) : needing (.relUnlock b .bump) = true := rfl
@[simp, grind =] theorem obs_60 (b : Nat) : needing (.relUnlock b .close) = false := rfl
@[simp, grind =] theorem obs_61  : needing .acqLock = true := rfl
@[simp, grind =] theorem obs_62  : needing .acqUnlock = true := rfl
@[simp, grind =] theorem obs_63 (b : Nat) : needing (.rearmRem b) = true := rfl
@[simp, grind =] theorem obs_64 (b : Nat) (i : Nat) : needing (.rearmNode b i) = true := rfl
@[simp, grind =] theorem obs_65  : needing .alloc = true := rfl
@[simp, grind =] theorem obs_66  : needing .prelink = false := rfl
@[simp, grind =] theorem obs_67 (i : Nat) (o : NodeId) (f : NodeId) : needing (.link i o f) = false := rfl
@[simp, grind =] theorem obs_68  : needing .dropDec = false := rfl
@[simp, grind =] theorem obs_69  : noSlab .idle = false := rfl
@[simp, grind =] theorem obs_70  : noSlab .build = false := rfl
@[simp, grind =] theorem obs_71  : noSlab .sealing = false := rfl
@[simp, grind =] theorem obs_72 (b : Nat) : noSlab (.relFence b .bump) = true := rfl
@[simp, grind =] theorem obs_73 (b : Nat) : noSlab (.relFence b .close) = true := rfl
@[simp, grind =] theorem obs_74 (b : Nat) : noSlab (.relLock b .bump) = true := rfl
@[simp, grind =] theorem obs_75 (b : Nat) : noSlab (.relLock b .close) = true := rfl
@[simp, grind =] theorem obs_76 (b : Nat) : noSlab (.relUnlock b .bump) = true := rfl
@[simp, grind =] theorem obs_77 (b : Nat) : noSlab (.relUnlock b .close) = true := rfl
@[simp, grind =] theorem obs_78  : noSlab .acqLock = true := rfl
@[simp, grind =] theorem obs_79  : noSlab .acqUnlock = true := rfl
@[simp, grind =] theorem obs_80 (b : Nat) : noSlab (.rearmRem b) = true := rfl
@[simp, grind =] theorem obs_81 (b : Nat) (i : Nat) : noSlab (.rearmNode b i) = true := rfl
@[simp, grind =] theorem obs_82  : noSlab .alloc = true := rfl
@[simp, grind =] theorem obs_83  : noSlab .prelink = false := rfl
@[simp, grind =] theorem obs_84 (i : Nat) (o : NodeId) (f : NodeId) : noSlab (.link i o f) = false := rfl
@[simp, grind =] theorem obs_85  : noSlab .dropDec = true := rfl
@[simp, grind =] theorem obs_86  : hasSlab .idle = false := rfl
@[simp, grind =] theorem obs_87  : hasSlab .build = true := rfl
@[simp, grind =] theorem obs_88  : hasSlab .sealing = true := rfl
@[simp, grind =] theorem obs_89 (b : Nat) : hasSlab (.relFence b .bump) = false := rfl
@[simp, grind =] theorem obs_90 (b : Nat) : hasSlab (.relFence b .close) = false := rfl
@[simp, grind =] theorem obs_91 (b : Nat) : hasSlab (.relLock b .bump) = false := rfl
@[simp, grind =] theorem obs_92 (b : Nat) : hasSlab (.relLock b .close) = false := rfl
@[simp, grind =] theorem obs_93 (b : Nat) : hasSlab (.relUnlock b .bump) = false := rfl
@[simp, grind =] theorem obs_94 (b : Nat) : hasSlab (.relUnlock b .close) = false := rfl
@[simp, grind =] theorem obs_95  : hasSlab .acqLock = false := rfl
@[simp, grind =] theorem obs_96  : hasSlab .acqUnlock = false := rfl
@[simp, grind =] theorem obs_97 (b : Nat) : hasSlab (.rearmRem b) = false := rfl
@[simp, grind =] theorem obs_98 (b : Nat) (i : Nat) : hasSlab (.rearmNode b i) = false := rfl
@[simp, grind =] theorem obs_99  : hasSlab .alloc = false := rfl
@[simp, grind =] theorem obs_100  : hasSlab .prelink = true := rfl
@[simp, grind =] theorem obs_101 (i : Nat) (o : NodeId) (f : NodeId) : hasSlab (.link i o f) = false := rfl
@[simp, grind =] theorem obs_102  : hasSlab .dropDec = false := rfl
@[simp, grind =] theorem obs_103  : cRelOf .idle = none := rfl
@[simp, grind =] theorem obs_104 (n : NodeId) (v : Nat) : cRelOf (.retDec n (.pop v)) = none := rfl
@[simp, grind =] theorem obs_105 (b : Nat) (v : Nat) : cRelOf (.relFence b (.pop v)) = some b := rfl
@[simp, grind =] theorem obs_106 (b : Nat) (v : Nat) : cRelOf (.relLock b (.pop v)) = some b := rfl
@[simp, grind =] theorem obs_107 (b : Nat) (v : Nat) : cRelOf (.relUnlock b (.pop v)) = some b := rfl
@[simp, grind =] theorem obs_108 (n : NodeId) : cRelOf (.retDec n .walk) = none := rfl
@[simp, grind =] theorem obs_109 (b : Nat) : cRelOf (.relFence b .walk) = some b := rfl
@[simp, grind =] theorem obs_110 (b : Nat) : cRelOf (.relLock b .walk) = some b := rfl
@[simp, grind =] theorem obs_111 (b : Nat) : cRelOf (.relUnlock b .walk) = some b := rfl
@[simp, grind =] theorem obs_112 (n : NodeId) : cRelOf (.retDec n .last) = none := rfl
@[simp, grind =] theorem obs_113 (b : Nat) : cRelOf (.relFence b .last) = some b := rfl
@[simp, grind =] theorem obs_114 (b : Nat) : cRelOf (.relLock b .last) = some b := rfl
@[simp, grind =] theorem obs_115 (b : Nat) : cRelOf (.relUnlock b .last) = some b := rfl
@[simp, grind =] theorem obs_116 (r : Option Nat) : cRelOf (.done r) = none := rfl
@[simp, grind =] theorem obs_117  : cRelOf .finLoad = none := rfl
@[simp, grind =] theorem obs_118  : cRelOf .finished = none := rfl
@[simp, grind =] theorem obs_119  : cHoldsLock .idle = false := rfl
@[simp, grind =] theorem obs_120 (n : NodeId) (v : Nat) : cHoldsLock (.retDec n (.pop v)) = false := rfl
@[simp, grind =] theorem obs_121 (b : Nat) (v : Nat) : cHoldsLock (.relFence b (.pop v)) = false := rfl
@[simp, grind =] theorem obs_122 (b : Nat) (v : Nat) : cHoldsLock (.relLock b (.pop v)) = false := rfl
@[simp, grind =] theorem obs_123 (b : Nat) (v : Nat) : cHoldsLock (.relUnlock b (.pop v)) = true := rfl
@[simp, grind =] theorem obs_124 (n : NodeId) : cHoldsLock (.retDec n .walk) = false := rfl
@[simp, grind =] theorem obs_125 (b : Nat) : cHoldsLock (.relFence b .walk) = false := rfl
@[simp, grind =] theorem obs_126 (b : Nat) : cHoldsLock (.relLock b .walk) = false := rfl
@[simp, grind =] theorem obs_127 (b : Nat) : cHoldsLock (.relUnlock b .walk) = true := rfl
@[simp, grind =] theorem obs_128 (n : NodeId) : cHoldsLock (.retDec n .last) = false := rfl
@[simp, grind =] theorem obs_129 (b : Nat) : cHoldsLock (.relFence b .last) = false := rfl
@[simp, grind =] theorem obs_130 (b : Nat) : cHoldsLock (.relLock b .last) = false := rfl
@[simp, grind =] theorem obs_131 (b : Nat) : cHoldsLock (.relUnlock b .last) = true := rfl
@[simp, grind =] theorem obs_132 (r : Option Nat) : cHoldsLock (.done r) = false := rfl
@[simp, grind =] theorem obs_133  : cHoldsLock .finLoad = false := rfl
@[simp, grind =] theorem obs_134  : cHoldsLock .finished = false := rfl
@[simp, grind =] theorem obs_135  : cRetOf .idle = none := rfl
@[simp, grind =] theorem obs_136 (n : NodeId) (v : Nat) : cRetOf (.retDec n (.pop v)) = some n := rfl
@[simp, grind =] theorem obs_137 (b : Nat) (v : Nat) : cRetOf (.relFence b (.pop v)) = none := rfl
@[simp, grind =] theorem obs_138 (b : Nat) (v : Nat) : cRetOf (.relLock b (.pop v)) = none := rfl
@[simp, grind =] theorem obs_139 (b : Nat) (v : Nat) : cRetOf (.relUnlock b (.pop v)) = none := rfl
@[simp, grind =] theorem obs_140 (n : NodeId) : cRetOf (.retDec n .walk) = some n := rfl
@[simp, grind =] theorem obs_141 (b : Nat) : cRetOf (.relFence b .walk) = none := rfl
@[simp, grind =] theorem obs_142 (b : Nat) : cRetOf (.relLock b .walk) = none := rfl
@[simp, grind =] theorem obs_143 (b : Nat) : cRetOf (.relUnlock b .walk) = none := rfl
@[simp, grind =] theorem obs_144 (n : NodeId) : cRetOf (.retDec n .last) = some n := rfl
@[simp, grind =] theorem obs_145 (b : Nat) : cRetOf (.relFence b .last) = none := rfl
@[simp, grind =] theorem obs_146 (b : Nat) : cRetOf (.relLock b .last) = none := rfl
@[simp, grind =] theorem obs_147 (b : Nat) : cRetOf (.relUnlock b .last) = none := rfl
@[simp, grind =] theorem obs_148 (r : Option Nat) : cRetOf (.done r) = none := rfl
@[simp, grind =] theorem obs_149  : cRetOf .finLoad = none := rfl
@[simp, grind =] theorem obs_150  : cRetOf .finished = none := rfl
@[simp, grind =] theorem obs_151  : cFinal .idle = false := rfl
@[simp, grind =] theorem obs_152 (n : NodeId) (v : Nat) : cFinal (.retDec n (.pop v)) = false := rfl
@[simp, grind =] theorem obs_153 (b : Nat) (v : Nat) : cFinal (.relFence b (.pop v)) = false := rfl
@[simp, grind =] theorem obs_154 (b : Nat) (v : Nat) : cFinal (.relLock b (.pop v)) = false := rfl
@[simp, grind =] theorem obs_155 (b : Nat) (v : Nat) : cFinal (.relUnlock b (.pop v)) = false := rfl
@[simp, grind =] theorem obs_156 (n : NodeId) : cFinal (.retDec n .walk) = true := rfl
@[simp, grind =] theorem obs_157 (b : Nat) : cFinal (.relFence b .walk) = true := rfl
@[simp, grind =] theorem obs_158 (b : Nat) : cFinal (.relLock b .walk) = true := rfl
@[simp, grind =] theorem obs_159 (b : Nat) : cFinal (.relUnlock b .walk) = true := rfl
@[simp, grind =] theorem obs_160 (n : NodeId) : cFinal (.retDec n .last) = true := rfl
@[simp, grind =] theorem obs_161 (b : Nat) : cFinal (.relFence b .last) = true := rfl
@[simp, grind =] theorem obs_162 (b : Nat) : cFinal (.relLock b .last) = true := rfl
@[simp, grind =] theorem obs_163 (b : Nat) : cFinal (.relUnlock b .last) = true := rfl
@[simp, grind =] theorem obs_164 (r : Option Nat) : cFinal (.done r) = false := rfl
@[simp, grind =] theorem obs_165  : cFinal .finLoad = true := rfl
@[simp, grind =] theorem obs_166  : cFinal .finished = true := rfl
@[simp, grind =] theorem obs_167  : cLast .idle = false := rfl
@[simp, grind =] theorem obs_168 (n : NodeId) (v : Nat) : cLast (.retDec n (.pop v)) = false := rfl
@[simp, grind =] theorem obs_169 (b : Nat) (v : Nat) : cLast (.relFence b (.pop v)) = false := rfl
@[simp, grind =] theorem obs_170 (b : Nat) (v : Nat) : cLast (.relLock b (.pop v)) = false := rfl
@[simp, grind =] theorem obs_171 (b : Nat) (v : Nat) : cLast (.relUnlock b (.pop v)) = false := rfl
@[simp, grind =] theorem obs_172 (n : NodeId) : cLast (.retDec n .walk) = false := rfl
@[simp, grind =] theorem obs_173 (b : Nat) : cLast (.relFence b .walk) = false := rfl
@[simp, grind =] theorem obs_174 (b : Nat) : cLast (.relLock b .walk) = false := rfl
@[simp, grind =] theorem obs_175 (b : Nat) : cLast (.relUnlock b .walk) = false := rfl
@[simp, grind =] theorem obs_176 (n : NodeId) : cLast (.retDec n .last) = true := rfl
@[simp, grind =] theorem obs_177 (b : Nat) : cLast (.relFence b .last) = true := rfl
@[simp, grind =] theorem obs_178 (b : Nat) : cLast (.relLock b .last) = true := rfl
@[simp, grind =] theorem obs_179 (b : Nat) : cLast (.relUnlock b .last) = true := rfl
@[simp, grind =] theorem obs_180 (r : Option Nat) : cLast (.done r) = false := rfl
@[simp, grind =] theorem obs_181  : cLast .finLoad = false := rfl
@[simp, grind =] theorem obs_182  : cLast .finished = true := rfl
@[simp, grind =] theorem obs_183  : hold .unalloc = 0 := rfl
@[simp, grind =] theorem obs_184 (h : Nat) : hold (.owned h) = 1 := rfl
@[simp, grind =] theorem obs_185  : hold .sealed = 0 := rfl
@[simp, grind =] theorem obs_186 (a : Agent) : hold (.releasing a) = 0 := rfl
@[simp, grind =] theorem obs_187  : hold .pooled = 0 := rfl
@[simp, grind =] theorem obs_188  : hold .freed = 0 := rfl
@[simp, grind =] theorem obs_189 (h : Nat) : hold (.popped h) = 0 := rfl
@[simp, grind =] theorem obs_190 (h : Nat) : hold (.arming h) = 1 := rfl
@[simp, grind =] theorem obs_191  : isZero .unalloc = false := rfl
@[simp, grind =] theorem obs_192 (h : Nat) : isZero (.owned h) = false := rfl
@[simp, grind =] theorem obs_193  : isZero .sealed = false := rfl
@[simp, grind =] theorem obs_194 (a : Agent) : isZero (.releasing a) = true := rfl
@[simp, grind =] theorem obs_195  : isZero .pooled = true := rfl
@[simp, grind =] theorem obs_196  : isZero .freed = true := rfl
@[simp, grind =] theorem obs_197 (h : Nat) : isZero (.popped h) = true := rfl
@[simp, grind =] theorem obs_198 (h : Nat) : isZero (.arming h) = false := rfl

@[simp, grind =] theorem pAfter_bump : pAfter .bump = .acqLock := rfl
@[simp, grind =] theorem pAfter_close : pAfter .close = .dropDec := rfl
@[simp, grind =] theorem cAfter_pop (v : Nat) : cAfter (.pop v) = .done (some v) := rfl
@[simp, grind =] theorem cAfter_walk : cAfter .walk = .finLoad := rfl
@[simp, grind =] theorem cAfter_last : cAfter .last = .finished := rfl

def isBump : PCont → Bool | .bump => true | .close => false
def ccFinal : CCont → Bool | .pop _ => false | .walk => true | .last => true
def ccLast : CCont → Bool | .pop _ => false | .walk => false | .last => true
@[simp, grind =] theorem isBump_bump : isBump .bump = true := rfl
@[simp, grind =] theorem isBump_close : isBump .close = false := rfl
@[simp, grind =] theorem ccFinal_pop (v : Nat) : ccFinal (.pop v) = false := rfl
@[simp, grind =] theorem ccFinal_walk : ccFinal .walk = true := rfl
@[simp, grind =] theorem ccFinal_last : ccFinal .last = true := rfl
@[simp, grind =] theorem ccLast_pop (v : Nat) : ccLast (.pop v) = false := rfl
@[simp, grind =] theorem ccLast_walk : ccLast .walk = false := rfl
@[simp, grind =] theorem ccLast_last : ccLast .last = true := rfl
@[simp, grind =] theorem obsg_1 (b : Nat) (c : PCont) : pRelOf (.relFence b c) = some b := by rfl
@[simp, grind =] theorem obsg_2 (b : Nat) (c : PCont) : pHoldsLock (.relFence b c) = false := by rfl
@[simp, grind =] theorem obsg_3 (b : Nat) (c : PCont) : building (.relFence b c) = isBump c := by cases c <;> rfl
@[simp, grind =] theorem obsg_4 (b : Nat) (c : PCont) : needing (.relFence b c) = isBump c := by cases c <;> rfl
@[simp, grind =] theorem obsg_5 (b : Nat) (c : PCont) : noSlab (.relFence b c) = true := by rfl
@[simp, grind =] theorem obsg_6 (b : Nat) (c : PCont) : hasSlab (.relFence b c) = false := by rfl
@[simp, grind =] theorem obsg_7 (b : Nat) (c : CCont) : cRelOf (.relFence b c) = some b := by rfl
@[simp, grind =] theorem obsg_8 (b : Nat) (c : CCont) : cHoldsLock (.relFence b c) = false := by rfl
@[simp, grind =] theorem obsg_9 (b : Nat) (c : CCont) : cRetOf (.relFence b c) = none := by rfl
@[simp, grind =] theorem obsg_10 (b : Nat) (c : CCont) : cFinal (.relFence b c) = ccFinal c := by cases c <;> rfl
@[simp, grind =] theorem obsg_11 (b : Nat) (c : CCont) : cLast (.relFence b c) = ccLast c := by cases c <;> rfl
@[simp, grind =] theorem obsg_12 (b : Nat) (c : PCont) : pRelOf (.relLock b c) = some b := by rfl
@[simp, grind =] theorem obsg_13 (b : Nat) (c : PCont) : pHoldsLock (.relLock b c) = false := by rfl
@[simp, grind =] theorem obsg_14 (b : Nat) (c : PCont) : building (.relLock b c) = isBump c := by cases c <;> rfl
@[simp, grind =] theorem obsg_15 (b : Nat) (c : PCont) : needing (.relLock b c) = isBump c := by cases c <;> rfl
@[simp, grind =] theorem obsg_16 (b : Nat) (c : PCont) : noSlab (.relLock b c) = true := by rfl
@[simp, grind =] theorem obsg_17 (b : Nat) (c : PCont) : hasSlab (.relLock b c) = false := by rfl
@[simp, grind =] theorem obsg_18 (b : Nat) (c : CCont) : cRelOf (.relLock b c) = some b := by rfl
@[simp, grind =] theorem obsg_19 (b : Nat) (c : CCont) : cHoldsLock (.relLock b c) = false := by rfl
@[simp, grind =] theorem obsg_20 (b : Nat) (c : CCont) : cRetOf (.relLock b c) = none := by rfl
@[simp, grind =] theorem obsg_21 (b : Nat) (c : CCont) : cFinal (.relLock b c) = ccFinal c := by cases c <;> rfl
@[simp, grind =] theorem obsg_22 (b : Nat) (c : CCont) : cLast (.relLock b c) = ccLast c := by cases c <;> rfl
@[simp, grind =] theorem obsg_23 (b : Nat) (c : PCont) : pRelOf (.relUnlock b c) = some b := by rfl
@[simp, grind =] theorem obsg_24 (b : Nat) (c : PCont) : pHoldsLock (.relUnlock b c) = true := by rfl
@[simp, grind =] theorem obsg_25 (b : Nat) (c : PCont) : building (.relUnlock b c) = isBump c := by cases c <;> rfl
@[simp, grind =] theorem obsg_26 (b : Nat) (c : PCont) : needing (.relUnlock b c) = isBump c := by cases c <;> rfl
@[simp, grind =] theorem obsg_27 (b : Nat) (c : PCont) : noSlab (.relUnlock b c) = true := by rfl
@[simp, grind =] theorem obsg_28 (b : Nat) (c : PCont) : hasSlab (.relUnlock b c) = false := by rfl
@[simp, grind =] theorem obsg_29 (b : Nat) (c : CCont) : cRelOf (.relUnlock b c) = some b := by rfl
@[simp, grind =] theorem obsg_30 (b : Nat) (c : CCont) : cHoldsLock (.relUnlock b c) = true := by rfl
@[simp, grind =] theorem obsg_31 (b : Nat) (c : CCont) : cRetOf (.relUnlock b c) = none := by rfl
@[simp, grind =] theorem obsg_32 (b : Nat) (c : CCont) : cFinal (.relUnlock b c) = ccFinal c := by cases c <;> rfl
@[simp, grind =] theorem obsg_33 (b : Nat) (c : CCont) : cLast (.relUnlock b c) = ccLast c := by cases c <;> rfl
@[simp, grind =] theorem obsg_34 (n : NodeId) (c : CCont) : cRelOf (.retDec n c) = none := by rfl
@[simp, grind =] theorem obsg_35 (n : NodeId) (c : CCont) : cHoldsLock (.retDec n c) = false := by rfl
@[simp, grind =] theorem obsg_36 (n : NodeId) (c : CCont) : cRetOf (.retDec n c) = some n := by rfl
@[simp, grind =] theorem obsg_37 (n : NodeId) (c : CCont) : cFinal (.retDec n c) = ccFinal c := by cases c <;> rfl
@[simp, grind =] theorem obsg_38 (n : NodeId) (c : CCont) : cLast (.retDec n c) = ccLast c := by cases c <;> rfl
@[simp, grind =] theorem obsg_39 (c : PCont) : pRelOf (pAfter c) = none := by cases c <;> rfl
@[simp, grind =] theorem obsg_40 (c : PCont) : pHoldsLock (pAfter c) = false := by cases c <;> rfl
@[simp, grind =] theorem obsg_41 (c : PCont) : building (pAfter c) = isBump c := by cases c <;> rfl
@[simp, grind =] theorem obsg_42 (c : PCont) : needing (pAfter c) = isBump c := by cases c <;> rfl
@[simp, grind =] theorem obsg_43 (c : PCont) : noSlab (pAfter c) = true := by cases c <;> rfl
@[simp, grind =] theorem obsg_44 (c : PCont) : hasSlab (pAfter c) = false := by cases c <;> rfl
@[simp, grind =] theorem obsg_45 (c : CCont) : cRelOf (cAfter c) = none := by cases c <;> rfl
@[simp, grind =] theorem obsg_46 (c : CCont) : cHoldsLock (cAfter c) = false := by cases c <;> rfl
@[simp, grind =] theorem obsg_47 (c : CCont) : cRetOf (cAfter c) = none := by cases c <;> rfl
@[simp, grind =] theorem obsg_48 (c : CCont) : cFinal (cAfter c) = ccFinal c := by cases c <;> rfl
@[simp, grind =] theorem obsg_49 (c : CCont) : cLast (cAfter c) = ccLast c := by cases c <;> rfl
theorem pAfter_ne_idle (c : PCont) : pAfter c ≠ .idle := by cases c <;> simp
theorem cLast_le_cFinal (c : CPC) (h : cLast c = true) : cFinal c = true := by
  cases c <;> simp_all <;> rename_i c <;> cases c <;> simp_all

@[simp, grind =] theorem pAfter_eq_link (c : PCont) (i : Nat) (o f : NodeId) : (pAfter c = PPC.link i o f) = False := by cases c <;> simp
@[simp, grind =] theorem pAfter_eq_rearmRem (c : PCont) (b : Nat) : (pAfter c = PPC.rearmRem b) = False := by cases c <;> simp
@[simp, grind =] theorem pAfter_eq_rearmNode (c : PCont) (b i : Nat) : (pAfter c = PPC.rearmNode b i) = False := by cases c <;> simp
@[simp, grind =] theorem pAfter_eq_prelink (c : PCont) : (pAfter c = PPC.prelink) = False := by cases c <;> simp
@[simp, grind =] theorem pAfter_eq_idle (c : PCont) : (pAfter c = PPC.idle) = False := by cases c <;> simp
@[simp, grind =] theorem cAfter_eq_idle (c : CCont) : (cAfter c = CPC.idle) = False := by cases c <;> simp

@[simp, grind =] theorem canFree_unalloc : canFree .unalloc = false := rfl
@[simp, grind =] theorem canFree_owned (h : Nat) : canFree (.owned h) = true := rfl
@[simp, grind =] theorem canFree_sealed : canFree .sealed = false := rfl
@[simp, grind =] theorem canFree_releasing (a : Agent) : canFree (.releasing a) = false := rfl
@[simp, grind =] theorem canFree_pooled : canFree .pooled = false := rfl
@[simp, grind =] theorem canFree_freed : canFree .freed = false := rfl
@[simp, grind =] theorem canFree_popped (h : Nat) : canFree (.popped h) = false := rfl
@[simp, grind =] theorem canFree_arming (h : Nat) : canFree (.arming h) = true := rfl
@[simp, grind =] theorem isArming_unalloc : isArming .unalloc = false := rfl
@[simp, grind =] theorem isArming_owned (h : Nat) : isArming (.owned h) = false := rfl
@[simp, grind =] theorem isArming_sealed : isArming .sealed = false := rfl
@[simp, grind =] theorem isArming_releasing (a : Agent) : isArming (.releasing a) = false := rfl
@[simp, grind =] theorem isArming_pooled : isArming .pooled = false := rfl
@[simp, grind =] theorem isArming_freed : isArming .freed = false := rfl
@[simp, grind =] theorem isArming_popped (h : Nat) : isArming (.popped h) = false := rfl
@[simp, grind =] theorem isArming_arming (h : Nat) : isArming (.arming h) = true := rfl

end Fv.Chan.ChainB
