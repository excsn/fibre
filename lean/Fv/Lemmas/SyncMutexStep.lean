import Fv.Sync.Mutex
/-!
`Step cfg s t l s'` lists every transition of `Mutex.next` once, at the granularity of the model's helper
functions (`callStep`, `taFail`, `llEnter`, `afterRel`, …); `step_of_mem` is all the invariant proofs use of `next`.
-/
namespace Fv.Sync.Mutex
open Fv.Sync

section ite
variable (c : Prop) [Decidable c]
@[simp] theorem Thread.ite_pc (a b : Thread) : (if c then a else b).pc = if c then a.pc else b.pc := by split <;> rfl
@[simp] theorem Thread.ite_sv (a b : Thread) : (if c then a else b).sv = if c then a.sv else b.sv := by split <;> rfl
@[simp] theorem Thread.ite_linked (a b : Thread) : (if c then a else b).linked = if c then a.linked else b.linked := by split <;> rfl
@[simp] theorem Thread.ite_i (a b : Thread) : (if c then a else b).i = if c then a.i else b.i := by split <;> rfl
@[simp] theorem Thread.ite_cur (a b : Thread) : (if c then a else b).cur = if c then a.cur else b.cur := by split <;> rfl
@[simp] theorem Thread.ite_blockOn (a b : Thread) : (if c then a else b).blockOn = if c then a.blockOn else b.blockOn := by split <;> rfl
@[simp] theorem Thread.ite_tgt (a b : Thread) : (if c then a else b).tgt = if c then a.tgt else b.tgt := by split <;> rfl
@[simp] theorem Thread.ite_w (a b : Thread) : (if c then a else b).w = if c then a.w else b.w := by split <;> rfl
@[simp] theorem Fut.ite_phase (a b : Fut) : (if c then a else b).phase = if c then a.phase else b.phase := by split <;> rfl
@[simp] theorem Fut.ite_busy (a b : Fut) : (if c then a else b).busy = if c then a.busy else b.busy := by split <;> rfl
@[simp] theorem Fut.ite_bo (a b : Fut) : (if c then a else b).bo = if c then a.bo else b.bo := by split <;> rfl
end ite

inductive Step (cfg : Cfg) (s : State) (t : Tid) : Lbl → State → Prop
  | call {op rest} (hpc : (s.th t).pc = .idle) (hp : s.prog t = op :: rest) :
      Step cfg s t (.call op) (callStep cfg s t op)
  | ret {r} (hpc : (s.th t).pc = .ret r) :
      Step cfg s t (.ret r)
        { s with th := upd s.th t { s.th t with pc := .idle }, prog := upd s.prog t (s.prog t).tail }
  | taLoadLocked {k} (hpc : (s.th t).pc = .taLoad k) (hl : s.word.locked = true) :
      Step cfg s t (.load .state .relaxed s.word.toNat) (taFail cfg s t k)
  | taLoadFree {k} (hpc : (s.th t).pc = .taLoad k) (hl : ¬ s.word.locked = true) :
      Step cfg s t (.load .state .relaxed s.word.toNat)
        (setTh s t { s.th t with pc := .taCas k, sv := s.word })
  | taCasOk {k} (hpc : (s.th t).pc = .taCas k) (he : s.word = (s.th t).sv) :
      Step cfg s t
        (.cas .state false .acquire .relaxed s.word.toNat ({ (s.th t).sv with locked := true } : MWord).toNat true)
        (taSucc { s with word := { (s.th t).sv with locked := true }, holders := (t, true) :: s.holders } t k)
  | taCasFail {k} (hpc : (s.th t).pc = .taCas k) (he : ¬ s.word = (s.th t).sv) :
      Step cfg s t (.cas .state false .acquire .relaxed s.word.toNat s.word.toNat false) (taFail cfg s t k)
  | spinYield (hpc : (s.th t).pc = .spinYield) :
      Step cfg s t .yield (spinHead cfg (setTh s t { s.th t with i := (s.th t).i + 1 }) t)
  | llSwapBusy {k} (hpc : (s.th t).pc = .llSwap k) (hl : s.wl.locked = true) :
      Step cfg s t (.rmw .listLock .swap .acquire (b2n s.wl.locked) 1) (withPc s t (.llLoad k))
  | llSwapOk {k} (hpc : (s.th t).pc = .llSwap k) (hl : ¬ s.wl.locked = true) :
      Step cfg s t (.rmw .listLock .swap .acquire (b2n s.wl.locked) 1)
        (llEnter { s with wl := s.wl.setLocked true } t k)
  | llLoadBusy {k} (hpc : (s.th t).pc = .llLoad k) (hl : s.wl.locked = true) :
      Step cfg s t (.load .listLock .relaxed (b2n s.wl.locked)) (withPc s t (.llSpin k))
  | llLoadFree {k} (hpc : (s.th t).pc = .llLoad k) (hl : ¬ s.wl.locked = true) :
      Step cfg s t (.load .listLock .relaxed (b2n s.wl.locked)) (withPc s t (.llSwap k))
  | llSpin {k} (hpc : (s.th t).pc = .llSpin k) :
      Step cfg s t .spin (withPc s t (.llLoad k))
  | qRearmSyncLinked (hpc : (s.th t).pc = .qRearm) (hc : (s.th t).cur = none) (hl : (s.th t).linked = true) :
      Step cfg s t (.store (.nodeState (me t (s.th t))) .relaxed 0)
        { s with wl := s.wl.setWoken (me t (s.th t)) false
                 th := upd s.th t { s.th t with pc := .qFetchOr, linked := true } }
  | qRearmSyncLink (hpc : (s.th t).pc = .qRearm) (hc : (s.th t).cur = none) (hl : ¬ (s.th t).linked = true) :
      Step cfg s t (.store (.nodeState (me t (s.th t))) .relaxed 0)
        { s with wl := (s.wl.setWoken (me t (s.th t)) false).linkBack (me t (s.th t))
                 th := upd s.th t { s.th t with pc := .qFetchOr, linked := true } }
  | qRearmAsyncLinked {f} (hpc : (s.th t).pc = .qRearm) (hc : (s.th t).cur = some f)
      (hl : (s.wl.setWoken (me t (s.th t)) false).wasLinked (me t (s.th t)) = true) :
      Step cfg s t (.store (.nodeState (me t (s.th t))) .relaxed 0)
        { s with wl := s.wl.setWoken (me t (s.th t)) false
                 th := upd s.th t { s.th t with pc := .qFetchOr, linked := true } }
  | qRearmAsyncLink {f} (hpc : (s.th t).pc = .qRearm) (hc : (s.th t).cur = some f)
      (hl : ¬ (s.wl.setWoken (me t (s.th t)) false).wasLinked (me t (s.th t)) = true) :
      Step cfg s t (.store (.nodeState (me t (s.th t))) .relaxed 0)
        { s with wl := (s.wl.setWoken (me t (s.th t)) false).linkBack (me t (s.th t))
                 th := upd s.th t { s.th t with pc := .qFetchOr, linked := true } }
  | qFetchOr (hpc : (s.th t).pc = .qFetchOr) :
      Step cfg s t (.rmw .state .or .relaxed s.word.toNat ({ s.word with hq := true } : MWord).toNat)
        (withPc { s with word := { s.word with hq := true } } t .qLoad)
  | qLoadLockedSync (hpc : (s.th t).pc = .qLoad) (hl : s.word.locked = true) (hc : (s.th t).cur = none) :
      Step cfg s t (.load .state .relaxed s.word.toNat) (withPc s t (.llRel .parkLoad))
  | qLoadLockedAsync {f} (hpc : (s.th t).pc = .qLoad) (hl : s.word.locked = true) (hc : (s.th t).cur = some f) :
      Step cfg s t (.load .state .relaxed s.word.toNat) (withPc s t (.llRel .pending))
  | qLoadFree (hpc : (s.th t).pc = .qLoad) (hl : ¬ s.word.locked = true) :
      Step cfg s t (.load .state .relaxed s.word.toNat) (setTh s t { s.th t with pc := .qCas, sv := s.word })
  | qCasOkSync (hpc : (s.th t).pc = .qCas) (he : s.word = (s.th t).sv) (hc : (s.th t).cur = none) :
      Step cfg s t
        (.cas .state false .acquire .relaxed s.word.toNat ({ (s.th t).sv with locked := true } : MWord).toNat true)
        (withPc { s with word := { (s.th t).sv with locked := true }, holders := (t, true) :: s.holders,
                         wl := s.wl.unlink (me t (s.th t)) } t (.ff .retOk))
  | qCasOkAsync {f} (hpc : (s.th t).pc = .qCas) (he : s.word = (s.th t).sv) (hc : (s.th t).cur = some f) :
      Step cfg s t
        (.cas .state false .acquire .relaxed s.word.toNat ({ (s.th t).sv with locked := true } : MWord).toNat true)
        (withPc { s with word := { (s.th t).sv with locked := true }, holders := (t, true) :: s.holders,
                         wl := s.wl.unlink (me t (s.th t)) } t (.ff .retReady))
  | qCasFail (hpc : (s.th t).pc = .qCas) (he : ¬ s.word = (s.th t).sv) :
      Step cfg s t (.cas .state false .acquire .relaxed s.word.toNat s.word.toNat false) (withPc s t .qLoad)
  | ffEmpty {a} (hpc : (s.th t).pc = .ff a) (he : s.wl.len = 0) :
      Step cfg s t (.rmw .state .and .relaxed s.word.toNat ({ s.word with hq := false } : MWord).toNat)
        (withPc { s with word := { s.word with hq := false } } t (.llRel a))
  | ffNonempty {a} (hpc : (s.th t).pc = .ff a) (he : ¬ s.wl.len = 0) :
      Step cfg s t (.rmw .state .or .relaxed s.word.toNat ({ s.word with hq := true } : MWord).toNat)
        (withPc { s with word := { s.word with hq := true } } t (.llRel a))
  | llRel {a} (hpc : (s.th t).pc = .llRel a) :
      Step cfg s t (.store .listLock .release 0) (afterRel { s with wl := s.wl.setLocked false } t a)
  | wLoadWoken (hpc : (s.th t).pc = .wLoad) (hw : (s.wl.node (me t (s.th t))).woken = true) :
      Step cfg s t (.load (.nodeState (me t (s.th t))) .acquire (b2n (s.wl.node (me t (s.th t))).woken))
        (spinHead cfg (setTh s t { s.th t with i := 0 }) t)
  | wLoadWaiting (hpc : (s.th t).pc = .wLoad) (hw : ¬ (s.wl.node (me t (s.th t))).woken = true) :
      Step cfg s t (.load (.nodeState (me t (s.th t))) .acquire (b2n (s.wl.node (me t (s.th t))).woken))
        (withPc s t .wPark)
  | wPark (hpc : (s.th t).pc = .wPark) (htok : s.token t = true) :
      Step cfg s t .park (withPc { s with token := upd s.token t false } t .wLoad)
  | wParkSpur (hpc : (s.th t).pc = .wPark) :
      Step cfg s t .parkSpur (withPc s t .wLoad)
  | relAndQueued (hpc : (s.th t).pc = .relAnd) (hq : s.word.hq = true) :
      Step cfg s t (.rmw .state .and .release s.word.toNat ({ s.word with locked := false } : MWord).toNat)
        (withPc { s with word := { s.word with locked := false }, holders := s.holders.erase (t, true) } t
          (.llSwap .wakeNext))
  | relAndPlain (hpc : (s.th t).pc = .relAnd) (hq : ¬ s.word.hq = true) :
      Step cfg s t (.rmw .state .and .release s.word.toNat ({ s.word with locked := false } : MWord).toNat)
        (withPc { s with word := { s.word with locked := false }, holders := s.holders.erase (t, true) } t
          (.ret .ok))
  | wnStore (hpc : (s.th t).pc = .wnStore) :
      Step cfg s t (.store (.nodeState (s.th t).tgt) .release 1)
        { s with wl := s.wl.takeAndMark (s.th t).tgt
                 th := upd s.th t { s.th t with pc := .llRel .wake, w := (s.wl.node (s.th t).tgt).waiter } }
  | wnWake {u} (hpc : (s.th t).pc = .wnWake) (hw : (s.th t).w = some (.thread u)) :
      Step cfg s t (.unpark u) (withPc { s with token := upd s.token u true } t (.ret .ok))
  | dLoadWoken (hpc : (s.th t).pc = .dLoad) (hw : (s.wl.node (.fut (curF (s.th t)))).woken = true) :
      Step cfg s t (.load (.nodeState (.fut (curF (s.th t)))) .acquire (b2n (s.wl.node (.fut (curF (s.th t)))).woken))
        (withPc { s with fut := upd s.fut (curF (s.th t)) { s.fut (curF (s.th t)) with phase := .absent, busy := false } } t (.llSwap .wakeNext))
  | dLoadWaiting (hpc : (s.th t).pc = .dLoad) (hw : ¬ (s.wl.node (.fut (curF (s.th t)))).woken = true) :
      Step cfg s t (.load (.nodeState (.fut (curF (s.th t)))) .acquire (b2n (s.wl.node (.fut (curF (s.th t)))).woken))
        (withPc { s with fut := upd s.fut (curF (s.th t)) { s.fut (curF (s.th t)) with phase := .absent, busy := false } } t (.ret .ok))
  | boPark (hpc : (s.th t).pc = .boPark) (htok : s.token t = true) :
      Step cfg s t .park
        (pollHead cfg { s with token := upd s.token t false, th := upd s.th t { s.th t with i := 0 } } t)
  | boParkSpur (hpc : (s.th t).pc = .boPark) :
      Step cfg s t .parkSpur (pollHead cfg (setTh s t { s.th t with i := 0 }) t)

macro "unfold_next" h:ident : tactic => `(tactic| (
  unfold next at $h:ident
  split at $h:ident
  all_goals simp only [nIdle, nRet, nTaLoad, nTaCas, nSpinYield, nLlSwap, nLlLoad, nLlSpin, nQRearm, nQFetchOr,
    nQLoad, nQCas, nFf, nLlRel, nWLoad, nWPark, nRelAnd, nWnStore, nWnWake, nDLoad, nBoPark] at $h:ident))

theorem step_of_mem {cfg : Cfg} {s s' : State} {t : Tid} {l : Lbl} (h : (l, s') ∈ next cfg s t) :
    Step cfg s t l s' := by
  unfold_next h
  all_goals (repeat' split at h)
  all_goals simp only [List.mem_cons, List.not_mem_nil, Prod.mk.injEq, or_false,
    false_or, List.mem_append] at h
  -- the two `qRearm…Linked` (and `…Link`) constructors differ only in a premise: retry with the second
  all_goals first
    | (obtain ⟨rfl, rfl⟩ : _ ∧ _ := h
       first
        | (constructor <;> assumption)
        | (apply Step.qRearmAsyncLinked <;> assumption)
        | (apply Step.qRearmAsyncLink <;> assumption))
    | (rcases h with ⟨rfl, rfl⟩ | ⟨rfl, rfl⟩ <;> constructor <;> assumption)

end Fv.Sync.Mutex
