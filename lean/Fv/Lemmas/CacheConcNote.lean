import Fv.Lemmas.CacheConc
/-! Notification invariant of the concurrent cache model (C16 under interleavings): every removal
gets a fresh removal id; a notification is only ever sent for a logged removal, by the thread whose
critical section removed the binding, and no removal id is sent twice. -/
namespace Fv.Cache.Conc

/-- notifications a thread has taken responsibility for and not sent yet -/
def pend : PC → List Note
  | .rmPol k v _ rid => [⟨rid, k, v, .invalidated⟩]
  | .rmSub k v _ rid => [⟨rid, k, v, .invalidated⟩]
  | .rmNote k v rid => [⟨rid, k, v, .invalidated⟩]
  | .mVictim _ _ _ _ ns => ns
  | .mSub _ _ _ ns => ns
  | .mNote _ _ ns => ns
  | _ => []

@[simp] theorem pend_idle  : pend (.idle ) = [] := rfl
@[simp] theorem pend_done {r} : pend (.done r) = [] := rfl
@[simp] theorem pend_rd {k p} : pend (.rd k p) = [] := rfl
@[simp] theorem pend_ins {k v c e l} : pend (.ins k v c e l) = [] := rfl
@[simp] theorem pend_insSub {k} {c} {old} : pend (.insSub k c old) = [] := rfl
@[simp] theorem pend_insEv {k} {c} : pend (.insEv k c) = [] := rfl
@[simp] theorem pend_insAdd {k} {c} : pend (.insAdd k c) = [] := rfl
@[simp] theorem pend_insMaint {k} : pend (.insMaint k) = [] := rfl
@[simp] theorem pend_rm {k} : pend (.rm k) = [] := rfl
@[simp] theorem pend_rmPol {k} {v} {c} {rid} : pend (.rmPol k v c rid) = [⟨rid, k, v, .invalidated⟩] := rfl
@[simp] theorem pend_rmSub {k} {v} {c} {rid} : pend (.rmSub k v c rid) = [⟨rid, k, v, .invalidated⟩] := rfl
@[simp] theorem pend_rmNote {k} {v} {rid} : pend (.rmNote k v rid) = [⟨rid, k, v, .invalidated⟩] := rfl
@[simp] theorem pend_cmp {k} {d} {l} : pend (.cmp k d l) = [] := rfl
@[simp] theorem pend_oi {k} {v} {c} : pend (.oi k v c) = [] := rfl
@[simp] theorem pend_oiEv {k} {v} {c} : pend (.oiEv k v c) = [] := rfl
@[simp] theorem pend_oiAdd {k} {v} {c} : pend (.oiAdd k v c) = [] := rfl
@[simp] theorem pend_clr {a p} : pend (.clr a p) = [] := rfl
@[simp] theorem pend_mLock {a} {b} {f} : pend (.mLock a b f) = [] := rfl
@[simp] theorem pend_mDrain {m} {l} {a} : pend (.mDrain m l a) = [] := rfl
@[simp] theorem pend_mAdmit {m} {ws} : pend (.mAdmit m ws) = [] := rfl
@[simp] theorem pend_mVictim {m} {ws} {vs} {tot} {ns} : pend (.mVictim m ws vs tot ns) = ns := rfl
@[simp] theorem pend_mSub {m} {ws} {tot} {ns} : pend (.mSub m ws tot ns) = ns := rfl
@[simp] theorem pend_mNote {m} {ws} {ns} : pend (.mNote m ws ns) = ns := rfl
@[simp] theorem pend_mTtl {m} : pend (.mTtl m) = [] := rfl
@[simp] theorem pend_mTtlMap {m} {e} : pend (.mTtlMap m e) = [] := rfl
@[simp] theorem pend_mTti {m} : pend (.mTti m) = [] := rfl
@[simp] theorem pend_mCapLoad {m} : pend (.mCapLoad m) = [] := rfl
@[simp] theorem pend_mCapEvict {m} {n} : pend (.mCapEvict m n) = [] := rfl
@[simp] theorem pend_mCapMap {m} {v} {r} : pend (.mCapMap m v r) = [] := rfl
@[simp] theorem pend_mCapSub {m} {r} : pend (.mCapSub m r) = [] := rfl
@[simp] theorem pend_mUnlock {m} : pend (.mUnlock m) = [] := rfl
@[simp] theorem pend_afterWrites (m : MCtx) : pend (afterWrites m) = [] := by unfold afterWrites; split <;> rfl
@[simp] theorem pend_nextAdmit (m : MCtx) (ws) : pend (nextAdmit m ws) = [] := by
  cases ws <;> simp [nextAdmit]
@[simp] theorem pend_startDrain (m : MCtx) (l) : pend (startDrain m l) = [] := by
  unfold startDrain; split <;> simp
@[simp] theorem pend_afterSub (m : MCtx) (ws ns) : pend (afterSub m ws ns) = ns := by
  cases ns <;> simp [afterSub]
@[simp] theorem pend_afterVictim (m : MCtx) (ws vs tot ns) : pend (afterVictim m ws vs tot ns) = ns := by
  cases vs <;> rfl
@[simp] theorem pend_startPC (c : Cfg) (n : Nat) (op : Op) : pend (startPC c n op) = [] := by cases op <;> rfl

structure InvM (s : State) : Prop where
  lt : ∀ n ∈ s.removed, n.rid < s.nextRid
  nodup : (s.removed.map (·.rid)).Nodup

structure InvN (s : State) : Prop extends InvM s where
  sub : ∀ t, ∀ n ∈ s.notifs ++ pend (s.pc t), n ∈ s.removed
  own : ∀ t, ((s.notifs ++ pend (s.pc t)).map (·.rid)).Nodup
  disj : ∀ t u, t ≠ u → ∀ a ∈ pend (s.pc t), ∀ b ∈ pend (s.pc u), a.rid ≠ b.rid

theorem invN_init : InvN init := by
  refine ⟨⟨?_, ?_⟩, ?_, ?_, ?_⟩ <;> simp [init]

theorem nodup_rids_append {A B : List Note} : ((A ++ B).map (·.rid)).Nodup ↔
    (A.map (·.rid)).Nodup ∧ (B.map (·.rid)).Nodup ∧ ∀ a ∈ A, ∀ b ∈ B, a.rid ≠ b.rid := by
  simp [List.nodup_append]

/-- `hsub` is `Sublist`, not equality: a full channel drops notifications -/
theorem InvN.step {s s' : State} (hi : InvN s) (t : Nat) (x : PC) (hpc : s'.pc = upd s.pc t x)
    (hr : s.removed <+: s'.removed) (hn : s.notifs <+: s'.notifs) (hnr : s.nextRid ≤ s'.nextRid)
    (hrid : (s'.removed.drop s.removed.length).map (·.rid) = List.range' s.nextRid (s'.nextRid - s.nextRid))
    (hsub : (s'.notifs.drop s.notifs.length ++ pend x).Sublist
      (pend (s.pc t) ++ s'.removed.drop s.removed.length)) : InvN s' := by
  obtain ⟨rem, hr⟩ := hr
  obtain ⟨sent, hn⟩ := hn
  rw [← hr, ← hn, List.drop_left, List.drop_left] at hsub
  rw [← hr, List.drop_left] at hrid
  have hrem : ∀ b ∈ rem, s.nextRid ≤ b.rid ∧ b.rid < s'.nextRid := fun b hb => by
    have : b.rid ∈ rem.map (·.rid) := List.mem_map_of_mem hb
    rw [hrid, List.mem_range'_1] at this; omega
  have fresh : ∀ a ∈ s.removed, ∀ b ∈ rem, a.rid ≠ b.rid := fun a ha b hb e => by
    have := hi.lt a ha; have := hrem b hb; omega
  have remNodup : (rem.map (·.rid)).Nodup := hrid ▸ List.nodup_range' ..
  -- what `t` owns before the step, together with the new removals
  have big : ((s.notifs ++ pend (s.pc t) ++ rem).map (·.rid)).Nodup :=
    nodup_rids_append.2 ⟨hi.own t, remNodup, fun a ha => fresh a (hi.sub t a ha)⟩
  have bigsub : ∀ n ∈ s.notifs ++ pend (s.pc t) ++ rem, n ∈ s'.removed := fun n hn' => by
    rw [List.mem_append] at hn'; rw [← hr, List.mem_append]
    exact hn'.imp (hi.sub t n) id
  have sl : (s.notifs ++ sent ++ pend x).Sublist (s.notifs ++ pend (s.pc t) ++ rem) := by
    rw [List.append_assoc, List.append_assoc]; exact (List.Sublist.refl _).append hsub
  have other : ∀ u, u ≠ t → ∀ a ∈ sent ++ pend x, ∀ b ∈ pend (s.pc u), a.rid ≠ b.rid := fun u hu a ha b hb =>
    (List.mem_append.1 (hsub.subset ha)).elim (fun h => hi.disj t u (Ne.symm hu) a h b hb)
      fun h e => fresh b (hi.sub u b (List.mem_append_right _ hb)) a h e.symm
  have hpt : pend (s'.pc t) = pend x := by rw [hpc, upd_same]
  have hpu : ∀ u, u ≠ t → pend (s'.pc u) = pend (s.pc u) := fun u hu => by rw [hpc, upd_other _ _ _ _ hu]
  refine ⟨⟨fun n hn' => ?_, hr ▸ nodup_rids_append.2 ⟨hi.nodup, remNodup, fresh⟩⟩, fun u => ?_, fun u => ?_, ?_⟩
  · rw [← hr, List.mem_append] at hn'
    exact hn'.elim (fun h => Nat.lt_of_lt_of_le (hi.lt n h) hnr) fun h => (hrem n h).2
  · by_cases hu : u = t
    · rw [hu, hpt, ← hn]; exact fun n hn' => bigsub n (sl.subset hn')
    · rw [hpu u hu, ← hn]
      intro n hn'
      rcases List.mem_append.1 hn' with h | h
      · exact bigsub n (sl.subset (List.mem_append_left _ h))
      · rw [← hr]; exact List.mem_append_left _ (hi.sub u n (List.mem_append_right _ h))
  · by_cases hu : u = t
    · rw [hu, hpt, ← hn]; exact big.sublist (sl.map _)
    · obtain ⟨-, hpend, hsep⟩ := nodup_rids_append.1 (hi.own u)
      rw [hpu u hu, ← hn]
      refine nodup_rids_append.2 ⟨(big.sublist (sl.map _)).sublist ((List.sublist_append_left ..).map _), hpend,
        fun a ha b hb => ?_⟩
      exact (List.mem_append.1 ha).elim (fun h => hsep a h b hb) fun h => other u hu a (List.mem_append_left _ h) b hb
  · intro u v huv a ha b hb
    by_cases hu : u = t
    · rw [hu, hpt] at ha; rw [hpu v (hu ▸ huv.symm)] at hb
      exact other v (hu ▸ huv.symm) a (List.mem_append_right _ ha) b hb
    · rw [hpu u hu] at ha
      by_cases hv : v = t
      · rw [hv, hpt] at hb
        exact fun e => other u hu b (List.mem_append_right _ hb) a ha e.symm
      · rw [hpu v hv] at hb; exact hi.disj u v huv a ha b hb

theorem InvN.frame {s s' : State} (hi : InvN s) (t : Nat) (x : PC) (hpc : s'.pc = upd s.pc t x)
    (hr : s'.removed = s.removed) (hn : s'.notifs = s.notifs) (hnr : s'.nextRid = s.nextRid)
    (hp : pend x = pend (s.pc t)) : InvN s' :=
  hi.step t x hpc (hr ▸ List.prefix_refl _) (hn ▸ List.prefix_refl _) (Nat.le_of_eq hnr.symm) (by simp [hr, hnr])
    (by simp [hr, hn, hp])

theorem invN_step {c : Cfg} {s s' : State} {t : Nat} {l : Label} {a : PC} (hi : InvN s) (hpc : s.pc t = a)
    (h : Step c s t a l s') : InvN s' := by
  cases h with
  | advance => exact ⟨⟨hi.lt, hi.nodup⟩, hi.sub, hi.own, hi.disj⟩
  | cmpRetry => exact hi
  -- `remove` and an admission-driven eviction log the removal under the next id; the notification is pending with `t` …
  | rmHit | victim => exact hi.step t _ rfl (by simp) (by simp) (by simp) (by simp) (by simp [*])
  -- … until `t` sends it or a full channel (`sent = false`) drops it; the cleanup sections do all of it in one step
  | rmNote | evNote | ttlMap | ttiMap | capMap =>
    cases ‹Bool› <;> exact hi.step t _ rfl (by simp) (by simp) (by simp) (by simp [mkNotes_rids]) (by simp [*])
  | _ => exact hi.frame t _ rfl rfl rfl rfl (by simp [*])

theorem invN_reach {c : Cfg} {s : State} (h : Reach c s) : InvN s := h.inv invN_init invN_step

theorem invM_reach {c : Cfg} {s : State} (h : Reach c s) : InvM s := (invN_reach h).toInvM

end Fv.Cache.Conc
