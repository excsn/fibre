import Fv.Lemmas.ChainBInv
/-! What single steps of the slab-chain model leave alone, and what they do to the received sequence. -/
namespace Fv.Chan.ChainB

def Label.isProd : Label → Bool
  | .pStart _ | .pBump | .pSealDec | .pRelFence | .pRelLock | .pRelUnlock | .pAcqLock | .pAcqUnlock
  | .pRearmRem | .pRearmNode | .pAlloc | .pPrelink | .pSwap | .pLink | .pClose | .pDropDec | .pClone _ => true
  | _ => false

/-- the value a running `pop_node` has already taken out of the chain -/
def cPend : CPC → List Nat
  | .retDec _ (.pop v) => [v] | .relFence _ (.pop v) => [v] | .relLock _ (.pop v) => [v]
  | .relUnlock _ (.pop v) => [v] | .done (some v) => [v] | _ => []

@[simp] theorem cPend_retDec (n : NodeId) (c : CCont) : cPend (.retDec n c) = cPend (cAfter c) := by cases c <;> rfl
@[simp] theorem cPend_relFence (b : Nat) (c : CCont) : cPend (.relFence b c) = cPend (cAfter c) := by cases c <;> rfl
@[simp] theorem cPend_relLock (b : Nat) (c : CCont) : cPend (.relLock b c) = cPend (cAfter c) := by cases c <;> rfl
@[simp] theorem cPend_relUnlock (b : Nat) (c : CCont) : cPend (.relUnlock b c) = cPend (cAfter c) := by
  cases c <;> rfl
@[simp] theorem cPend_idle : cPend .idle = [] := rfl
@[simp] theorem cPend_finLoad : cPend .finLoad = [] := rfl
@[simp] theorem cPend_finished : cPend .finished = [] := rfl
@[simp] theorem cPend_done_none : cPend (.done none) = [] := rfl
@[simp] theorem cPend_done_some (v : Nat) : cPend (.done (some v)) = [v] := rfl

variable {cfg : Cfg} {c c' : State} {a : Nat} {l : Label}

theorem cons_frame {cfg : Cfg} {c c' : State} {a : Nat} {l : Label} (hl : l.isProd = false)
    (hs : step cfg c a l = some c') :
    c'.senders = c.senders ∧ c'.sent = c.sent ∧ c'.ppc = c.ppc ∧ c'.hst = c.hst ∧ c'.liveS = c.liveS ∧ c'.len = c.len := by
  cases l <;> simp [Label.isProd] at hl <;> step_unfold at hs <;> (repeat' split at hs) <;> cases hs <;> simp

theorem step_recvd (h1 : l ≠ .cPopLoad) (h2 : l ≠ .cRet) (hs : step cfg c a l = some c') :
    c'.recvd = c.recvd ∧ cPend c'.cpc = cPend c.cpc := by
  cases l <;> try contradiction
  all_goals step_unfold at hs <;> (repeat' split at hs) <;> cases hs <;> simp [*]

theorem popLoad_recvd (hs : step cfg c a .cPopLoad = some c') :
    c.cpc = .idle ∧ c'.recvd = c.recvd ++ cPend c'.cpc ∧ c'.cpc ≠ .idle := by
  step_unfold at hs <;> (repeat' split at hs) <;> cases hs <;> simp_all

theorem cRet_recvd (hs : step cfg c a .cRet = some c') :
    c'.recvd = c.recvd ∧ c'.cpc = .idle ∧ ∃ r, c.cpc = .done r := by
  step_unfold at hs <;> (repeat' split at hs) <;> cases hs <;> simp_all

theorem prod_active (hl : l.isProd = true) (hcl : ∀ h', l ≠ .pClone h') (hs : step cfg c a l = some c') :
    c.hst a = .live ∨ c.ppc a ≠ .idle := by
  cases l <;> try cases hl
  case pClone h' => exact absurd rfl (hcl h')
  all_goals step_unfold at hs <;> (repeat' split at hs) <;> cases hs <;> simp_all

theorem stub_not_free (h : Reach cfg c) : c.nst .stub ≠ .free := by
  induction h with
  | init => simp [init]
  | @step c c' a l _ hs ih =>
    cases l <;> step_unfold at hs <;> (repeat' split at hs) <;> cases hs <;>
      simp [upd_apply, sealNodes, freeNodes, publishNodes, ih] <;> (repeat' split) <;> simp [*]

end Fv.Chan.ChainB
