import Fv.Lemmas.SyncAttr
import Fv.Lemmas.SyncRwStep
import Fv.Lemmas.SyncWaitList
/-!
The basic invariant `Inv` of the `HybridRwLock` model: reader/writer exclusion (ghost `holders` against
`WRITE_LOCKED` and the reader count), exclusion of the list spinlock, the wait-list invariant, node ownership (a
reader node may be unlinked by a waker, a writer node only by its owner), future bookkeeping.

Region predicates are written without wildcard patterns so that their equation lemmas are unconditional rewrite
rules (cheap for `simp` / `grind`).
-/
namespace Fv.Sync.WaitList

@[simp] theorem firstWriter_setLocked (wl : WaitList) (b : Bool) : (wl.setLocked b).firstWriter = wl.firstWriter := rfl

theorem WF.firstWriter_spec {wl : WaitList} (h : wl.WF) {n : Nid} (hf : wl.firstWriter = some n) :
    (wl.node n).linked = true ∧ (wl.node n).isWriter = true := by
  unfold firstWriter at hf
  exact ⟨(h.linked n).2 (List.mem_of_find?_eq_some hf), by simpa using List.find?_some hf⟩

theorem WF.head_reader {wl : WaitList} (h : wl.WF) {n : Nid} (hh : wl.queue.head? = some n)
    (hw : wl.writers = 0) : (wl.node n).isWriter = false := by
  have hm : n ∈ wl.queue := List.mem_of_head? hh
  have hc := h.writers
  rw [hw] at hc
  have := List.countP_eq_zero.1 hc.symm n hm
  simpa using this

theorem WF.writers_pos {wl : WaitList} (h : wl.WF) {n : Nid} (hl : (wl.node n).linked = true)
    (hw : (wl.node n).isWriter = true) : 0 < wl.writers := by
  rw [h.writers]
  exact List.countP_pos_iff.2 ⟨n, (h.linked n).1 hl, hw⟩

theorem WF.len_pos {wl : WaitList} (h : wl.WF) {n : Nid} (hl : (wl.node n).linked = true) : 0 < wl.len := by
  rw [h.len]
  exact List.length_pos_of_mem ((h.linked n).1 hl)

end Fv.Sync.WaitList

namespace Fv.Sync.RwLock
open Fv.Sync

def TaK.sync : TaK → Bool
  | .fast | .spin | .try_ => true
  | .asyncFirst | .pollTry => false

def After.sync : After → Bool
  | .retOk | .parkLoad => true
  | .retReady | .dropLoad | .pending | .wake => false

def After.async : After → Bool
  | .retReady | .dropLoad | .pending => true
  | .retOk | .parkLoad | .wake => false

/-- the thread holds the list spinlock -/
def inLL : Pc → Bool
  | .qRearm | .qFetchOr | .qLoad | .qCas | .ff1 _ | .ff2 _ | .llRel _ | .wnStore | .wrStore => true
  | .idle | .taLoad _ | .taCas _ | .spinYield | .llSwap _ | .llLoad _ | .llSpin _ | .wLoad | .wPark
  | .relSub | .relAnd | .wnWake | .dLoad | .boPark | .ret _ => false

/-- `read_slow` / `write_slow`, from the entry up to (not including) the unlink of the stack node
(meaningful when `cur = none`) -/
def slowL : Pc → Bool
  | .taLoad k | .taCas k => (match k with
      | .spin => true | .fast | .try_ | .asyncFirst | .pollTry => false)
  | .llSwap k | .llLoad k | .llSpin k => (match k with
      | .queue | .spinUnlink => true | .wake | .finish | .drop => false)
  | .llRel a => (match a with
      | .parkLoad => true | .retOk | .retReady | .dropLoad | .pending | .wake => false)
  | .spinYield | .qRearm | .qFetchOr | .qLoad | .qCas | .wLoad | .wPark => true
  | .idle | .ff1 _ | .ff2 _ | .relSub | .relAnd | .wnStore | .wrStore | .wnWake | .dLoad | .boPark | .ret _ => false

/-- where in `read_slow` the stack node can be linked: from the `link_back` folded into `qRearm` to the end of the
park loop -/
def rdL : Pc → Bool
  | .llRel a => (match a with
      | .parkLoad => true | .retOk | .retReady | .dropLoad | .pending | .wake => false)
  | .qFetchOr | .qLoad | .qCas | .wLoad | .wPark => true
  | .idle | .taLoad _ | .taCas _ | .spinYield | .llSwap _ | .llLoad _ | .llSpin _ | .qRearm | .ff1 _ | .ff2 _
  | .relSub | .relAnd | .wnStore | .wrStore | .wnWake | .dLoad | .boPark | .ret _ => false

def syncOnly : Pc → Bool
  | .taLoad k | .taCas k => k.sync
  | .llSwap k | .llLoad k | .llSpin k => (match k with
      | .spinUnlink => true | .queue | .wake | .finish | .drop => false)
  | .ff1 a | .ff2 a | .llRel a => a.sync
  | .spinYield | .wLoad | .wPark => true
  | .idle | .qRearm | .qFetchOr | .qLoad | .qCas | .relSub | .relAnd | .wnStore | .wrStore | .wnWake | .dLoad
  | .boPark | .ret _ => false

def asyncOnly : Pc → Bool
  | .taLoad k | .taCas k => !k.sync
  | .llSwap k | .llLoad k | .llSpin k => (match k with
      | .finish | .drop => true | .queue | .wake | .spinUnlink => false)
  | .ff1 a | .ff2 a | .llRel a => a.async
  | .dLoad | .boPark => true
  | .idle | .spinYield | .qRearm | .qFetchOr | .qLoad | .qCas | .wLoad | .wPark | .relSub | .relAnd | .wnStore
  | .wrStore | .wnWake | .ret _ => false

/-- pcs at which a thread with `cur = some f` is operating on future `f` -/
def futPc : Pc → Bool
  | .taLoad k | .taCas k => !k.sync
  | .llSwap k | .llLoad k | .llSpin k => (match k with
      | .finish | .drop | .queue => true | .wake | .spinUnlink => false)
  | .ff1 a | .ff2 a | .llRel a => a.async
  | .qRearm | .qFetchOr | .qLoad | .qCas | .dLoad | .boPark => true
  | .idle | .spinYield | .wLoad | .wPark | .relSub | .relAnd | .wnStore | .wrStore | .wnWake | .ret _ => false

/-- … and the future's node exists (`node` non-null) -/
def futNodePc : Pc → Bool
  | .llSwap k | .llLoad k | .llSpin k => (match k with
      | .finish | .drop | .queue => true | .wake | .spinUnlink => false)
  | .ff1 a | .ff2 a | .llRel a => a.async
  | .qRearm | .qFetchOr | .qLoad | .qCas | .dLoad => true
  | .idle | .taLoad _ | .taCas _ | .spinYield | .wLoad | .wPark | .relSub | .relAnd | .wnStore | .wrStore
  | .wnWake | .boPark | .ret _ => false

/-- … and the node has just been unlinked by this thread -/
def futUnlPc : Pc → Bool
  | .ff1 a | .ff2 a | .llRel a => (match a with
      | .retReady | .dropLoad => true | .retOk | .parkLoad | .pending | .wake => false)
  | .dLoad => true
  | .idle | .taLoad _ | .taCas _ | .spinYield | .llSwap _ | .llLoad _ | .llSpin _ | .qRearm | .qFetchOr | .qLoad
  | .qCas | .wLoad | .wPark | .relSub | .relAnd | .wnStore | .wrStore | .wnWake | .boPark | .ret _ => false

def isCas : Pc → Bool
  | .taCas _ | .qCas => true
  | .idle | .taLoad _ | .spinYield | .llSwap _ | .llLoad _ | .llSpin _ | .qRearm | .qFetchOr | .qLoad
  | .ff1 _ | .ff2 _ | .llRel _ | .wLoad | .wPark | .relSub | .relAnd | .wnStore | .wrStore | .wnWake | .dLoad
  | .boPark | .ret _ => false

/-- critical-section pcs at which `WRITER_PENDING` may disagree with `writers`: between a link and
the `fetch_or` that follows it, and between an unlink and the first RMW of `fix_flags` -/
def wpWin : Pc → Bool
  | .qFetchOr | .ff1 _ => true
  | .idle | .taLoad _ | .taCas _ | .spinYield | .llSwap _ | .llLoad _ | .llSpin _ | .qRearm | .qLoad | .qCas
  | .ff2 _ | .llRel _ | .wLoad | .wPark | .relSub | .relAnd | .wnStore | .wrStore | .wnWake | .dLoad | .boPark
  | .ret _ => false

/-- critical-section pcs at which `HAS_QUEUED` may disagree with `len`: as `wpWin`, up to the second
RMW of `fix_flags`, and the reader loop of `wake_waiters` -/
def hqWin : Pc → Bool
  | .qFetchOr | .ff1 _ | .ff2 _ | .wrStore => true
  | .idle | .taLoad _ | .taCas _ | .spinYield | .llSwap _ | .llLoad _ | .llSpin _ | .qRearm | .qLoad | .qCas
  | .llRel _ | .wLoad | .wPark | .relSub | .relAnd | .wnStore | .wnWake | .dLoad | .boPark | .ret _ => false

def preWakePc : Pc → Bool
  | .llSwap k | .llLoad k | .llSpin k => (match k with
      | .wake => true | .queue | .spinUnlink | .finish | .drop => false)
  | .wnStore | .wrStore => true
  | .idle | .taLoad _ | .taCas _ | .spinYield | .qRearm | .qFetchOr | .qLoad | .qCas | .ff1 _ | .ff2 _ | .llRel _
  | .wLoad | .wPark | .relSub | .relAnd | .wnWake | .dLoad | .boPark | .ret _ => false

def dropPc : Pc → Bool
  | .llSwap k | .llLoad k | .llSpin k => (match k with
      | .drop => true | .queue | .spinUnlink | .finish | .wake => false)
  | .ff1 a | .ff2 a | .llRel a => (match a with
      | .dropLoad => true | .retOk | .retReady | .parkLoad | .pending | .wake => false)
  | .dLoad => true
  | .idle | .taLoad _ | .taCas _ | .spinYield | .qRearm | .qFetchOr | .qLoad | .qCas
  | .wLoad | .wPark | .relSub | .relAnd | .wnStore | .wrStore | .wnWake | .boPark | .ret _ => false

def activePc : Pc → Bool
  | .taLoad k | .taCas k => (match k with
      | .spin | .pollTry => true | .fast | .try_ | .asyncFirst => false)
  | .llSwap k | .llLoad k | .llSpin k => (match k with
      | .queue => true | .spinUnlink | .finish | .drop | .wake => false)
  | .spinYield | .qRearm | .qFetchOr | .qLoad | .qCas => true
  | .idle | .ff1 _ | .ff2 _ | .llRel _ | .wLoad | .wPark | .relSub | .relAnd | .wnStore | .wrStore | .wnWake
  | .dLoad | .boPark | .ret _ => false

/-- the thread carries collected waiter handles (`ws`) that it has not delivered yet -/
def postWakePc : Pc → Bool
  | .ff1 a | .ff2 a | .llRel a => (match a with
      | .wake => true | .retOk | .retReady | .parkLoad | .pending | .dropLoad => false)
  | .wrStore | .wnWake => true
  | .idle | .taLoad _ | .taCas _ | .spinYield | .llSwap _ | .llLoad _ | .llSpin _ | .qRearm | .qFetchOr | .qLoad
  | .qCas | .wLoad | .wPark | .relSub | .relAnd | .wnStore | .dLoad | .boPark | .ret _ => false

/-- the list lock is held and the own node was re-armed in this critical section -/
def armedPc : Pc → Bool
  | .llRel a => (match a with
      | .parkLoad | .pending => true | .retOk | .retReady | .wake | .dropLoad => false)
  | .qFetchOr | .qLoad | .qCas => true
  | .idle | .taLoad _ | .taCas _ | .spinYield | .llSwap _ | .llLoad _ | .llSpin _ | .qRearm
  | .ff1 _ | .ff2 _ | .wLoad | .wPark | .relSub | .relAnd | .wnStore | .wrStore | .wnWake | .dLoad | .boPark
  | .ret _ => false

/-- the guard was obtained lock-free and the own node is about to be unlinked -/
def holdUnlinkPc : Pc → Bool
  | .llSwap k | .llLoad k | .llSpin k => (match k with
      | .spinUnlink | .finish => true | .queue | .drop | .wake => false)
  | .idle | .taLoad _ | .taCas _ | .spinYield | .qRearm | .qFetchOr | .qLoad | .qCas | .ff1 _ | .ff2 _ | .llRel _
  | .wLoad | .wPark | .relSub | .relAnd | .wnStore | .wrStore | .wnWake | .dLoad | .boPark | .ret _ => false

def PWlHeld (s : State) : Prop := s.word.wl = true → (∃ u, s.holders = [(u, true)]) ∧ s.word.readers = 0
def PFree (s : State) : Prop :=
  s.word.wl = false → (∀ h ∈ s.holders, h.2 = false) ∧ s.holders.length = s.word.readers
def PSvOk (s : State) : Prop := ∀ t, isCas (s.th t).pc = true → (s.th t).sv.blocked (s.th t).wr = false
def PRelHolds (s : State) : Prop :=
  ∀ t, ((s.th t).pc = .relSub → (t, false) ∈ s.holders) ∧ ((s.th t).pc = .relAnd → (t, true) ∈ s.holders)
def PLl (s : State) : Prop :=
  ∀ t, inLL (s.th t).pc = true → s.wl.locked = true ∧ ∀ u, inLL (s.th u).pc = true → u = t
def PSyncCur (s : State) : Prop := ∀ t, syncOnly (s.th t).pc = true → (s.th t).cur = none
def PAsyncCur (s : State) : Prop := ∀ t, asyncOnly (s.th t).pc = true → (s.th t).cur ≠ none
def PFfOk (s : State) : Prop :=
  ∀ t, (s.th t).pc ≠ .ff1 .parkLoad ∧ (s.th t).pc ≠ .ff1 .pending
    ∧ (s.th t).pc ≠ .ff2 .parkLoad ∧ (s.th t).pc ≠ .ff2 .pending
/-- `write_slow`'s local `linked` agrees with the stack node -/
def PSyncLinked (s : State) : Prop :=
  ∀ t, (s.th t).cur = none → slowL (s.th t).pc = true → (s.th t).wr = true →
    (s.th t).linked = (s.wl.node (.thr t)).linked
def PThrWr (s : State) : Prop :=
  ∀ t, (s.th t).cur = none → slowL (s.th t).pc = true → (s.wl.node (.thr t)).isWriter = (s.th t).wr
def PThrNode (s : State) : Prop :=
  ∀ t, (s.wl.node (.thr t)).linked = true →
    (s.th t).cur = none ∧ slowL (s.th t).pc = true ∧ ((s.th t).wr = false → rdL (s.th t).pc = true)
/-- `wake_waiters` unlinks a reader node before it marks it `WOKEN` -/
def PNodeWoken (s : State) : Prop :=
  ∀ n, (s.wl.node n).linked = true → (s.wl.node n).isWriter = false → (s.wl.node n).woken = false
def PWnTgt (s : State) : Prop :=
  ∀ t, (s.th t).pc = .wnStore → (s.wl.node (s.th t).tgt).linked = true ∧ (s.wl.node (s.th t).tgt).isWriter = true
def PWrTgt (s : State) : Prop :=
  ∀ t, (s.th t).pc = .wrStore → (s.wl.node (s.th t).tgt).linked = false ∧ s.wl.writers = 0
def PFutNode (s : State) : Prop := ∀ f, (s.wl.node (.fut f)).linked = true → (s.fut f).phase = .startedNode
def PFutNodeWr (s : State) : Prop :=
  ∀ f, (s.fut f).phase = .startedNode → (s.wl.node (.fut f)).isWriter = (s.fut f).wr
def PBusy (s : State) : Prop :=
  ∀ t f, (s.th t).cur = some f → futPc (s.th t).pc = true →
    (s.fut f).busy = true ∧ ∀ u, (s.th u).cur = some f → futPc (s.th u).pc = true → u = t
def PFutWr (s : State) : Prop :=
  ∀ t f, (s.th t).cur = some f → futPc (s.th t).pc = true → (s.th t).wr = (s.fut f).wr
def PPhFresh (s : State) : Prop :=
  ∀ t f, (s.th t).cur = some f → ((s.th t).pc = .taLoad .asyncFirst ∨ (s.th t).pc = .taCas .asyncFirst) →
    (s.fut f).phase = .fresh
def PPhStarted (s : State) : Prop :=
  ∀ t f, (s.th t).cur = some f →
    ((s.th t).pc = .taLoad .pollTry ∨ (s.th t).pc = .taCas .pollTry ∨ (s.th t).pc = .boPark) →
    ((s.fut f).phase = .startedNoNode ∨ (s.fut f).phase = .startedNode)
def PPhNode (s : State) : Prop :=
  ∀ t f, (s.th t).cur = some f → futNodePc (s.th t).pc = true → (s.fut f).phase = .startedNode
def PFutUnl (s : State) : Prop :=
  ∀ t f, (s.th t).cur = some f → futUnlPc (s.th t).pc = true → (s.wl.node (.fut f)).linked = false

structure Inv (s : State) : Prop where
  wlHeld : PWlHeld s
  free : PFree s
  svOk : PSvOk s
  relHolds : PRelHolds s
  ll : PLl s
  wf : s.wl.WF
  syncCur : PSyncCur s
  asyncCur : PAsyncCur s
  ffOk : PFfOk s
  syncLinked : PSyncLinked s
  thrWr : PThrWr s
  thrNode : PThrNode s
  nodeWoken : PNodeWoken s
  wnTgt : PWnTgt s
  wrTgt : PWrTgt s
  futNode : PFutNode s
  futNodeWr : PFutNodeWr s
  busy : PBusy s
  futWr : PFutWr s
  phFresh : PPhFresh s
  phStarted : PPhStarted s
  phNode : PPhNode s
  futUnl : PFutUnl s

macro "step_rest" : tactic => `(tactic| (
  all_goals (try simp only [taFail, taSucc, llEnter, afterRel, callStep, spinHead, pollHead, pollDone,
    wakeAllNext, wakeRest])
  all_goals (repeat' split)))

macro "step_cases " h:ident : tactic => `(tactic| (cases $h:ident; step_rest))

attribute [rw_norm] withPc setTh upd_apply me curF myWaiter Option.getD Node.fresh if_true
  if_false Thread.ite_pc Thread.ite_wr Thread.ite_sv Thread.ite_linked Thread.ite_i Thread.ite_cur
  Thread.ite_blockOn Thread.ite_tgt Thread.ite_ws Fut.ite_phase Fut.ite_busy Fut.ite_wr Fut.ite_bo
  Node.ite_woken Node.ite_waiter Node.ite_isWriter Node.ite_linked
  WaitList.setLocked_locked WaitList.setLocked_queue WaitList.setLocked_writers WaitList.setLocked_len
  WaitList.setLocked_node WaitList.firstWriter_setLocked
  WaitList.putNode WaitList.setWaiter WaitList.setWoken WaitList.takeAndMark WaitList.linkBack
  WaitList.unlink_locked WaitList.unlink_queue WaitList.unlink_len WaitList.unlink_writers
  WaitList.unlink_node WaitList.wasLinked
  isCas.eq_def inLL.eq_def slowL.eq_def rdL.eq_def syncOnly.eq_def asyncOnly.eq_def futPc.eq_def
  futNodePc.eq_def futUnlPc.eq_def TaK.sync.eq_def After.sync.eq_def After.async.eq_def
  wpWin.eq_def hqWin.eq_def preWakePc.eq_def dropPc.eq_def activePc.eq_def postWakePc.eq_def
  armedPc.eq_def holdUnlinkPc.eq_def
  Bool.false_eq_true Bool.true_eq_false false_imp_iff true_imp_iff implies_true imp_self and_true
  true_and and_false false_and or_true true_or or_false false_or ne_eq
  not_false_eq_true not_true_eq_false and_self

/-- The normal form of an explicit successor state.  Region predicates are evaluated through their `eq_def`: one
rewrite rule each instead of one per pattern.  The rules are under an attribute so that the simp set is built once
and not at each of the 157 goals of a pass. -/
macro "norm_state" : tactic => `(tactic| (try simp only [rw_norm, ↓reduceIte, reduceCtorEq] at *))

set_option hygiene false in
/-- `s'` is kept out of the goal as `hs₀ : s' = x₀`; the pc of `t` is generalised before `cases` and the pc of the
transition substituted back, so that `norm_state` computes every region predicate -/
macro "sweep_cases " h:ident s:ident s':ident t:ident : tactic => `(tactic| (
  generalize hpc₀ : (($s).th $t).pc = pc₀ at *
  generalize hs₀ : $s' = x₀
  cases $h:ident
  all_goals (have hx₀ := hpc₀.symm.trans ‹(($s).th $t).pc = _›; subst hx₀)))

set_option hygiene false in
/-- the branches of the state builders are split on the one equation `hs₀`, not on the goal -/
macro "sweep_builders" : tactic => `(tactic| (
  all_goals (try simp only [taFail, taSucc, llEnter, afterRel, callStep, spinHead, pollHead, pollDone,
    wakeAllNext, wakeRest] at hs₀)
  all_goals (repeat' split at hs₀)
  all_goals (subst hs₀)
  all_goals norm_state))

macro "step_sweep " h:ident s:ident s':ident t:ident : tactic =>
  `(tactic| (sweep_cases $h $s $s' $t; sweep_builders))

set_option hygiene false in
/-- `step_sweep` over the transitions only whose source pc satisfies `hpred` (a field of `Entry`, or a frame fact
such as `WordEff.held`); a transition it excludes is closed before any state builder is unfolded. -/
macro "narrow_sweep " h:ident hpred:ident s:ident s':ident t:ident : tactic => `(tactic| (
  sweep_cases $h $s $s' $t
  all_goals (try (simp only [isCas.eq_def, inLL.eq_def, slowL.eq_def, rdL.eq_def, syncOnly.eq_def,
    asyncOnly.eq_def, futPc.eq_def, futNodePc.eq_def, futUnlPc.eq_def, TaK.sync.eq_def, After.sync.eq_def,
    After.async.eq_def, preWakePc.eq_def, dropPc.eq_def, activePc.eq_def, postWakePc.eq_def, armedPc.eq_def,
    holdUnlinkPc.eq_def, Bool.false_eq_true, reduceCtorEq, or_self, or_false, false_or, false_and, and_false,
    exists_false] at $hpred:ident; done))
  sweep_builders))

end Fv.Sync.RwLock
