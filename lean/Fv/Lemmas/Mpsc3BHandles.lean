import Fv.Lemmas.Mpsc3BBase
/-! `HInv`: `sender_count` = number of counted handles, and a thread inside a send form keeps its (open, counted)
handle busy; the first half of P5 in DESIGN Appendix A.3 (`sender_count = 0` ⇒ no thread holds a claimed, unwritten
ticket) would follow and is not stated here. `RInv`: a thread at a receiver-side pc keeps the receiver handle busy, so
at most one thread is inside a receiver operation. -/
namespace Fv.Chan.Mpsc3B

structure HInv (s : State) : Prop where
  count : s.senderCount = s.counted.length
  nodup : s.counted.Nodup
  countedUsed : ∀ h, h ∈ s.counted → s.hUsed h = true
  openCounted : ∀ h, s.hLive h = true → s.sClosed h = false → h ∈ s.counted
  busy : ∀ t, (s.th t).pc ≠ .idle → (s.th t).hb = true → s.sBusy (s.th t).h = some t
  busyLive : ∀ t, (s.th t).pc ≠ .idle → (s.th t).hb = true → (s.th t).pc ≠ .cnAdd → s.hLive (s.th t).h = true
  cloning : ∀ t, (s.th t).pc = .cnAdd → (s.th t).hb = true ∧ s.hUsed (s.th t).h = false
  closing1 : ∀ t, (s.th t).pc = .clCas → (s.th t).hb = true
  closing2 : ∀ t, (s.th t).pc = .clSub → (s.th t).hb = true ∧ (s.th t).h ∈ s.counted ∧ s.sClosed (s.th t).h = true
  sendish : ∀ t, inS (s.th t).pc = true → (s.th t).hb = true
  opened : ∀ t, inP (s.th t).pc = true → s.sClosed (s.th t).h = false

theorem hinv_init (c : Cfg) (p : Tid → List Op) : HInv (init c p) := by
  constructor <;> simp [init, inS, inP]

theorem inS_of_inP {p : Pc} (h : inP p = true) : inS p = true := by
  unfold inS; split <;> first | rfl | exact h

structure HLoc (s : State) (u : Tid) (y : Th) : Prop where
  busy : y.pc ≠ .idle → y.hb = true → s.sBusy y.h = some u
  busyLive : y.pc ≠ .idle → y.hb = true → y.pc ≠ .cnAdd → s.hLive y.h = true
  cloning : y.pc = .cnAdd → y.hb = true ∧ s.hUsed y.h = false
  closing1 : y.pc = .clCas → y.hb = true
  closing2 : y.pc = .clSub → y.hb = true ∧ y.h ∈ s.counted ∧ s.sClosed y.h = true
  sendish : inS y.pc = true → y.hb = true
  opened : inP y.pc = true → s.sClosed y.h = false

theorem HInv.loc {s : State} (hi : HInv s) (u : Tid) : HLoc s u (s.th u) :=
  ⟨hi.busy u, hi.busyLive u, hi.cloning u, hi.closing1 u, hi.closing2 u, hi.sendish u, hi.opened u⟩

/-- a thread at `ret` (about to become `idle`), or at `idle`, is bound by no clause but the first two -/
theorem HLoc.of_ret {s : State} {u : Tid} {y : Th} (hp : y.pc = .ret ∨ y.pc = .idle)
    (h1 : y.pc ≠ .idle → y.hb = true → s.sBusy y.h = some u ∧ s.hLive y.h = true) : HLoc s u y := by
  refine ⟨fun a b => (h1 a b).1, fun a b _ => (h1 a b).2, ?_, ?_, ?_, ?_, ?_⟩ <;> intro h <;>
    rcases hp with hp | hp <;> rw [hp] at h <;> cases h

/-- the handle tables of `s'` are those of `s` at handle `h` (membership in `counted`: at least kept) -/
def Agree (s s' : State) (h : Hid) : Prop :=
  s'.sBusy h = s.sBusy h ∧ s'.hLive h = s.hLive h ∧ s'.hUsed h = s.hUsed h ∧ s'.sClosed h = s.sClosed h ∧
  (h ∈ s.counted → h ∈ s'.counted)

theorem HLoc.mono {s s' : State} {u : Tid} {y : Th} (hl : HLoc s u y)
    (ha : y.pc ≠ .idle → y.hb = true → Agree s s' y.h) : HLoc s' u y := by
  refine ⟨fun h1 h2 => ?_, fun h1 h2 h3 => ?_, fun h1 => ?_, hl.closing1, fun h1 => ?_, hl.sendish, fun h1 => ?_⟩
  · rw [(ha h1 h2).1]; exact hl.busy h1 h2
  · rw [(ha h1 h2).2.1]; exact hl.busyLive h1 h2 h3
  · obtain ⟨a, b⟩ := hl.cloning h1
    exact ⟨a, by rw [(ha (by rw [h1]; exact nofun) a).2.2.1]; exact b⟩
  · obtain ⟨a, b, c⟩ := hl.closing2 h1
    have := ha (by rw [h1]; exact nofun) a
    exact ⟨a, this.2.2.2.2 b, by rw [this.2.2.2.1]; exact c⟩
  · have hb := hl.sendish (inS_of_inP h1)
    rw [(ha (fun e => by rw [e] at h1; cases h1) hb).2.2.2.1]; exact hl.opened h1

/-- for the other threads it is enough that the tables still agree at the handle each keeps busy -/
theorem HInv.step {s s' : State} {t : Tid} {x' : Th} (hi : HInv s) (hth : s'.th = upd s.th t x')
    (c1 : s'.senderCount = s'.counted.length) (c2 : s'.counted.Nodup)
    (c3 : ∀ h, h ∈ s'.counted → s'.hUsed h = true)
    (c4 : ∀ h, s'.hLive h = true → s'.sClosed h = false → h ∈ s'.counted) (ht : HLoc s' t x')
    (ho : ∀ u, u ≠ t → (s.th u).pc ≠ .idle → (s.th u).hb = true → Agree s s' (s.th u).h) : HInv s' := by
  have hl : ∀ u, HLoc s' u (s'.th u) := by
    rw [hth]; exact forall_upd ht (fun u hu => (hi.loc u).mono (ho u hu))
  exact ⟨c1, c2, c3, c4, fun u => (hl u).busy, fun u => (hl u).busyLive, fun u => (hl u).cloning,
    fun u => (hl u).closing1, fun u => (hl u).closing2, fun u => (hl u).sendish, fun u => (hl u).opened⟩

theorem HInv.other {s : State} (hi : HInv s) {t : Tid} (ht : (s.th t).pc ≠ .idle) (hbt : (s.th t).hb = true)
    {u : Tid} (hut : u ≠ t) (hu : (s.th u).pc ≠ .idle) (hbu : (s.th u).hb = true) : (s.th u).h ≠ (s.th t).h := by
  intro e
  have h1 := hi.busy u hu hbu
  rw [e, hi.busy t ht hbt] at h1
  exact hut (Option.some.inj h1).symm

def handStep : Pc → Bool
  | .idle | .ret | .cnAdd | .clCas | .clSub | .cClosed | .boPark => true
  | _ => false

theorem hinv_frame {l p s s' t x'} (hi : HInv s) (hs : StepSum l p s s' t x') (hp : (s.th t).pc = p)
    (g1 : envPc p = false) (g2 : special p = false) (hsp : special x'.pc = false)
    (hS : inS x'.pc = true → (s.th t).hb = true) (hP : inP x'.pc = true → s.sClosed (s.th t).h = false) :
    HInv s' := by
  have eb := hs.busy.eq g1
  have eh := hs.hand.eq (by rw [g1, g2]; rfl)
  have eo := hs.loc.own.eq g1
  simp only [handOf, Prod.mk.injEq] at eb eh eo
  obtain ⟨e1, e2, e3, e4, e5⟩ := eh
  obtain ⟨eh', ehb, -⟩ := eo
  have hni : (s.th t).pc ≠ .idle := by rw [hp]; intro e; rw [e] at g1; cases g1
  have hnc : (s.th t).pc ≠ .cnAdd := by rw [hp]; intro e; rw [e] at g2; cases g2
  have hl := hi.loc t
  refine hi.step hs.th (by rw [e5, e4]; exact hi.count) (by rw [e4]; exact hi.nodup)
    (by rw [e4, e3]; exact hi.countedUsed) (by rw [e4, e2, e1]; exact hi.openCounted) ⟨?_, ?_, ?_, ?_, ?_, ?_, ?_⟩
    (fun u _ _ _ => ⟨by rw [eb.1], by rw [e2], by rw [e3], by rw [e1], by rw [e4]; exact id⟩)
  · intro _ hb; rw [eb.1, eh']; exact hl.busy hni (ehb ▸ hb)
  · intro _ hb _; rw [e2, eh']; exact hl.busyLive hni (ehb ▸ hb) hnc
  · intro h; rw [h] at hsp; cases hsp
  · intro h; rw [h] at hsp; cases hsp
  · intro h; rw [h] at hsp; cases hsp
  · intro h; rw [ehb]; exact hS h
  · intro h; rw [e1, eh']; exact hP h

theorem notSp_of_flow {p q : Pc} (hf : flow p q = true) (h1 : special p = false) (h2 : envPc p = false) :
    special q = false :=
  Bool.eq_false_iff.2 fun e => ((flow_spec hf).toSpecial e).elim (fun h => by rw [h1] at h; cases h) (fun h => by rw [h2] at h; cases h)

theorem hinv_gen {l p s s' t x'} (hi : HInv s) (hs : StepSum l p s s' t x') (hp : (s.th t).pc = p)
    (hg : handStep p = false) : HInv s' := by
  have g : envPc p = false ∧ special p = false ∧ (p == .boPark) = false ∧ (p == .cClosed) = false := by
    cases p <;> first | exact ⟨rfl, rfl, rfl, rfl⟩ | cases hg
  obtain ⟨g1, g2, g3, g4⟩ := g
  have f := flow_spec hs.loc.flow
  refine hinv_frame hi hs hp g1 g2 (notSp_of_flow hs.loc.flow g2 g1) (fun h => hi.sendish t ?_) (fun h => hi.opened t ?_)
  · rw [hp]; exact (f.toS h).resolve_right fun e => e.elim (fun h => by rw [g1] at h; cases h) (fun h => by rw [h] at g3; cases g3)
  · rw [hp]; exact (f.toP h).resolve_right (fun h => by rw [h] at g4; cases g4)

section Special
variable {c : Cfg} {s s' : State} {t : Tid} {a : Act}

theorem hinv_cClosed {l x'} (hi : HInv s) (hs : StepSum l .cClosed s s' t x') (hp : (s.th t).pc = .cClosed)
    (h : nxCClosed c s t = some (a, s')) : HInv s' := by
  refine hinv_frame hi hs hp rfl rfl (notSp_of_flow hs.loc.flow rfl rfl) (fun _ => hi.sendish t (by rw [hp]; rfl)) (fun hq => ?_)
  have e : s'.th t = x' := by rw [hs.th, upd_same]
  simp only [nxCClosed, Option.some.injEq, Prod.mk.injEq] at h
  obtain ⟨-, rfl⟩ := h
  simp only [upd_same] at e
  cases hc : s.sClosed (s.th t).h with
  | false => rfl
  | true =>
    rw [hc, if_pos rfl] at e
    rw [← e] at hq
    unfold chkClosed retWith at hq
    (repeat' split at hq) <;> cases hq

theorem pollEntry_pc (x : Th) : (inS (pollEntry x).pc = true → x.hb = true) ∧ (recvPc (pollEntry x).pc = true → x.rb = true) := by
  unfold pollEntry retWith
  split
  · exact ⟨fun _ => ‹_›, nofun⟩
  · split
    · exact ⟨nofun, fun _ => ‹_›⟩
    · exact ⟨nofun, nofun⟩

theorem hinv_cnAdd (hi : HInv s) (hpc : (s.th t).pc = .cnAdd) (h : nxCnAdd c s t = some (a, s')) : HInv s' := by
  simp only [nxCnAdd, Option.some.injEq, Prod.mk.injEq] at h
  obtain ⟨-, rfl⟩ := h
  obtain ⟨hb, hl⟩ := hi.cloning t hpc
  have hni : (s.th t).pc ≠ .idle := by rw [hpc]; exact nofun
  refine hi.step rfl (by simp [hi.count]) ?_ ?_ ?_ (.of_ret (.inl rfl) fun _ _ => ⟨hi.busy t hni hb, upd_same ..⟩) ?_
  · exact List.nodup_cons.2 ⟨fun hm => Bool.noConfusion ((hi.countedUsed _ hm).symm.trans hl), hi.nodup⟩
  · intro h hm
    simp only [upd_apply]; split
    · rfl
    · exact hi.countedUsed h ((List.mem_cons.1 hm).resolve_left ‹_›)
  · intro h h1 h2
    by_cases e : h = (s.th t).h
    · exact e ▸ List.mem_cons_self ..
    · simp only [upd_other _ _ _ _ e] at h1 h2
      exact List.mem_cons_of_mem _ (hi.openCounted h h1 h2)
  · intro u hu hp hbu
    have := hi.other hni hb hu hp hbu
    exact ⟨rfl, upd_other _ _ _ _ this, upd_other _ _ _ _ this, upd_other _ _ _ _ this, List.mem_cons_of_mem _⟩

theorem hinv_clCas (hi : HInv s) (hpc : (s.th t).pc = .clCas) (h : nxClCas c s t = some (a, s')) : HInv s' := by
  have hb := hi.closing1 t hpc
  have hni : (s.th t).pc ≠ .idle := by rw [hpc]; exact nofun
  have hlive := hi.busyLive t hni hb (by rw [hpc]; exact nofun)
  simp only [nxClCas] at h
  split at h <;> simp only [Option.some.injEq, Prod.mk.injEq] at h <;> obtain ⟨-, rfl⟩ := h
  · -- the CAS fails: already closed
    exact hi.step rfl hi.count hi.nodup hi.countedUsed hi.openCounted
      (.of_ret (.inl rfl) fun _ _ => ⟨hi.busy t hni hb, hlive⟩) (fun u _ _ _ => ⟨rfl, rfl, rfl, rfl, id⟩)
  · rename_i hc
    have hc' : s.sClosed (s.th t).h = false := by simpa using hc
    refine hi.step rfl hi.count hi.nodup hi.countedUsed ?_ ⟨fun _ _ => hi.busy t hni hb, fun _ _ _ => hlive,
      nofun, nofun, fun _ => ⟨hb, hi.openCounted _ hlive hc', upd_same ..⟩, nofun, nofun⟩ ?_
    · intro h h1 h2
      refine hi.openCounted h h1 ?_
      by_cases e : h = (s.th t).h
      · subst e; simp only [upd_same] at h2; cases h2
      · simpa only [upd_other _ _ _ _ e] using h2
    · intro u hu hp hbu
      exact ⟨rfl, rfl, rfl, upd_other _ _ _ _ (hi.other hni hb hu hp hbu), id⟩

theorem hinv_clSub (hi : HInv s) (hpc : (s.th t).pc = .clSub) (h : nxClSub c s t = some (a, s')) : HInv s' := by
  obtain ⟨hb, hcnt, hcl⟩ := hi.closing2 t hpc
  have hni : (s.th t).pc ≠ .idle := by rw [hpc]; exact nofun
  have hlive := hi.busyLive t hni hb (by rw [hpc]; exact nofun)
  simp only [nxClSub, Option.some.injEq, Prod.mk.injEq] at h
  obtain ⟨-, rfl⟩ := h
  refine hi.step rfl ?_ (hi.nodup.erase _) (fun h hm => hi.countedUsed h (List.mem_of_mem_erase hm)) ?_ ?_ ?_
  · simp only []; rw [List.length_erase_of_mem hcnt, hi.count]
  · intro h h1 h2
    exact (List.mem_erase_of_ne (fun e => by rw [e, hcl] at h2; cases h2)).2 (hi.openCounted h h1 h2)
  · have hb' := hi.busy t hni hb
    split
    · exact ⟨fun _ _ => hb', fun _ _ _ => hlive, nofun, nofun, nofun, nofun, nofun⟩
    · exact .of_ret (.inl rfl) fun _ _ => ⟨hb', hlive⟩
  · intro u hu hp hbu
    exact ⟨rfl, rfl, rfl, rfl, (List.mem_erase_of_ne (hi.other hni hb hu hp hbu)).2⟩

end Special

theorem callOk_handle {s : State} {op : Op} (hok : callOk s op = true) :
    ∀ h, opHandle s op = some h → (s.sBusy h).isNone = true ∧ ((∀ a b, op ≠ .clone a b) → s.hLive h = true) ∧
      ((∃ a, op = .clone a h) → s.hUsed h = false) := by
  intro h hh
  simp only [callOk, Bool.and_eq_true] at hok
  obtain ⟨⟨hA, -⟩, -⟩ := hok
  cases op
  case clone a b =>
    obtain rfl : b = h := Option.some.inj hh
    simp only [Bool.and_eq_true, Bool.not_eq_true'] at hA
    exact ⟨hA.2, fun hn => absurd rfl (hn a b), fun _ => hA.1.2⟩
  all_goals
    simp only [hh, Bool.and_eq_true] at hA
    exact ⟨hA.2, fun _ => hA.1, fun ⟨_, e⟩ => nomatch e⟩

theorem hinv_call {c s t a s'} (hi : HInv s) (h : stepCall c s t = some (a, s')) : HInv s' := by
  simp only [stepCall] at h
  split at h
  · split at h
    · simp only [Option.some.injEq, Prod.mk.injEq] at h
      obtain ⟨-, rfl⟩ := h
      rename_i op rest hpc hprog hok
      have f := callTh_sum c s (s.th t) (callX0 s t op) op
      generalize callTh c s (s.th t) (callX0 s t op) op = y at f ⊢
      obtain ⟨notP, notSub, toS⟩ := entryPc_class f.entry
      have f1 : y.hb = (opHandle s op).isSome := f.hb
      have f2 : y.h = (opHandle s op).getD 0 := f.h rfl
      have hk := callOk_handle hok
      -- a busy call has a handle, and `y.h` is it
      have hh : y.hb = true → ∃ h, opHandle s op = some h ∧ y.h = h := fun hb => by
        rw [f1] at hb
        cases hh : opHandle s op with
        | none => rw [hh] at hb; cases hb
        | some h => exact ⟨h, rfl, by rw [f2, hh]; rfl⟩
      refine hi.step rfl hi.count hi.nodup hi.countedUsed hi.openCounted ⟨?_, ?_, ?_, ?_, fun e => absurd e notSub, ?_, ?_⟩ ?_
      · intro _ hb
        obtain ⟨h, hh, e⟩ := hh hb
        simp only [hh, e, upd_same]
      · intro _ hb hc
        obtain ⟨h, hh, e⟩ := hh hb
        rw [e]; exact (hk h hh).2.1 fun a b e => hc (f.clone.2 ⟨a, b, e⟩)
      · intro hc
        obtain ⟨a, b, hop⟩ := f.clone.1 hc
        have hh : opHandle s op = some b := by rw [hop]; rfl
        exact ⟨by rw [f1, hh]; rfl, by rw [f2, hh]; exact (hk b hh).2.2 ⟨a, hop⟩⟩
      · intro hc; rw [f1]; exact f.handle (.inl hc)
      · intro hc; rw [f1]; exact f.handle (.inr (toS hc))
      · intro hc; rw [notP] at hc; cases hc
      · intro u _ hp hbu
        refine ⟨?_, rfl, rfl, rfl, id⟩
        cases hh : opHandle s op with
        | none => rfl
        | some h =>
          refine upd_other _ _ _ _ fun e => ?_
          have := (hk h hh).1
          rw [← e, hi.busy u hp hbu] at this; cases this
    · cases h
  · cases h

theorem retHLive_cases (x : Th) (hl : Hid → Bool) (h : Hid) :
    retHLive x hl h = hl h ∨ (x.hb = true ∧ h = x.h ∧ retHLive x hl h = false) := by
  unfold retHLive
  cases x.op <;> try exact .inl rfl
  dsimp only
  by_cases hb : x.hb = true
  · rw [if_pos hb]
    by_cases e : h = x.h
    · exact .inr ⟨hb, e, by rw [e, upd_same]⟩
    · exact .inl (upd_other _ _ _ _ e)
  · rw [if_neg hb]; exact .inl rfl

theorem hinv_ret {s t a s'} (hi : HInv s) (h : stepRet s t = some (a, s')) : HInv s' := by
  simp only [stepRet] at h
  split at h
  · simp only [Option.some.injEq, Prod.mk.injEq] at h
    obtain ⟨-, rfl⟩ := h
    rename_i hpc
    have hni : (s.th t).pc ≠ .idle := by rw [hpc]; exact nofun
    refine hi.step rfl hi.count hi.nodup hi.countedUsed (fun h h1 h2 => hi.openCounted h ?_ h2)
      (.of_ret (.inr rfl) fun e => absurd rfl e) ?_
    · rcases retHLive_cases (s.th t) s.hLive h with e | e
      · rw [← e]; exact h1
      · exact absurd (e.2.2.symm.trans h1) nofun
    intro u hu hp hbu
    refine ⟨?_, (retHLive_cases _ _ _).resolve_right (fun e => hi.other hni e.1 hu hp hbu e.2.1), rfl, rfl, id⟩
    simp only []; split
    · rename_i hbt; exact upd_other _ _ _ _ (hi.other hni hbt hu hp hbu)
    · rfl
  · cases h

theorem hinv_step {c s t l s'} (hi : HInv s) (h : step c s t l = some s') : HInv s' := by
  obtain ⟨⟨a, s1⟩, hA, rfl⟩ := Option.map_eq_some_iff.1 h
  obtain ⟨x', hs⟩ := step_sum rfl hA
  by_cases hb : (s.th t).pc = .boPark
  · rw [hb] at hs
    rw [hs.eq_of_th (boPark_th hb hA)] at hs
    exact hinv_frame hi hs hb rfl rfl (notSp_of_flow hs.loc.flow rfl rfl) (pollEntry_pc _).1
      (fun hq => by rcases (flow_spec hs.loc.flow).toP hq with h | h <;> cases h)
  by_cases hg : handStep (s.th t).pc = false
  · exact hinv_gen hi hs rfl hg
  cases l <;> simp only [stepA] at hA
  · generalize hp : (s.th t).pc = p at hg
    simp only [next, hp] at hA
    cases p <;> first | exact absurd rfl hg | skip
    case idle | ret => cases hA
    case boPark => exact absurd hp hb
    case cClosed => exact hinv_cClosed hi (hp ▸ hs) hp hA
    case cnAdd => exact hinv_cnAdd hi hp hA
    case clCas => exact hinv_clCas hi hp hA
    case clSub => exact hinv_clSub hi hp hA
  · exact hinv_call hi hA
  · exact hinv_ret hi hA
  · simp only [stepSpurious] at hA
    split at hA <;> first | cases hA | skip
    all_goals rename_i hp; rw [hp] at hg hb; first | exact absurd rfl hg | exact absurd rfl hb

theorem hinv_reach {c p s} (h : Reach c p s) : HInv s :=
  reach_inv (hinv_init c p) (fun _ => hinv_step) h

structure RInv (s : State) : Prop where
  busy : ∀ t, (s.th t).pc ≠ .idle → (s.th t).rb = true → s.rBusy = some t
  recvish : ∀ t, recvPc (s.th t).pc = true → (s.th t).rb = true

theorem RInv.uniq {s : State} (hi : RInv s) {t u : Tid} (ht : recvPc (s.th t).pc = true) (hu : recvPc (s.th u).pc = true) : t = u := by
  have h1 := hi.busy t (by intro e; rw [e] at ht; cases ht) (hi.recvish t ht)
  have h2 := hi.busy u (by intro e; rw [e] at hu; cases hu) (hi.recvish u hu)
  rw [h1] at h2; exact Option.some.inj h2

theorem rinv_init (c : Cfg) (p : Tid → List Op) : RInv (init c p) := by
  constructor <;> simp [init, recvPc]

theorem RInv.step {s s' : State} {t : Tid} {x' : Th} (hi : RInv s) (hth : s'.th = upd s.th t x')
    (h1 : x'.pc ≠ .idle → x'.rb = true → s'.rBusy = some t) (h2 : recvPc x'.pc = true → x'.rb = true)
    (ho : ∀ u, u ≠ t → (s.th u).pc ≠ .idle → (s.th u).rb = true → s'.rBusy = s.rBusy) : RInv s' := by
  constructor <;> rw [hth]
  · exact forall_upd (P := fun u (y : Th) => y.pc ≠ .idle → y.rb = true → s'.rBusy = some u) h1
      (fun u hu a b => (ho u hu a b).trans (hi.busy u a b))
  · exact forall_upd (P := fun _ (y : Th) => recvPc y.pc = true → y.rb = true) h2 (fun u _ => hi.recvish u)

theorem rinv_frame {l p s s' t x'} (hi : RInv s) (hs : StepSum l p s s' t x') (hp : (s.th t).pc = p)
    (g : envPc p = false) (hR : recvPc x'.pc = true → (s.th t).rb = true) : RInv s' := by
  have eb := hs.busy.eq g
  have eo := hs.loc.own.eq g
  simp only [Prod.mk.injEq] at eb eo
  have hni : (s.th t).pc ≠ .idle := by rw [hp]; intro e; rw [e] at g; cases g
  refine hi.step hs.th (fun _ hb => ?_) (fun h => ?_) (fun _ _ _ _ => eb.2)
  · rw [eb.2]; exact hi.busy t hni (eo.2.2 ▸ hb)
  · rw [eo.2.2]; exact hR h

theorem rinv_step {c s t l s'} (hi : RInv s) (h : step c s t l = some s') : RInv s' := by
  obtain ⟨⟨a, s1⟩, hA, rfl⟩ := Option.map_eq_some_iff.1 h
  obtain ⟨x', hs⟩ := step_sum rfl hA
  by_cases hb : (s.th t).pc = .boPark
  · rw [hb] at hs
    rw [hs.eq_of_th (boPark_th hb hA)] at hs
    exact rinv_frame hi hs hb rfl (pollEntry_pc _).2
  by_cases he : envPc (s.th t).pc = false
  · refine rinv_frame hi hs rfl he fun hq => hi.recvish t ?_
    exact ((flow_spec hs.loc.flow).toRecv hq).resolve_right
      fun e => e.elim (fun e => Bool.noConfusion (e.symm.trans he)) hb
  cases l <;> simp only [stepA] at hA
  · exact absurd hs.env he
  · simp only [stepCall] at hA
    split at hA
    · split at hA
      · simp only [Option.some.injEq, Prod.mk.injEq] at hA
        obtain ⟨-, rfl⟩ := hA
        rename_i op rest hpc hprog hok
        have f := callTh_sum c s (s.th t) (callX0 s t op) op
        refine hi.step rfl (fun _ hrb => ?_) (fun hq => f.rb ▸ f.recv hq) (fun u _ hp hrb => ?_)
        · rw [f.rb] at hrb; exact if_pos hrb
        · refine if_neg fun ho => ?_
          simp only [callOk, ho, if_true, Bool.and_eq_true] at hok
          rw [hi.busy u hp hrb] at hok; cases hok.1.2.2
      · cases hA
    · cases hA
  · simp only [stepRet] at hA
    split at hA
    · simp only [Option.some.injEq, Prod.mk.injEq] at hA
      obtain ⟨-, rfl⟩ := hA
      rename_i hpc
      refine hi.step rfl (fun e => absurd rfl e) (fun e => nomatch e) (fun u hu hp hrb => if_neg fun hbt => ?_)
      have := (hi.busy t (by rw [hpc]; exact nofun) hbt).symm.trans (hi.busy u hp hrb)
      exact hu (Option.some.inj this).symm
    · cases hA
  · simp only [stepSpurious] at hA
    split at hA <;> first | cases hA | skip
    all_goals rename_i hp; rw [hp] at he; exact absurd rfl he

theorem rinv_reach {c p s} (h : Reach c p s) : RInv s :=
  reach_inv (rinv_init c p) (fun _ => rinv_step) h

end Fv.Chan.Mpsc3B
