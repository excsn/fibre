import Fv.Chan.LinCore
/-!
Soundness of the generic search: whatever `search` accepts has a declarative linearization
(`Lin`); with `quiesce = true` the final state is quiescent.  The memo table is irrelevant here:
it only makes the search fail more often.
-/
namespace Fv.Chan.LinCore
open List

variable {σ Op Out P K : Type} [BEq Out] [LawfulBEq Out] [BEq K] [Hashable K] (sem : Sem σ Op Out P K)

def NodupKeys (pend : Pend P) : Prop := (pend.map (·.1)).Nodup

theorem lookup_eq_none_iff {t : Nat} {pend : Pend P} : lookup t pend = none ↔ t ∉ pend.map (·.1) := by
  induction pend with
  | nil => simp [lookup]
  | cons a r ih =>
    obtain ⟨u, p⟩ := a
    simp only [lookup, map_cons, mem_cons, not_or]
    by_cases h : u = t
    · simp [h]
    · simp only [h, if_false, ih]
      exact ⟨fun hh => ⟨fun e => h e.symm, hh⟩, fun hh => hh.2⟩

theorem lookup_of_mem {pend : Pend P} (hn : NodupKeys pend) {u : Nat} {pu : P} (h : (u, pu) ∈ pend) :
    lookup u pend = some pu := by
  induction pend with
  | nil => cases h
  | cons a r ih =>
    obtain ⟨v, pv⟩ := a
    have hn' : v ∉ r.map (·.1) ∧ NodupKeys r := by
      simpa [NodupKeys] using hn
    simp only [lookup]
    rcases mem_cons.mp h with h | h
    · cases h; simp
    · by_cases hv : v = u
      · exfalso; apply hn'.1; rw [hv]; exact mem_map_of_mem (f := (·.1)) h
      · simp only [hv, if_false]; exact ih hn'.2 h

theorem lookup_split {t : Nat} {pend : Pend P} {p : P} (h : lookup t pend = some p) :
    ∃ l r, pend = l ++ (t, p) :: r ∧ erase t pend = l ++ r ∧ ∀ q, setP t q pend = l ++ (t, q) :: r := by
  induction pend with
  | nil => simp [lookup] at h
  | cons a rest ih =>
    obtain ⟨u, pu⟩ := a
    simp only [lookup] at h
    split at h
    · rename_i hu; cases h; subst hu
      exact ⟨[], rest, rfl, by simp [erase], fun q => by simp [setP]⟩
    · rename_i hu
      obtain ⟨l, r, e1, e2, e3⟩ := ih h
      exact ⟨(u, pu) :: l, r, by simp [e1], by simp [erase, hu, e2], fun q => by simp [setP, hu, e3]⟩

theorem mem_of_lookup {pend : Pend P} {t : Nat} {p : P} (h : lookup t pend = some p) : (t, p) ∈ pend := by
  obtain ⟨l, r, rfl, _⟩ := lookup_split h; simp

theorem mem_of_mem_erase {pend : Pend P} {t : Nat} {p : P} (hl : lookup t pend = some p) {x : Nat × P}
    (h : x ∈ erase t pend) : x ∈ pend := by
  obtain ⟨l, r, rfl, e, _⟩ := lookup_split hl
  rw [e, mem_append] at h
  exact mem_append.mpr (h.imp_right (mem_cons_of_mem _))

theorem mem_setP {pend : Pend P} {u : Nat} {p q : P} (hl : lookup u pend = some p) {x : Nat × P}
    (h : x ∈ setP u q pend) : x ∈ pend ∨ x = (u, q) := by
  obtain ⟨l, r, rfl, _, e⟩ := lookup_split hl
  rw [e, mem_append, mem_cons] at h
  rcases h with h | h | h
  · exact .inl (mem_append_left _ h)
  · exact .inr h
  · exact .inl (mem_append_right _ (mem_cons_of_mem _ h))

theorem NodupKeys.setP {pend : Pend P} (h : NodupKeys pend) {u : Nat} {p : P} (hl : lookup u pend = some p) (q : P) :
    NodupKeys (setP u q pend) := by
  obtain ⟨l, r, rfl, _, e⟩ := lookup_split hl
  simpa [NodupKeys, e] using h

theorem NodupKeys.erase {pend : Pend P} (h : NodupKeys pend) {t : Nat} {p : P} (hl : lookup t pend = some p) :
    NodupKeys (erase t pend) := by
  obtain ⟨l, r, rfl, e, _⟩ := lookup_split hl
  rw [e]
  exact Nodup.sublist (by simp) h

theorem NodupKeys.cons {pend : Pend P} (h : NodupKeys pend) {t : Nat} (hl : lookup t pend = none) (p : P) :
    NodupKeys ((t, p) :: pend) := by
  unfold NodupKeys
  simp only [map_cons, nodup_cons]
  exact ⟨lookup_eq_none_iff.mp hl, h⟩

theorem firstSomeM_some {α β M} {f : α → M → Option β × M} {l : List α} {m m' : M} {b : β}
    (h : firstSomeM f l m = (some b, m')) : ∃ a ∈ l, ∃ m0 m1, f a m0 = (some b, m1) := by
  induction l generalizing m with
  | nil => simp [firstSomeM] at h
  | cons a r ih =>
    simp only [firstSomeM] at h
    split at h
    · rename_i b' m'' hf
      cases h
      exact ⟨a, mem_cons_self, m, _, hf⟩
    · rename_i m'' hf
      obtain ⟨a', ha', r'⟩ := ih h
      exact ⟨a', mem_cons_of_mem _ ha', r'⟩

omit [BEq Out] [LawfulBEq Out] [BEq K] [Hashable K] in
theorem mem_candidates {s : σ} {pend : Pend P} (hn : NodupKeys pend) {c : Nat × σ × P} (h : c ∈ candidates sem s pend) :
    ∃ pu, lookup c.1 pend = some pu ∧ (c.2.1, c.2.2) ∈ sem.micro s pu := by
  unfold candidates at h
  rw [mem_flatMap] at h
  obtain ⟨x, hx, hc⟩ := h
  rw [mem_map] at hc
  obtain ⟨r, hr, rfl⟩ := hc
  exact ⟨x.2, lookup_of_mem hn hx, hr⟩

def Quiescent (s : σ) (pend : Pend P) : Prop :=
  ∀ x ∈ pend, sem.fin x.2 = none ∧ sem.micro s x.2 = []

omit [BEq Out] [LawfulBEq Out] [BEq K] [Hashable K] in
theorem quiescent_iff (s : σ) (pend : Pend P) : quiescent sem s pend = true ↔ Quiescent sem s pend := by
  unfold quiescent Quiescent
  simp [List.all_eq_true, Option.isNone_iff_eq_none, List.isEmpty_iff]

theorem search_sound (q : Bool) : ∀ (fuel : Nat) (m : Memo K) (s : σ) (pend : Pend P) (evs : List (Event Op Out))
    (sf : σ) (pf : Pend P) (m' : Memo K), NodupKeys pend → search sem q fuel m s pend evs = (some (sf, pf), m') →
    Lin sem s pend evs sf pf ∧ (q = true → Quiescent sem sf pf) := by
  intro fuel
  induction fuel with
  | zero => intro m s pend evs sf pf m' _ h; simp [search] at h
  | succ fuel ih =>
    intro m s pend evs sf pf m' hn h
    cases evs with
    | nil =>
      simp only [search] at h
      split at h
      · rename_i hq
        cases h
        refine ⟨Lin.nil _ _, fun hq' => ?_⟩
        rw [hq'] at hq
        simpa [quiescent_iff] using hq
      · split at h
        · cases h
        · split at h
          · rename_i r m1 hf
            cases h
            obtain ⟨c, hc, m0, m1', hs⟩ := firstSomeM_some hf
            obtain ⟨pu, hpu, hmic⟩ := mem_candidates sem hn hc
            obtain ⟨hl, hq⟩ := ih _ _ _ _ _ _ _ (hn.setP hpu _) hs
            exact ⟨Lin.step hpu hmic hl, hq⟩
          · cases h
    | cons e rest =>
      cases e with
      | call t op =>
        simp only [search] at h
        split at h
        · cases h
        · rename_i hl
          obtain ⟨hlin, hq⟩ := ih _ _ _ _ _ _ _ (hn.cons hl _) h
          exact ⟨Lin.call hl hlin, hq⟩
      | ret t out =>
        simp only [search] at h
        split at h
        · cases h
        · rename_i p hp
          split at h
          · rename_i o ho
            split at h
            · rename_i heq
              have : o = out := by simpa using heq
              subst this
              split at h
              · rename_i r m1 hr
                cases h
                obtain ⟨hlin, hq⟩ := ih _ _ _ _ _ _ _ (hn.erase hp) hr
                exact ⟨Lin.ret hp ho hlin, hq⟩
              · split at h
                · cases h
                · split at h
                  · rename_i r m1 hf
                    cases h
                    obtain ⟨c, hc, m0, m1', hs⟩ := firstSomeM_some hf
                    obtain ⟨pu, hpu, hmic⟩ := mem_candidates sem hn hc
                    split at hs
                    · obtain ⟨hl, hq⟩ := ih _ _ _ _ _ _ _ (hn.setP hpu _) hs
                      exact ⟨Lin.step hpu hmic hl, hq⟩
                    · cases hs
                  · cases h
            · cases h
          · split at h
            · cases h
            · split at h
              · rename_i r m1 hf
                cases h
                obtain ⟨c, hc, m0, m1', hs⟩ := firstSomeM_some hf
                obtain ⟨pu, hpu, hmic⟩ := mem_candidates sem hn hc
                split at hs
                · obtain ⟨hl, hq⟩ := ih _ _ _ _ _ _ _ (hn.setP hpu _) hs
                  exact ⟨Lin.step hpu hmic hl, hq⟩
                · cases hs
              · cases h

theorem search_sound_init {q : Bool} {fuel : Nat} {m : Memo K} {s : σ} {evs : List (Event Op Out)} {sf : σ} {pf : Pend P}
    (h : (search sem q fuel m s [] evs).1 = some (sf, pf)) :
    Lin sem s [] evs sf pf ∧ (q = true → Quiescent sem sf pf) :=
  search_sound sem q fuel m s [] evs sf pf _ (by simp [NodupKeys]) (Prod.ext h rfl)

end Fv.Chan.LinCore
