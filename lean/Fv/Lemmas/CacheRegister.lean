import Fv.Lemmas.CacheReads
/-
The register specification for C11 ("cache reads return only the latest live value of their own
key") and the per-function lemmas of the refinement.  `Reg`: key ↦ value id of the latest write not
followed by `remove` / `invalidate` / `clear`; `Spec` adds the content of the last snapshot, because
`restore` replaces the cache by one built from it.  `admissible`: what a call hands out is the
register content of ITS key — or nothing: the cache may forget (expiry, eviction).
-/
namespace Fv.Cache
variable {P : Type}
variable (cfg : Cfg) (ops : PolicyOps P) (o : Oracle)

abbrev Reg := Nat → Option Nat

def Reg.empty : Reg := fun _ => none
def Reg.set (r : Reg) (k v : Nat) : Reg := fun k' => if k' = k then some v else r k'
def Reg.unset (r : Reg) (k : Nat) : Reg := fun k' => if k' = k then none else r k'
def Reg.setAll (r : Reg) (l : List (Nat × Nat)) : Reg := l.foldl (fun r p => r.set p.1 p.2) r
def Reg.unsetAll (r : Reg) (ks : List Nat) : Reg := ks.foldl Reg.unset r
def Reg.ofPairs (l : List (Nat × Nat)) : Reg := Reg.empty.setAll l

structure Spec where
  reg : Reg := Reg.empty
  snap : Option (List (Nat × Nat)) := none

def Spec.empty : Spec := {}

def Snapshot.pairs (sn : Snapshot) : List (Nat × Nat) := sn.entries.map (fun p => (p.key, p.vid))

def specStep (sp : Spec) (op : Op) (ret : Ret) : Spec :=
  match op with
  | .insert _ k v _ => { sp with reg := sp.reg.set k v }
  | .insertTtl _ k v _ _ => { sp with reg := sp.reg.set k v }
  | .multiInsert items => { sp with reg := sp.reg.setAll (items.map (fun it => (it.1, it.2.1))) }
  | .remove k => { sp with reg := sp.reg.unset k }
  | .invalidate k => { sp with reg := sp.reg.unset k }
  | .multiRemove ks => { sp with reg := sp.reg.unsetAll ks }
  | .clear => { sp with reg := Reg.empty }
  | .orInsert k v _ => if ret = .val (some v) then { sp with reg := sp.reg.set k v } else sp
  | .compute k v =>
    match ret with
    | .computed (some (some _)) => { sp with reg := sp.reg.set k v }
    | _ => sp
  | .fetchWith k v _ =>
    match ret with
    | .loaded _ _ true => { sp with reg := sp.reg.set k v }
    | _ => sp
  | .snapshot =>
    match ret with
    | .snap sn => { sp with snap := some sn.pairs }
    | _ => sp
  | .restore =>
    match sp.snap with
    | some l => { sp with reg := Reg.ofPairs l }
    | none => sp
  | _ => sp

def okRead (r : Reg) (k : Nat) (v : Option Nat) : Prop := ∀ x, v = some x → r k = some x
def okPairs (r : Reg) (l : List (Nat × Nat)) : Prop := ∀ p, p ∈ l → r p.1 = some p.2

/-- for the register BEFORE the call (or the value is the one the call itself just wrote) -/
def admissible (sp : Spec) (op : Op) (ret : Ret) : Prop :=
  match op with
  | .get k => ∃ v, ret = .val v ∧ okRead sp.reg k v
  | .peek k => ∃ v, ret = .val v ∧ okRead sp.reg k v
  | .hold k => ∃ v, ret = .val v ∧ okRead sp.reg k v
  | .remove k => ∃ v, ret = .val v ∧ okRead sp.reg k v
  | .multiget _ ks => ∃ l, ret = .pairs l ∧ okPairs sp.reg l ∧ ∀ p, p ∈ l → p.1 ∈ ks
  | .multiRemove ks => ∃ l, ret = .pairs l ∧ okPairs sp.reg l ∧ ∀ p, p ∈ l → p.1 ∈ ks
  | .iter _ _ => ∃ l, ret = .pairs l ∧ okPairs sp.reg l
  | .iterSnapshot _ => ∃ l, ret = .pairs l ∧ okPairs sp.reg l
  | .snapshot => ∃ sn, ret = .snap sn ∧ okPairs sp.reg sn.pairs
  | .compute k _ => ∃ r, ret = .computed r ∧ ∀ old, r = some (some old) → sp.reg k = some old
  | .orInsert k v _ => ∃ x, ret = .val (some x) ∧ (sp.reg k = some x ∨ x = v)
  | .fetchWith k v _ =>
    ∃ x stale loader, ret = .loaded x stale loader ∧
      (if stale || !loader then sp.reg k = some x else x = v)
  | _ => True

/-- the refinement relation: the map only holds register contents -/
def Agree (s : State P) (sp : Spec) : Prop :=
  (∀ k e, (k, e) ∈ s.map → sp.reg k = some e.vid) ∧
  sp.snap = s.snap.map Snapshot.pairs

@[simp] theorem Reg.set_same (r : Reg) (k v : Nat) : r.set k v k = some v := by simp [Reg.set]
theorem Reg.set_other (r : Reg) {k k' : Nat} (v : Nat) (h : k' ≠ k) : r.set k v k' = r k' := by simp [Reg.set, h]
@[simp] theorem Reg.unset_same (r : Reg) (k : Nat) : r.unset k k = none := by simp [Reg.unset]
theorem Reg.unset_other (r : Reg) {k k' : Nat} (h : k' ≠ k) : r.unset k k' = r k' := by simp [Reg.unset, h]

theorem Reg.set_eq_self (r : Reg) {k v : Nat} (h : r k = some v) : r.set k v = r := by
  funext k'
  by_cases hk : k' = k
  · subst hk; simp [h]
  · exact Reg.set_other _ _ hk

theorem Reg.unsetAll_apply (ks : List Nat) : ∀ (r : Reg) (k : Nat), r.unsetAll ks k = if k ∈ ks then none else r k := by
  induction ks with
  | nil => intro r k; simp [Reg.unsetAll]
  | cons a rest ih =>
    intro r k
    show Reg.unsetAll (r.unset a) rest k = _
    rw [ih, Reg.unset]
    by_cases h1 : k ∈ rest <;> by_cases h2 : k = a <;> simp [h1, h2]

theorem Reg.unsetAll_none (ks : List Nat) (r : Reg) (k : Nat) (h : r k = none) : r.unsetAll ks k = none := by
  rw [Reg.unsetAll_apply, h, ite_self]

theorem Reg.unsetAll_not_mem (ks : List Nat) : ∀ (r : Reg) (k : Nat), k ∉ ks → r.unsetAll ks k = r k :=
  fun r k h => (Reg.unsetAll_apply ks r k).trans (if_neg h)

theorem Reg.setAll_not_mem (l : List (Nat × Nat)) : ∀ (r : Reg) (k : Nat), (∀ p, p ∈ l → p.1 ≠ k) → r.setAll l k = r k := by
  induction l with
  | nil => intro r k _; rfl
  | cons a rest ih =>
    intro r k h
    show Reg.setAll (r.set a.1 a.2) rest k = r k
    rw [ih _ _ (fun p hp => h p (List.mem_cons_of_mem _ hp))]
    exact Reg.set_other _ _ (fun e => h a List.mem_cons_self e.symm)

theorem Agree.of_sub {s s' : State P} {sp : Spec} (h : Agree s sp) (hm : s'.map ⊆ s.map)
    (hs : s'.snap = s.snap) : Agree s' sp :=
  ⟨fun k e he => h.1 k e (hm he), by rw [hs]; exact h.2⟩

theorem Agree.of_eq {s s' : State P} {sp : Spec} (h : Agree s sp) (hm : s'.map = s.map)
    (hs : s'.snap = s.snap) : Agree s' sp :=
  h.of_sub (by rw [hm]; exact fun _ h => h) hs

theorem Agree.mstep {s s' : State P} {sp : Spec} {C X : Nat → Prop} (h : Agree s sp) (hf : MStep C X s' s) :
    Agree s' sp := h.of_sub hf.sub.subset hf.snap

theorem Agree.of_lookup {s : State P} {sp : Spec} (h : Agree s sp) {k : Nat} {e : Entry}
    (he : lookup s.map k = some e) : sp.reg k = some e.vid := h.1 k e (lookup_mem he)

theorem Agree.put_set {s s' : State P} {sp : Spec} (h : Agree s sp) {k : Nat} {e : Entry}
    (hm : s'.map = put s.map k e) (hs : s'.snap = s.snap) : Agree s' { sp with reg := sp.reg.set k e.vid } := by
  refine ⟨?_, by rw [hs]; exact h.2⟩
  intro k' e' he
  rw [hm, mem_put] at he
  cases he with
  | inl h1 => obtain ⟨rfl, rfl⟩ := h1; simp
  | inr h1 => show sp.reg.set k e.vid k' = _; rw [Reg.set_other _ _ h1.2]; exact h.1 _ _ h1.1

theorem Agree.of_put {s s' : State P} {sp : Spec} (h : Agree s sp) {k : Nat} {e : Entry} (hp : Put s' s k e) :
    Agree s' { sp with reg := sp.reg.set k e.vid } := h.put_set hp.map hp.snap

theorem Agree.put_same {s s' : State P} {sp : Spec} (h : Agree s sp) {k : Nat} {e : Entry}
    (hr : sp.reg k = some e.vid) (hm : s'.map = put s.map k e) (hs : s'.snap = s.snap) : Agree s' sp := by
  have := h.put_set hm hs
  rw [Reg.set_eq_self _ hr] at this
  exact this

theorem Agree.erase_unset {s s' : State P} {sp : Spec} (h : Agree s sp) {k : Nat}
    (hm : s'.map = erase s.map k) (hs : s'.snap = s.snap) : Agree s' { sp with reg := sp.reg.unset k } := by
  refine ⟨?_, by rw [hs]; exact h.2⟩
  intro k' e' he
  rw [hm] at he
  have := mem_erase.1 he
  show sp.reg.unset k k' = _
  rw [Reg.unset_other _ this.2]; exact h.1 _ _ this.1

theorem Agree.absent {s : State P} {sp : Spec} (h : Agree s sp) {k : Nat} (hk : sp.reg k = none) :
    lookup s.map k = none := by
  cases hl : lookup s.map k with
  | none => rfl
  | some e => rw [h.of_lookup hl] at hk; cases hk

def Keeps (sp : Spec) (t s : State P) : Prop := Agree s sp → Agree t sp

theorem Keeps.rel (sp : Spec) : ReadRel cfg (Keeps (P := P) sp) where
  refl := fun _ h => h
  trans := fun h1 h2 h => h1 (h2 h)
  quiet := fun hq h => h.of_eq hq.map hq.snap
  touch := fun he _ ht h => h.put_same (by rw [touch_vid]; exact h.of_lookup he) ht.map ht.snap

theorem Agree.hit {cfg : Cfg} {s : State P} {sp : Spec} {p : Nat × Nat} (h : Agree s sp)
    (hp : Hit cfg (Keeps sp) s p) : sp.reg p.1 = some p.2 := by
  obtain ⟨t, e, ht, he, _, hv⟩ := hp
  rw [← hv]; exact (ht h).of_lookup he

theorem get_agree {s : State P} {sp : Spec} (k : Nat) (h : Agree s sp) :
    Agree (s.get cfg k).1 sp ∧ okRead sp.reg k (s.get cfg k).2 :=
  ⟨(get_lift (Keeps.rel cfg sp) s k).1 h, fun v hv => h.hit ((get_lift (Keeps.rel cfg sp) s k).2 v hv)⟩

theorem peek_ok {s : State P} {sp : Spec} (k : Nat) (h : Agree s sp) : okRead sp.reg k (s.peek cfg k) :=
  get_snd cfg s k ▸ (get_agree cfg k h).2

theorem holdOf_agree {sp : Spec} (k : Nat) (r : State P × Option Nat) (h : Agree r.1 sp) : Agree (holdOf k r).1 sp := by
  rcases holdOf_cases k r with he | ⟨e, he, ht⟩
  · rw [he]; exact h
  · exact h.put_same (e := { e with pinned := true }) (show sp.reg k = some e.vid from h.of_lookup he) ht.map ht.snap

theorem iterAll_agree {s : State P} {sp : Spec} (batch : Nat)
    (inter : Option (Nat × Nat)) (h : Agree s sp) :
    Agree (s.iterAll cfg ops o batch inter).1 sp ∧ okPairs sp.reg (s.iterAll cfg ops o batch inter).2 := by
  have hs : ∀ now p, Served s.map now cfg.tti p → sp.reg p.1 = some p.2 := by
    rintro now p ⟨e, he, hv, _⟩; rw [← hv]; exact h.1 _ _ he
  exact ⟨(h.mstep (flush_mstep cfg ops o s)).of_eq rfl rfl,
    iterAll_good cfg ops o s batch inter _ (hs _) (fun _ d _ => hs _)⟩

theorem iterSnapshotAll_agree {s : State P} {sp : Spec}
    (inter : Option (Nat × Nat)) (h : Agree s sp) :
    Agree (s.iterSnapshotAll cfg ops o inter).1 sp ∧ okPairs sp.reg (s.iterSnapshotAll cfg ops o inter).2 := by
  have hf := h.mstep (flush_mstep cfg ops o s)
  obtain ⟨h1, h2⟩ := snapDrive_lift (Keeps.rel cfg sp) ((List.range cfg.nshards).flatMap
    (fun i => (s.flush cfg ops o).shardKeys cfg o.ord i)) (s.flush cfg ops o) inter []
    (fun _ _ _ h => h.of_eq rfl rfl)
  refine ⟨h1 hf, fun p hp => ?_⟩
  rcases h2 p hp with hn | ⟨_, hh⟩
  · cases hn
  · exact hf.hit hh

theorem toSnapshot_agree {s : State P} {sp : Spec} (h : Agree s sp) :
    okPairs sp.reg (s.toSnapshot cfg ops o).2.pairs ∧
      Agree (s.toSnapshot cfg ops o).1 { sp with snap := some (s.toSnapshot cfg ops o).2.pairs } := by
  refine ⟨?_, (h.mstep (flush_mstep cfg ops o s)).1, rfl⟩
  intro p hp
  obtain ⟨q, hq, rfl⟩ := List.mem_map.1 hp
  obtain ⟨e, he, hv, _⟩ := toSnapshot_served cfg ops o s q hq
  rw [← hv]; exact h.1 _ _ he

theorem insertCore_agree {s : State P} {sp : Spec} (k : Nat) (e : Entry) (td : Option Nat) (full : Bool)
    (h : Agree s sp) : Agree (s.insertCore cfg k e td full) { sp with reg := sp.reg.set k e.vid } := by
  obtain ⟨t, hp⟩ := insertCore_put cfg s k e td full
  exact h.of_put (e := { e with timer := t }) hp

theorem specStep_orInsert_hit (sp : Spec) (k v c : Nat) :
    specStep sp (.orInsert k v c) (.val (some v)) = { sp with reg := sp.reg.set k v } := by
  simp [specStep]

theorem specStep_orInsert_other (sp : Spec) (k v c : Nat) {x : Nat} (h : x ≠ v) :
    specStep sp (.orInsert k v c) (.val (some x)) = sp := by
  simp [specStep, h]

theorem orInsert_agree {s : State P} {sp : Spec} (k vid cost : Nat) (h : Agree s sp) :
    admissible sp (.orInsert k vid cost) (s.orInsert cfg k vid cost).2 ∧
      Agree (s.orInsert cfg k vid cost).1 (specStep sp (.orInsert k vid cost) (s.orInsert cfg k vid cost).2) := by
  rcases orInsert_cases cfg s k vid cost with ⟨e, he, heq⟩ | ⟨hn, hret, hp⟩
  · rw [heq]
    dsimp only
    refine ⟨⟨e.vid, rfl, .inl (h.of_lookup he)⟩, ?_⟩
    by_cases hv : e.vid = vid
    · have hreg : sp.reg k = some vid := by rw [← hv]; exact h.of_lookup he
      rw [hv, specStep_orInsert_hit, Reg.set_eq_self _ hreg]
      exact h
    · rw [specStep_orInsert_other _ _ _ _ hv]; exact h
  · rw [hret, specStep_orInsert_hit]
    exact ⟨⟨vid, rfl, .inr rfl⟩, h.of_put hp⟩

theorem compute_agree {s : State P} {sp : Spec} (k vid : Nat) (h : Agree s sp) :
    admissible sp (.compute k vid) (s.compute k vid).2 ∧
      Agree (s.compute k vid).1 (specStep sp (.compute k vid) (s.compute k vid).2) := by
  rcases compute_cases s k vid with ⟨hn, heq⟩ | ⟨e, he, hp, heq⟩ | ⟨e, he, hp, heq⟩
  · rw [heq]; exact ⟨⟨none, rfl, fun old ho => by cases ho⟩, h⟩
  · rw [heq]; exact ⟨⟨some none, rfl, fun old ho => by cases ho⟩, h⟩
  · rw [heq]
    refine ⟨⟨some (some e.vid), rfl, fun old ho => by cases ho; exact h.of_lookup he⟩, ?_⟩
    exact h.put_set (e := { e with vid := vid }) rfl rfl

theorem fetchWith_agree {s : State P} {sp : Spec} (k vid cost : Nat) (h : Agree s sp) :
    admissible sp (.fetchWith k vid cost) (s.fetchWith cfg k vid cost).2 ∧
      Agree (s.fetchWith cfg k vid cost).1 (specStep sp (.fetchWith k vid cost) (s.fetchWith cfg k vid cost).2) := by
  rcases fetchWith_cases cfg s k vid cost with ⟨e, he, hx, heq⟩ | ⟨_, heq⟩ | ⟨e, g, he, _, _, _, heq⟩
  · rw [heq]
    refine ⟨⟨e.vid, false, false, rfl, h.of_lookup he⟩, ?_⟩
    exact ((Keeps.rel cfg sp).touch he hx (onHit_touch cfg _ k e) h).of_eq rfl rfl
  · rw [heq]
    exact ⟨⟨vid, false, true, rfl, rfl⟩, h.of_put (loadInsert_put cfg _ k vid cost)⟩
  · rw [heq]
    exact ⟨⟨e.vid, true, true, rfl, h.of_lookup he⟩, h.of_put (loadInsert_put cfg _ k vid cost)⟩

theorem multiInsert_agree :
    ∀ (items : List (Nat × Nat × Nat)) (s : State P) (sp : Spec), Agree s sp →
      Agree (items.foldl (fun s (it : Nat × Nat × Nat) =>
          s.insertCore cfg it.1 (Entry.mk' it.2.1 it.2.2 s.now cfg.ttl cfg.tti) cfg.ttl false) s)
        { sp with reg := sp.reg.setAll (items.map (fun it => (it.1, it.2.1))) }
  | [], _, _, h => h
  | it :: rest, s, _, h =>
    multiInsert_agree rest _ _ (insertCore_agree cfg it.1 (Entry.mk' it.2.1 it.2.2 s.now cfg.ttl cfg.tti) cfg.ttl false h)

theorem removeKey_agree {s : State P} {sp : Spec} (k : Nat) (h : Agree s sp) :
    Agree (s.removeKey cfg ops k).1 { sp with reg := sp.reg.unset k } ∧ okRead sp.reg k (s.removeKey cfg ops k).2 := by
  rcases removeKey_cases cfg ops s k with ⟨hn, he⟩ | ⟨e, hd, hv⟩
  · rw [he]; exact ⟨h.erase_unset (erase_of_lookup_none hn).symm rfl, fun x hx => nomatch hx⟩
  · rw [hv]; exact ⟨h.erase_unset hd.map hd.snap, fun x hx => by cases hx; exact h.of_lookup hd.was⟩

theorem removeKey_lookup (s : State P) (k k' : Nat) :
    lookup (s.removeKey cfg ops k).1.map k' = if k' = k then none else lookup s.map k' := by
  rcases removeKey_cases cfg ops s k with ⟨hn, he⟩ | ⟨e, hd, _⟩
  · rw [he]; split
    · next hk => rw [hk]; exact hn
    · rfl
  · rw [hd.map, lookup_erase]

theorem multiRemoveLoop_absent :
    ∀ (ks : List Nat) (s : State P) (acc : List (Nat × Nat)) (k : Nat),
      (k ∈ ks ∨ lookup s.map k = none) → lookup (multiRemoveLoop cfg ops s ks acc).1.map k = none := by
  intro ks
  induction ks with
  | nil => intro s acc k h; exact h.resolve_left (fun h => nomatch h)
  | cons a rest ih =>
    intro s acc k h
    rw [multiRemoveLoop_cons]
    refine ih _ _ k ?_
    rw [removeKey_lookup]
    by_cases hka : k = a
    · exact .inr (if_pos hka)
    · rw [if_neg hka]
      exact h.imp_left (fun h => (List.mem_cons.1 h).resolve_left hka)

theorem multiRemoveLoop_agree (ks : List Nat) {s : State P} {sp : Spec}
    (h : Agree s sp) :
    Agree (multiRemoveLoop cfg ops s ks []).1 { sp with reg := sp.reg.unsetAll ks } ∧
      okPairs sp.reg (multiRemoveLoop cfg ops s ks []).2 ∧
      ∀ p, p ∈ (multiRemoveLoop cfg ops s ks []).2 → p.1 ∈ ks := by
  obtain ⟨h1, h2⟩ := multiRemoveLoop_lift cfg ops (MStep.rel (fun _ => True) (fun _ => True)) ks s []
    (fun _ _ _ _ _ hd => MStep.of_drop hd trivial (fun _ _ => trivial))
  have hout : ∀ p ∈ (multiRemoveLoop cfg ops s ks []).2, p.1 ∈ ks ∧ sp.reg p.1 = some p.2 := by
    intro p hp
    rcases h2 p hp with hn | ⟨hk, t, e, ht, he, _, hv⟩
    · cases hn
    · exact ⟨hk, hv ▸ (h.mstep ht).of_lookup he⟩
  refine ⟨⟨fun k e he => ?_, (h.mstep h1).2⟩, fun p hp => (hout p hp).2, fun p hp => (hout p hp).1⟩
  have hk : k ∉ ks := fun hk => by
    obtain ⟨e0, h0⟩ := lookup_isSome_of_mem he
    rw [multiRemoveLoop_absent cfg ops ks s [] k (.inl hk)] at h0; cases h0
  show sp.reg.unsetAll ks k = _
  rw [Reg.unsetAll_not_mem ks _ _ hk]; exact (h.mstep h1).1 k e he

theorem restoreMap_agree (now : Nat) :
    ∀ (ps : List SnapEntry) (m : List (Nat × Entry)) (r : Reg),
      (∀ k e, (k, e) ∈ m → r k = some e.vid) →
      ∀ k e, (k, e) ∈ restoreMap cfg now ps m → r.setAll (ps.map (fun p => (p.key, p.vid))) k = some e.vid := by
  intro ps
  induction ps with
  | nil => intro m r h; exact h
  | cons p rest ih =>
    intro m r h
    refine ih (put m p.key (restoredEntry cfg now p).2) (r.set p.key p.vid) ?_
    intro k e he
    rw [mem_put] at he
    cases he with
    | inl h1 => obtain ⟨rfl, rfl⟩ := h1; simp [restoredEntry]
    | inr h1 => rw [Reg.set_other _ _ h1.2]; exact h _ _ h1.1

theorem restore_agree (p0 : P) (now : Nat) (sn : Snapshot) (sp : Spec) (hsp : sp.snap = some sn.pairs) :
    Agree (State.restore cfg p0 now sn) { sp with reg := Reg.ofPairs sn.pairs } :=
  ⟨restoreMap_agree cfg now sn.entries [] Reg.empty (fun _ _ h => absurd h List.not_mem_nil), hsp⟩

theorem release_agree {s : State P} {sp : Spec} (h : Agree s sp) :
    Agree { s with map := s.map.map (fun (k, e) => (k, { e with pinned := false })) } sp := by
  refine ⟨?_, h.2⟩
  intro k e he
  obtain ⟨⟨k', e'⟩, hm, heq⟩ := List.mem_map.1 he
  cases heq
  exact h.1 k e' hm

end Fv.Cache
