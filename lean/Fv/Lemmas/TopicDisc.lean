import Fv.Lemmas.TopicRoute
/-! Disconnected: where the `is_disconnected` flag comes from (a sender handle was closed or dropped: `DI`),
that it is sticky, what the receive forms answer, and that nothing arrives once every sender handle is gone. -/
namespace Fv.Chan.Topic

theorem disc_stable_step (s : St) (op : Op) (r : Nat) (x : Rx) (hx : s.rxs[r]? = some x) (hd : x.disc = true) :
    ∃ y, (step s op).1.rxs[r]? = some y ∧ y.disc = true := by
  have hlt := Nat.lt_of_lt_of_le (List.getElem?_eq_some_iff.1 hx).1 (step_move s op).length_le
  refine ⟨_, List.getElem?_eq_getElem hlt, ?_⟩
  obtain ⟨x', hf, hx' | ⟨hn, _⟩⟩ := (step_move s op).get (List.getElem?_eq_getElem hlt)
  · rw [hx] at hx'; cases hx'; exact hf.disc hd
  · rw [hx] at hn; cases hn

def someGone (s : St) : Bool := s.txs.any (fun x => x.closed || !x.live)

/-- a handle that is closed or dropped stays so, whatever is called (a clone only adds a handle) -/
theorem Move.someGone {op : Op} {s s' : St} (h : Move op s s') : someGone s = true → someGone s' = true := by
  induction h with
  | trans _ _ ih1 ih2 => exact ih2 ∘ ih1
  | tx s i f hf =>
    intro hg
    obtain ⟨x, hx, hgx⟩ := List.any_eq_true.1 hg
    obtain ⟨j, hj⟩ := List.getElem?_of_mem hx
    have hj' := getElem?_modAt s.txs i j f
    rw [hj] at hj'
    split at hj'
    · exact List.any_eq_true.2 ⟨f x, List.mem_of_getElem? hj', gone_mono (hf x) hgx⟩
    · exact List.any_eq_true.2 ⟨x, List.mem_of_getElem? hj', hgx⟩
  | txPush s x _ _ =>
    intro hg
    obtain ⟨y, hy, hgy⟩ := List.any_eq_true.1 hg
    exact List.any_eq_true.2 ⟨y, List.mem_append_left _ hy, hgy⟩
  | _ => exact id

/-- `someGone`, not `sendersGone`: with sender clones not every handle need be gone -/
def DI (s : St) : Prop :=
  ∀ (r : Nat) (x : Rx), s.rxs[r]? = some x → x.live = true → x.disc = true → someGone s = true

theorem DI_init (cap : Nat) (k : Kind) : DI (init cap k) := by
  intro r x hx _ hd
  cases r <;> simp [init] at hx
  subst hx; cases hd

theorem someGone_of_end {s : St} {op : Op} {h : Nat} {x : Tx} (hx : txLive s h = some x)
    (hop : op = .sClose h ∨ op = .sDrop h) : someGone (step s op).1 = true := by
  have hx1 := (txLive_some hx).1
  have : ∃ y, (step s op).1.txs[h]? = some y ∧ (y.closed || !y.live) = true := by
    cases hc : x.closed <;> rcases hop with rfl | rfl <;>
      simp [step, sDrop, sClose, hx, hc, senderCloseInternal, getElem?_modAt_self, hx1]
  obtain ⟨y, hy, hg⟩ := this
  exact List.any_eq_true.2 ⟨y, List.mem_of_getElem? hy, hg⟩

theorem DI_step (s : St) (op : Op) (hd : DI s) : DI (step s op).1 := by
  intro r y hy hl hdisc
  cases hend : op.isSenderEnd with
  | false =>
    -- the flag was set before, or the record is new and has no flag
    obtain ⟨x, hf, hx | ⟨_, _, hxd, _⟩⟩ := (step_move s op).get hy
    · exact (step_move s op).someGone (hd r x hx (hf.live hl) (hf.discBy hend hl hdisc))
    · rw [hf.discBy hend hl hdisc] at hxd; cases hxd
  | true =>
    obtain ⟨h, hop'⟩ : ∃ h, op = .sClose h ∨ op = .sDrop h := by
      cases op with
      | sClose h => exact ⟨h, .inl rfl⟩
      | sDrop h => exact ⟨h, .inr rfl⟩
      | _ => cases hend
    cases htx : txLive s h with
    | some x => exact someGone_of_end htx hop'
    | none =>
      have : (step s op).1 = s := by rcases hop' with rfl | rfl <;> simp [step, sClose, sDrop, htx]
      rw [this] at hy ⊢
      exact hd r y hy hl hdisc

theorem sendersGone_of_one {s : St} (h1 : s.txs.length = 1) (hg : someGone s = true) : sendersGone s = true := by
  match hs : s.txs, h1 with
  | [a], _ => simpa [someGone, sendersGone, hs] using hg

/-- the last disjunct is `recv_timeout` alone: it answers Disconnected on an empty mailbox of a handle that was
itself closed -/
theorem recv_disc_cases (s : St) (op : Op) (r : Nat) (ht : recvTarget op = some r)
    (hres : (step s op).2 = .disc ∨ (step s op).2 = .none) :
    ∃ x, s.rxs[r]? = some x ∧ x.live = true ∧ x.buf = [] ∧
      (x.disc = true ∨ (x.closed = true ∧ op = .recvTimeout0 r)) := by
  rcases recv_form s op r ht with he | ⟨x, d, e, hx, he, _, hne⟩ <;> rw [he] at hres
  · rcases hres with h | h <;> cases h
  · obtain ⟨hx, hl⟩ := rxLive_some hx
    rcases recvWith_cases s r x d e with ⟨t, v, rest, _, hw⟩ | ⟨hb, hw⟩ <;> rw [hw] at hres
    · rcases hres with h | h <;> cases h
    · refine ⟨x, hx, hl, hb, ?_⟩
      cases hdisc : x.disc with
      | true => exact .inl rfl
      | false =>
        simp only [hdisc, Bool.false_eq_true, if_false] at hres
        rcases hne with rfl | rfl | rfl | rfl | ⟨_, hc, ho⟩
        · rcases hres with h | h <;> cases h
        · rcases hres with h | h <;> cases h
        · rcases hres with h | h <;> cases h
        · rcases hres with h | h <;> cases h
        · exact .inr ⟨hc, ho⟩

/-- `.none`: the stream form's end of stream -/
theorem recv_when_disc (s : St) (op : Op) (r : Nat) (x : Rx) (ht : recvTarget op = some r)
    (hx : s.rxs[r]? = some x) (hb : x.buf = []) (hd : x.disc = true) :
    (step s op).2 = .disc ∨ (step s op).2 = .none ∨ (step s op).2 = .invalid := by
  rcases recv_form s op r ht with he | ⟨x', d, e, hx', he, hd', _⟩ <;> rw [he]
  · exact .inr (.inr rfl)
  · cases hx.symm.trans (rxLive_some hx').1
    rcases recvWith_cases s r x d e with ⟨_, _, _, hb', _⟩ | ⟨_, hw⟩
    · rw [hb] at hb'; cases hb'
    · rw [hw, hd]
      rcases hd' with rfl | rfl
      · exact .inl rfl
      · exact .inr (.inl rfl)

def IsShutdownOf (s : St) (op : Op) (h : Nat) : Prop :=
  (op = .sClose h ∨ op = .sDrop h) ∧ ∃ tx, txLive s h = some tx ∧ tx.closed = false

theorem shutdown_disc (s : St) (op : Op) (h : Nat) (hsd : IsShutdownOf s op h) {P : Prop} (hri : RI P s)
    (r : Nat) (x : Rx) (hx : s.rxs[r]? = some x) (hl : x.live = true) (hs : x.subs ≠ []) :
    ∃ y, (step s op).1.rxs[r]? = some y ∧ y.disc = true := by
  obtain ⟨hop, tx, htx, hc⟩ := hsd
  have hrxs : (step s op).1.rxs = disconnectTo s.rxs (s.regs.map (fun p => p.2)) := by
    rcases hop with rfl | rfl <;> simp [step, sDrop, sClose, htx, hc, senderCloseInternal]
  obtain ⟨t, ht⟩ := List.exists_mem_of_ne_nil _ hs
  have hm : r ∈ s.regs.map (fun p => p.2) :=
    List.mem_map.2 ⟨(t, r), (((hri (dispAlive_of_txLive htx)).routed.ok r x hx hl).2 t).2 ht, rfl⟩
  rw [hrxs, getElem?_disconnectTo, if_pos hm, hx]
  exact ⟨_, rfl, by simp [hl, disconnect]⟩

theorem closed_of_gone {s : St} {h : Nat} {x : Tx} (hg : sendersGone s = true) (hx : txLive s h = some x) :
    x.closed = true := by
  obtain ⟨h1, h2⟩ := txLive_some hx
  simpa [h2] using List.all_eq_true.1 hg x (List.mem_of_getElem? h1)

theorem FI_step (s : St) (op : Op) (r : Nat) (hop : ∀ h, op ≠ .sClone h) (hg : sendersGone s = true)
    (hb : bufOf s r = []) :
    sendersGone (step s op).1 = true ∧ bufOf (step s op).1 r = [] ∧
      (recvTarget op = some r → ∀ t v, (step s op).2 ≠ .msg t v) := by
  refine ⟨((step_move s op).txs hop).2 hg, ?_⟩
  rcases step_buf s op with ⟨h, t, v, rfl, hok, _⟩ | ⟨_, hk⟩
  · obtain ⟨x, hx, hc, _⟩ := send_ok hok
    rw [closed_of_gone hg hx] at hc; cases hc
  · have h := hk (fun _ => []) r
    rw [hb, List.append_nil, List.append_eq_nil_iff] at h
    exact ⟨h.2, fun ht t v hres => by simp [ht, hres, TopicB.recordGot] at h⟩

end Fv.Chan.Topic
