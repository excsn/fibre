import Fv.Lemmas.OneshotBBase
/-! Every transition of the step-level oneshot model preserves `C5`, `Cnt`, `E7`: the cases named are the transitions
that write a `closed` flag, `dec`, `closer`, `sender_count`, `nextH` or the state word. -/
namespace Fv.Chan.OneshotB

variable {s s' : State} {a : Ag}

theorem C5.step (A : AInv s) (t : Tr s a (s.loc a) s') : C5 s' := by
  have hi := A.c5
  have ha := hi.each a
  cases t
  -- past its own `closed` check a sender has not decremented
  case sLdOwn =>
    have hJ1 := A.j1
    exact ⟨hi.g, each_upd (by grind) fun b _ => hi.each b⟩
  case cCasOwn | dSwapOwn | dcFsub_last | dcFsub | dcCasEC | dcCasEC_fail | clFadd =>
    have hJ1 := A.j1; have hJ2 := A.j2
    exact ⟨by grind, each_upd (by grind) fun b _ => by grind⟩
  all_goals exact ⟨hi.g, each_upd (by grind) fun b _ => hi.each b⟩

theorem Cnt.step (A : AInv s) (t : Tr s a (s.loc a) s') : Cnt s' := by
  have hi := A.cnt
  cases t
  -- back to EMPTY: the writer itself still counts
  case sStEmpty =>
    have hw := writer_counts A.j2 A.i2 A.c5 hi
    have hI2 := A.i2
    exact ⟨by grind⟩
  case dcFsub_last | dcFsub =>
    have hF := @fsub_cnt s a A.j2 A.c5
    exact ⟨by grind⟩
  case clFadd =>
    have hP := clone_cnt A.c5
    exact ⟨by grind⟩
  case sCasEW | sSwapSent | dcCasEC | dcCasEC_fail | dcCasST | ciCasEC | ciCasST | tCasST | tStClosed | tCasEC | pCasEC =>
    exact ⟨by grind⟩
  all_goals exact ⟨hi.g⟩

theorem E7.step (A : AInv s) (t : Tr s a (s.loc a) s') : E7 s' := by
  have hi := A.e7
  have ha := hi.each a
  cases t
  -- a sender inside `send` is a live handle: `sender_count` is not 0, no quiet call is under way
  case sCasEW | sStEmpty | sSwapSent =>
    have hL := live_counts A.j2 A.cnt a
    have hI2 := A.i2; have hC5 := A.c5
    exact ⟨each_upd (by constructor <;> grind) fun b _ => by constructor <;> grind⟩
  case clFadd =>
    have hL := @clone_counts s a A.j2 A.c5 A.cnt
    exact ⟨each_upd (by constructor <;> grind) fun b _ => by constructor <;> grind⟩
  case dcFsub_last | dcFsub | dcCasEC | dcCasST | ciCasEC | ciCasST | tCasST | tStClosed | tCasEC | pCasEC =>
    exact ⟨each_upd (by constructor <;> grind) fun b _ => by constructor <;> grind⟩
  all_goals exact ⟨each_upd (by grind) fun b _ => hi.each b⟩

end Fv.Chan.OneshotB
