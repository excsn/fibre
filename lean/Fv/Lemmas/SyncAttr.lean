import Lean.Meta.Tactic.Simp.RegisterCommand
/-! A simp attribute has to be declared in a module other than the ones that tag lemmas with it. -/

/-- rewrite rules that bring an explicit successor state of the `HybridRwLock` model, and the region predicates at a
literal control state, to normal form (`norm_state` in `SyncRw.lean`) -/
register_simp_attr rw_norm
