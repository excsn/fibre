import Fv.Cache.Store
/-
The association-list map of the cache model (`lookup` / `erase` / `put` of `Fv/Cache/Store.lean`):
bindings, keys and cost sums; `Entry.isExpired` (with `Unexpired`, the proposition it decides) / `Entry.touch`; the
null policy of the witnesses.
-/
namespace Fv.Cache

/-- the no-op policy of an unbounded cache (`policy/null.rs`) -/
def nullOps : PolicyOps Unit where
  access := fun _ _ _ => ()
  admit := fun _ _ _ => ((), .admit)
  remove := fun _ _ => ()
  evict := fun _ _ _ => some ((), [], 0)
  clear := fun _ => ()

theorem lookup_cons (a : Nat) (e : Entry) (m : List (Nat × Entry)) (k : Nat) :
    lookup ((a, e) :: m) k = if a = k then some e else lookup m k := by
  rw [lookup]

theorem lookup_mem {m : List (Nat × Entry)} {k : Nat} {e : Entry} (h : lookup m k = some e) : (k, e) ∈ m := by
  induction m with
  | nil => cases h
  | cons p rest ih =>
    obtain ⟨k', e'⟩ := p
    rw [lookup_cons] at h
    split at h
    · next hk => cases h; subst hk; exact List.mem_cons_self
    · exact List.mem_cons_of_mem _ (ih h)

theorem lookup_isSome_of_mem {m : List (Nat × Entry)} {k : Nat} {e : Entry} (h : (k, e) ∈ m) :
    ∃ e', lookup m k = some e' := by
  induction m with
  | nil => cases h
  | cons p rest ih =>
    obtain ⟨a, b⟩ := p
    rw [lookup_cons]
    split
    · exact ⟨b, rfl⟩
    · next ha =>
      rcases List.mem_cons.1 h with h | h
      · cases h; exact absurd rfl ha
      · exact ih h

theorem lookup_none_of_not_mem {m : List (Nat × Entry)} {k : Nat} (h : ∀ e, (k, e) ∉ m) : lookup m k = none := by
  cases hl : lookup m k with
  | none => rfl
  | some e => exact absurd (lookup_mem hl) (h e)

theorem mem_erase {m : List (Nat × Entry)} {k k' : Nat} {e : Entry} :
    (k', e) ∈ erase m k ↔ (k', e) ∈ m ∧ k' ≠ k := by
  simp [erase]

theorem mem_put {m : List (Nat × Entry)} {k k' : Nat} {e e' : Entry} :
    (k', e') ∈ put m k e ↔ (k' = k ∧ e' = e) ∨ ((k', e') ∈ m ∧ k' ≠ k) := by
  simp [put, mem_erase]

theorem erase_sublist (m : List (Nat × Entry)) (k : Nat) : (erase m k).Sublist m := List.filter_sublist

theorem lookup_erase (m : List (Nat × Entry)) (k k' : Nat) :
    lookup (erase m k) k' = if k' = k then none else lookup m k' := by
  induction m with
  | nil => simp [erase, lookup]
  | cons p rest ih =>
    obtain ⟨a, e⟩ := p
    unfold erase at ih ⊢
    rw [List.filter_cons, lookup_cons]
    by_cases ha : a = k
    · subst ha
      simp only [bne_self_eq_false, Bool.false_eq_true, if_false, ih]
      split
      · rfl
      · next hk => rw [if_neg (fun h => hk h.symm)]
    · simp only [bne_iff_ne, ne_eq, ha, not_false_eq_true, if_true, lookup_cons, ih]
      split
      · next hk => subst hk; rw [if_neg ha]
      · rfl

theorem lookup_put (m : List (Nat × Entry)) (k k' : Nat) (e : Entry) :
    lookup (put m k e) k' = if k' = k then some e else lookup m k' := by
  rw [put, lookup_cons, lookup_erase]
  by_cases h : k' = k
  · subst h; simp
  · rw [if_neg (fun h' => h h'.symm), if_neg h, if_neg h]

theorem lookup_put_self (m : List (Nat × Entry)) (k : Nat) (e : Entry) : lookup (put m k e) k = some e := by
  rw [lookup_put, if_pos rfl]

theorem lookup_put_ne (m : List (Nat × Entry)) {k k' : Nat} (e : Entry) (h : k' ≠ k) :
    lookup (put m k e) k' = lookup m k' := by
  rw [lookup_put, if_neg h]

theorem lookup_map_fst (f : Nat × Entry → Nat × Entry) (hf : ∀ p, (f p).1 = p.1) (m : List (Nat × Entry)) (k : Nat) :
    lookup (m.map f) k = (lookup m k).map (fun e => (f (k, e)).2) := by
  induction m with
  | nil => rfl
  | cons p rest ih =>
    obtain ⟨a, e⟩ := p
    have h1 : f (a, e) = (a, (f (a, e)).2) := Prod.ext (hf (a, e)) rfl
    rw [List.map_cons, h1, lookup_cons, lookup_cons, ih]
    split
    · next h => subst h; rfl
    · rfl

def keys (m : List (Nat × Entry)) : List Nat := m.map (·.1)
def costOf (m : List (Nat × Entry)) : Nat := (m.map (·.2.cost)).sum

@[simp] theorem keys_nil : keys [] = [] := rfl
@[simp] theorem keys_cons (p : Nat × Entry) (m : List (Nat × Entry)) : keys (p :: m) = p.1 :: keys m := rfl
@[simp] theorem costOf_nil : costOf [] = 0 := rfl
@[simp] theorem costOf_cons (p : Nat × Entry) (m : List (Nat × Entry)) : costOf (p :: m) = p.2.cost + costOf m := by
  simp [costOf]

theorem mem_keys_of_lookup {m : List (Nat × Entry)} {k : Nat} {e : Entry} (h : lookup m k = some e) : k ∈ keys m :=
  List.mem_map.2 ⟨(k, e), lookup_mem h, rfl⟩

theorem lookup_none_iff {m : List (Nat × Entry)} {k : Nat} : lookup m k = none ↔ k ∉ keys m := by
  constructor
  · intro h hk
    obtain ⟨⟨k', e⟩, hp, rfl⟩ := List.mem_map.1 hk
    obtain ⟨e', he'⟩ := lookup_isSome_of_mem hp
    rw [h] at he'; cases he'
  · intro h
    exact lookup_none_of_not_mem (fun e he => h (List.mem_map.2 ⟨(k, e), he, rfl⟩))

theorem lookup_of_mem_nodup {m : List (Nat × Entry)} {k : Nat} {e : Entry} (hn : (keys m).Nodup)
    (h : (k, e) ∈ m) : lookup m k = some e := by
  induction m with
  | nil => cases h
  | cons p rest ih =>
    obtain ⟨k', e'⟩ := p
    obtain ⟨hnot, hn'⟩ := List.nodup_cons.1 hn
    rw [lookup_cons]
    rcases List.mem_cons.1 h with heq | hmem
    · cases heq; rw [if_pos rfl]
    · rw [if_neg (fun (hk : k' = k) => hnot (hk ▸ List.mem_map.2 ⟨(k, e), hmem, rfl⟩))]
      exact ih hn' hmem

theorem erase_of_lookup_none {m : List (Nat × Entry)} {k : Nat} (h : lookup m k = none) : erase m k = m := by
  apply List.filter_eq_self.2
  intro p hp
  simp only [bne_iff_ne, ne_eq]
  intro heq
  exact lookup_none_iff.1 h (heq ▸ List.mem_map.2 ⟨p, hp, rfl⟩)

theorem nodup_keys_of_sublist {m' m : List (Nat × Entry)} (h : m'.Sublist m) (hn : (keys m).Nodup) :
    (keys m').Nodup := hn.sublist (h.map _)

theorem nodup_keys_put {m : List (Nat × Entry)} (k : Nat) (e : Entry) (h : (keys m).Nodup) : (keys (put m k e)).Nodup := by
  refine List.nodup_cons.2 ⟨?_, nodup_keys_of_sublist (erase_sublist m k) h⟩
  intro hk
  obtain ⟨⟨k', e'⟩, hp, rfl⟩ := List.mem_map.1 hk
  exact (mem_erase.1 hp).2 rfl

theorem costOf_le_of_sublist {m' m : List (Nat × Entry)} (h : m'.Sublist m) : costOf m' ≤ costOf m := by
  induction h with
  | slnil => exact Nat.le_refl _
  | cons a _ ih => rw [costOf_cons]; omega
  | cons_cons a _ ih => rw [costOf_cons, costOf_cons]; omega

theorem costOf_erase_some {m : List (Nat × Entry)} {k : Nat} {e : Entry} (hn : (keys m).Nodup)
    (hl : lookup m k = some e) : costOf (erase m k) + e.cost = costOf m := by
  induction m with
  | nil => cases hl
  | cons p rest ih =>
    obtain ⟨k', e'⟩ := p
    obtain ⟨hnot, hn'⟩ := List.nodup_cons.1 hn
    rw [lookup_cons] at hl
    unfold erase at ih ⊢
    rw [List.filter_cons]
    split at hl
    · next hk =>
      cases hl
      subst hk
      have hr := erase_of_lookup_none (lookup_none_iff.2 hnot)
      unfold erase at hr
      simp only [bne_self_eq_false, Bool.false_eq_true, if_false, hr, costOf_cons]
      omega
    · next hk =>
      have := ih hn' hl
      simp only [bne_iff_ne, ne_eq, hk, not_false_eq_true, if_true, costOf_cons]
      omega

def costAt (m : List (Nat × Entry)) (k : Nat) : Nat :=
  match lookup m k with
  | some o => o.cost
  | none => 0

theorem costOf_put {m : List (Nat × Entry)} (k : Nat) (e : Entry) (hn : (keys m).Nodup) :
    costOf (put m k e) + costAt m k = e.cost + costOf m := by
  rw [put, costOf_cons, costAt]
  cases hl : lookup m k with
  | none => rw [erase_of_lookup_none hl]; rfl
  | some o => have := costOf_erase_some hn hl; simp only; omega

def Unexpired (e : Entry) (now : Nat) (tti : Option Nat) : Prop :=
  (e.expiresAt = 0 ∨ now < e.expiresAt) ∧ (∀ d, tti = some d → now < e.lastAccessed + d)

theorem isExpired_false_iff (e : Entry) (now : Nat) (tti : Option Nat) :
    e.isExpired now tti = false ↔ Unexpired e now tti := by
  unfold Entry.isExpired Unexpired
  cases tti with
  | none => simp; omega
  | some d => simp; omega

theorem not_unexpired_iff (e : Entry) (now : Nat) (tti : Option Nat) :
    e.isExpired now tti = true ↔ ¬ Unexpired e now tti := by
  rw [← isExpired_false_iff]; cases e.isExpired now tti <;> simp

theorem touch_cost (e : Entry) (now : Nat) (tti : Option Nat) : (e.touch now tti).cost = e.cost := by
  unfold Entry.touch; split <;> rfl
theorem touch_vid (e : Entry) (now : Nat) (tti : Option Nat) : (e.touch now tti).vid = e.vid := by
  unfold Entry.touch; split <;> rfl

end Fv.Cache
