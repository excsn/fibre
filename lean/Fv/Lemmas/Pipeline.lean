import Fv.Log.Pipeline
/-!
Invariants of the C19 delivery pipeline model and the no-loss-at-shutdown argument.
-/
namespace Fv.Log.Pipeline

/-- what a step can do. The capacity test `full` is left out of the guards of `dropped` and `claimed`: nothing proved
here reads it. -/
inductive Steps (s : State) : Step → State → Prop
  | refused (m) : threadBusy s m.thread = false → s.closed = true → Steps s (.sendBegin m) { s with refused := s.refused ++ [m] }
  | dropped (m) : threadBusy s m.thread = false → s.closed = false → s.policy = .dropNewest →
      Steps s (.sendBegin m) { s with dropped := s.dropped ++ [m] }
  | claimed (m) : threadBusy s m.thread = false → s.closed = false →
      Steps s (.sendBegin m) { s with inflight := s.inflight ++ [m], claimed := s.claimed ++ [m] }
  | published (m) : m ∈ s.inflight →
      Steps s (.sendEnd m) { s with inflight := s.inflight.filter (fun x => x != m), buf := s.buf ++ [m], accepted := s.accepted ++ [m] }
  | consumed (m rest) : s.phase ≠ .exited → s.buf = m :: rest → Steps s .consume { s with buf := rest, out := s.out ++ [m] }
  | sawFlag : s.consumer = .writer → s.phase = .running → s.flag = true → Steps s .seeFlag { s with phase := .draining }
  | sawDisconnected : s.phase = .running → Disconnected s →
      Steps s .seeDisconnected { s with phase := (match s.consumer with | .writer => .draining | .stream => .exited) }
  | drained : s.consumer = .writer → s.phase = .draining → Disconnected s → Steps s .drainDisconnected { s with phase := .exited }
  | graceOver : s.consumer = .writer → s.phase = .draining → (s.buf = [] ∨ s.inflight ≠ []) →
      Steps s .graceExpired { s with phase := .exited, graceEarly := s.graceEarly || !decide (Disconnected s) }
  | flagSet : Steps s .setFlag { s with flag := true }
  | closed : Steps s .close { s with closed := true }

theorem steps_of_step {s s' : State} {st : Step} (h : step s st = some s') : Steps s st s' := by
  cases st <;> simp only [step, sendBegin, sendEnd, consume, seeFlag, seeDisconnected, drainDisconnected, graceExpired] at h
  case sendBegin m =>
    repeat' split at h
    all_goals cases h
    · exact .refused m (by simp_all) ‹_›
    · exact .dropped m (by simp_all) (by simp_all) ‹_›
    · exact .claimed m (by simp_all) (by simp_all)
  case sendEnd m => split at h <;> cases h; exact .published m ‹_›
  case consume => split at h <;> cases h; exact .consumed _ _ (by rintro h; simp_all) ‹_›
  case seeFlag => split at h <;> cases h; rename_i hc; exact .sawFlag hc.1 hc.2.1 hc.2.2
  case seeDisconnected => split at h <;> cases h; rename_i hc; exact .sawDisconnected hc.1 hc.2
  case drainDisconnected => split at h <;> cases h; rename_i hc; exact .drained hc.1 hc.2.1 hc.2.2
  case graceExpired => split at h <;> cases h; rename_i hc; exact .graceOver hc.1 hc.2.1 hc.2.2
  case setFlag => cases h; exact .flagSet
  case close => cases h; exact .closed

theorem run_induction {P : State → Prop} {Q : Step → Prop}
    (hstep : ∀ {s s' st}, Q st → P s → step s st = some s' → P s')
    {s s' : State} {tr : List Step} (hQ : ∀ st ∈ tr, Q st) (h : P s) (hs : run s tr = some s') : P s' := by
  induction tr generalizing s with
  | nil => cases hs; exact h
  | cons st tr ih =>
    simp only [run, Option.bind_eq_some_iff] at hs
    obtain ⟨s1, hst, hs⟩ := hs
    exact ih (fun x hx => hQ x (List.mem_cons_of_mem _ hx)) (hstep (hQ st List.mem_cons_self) h hst) hs

theorem run_append {s : State} {a b : List Step} :
    run s (a ++ b) = (run s a).bind (fun s' => run s' b) := by
  induction a generalizing s with
  | nil => rfl
  | cons x a ih => simp only [List.cons_append, run, ih, Option.bind_assoc]

theorem ofThread_append (t : Nat) (a b : List Msg) : ofThread t (a ++ b) = ofThread t a ++ ofThread t b :=
  List.filter_append ..

theorem ofThread_singleton (t : Nat) (m : Msg) : ofThread t [m] = if m.thread = t then [m] else [] := by
  simp [ofThread, List.filter_cons]

theorem ofThread_filter (t : Nat) (l : List Msg) (p : Msg → Bool) :
    ofThread t (l.filter p) = (ofThread t l).filter p := by
  simp only [ofThread, List.filter_filter, Bool.and_comm]

theorem eq_singleton_of_mem {α} {a : α} {l : List α} (h : a ∈ l) (hl : l.length ≤ 1) : l = [a] := by
  match l, h, hl with
  | [x], h, _ => rw [List.mem_singleton.1 h]

theorem count_ofThread (l : List Msg) (m : Msg) : (ofThread m.thread l).count m = l.count m :=
  List.count_filter (by simp)

structure Inv (s : State) : Prop where
  fifo : s.out ++ s.buf = s.accepted
  one : ∀ t, (ofThread t s.inflight).length ≤ 1
  order : ∀ t, ofThread t s.accepted ++ ofThread t s.inflight = ofThread t s.claimed
  noDrop : s.policy = .block → s.dropped = []
  phase : s.phase ≠ .running → (s.flag = true ∨ s.closed = true)
  /-- the repaired final drain: an exit that was not forced by an early `graceExpired` happened on a
  `Disconnected` channel, which then stays `Disconnected` -/
  settled : s.phase = .exited → s.graceEarly = false → Disconnected s

theorem inv_init (cap : Nat) (p : Overflow) (c : Consumer) : Inv (init cap p c) := by
  constructor <;> simp [init, ofThread]

theorem Inv.count {s : State} (h : Inv s) (m : Msg) : (s.accepted ++ s.inflight).count m = s.claimed.count m := by
  rw [← count_ofThread, ofThread_append, h.order, count_ofThread]

theorem inv_step {s s' : State} (h : Inv s) {st : Step} (hs : step s st = some s') : Inv s' := by
  cases steps_of_step hs with
  | refused => exact { h with }
  | dropped m _ _ hpol => exact { h with noDrop := fun hb => by simp [hpol] at hb }
  | claimed m hidle hopen =>
    have hnone : ofThread m.thread s.inflight = [] :=
      List.filter_eq_nil_iff.2 fun x hx hxt => by simpa [threadBusy, hx] using (List.any_eq_false.1 hidle x hx) hxt
    refine { h with one := fun t => ?_, order := fun t => ?_, settled := fun hex hg => ?_ }
    · show (ofThread t (s.inflight ++ [m])).length ≤ 1
      rw [ofThread_append, ofThread_singleton]
      split
      · rename_i ht; subst ht; simp [hnone]
      · simpa using h.one t
    · show ofThread t s.accepted ++ ofThread t (s.inflight ++ [m]) = ofThread t (s.claimed ++ [m])
      rw [ofThread_append, ofThread_append, ← List.append_assoc, h.order t]
    · have := (h.settled hex hg).1; simp [hopen] at this
  | published m hmem =>
    refine { h with fifo := ?_, one := fun t => ?_, order := fun t => ?_, settled := fun hex hg => ?_ }
    · show s.out ++ (s.buf ++ [m]) = s.accepted ++ [m]
      rw [← List.append_assoc, h.fifo]
    · exact Nat.le_trans ((List.filter_sublist).filter _).length_le (h.one t)
    · show ofThread t (s.accepted ++ [m]) ++ ofThread t (s.inflight.filter (fun x => x != m)) = ofThread t s.claimed
      rw [← h.order t, ofThread_append, ofThread_singleton, List.append_assoc, ofThread_filter]
      congr 1
      split
      · rename_i ht
        have : ofThread t s.inflight = [m] :=
          eq_singleton_of_mem (List.mem_filter.2 ⟨hmem, by simp [ht]⟩) (h.one t)
        simp [this]
      · rename_i ht
        refine (List.filter_eq_self.2 fun x hx => ?_).symm ▸ rfl
        have hxt : x.thread = t := by simpa using (List.mem_filter.1 hx).2
        simpa using fun hxm : x = m => ht (hxm ▸ hxt)
    · have := (h.settled hex hg).2.2; simp [this] at hmem
  | consumed m rest hne hbuf => exact { h with fifo := by simp [← h.fifo, hbuf], settled := fun hex => absurd hex hne }
  | sawFlag _ _ hflag => exact { h with phase := fun _ => Or.inl hflag, settled := fun hex => nomatch hex }
  | sawDisconnected _ hd => exact { h with phase := fun _ => Or.inr hd.1, settled := fun _ _ => hd }
  | drained _ _ hd => exact { h with phase := fun _ => Or.inr hd.1, settled := fun _ _ => hd }
  | graceOver _ hdr _ =>
    exact { h with phase := fun _ => h.phase (by simp [hdr]), settled := fun _ hg => show Disconnected s by simpa using (Bool.or_eq_false_iff.1 hg).2 }
  | flagSet => exact { h with phase := fun _ => Or.inl rfl }
  | closed => exact { h with phase := fun _ => Or.inr rfl, settled := fun hex hg => ⟨rfl, (h.settled hex hg).2⟩ }

theorem inv_run {s s' : State} (h : Inv s) {tr : List Step} (hs : run s tr = some s') : Inv s' :=
  run_induction (Q := fun _ => True) (fun _ h hs => inv_step h hs) (fun _ _ => trivial) h hs

theorem step_frame {s s' : State} {st : Step} (hs : step s st = some s') :
    s'.policy = s.policy ∧ (st ≠ .graceExpired → s'.graceEarly = s.graceEarly) := by
  cases steps_of_step hs
  case graceOver => exact ⟨rfl, fun h => absurd rfl h⟩
  all_goals exact ⟨rfl, fun _ => rfl⟩

/-- Quiescent shutdown. Once no new send gets a slot this is kept whether or not the writer's grace deadline expires. -/
structure Quiet (A : List Msg) (s : State) : Prop where
  noInflight : s.inflight = []
  acc : s.accepted = A
  exitedEmpty : s.phase = .exited → s.buf = []

def Step.isSendBegin : Step → Bool
  | .sendBegin _ => true
  | _ => false

theorem quiet_step {A : List Msg} {s s' : State} (h : Quiet A s) {st : Step}
    (hst : st.isSendBegin = false ∨ s.closed = true) (hs : step s st = some s') :
    Quiet A s' ∧ (s.closed = true → s'.closed = true) := by
  cases steps_of_step hs with
  | refused => exact ⟨{ h with }, id⟩
  | dropped _ _ hc | claimed _ _ hc => simp [Step.isSendBegin, hc] at hst
  | published m hmem => simp [h.noInflight] at hmem
  | consumed m rest hne => exact ⟨{ h with exitedEmpty := fun hex => absurd hex hne }, id⟩
  | sawFlag => exact ⟨{ h with exitedEmpty := fun hex => nomatch hex }, id⟩
  | sawDisconnected _ hd | drained _ _ hd => exact ⟨{ h with exitedEmpty := fun _ => hd.2.1 }, id⟩
  | graceOver _ _ hb => exact ⟨{ h with exitedEmpty := fun _ => hb.resolve_right (· h.noInflight) }, id⟩
  | flagSet => exact ⟨{ h with }, id⟩
  | closed => exact ⟨{ h with }, fun _ => rfl⟩

theorem quiet_run {A : List Msg} {s s' : State} (h : Quiet A s) {tr : List Step}
    (htr : ∀ st ∈ tr, st.isSendBegin = false) (hs : run s tr = some s') : Quiet A s' :=
  run_induction (fun hq h hs => (quiet_step h (Or.inl hq) hs).1) htr h hs

theorem quiet_run_closed {A : List Msg} {s s' : State} (h : Quiet A s) (hc : s.closed = true) {tr : List Step}
    (hs : run s tr = some s') : Quiet A s' :=
  (run_induction (P := fun s => Quiet A s ∧ s.closed = true) (Q := fun _ => True)
    (fun _ h hs => (quiet_step h.1 (Or.inr h.2) hs).imp_right (· h.2)) (fun _ _ => trivial) ⟨h, hc⟩ hs).1

end Fv.Log.Pipeline
