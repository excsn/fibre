import Fv.Lemmas.SyncRwWakeL
import Fv.Lemmas.SyncRwFlags
/-!
`WInv` is inductive: the stepping thread by the lemmas of `SyncRwWakeL.lean`, the other threads, nodes and futures by
the effect lemmas of `SyncRwFrame.lean`.  A waker keeps the handles it has collected in `ws` until they are delivered:
`unpark` for a thread handle, a bump of the wake counter for a counting waker.
-/
namespace Fv.Sync.RwLock
open Fv.Sync
variable {cfg : Cfg} {s s' : State} {t : Tid} {l : Lbl}

theorem armed_inLL {pc : Pc} (h : armedPc pc = true) : inLL pc = true := by
  cases pc <;> first | rfl | cases h
theorem armed_own {pc : Pc} (h : armedPc pc = true) : syncOnly pc = true ∨ futPc pc = true := by
  cases pc with
  | llRel a => cases a <;> first | (left; rfl) | (right; rfl) | cases h
  | qFetchOr => right; rfl
  | qLoad => right; rfl
  | qCas => right; rfl
  | _ => cases h

theorem boc_step (hi : Inv s) (hw : WInv s) (h : Step cfg s t l s') : PBoc s' := by
  intro u f hc hp
  by_cases hu : u = t
  · subst hu; exact (fut_trans hi hw h).boc f hc hp
  · rw [step_th_other h u hu] at hc hp ⊢
    rw [(fut_of_other hi h hu hc hp).1]
    exact hw.boc u f hc hp

theorem perthread_step (hi : Inv s) (hw : WInv s) (h : Step cfg s t l s') :
    PBoPark s' ∧ PQw s' ∧ PQz s' ∧ PHl s' := by
  have ho := step_th_other h
  refine ⟨?_, ?_, ?_, ?_⟩
  · intro u hp
    by_cases hu : u = t
    · subst hu
      obtain ⟨k1, k2⟩ := boPark_local hi hw h hp
      exact ⟨k1, fun f hc => (k2 f hc).1⟩
    · rw [ho u hu] at hp ⊢
      refine ⟨(hw.boPark u hp).1, ?_⟩
      intro f hc
      rw [(fut_of_other hi h hu hc (by rw [hp]; rfl)).1]
      exact (hw.boPark u hp).2 f hc
  · intro u hp
    by_cases hu : u = t
    · subst hu; exact qRearm_local hi h hp
    · rw [ho u hu] at hp ⊢
      rw [(frozen hi h hu (by rw [hp]; rfl)).own (Or.inr (by rw [hp]; rfl))]
      exact hw.qw u hp
  · intro u hp
    by_cases hu : u = t
    · subst hu; exact armed_local hi hw h hp
    · rw [ho u hu] at hp ⊢
      rw [(frozen hi h hu (armed_inLL hp)).own (.of_class hi (armed_own hp))]
      exact hw.qz u hp
  · intro u hp
    by_cases hu : u = t
    · subst hu; exact holdUnlink_local hi hw h hp
    · rw [ho u hu] at hp ⊢
      exact (step_tables h).holders u _ hu (hw.hl u hp)

theorem m2_step (hi : Inv s) (hw : WInv s) (h : Step cfg s t l s') : PM2 s' := by
  intro hq'
  have ho := step_th_other h
  have old : s.word.hq = false →
      s'.wl.queue = [] ∨ ∃ u, (s'.th u).pc = .qFetchOr ∧ s'.wl.queue = [me u (s'.th u)] := by
    intro hq
    rcases hw.m2 hq with he | ⟨u, hu, hqu⟩
    · exact ((step_list h).of_empty he).imp id fun ⟨hp2, hme, hq2⟩ => ⟨t, hp2, by rw [hq2, hme]⟩
    · by_cases hut : u = t
      · subst hut
        have := (step_word h).fetchOr hu
        rw [this] at hq'; cases hq'
      · right
        refine ⟨u, by rw [ho u hut]; exact hu, ?_⟩
        rw [ho u hut, (frozen hi h hut (by rw [hu]; rfl)).queue]; exact hqu
  rcases (step_word h).hq with h1 | h1 | ⟨-, hlen, hq2, -⟩
  · exact old (by rw [← h1]; exact hq')
  · rw [h1] at hq'; cases hq'
  · left
    rw [hq2]
    have := hi.wf.len
    rw [hlen] at this
    exact List.length_eq_zero_iff.1 this.symm

theorem live_of_linked (hi : Inv s) {n : Nid} (hl : (s.wl.node n).linked = true) : Live s n := by
  cases n with
  | thr u => trivial
  | fut f => exact hi.futNode f hl

theorem TgtOwn.live {n : Nid} (h : TgtOwn s n) : Live s n := by
  cases n with
  | thr u => trivial
  | fut f => exact h.1

theorem WInv.handle (hw : WInv s) {n : Nid} (hl : (s.wl.node n).linked = true) (hnw : (s.wl.node n).woken = false) :
    ∃ w, (s.wl.node n).waiter = some w ∧ Targets s w n := by
  cases hwt : (s.wl.node n).waiter with
  | none => have := hw.w2 n hl hwt; rw [hnw] at this; cases this
  | some w => exact ⟨w, rfl, hw.w1 n w hl hwt⟩

theorem rdL_notLL {pc : Pc} (h : rdL pc = true) (hn : inLL pc = false) : pc = .wLoad ∨ pc = .wPark := by
  cases pc with
  | llRel a => cases hn
  | qFetchOr => cases hn
  | qLoad => cases hn
  | qCas => cases hn
  | wLoad => exact Or.inl rfl
  | wPark => exact Or.inr rfl
  | _ => cases h

theorem targets_step (hi : Inv s) (hw : WInv s) (h : Step cfg s t l s') {w : Waiter} {n : Nid}
    (ht : Targets s w n) (hl : Live s n) (hl' : Live s' n) : Targets s' w n := by
  cases w with
  | thread u =>
    cases n with
    | thr u' => exact ht
    | fut f =>
      obtain ⟨hb, hc, hp⟩ := ht
      have hph : (s.fut f).phase = .startedNode := hl
      have hph' : (s'.fut f).phase = .startedNode := hl'
      have hbo : (s'.fut f).bo = true := by rw [bo_kept h hph]; exact hb
      by_cases hu : u = t
      · subst hu
        have hblk : (s.th u).blockOn = true := by rw [hw.boc u f hc hp]; exact hb
        rcases (fut_trans hi hw h).blockOn f hc hp hblk with ⟨h1, h2⟩ | h1
        · exact ⟨hbo, h1, h2⟩
        · exact absurd hph' h1
      · refine ⟨hbo, ?_, ?_⟩ <;> rw [step_th_other h u hu] <;> assumption
  | task g =>
    cases n with
    | thr u' => cases ht
    | fut f =>
      obtain ⟨he, hb⟩ := ht
      subst he
      exact ⟨rfl, by rw [bo_kept h hl]; exact hb⟩

theorem own_targets (hb : PBoc s) (hp : futPc (s.th t).pc = true) :
    Targets s (myWaiter t (s.th t)) (me t (s.th t)) := by
  unfold myWaiter me
  cases hc : (s.th t).cur with
  | none => rfl
  | some f =>
    have := hb t f hc hp
    cases hbl : (s.th t).blockOn <;> rw [hbl] at this
    · exact ⟨rfl, this.symm⟩
    · exact ⟨this.symm, hc, hp⟩

/-- A handle is written only by the owner of the node, on entry to the queue block, and is its own;
`take_and_mark_woken` removes it and stores `WOKEN`. -/
theorem handle_step (hi : Inv s) (hw : WInv s) (h : Step cfg s t l s') : PW1 s' ∧ PW2 s' := by
  have hi' := Inv_step hi h
  have hb' := boc_step hi hw h
  suffices key : ∀ n, (s'.wl.node n).linked = true →
      (∀ w, (s'.wl.node n).waiter = some w → Targets s' w n)
      ∧ ((s'.wl.node n).waiter = none → (s'.wl.node n).woken = true) from
    ⟨fun n w hl' hwt' => (key n hl').1 w hwt', fun n hl' => (key n hl').2⟩
  intro n hl'
  rcases node_eff h n with e | ⟨e, -⟩ | ⟨-, e, -⟩ | ⟨-, -, hn, -, hp', e⟩ | ⟨hp, hn, hn', hmw, hp', e⟩
    | ⟨-, -, -, e | ⟨-, e⟩⟩ | ⟨-, e⟩
  · rw [e] at hl' ⊢
    exact ⟨fun w hwt => targets_step hi hw h (hw.w1 n w hl' hwt) (live_of_linked hi hl')
      (live_of_linked hi' (by rw [e]; exact hl')), hw.w2 n hl'⟩
  · rw [e] at hl'; cases hl'
  · rw [e] at hl'; cases hl'
  · rw [e, hn]
    exact ⟨fun w hwt => by cases hwt; exact own_targets hb' (by rw [hp']; rfl), nofun⟩
  · have hwt' : (s'.wl.node n).waiter = some (myWaiter t (s'.th t)) := by
      rcases e with e | ⟨e, -⟩ <;> rw [e, hmw, hn] <;> exact hw.qw t hp
    rw [hwt', ← hn']
    exact ⟨fun w hwt => by cases hwt; exact own_targets hb' (by rw [hp']; rfl), nofun⟩
  · rw [e]; exact ⟨nofun, fun _ => rfl⟩
  · rw [e]; exact ⟨nofun, fun _ => rfl⟩
  · rw [e] at hl'; cases hl'

/-- the node of a waiter that may be blocked is queued, or marked, or about to be marked (`PPk`, `PFl`) -/
def Accounted (s : State) (n : Nid) : Prop :=
  (s.wl.node n).linked = true ∨ (s.wl.node n).woken = true ∨ MarkPending s n

theorem Accounted.kept {n : Nid} (hc : Accounted s n) (h : Step cfg s t l s') (hk : NodeKept s s' t n) :
    Accounted s' n := by
  rcases hc with hl | hw | ⟨v, hv, htg⟩
  · rcases hk.2.1 with k2 | ⟨⟨-, hp', htg', -⟩, -⟩
    · left; rw [k2]; exact hl
    · right; right; exact ⟨t, hp', htg'⟩
  · right; left; exact hk.woken_of hw
  · by_cases hvt : v = t
    · subst hvt
      right; left
      have := ((step_list h).marks (Or.inr hv)).1
      rw [htg] at this; exact this
    · right; right
      exact ⟨v, by rw [step_th_other h v hvt]; exact hv, by rw [step_th_other h v hvt]; exact htg⟩

theorem pk_step (hi : Inv s) (hw : WInv s) (h : Step cfg s t l s') : PPk s' := by
  intro u hp
  by_cases hu : u = t
  · subst hu
    rcases parked_local hi hw h hp with hl | ⟨hp0, hme, hnode⟩
    · exact Or.inl hl
    · rw [hme]; exact Accounted.kept (hw.pk u hp0) h (.of_eq hnode)
  · rw [step_th_other h u hu] at hp ⊢
    have hown : Owner s u := .of_class hi (by rcases hp with hp | hp | hp <;> rw [hp] <;> simp [syncOnly, futPc])
    exact Accounted.kept (hw.pk u hp) h (node_other hi h hu hown)

theorem fl_step (hi : Inv s) (hw : WInv s) (h : Step cfg s t l s') : PFl s' := by
  intro f hph' hb'
  rcases (fut_trans hi hw h).pending f hph' hb' with ⟨hph, hb, hop⟩ | hl
  · exact Accounted.kept (hw.fl f hph hb) h ((fut_other hi h hop).2 (Or.inr hph))
  · exact Or.inl hl

theorem tw_step (hi : Inv s) (hw : WInv s) (h : Step cfg s t l s') : PTw s' := by
  have ho := step_th_other h
  intro v hp'
  by_cases hv : v = t
  · -- the stepping thread has just unlinked the head of the queue
    subst hv
    obtain ⟨hun, hfut, hwr0, hwt, hwk⟩ := tw_local hi h hp'
    obtain ⟨hh, -, -, hpc⟩ := hun
    generalize (s'.th v).tgt = n at hh hwt hwk ⊢
    have hl : (s.wl.node n).linked = true := (hi.wf.linked n).2 (List.mem_of_mem_head? hh)
    have hrd : (s.wl.node n).isWriter = false := hi.wf.head_reader hh hwr0
    have hnw : (s.wl.node n).woken = false := hi.nodeWoken n hl hrd
    have hnf : futPc (s.th v).pc = false ∧ slowL (s.th v).pc = false := by
      rcases hpc with h1 | ⟨h1, -⟩ <;> rw [h1] <;> exact ⟨rfl, rfl⟩
    have hnoLL : ∀ u, u ≠ v → inLL (s.th u).pc = false := fun u hu => Bool.eq_false_iff.2 fun hc => by
      obtain ⟨hlocked, hnv⟩ := not_inLL_of_other hi hu hc
      rcases hpc with h1 | ⟨-, h1, -⟩
      · rw [h1] at hnv; cases hnv
      · rw [hlocked] at h1; cases h1
    have hown' : TgtOwn s' n := by
      cases n with
      | thr u =>
        obtain ⟨hcu, hsl, hrl⟩ := hi.thrNode u hl
        have huv : u ≠ v := by intro he; subst he; rw [hnf.2] at hsl; cases hsl
        have hwr : (s.th u).wr = false := by rw [← hi.thrWr u hcu hsl]; exact hrd
        show (s'.th u).cur = none ∧ _
        rw [ho u huv]
        exact ⟨hcu, rdL_notLL (hrl hwr) (hnoLL u huv)⟩
      | fut f =>
        refine ⟨by rw [hfut]; exact hi.futNode f hl, ?_⟩
        intro d hc hpd
        by_cases hdv : d = v
        · subst hdv; rw [hp'] at hpd; cases hpd
        · rw [ho d hdv] at hc hpd
          have := hi.futUnl d f hc (by rw [hpd]; rfl)
          rw [hl] at this; cases this
    obtain ⟨w, hwt0, htg⟩ := hw.handle hl hnw
    exact ⟨by rw [hwk]; exact hnw, ⟨w, by rw [hwt, hwt0], targets_step hi hw h htg (live_of_linked hi hl) hown'.live⟩,
      hown'⟩
  · -- another waker sits at `wrStore` holding the list lock
    rw [ho v hv] at hp' ⊢
    obtain ⟨hlocked, hnt⟩ := not_inLL_of_other hi hv (by rw [hp']; rfl)
    obtain ⟨hnw, ⟨w, hwt, htg⟩, hown⟩ := hw.tw v hp'
    generalize (s.th v).tgt = n at hnw hwt htg hown ⊢
    have hnode : s'.wl.node n = s.wl.node n := by
      rcases (frozen hi h hv (by rw [hp']; rfl)).node n with h1 | ⟨-, -, ha⟩
      · exact h1
      · cases n with
        | fut f => exact absurd hown.1 ((ha.unlinked hi).2 f rfl)
        | thr u =>
          rcases ha with ⟨h1, h2⟩ | ⟨f, h1, -⟩ <;> cases h1
          rcases hown.2 with h3 | h3 <;> rw [h3] at h2 <;> cases h2
    have hown' : TgtOwn s' n := by
      cases n with
      | thr u =>
        obtain ⟨hcu, hpu⟩ := hown
        by_cases hut : u = t
        · subst hut
          have hme : me u (s.th u) = .thr u := by simp [me, hcu]
          obtain ⟨g1, g2⟩ := waiting_local h hpu (by rw [hme]; exact hnw)
          exact ⟨by rw [g2]; exact hcu, g1⟩
        · show (s'.th u).cur = none ∧ _
          rw [ho u hut]; exact ⟨hcu, hpu⟩
      | fut f =>
        obtain ⟨hph, hnd⟩ := hown
        refine ⟨(fut_trans hi hw h).freed hnt f hph (fun hpd hc => hnd t hc hpd), ?_⟩
        intro d hc hpd
        by_cases hdt : d = t
        · subst hdt
          rw [(hi.entry h).dLoad hpd] at hnt; cases hnt
        · rw [ho d hdt] at hc hpd; exact hnd d hc hpd
    exact ⟨by rw [hnode]; exact hnw, ⟨w, by rw [hnode]; exact hwt, targets_step hi hw h htg hown.live hown'.live⟩,
      hown'⟩

theorem wakeRest_token (s : State) (t : Tid) (ws : List Waiter) : (wakeRest s t ws).token = s.token := by
  unfold wakeRest
  generalize drain s.wakes ws = p
  obtain ⟨wk, rest⟩ := p
  cases rest <;> rfl

theorem wakeRest_cover (s : State) (t : Tid) (ws : List Waiter) (w : Waiter) (hw : w ∈ ws) :
    (((wakeRest s t ws).th t).pc = .wnWake ∧ w ∈ ((wakeRest s t ws).th t).ws)
    ∨ (∃ f, w = .task f ∧ 0 < (wakeRest s t ws).wakes f) := by
  have hc := drain_cover s.wakes ws w hw
  unfold wakeRest
  generalize drain s.wakes ws = p at hc ⊢
  obtain ⟨wk, rest⟩ := p
  simp only at hc ⊢
  rcases hc with hc | ⟨f, hf, hlt⟩
  · left
    cases rest with
    | nil => cases hc
    | cons a r => refine ⟨?_, ?_⟩ <;> simp [setTh, hc]
  · right
    refine ⟨f, hf, ?_⟩
    cases rest <;> (simp only [setTh]; omega)

theorem carried_local (h : Step cfg s t l s') {w : Waiter}
    (hp : postWakePc (s.th t).pc = true) (hw0 : w ∈ (s.th t).ws) :
    (postWakePc (s'.th t).pc = true ∧ w ∈ (s'.th t).ws) ∨ Delivered s' w := by
  cases h
  case ff1Zero a hpc he | ff1Pos a hpc he | ff2Empty a hpc he | ff2Nonempty a hpc he =>
    left; rw [hpc] at hp
    cases a <;> simp_all [withPc, setTh, postWakePc]
  case llRel a hpc =>
    rw [hpc] at hp
    cases a <;> first | cases hp | skip
    simp only [afterRel]
    rcases wakeRest_cover { s with wl := s.wl.setLocked false } t (s.th t).ws w hw0 with ⟨h1, h2⟩ | h1
    · exact Or.inl ⟨by rw [h1]; rfl, h2⟩
    · exact Or.inr (Or.inr h1)
  case wrStore hpc =>
    left
    simp only [wakeAllNext]
    split
    · simp only [withPc, setTh, upd_same]
      exact ⟨rfl, List.mem_append_left _ hw0⟩
    · simp only [setTh, upd_same]
      exact ⟨rfl, List.mem_append_left _ hw0⟩
  case wnWake u rest hpc hws =>
    rw [hws] at hw0
    rcases List.mem_cons.1 hw0 with h1 | h1
    · right; left
      refine ⟨u, h1, ?_⟩
      rw [wakeRest_token]; simp
    · rcases wakeRest_cover { s with token := upd s.token u true } t rest w h1 with ⟨h2, h3⟩ | h2
      · exact Or.inl ⟨by rw [h2]; rfl, h3⟩
      · exact Or.inr (Or.inr h2)
  all_goals (simp_all [postWakePc])

/-- nobody becomes blocked on a node that is `WOKEN` -/
theorem blocked_before (hi : Inv s) (hw : WInv s) (h : Step cfg s t l s') {n : Nid}
    (hwk' : (s'.wl.node n).woken = true) (hlive' : Live s' n) (hb' : OwnerBlocked s' n) :
    Live s n ∧ OwnerBlocked s n := by
  have ho := step_th_other h
  have ft := fut_trans hi hw h
  have tok : ∀ u, u ≠ t → s'.token u = false → s.token u = false := by
    intro u hu htk'
    rcases (step_tables h).token u with h1 | h1 | ⟨h1, _⟩
    · rw [← h1]; exact htk'
    · rw [h1] at htk'; cases htk'
    · exact absurd h1 hu
  have hlive : Live s n := by
    cases n with
    | thr u => trivial
    | fut f => exact (ft.alloc f hlive').resolve_right (by rw [hwk']; simp)
  refine ⟨hlive, ownerBlocked_iff.2 ?_⟩
  cases ownerBlocked_iff.1 hb' with
  | @sync u hp' htk' =>
    by_cases hu : u = t
    · subst hu
      have := wPark_local hi h hp'
      rw [hwk'] at this; cases this
    · rw [ho u hu] at hp'; exact .sync hp' (tok u hu htk')
  | @exec u f hbo' hc' hp' htk' =>
    by_cases hu : u = t
    · subst hu
      have := ((boPark_local hi hw h hp').2 f hc').2
      rw [hwk'] at this; cases this
    · rw [ho u hu] at hc' hp'
      exact .exec (by rw [← bo_kept h hlive]; exact hbo') hc' hp' (tok u hu htk')
  | @manual f hbo' hbz' hwz' =>
    have hbz : (s.fut f).busy = false := by
      cases hbs : (s.fut f).busy with
      | false => rfl
      | true =>
        exfalso
        by_cases hop : opOn s t f
        · rcases ft.idle f hop.1 hop.2 hbz' with h1 | h1
          · exact h1 hlive'
          · rw [hwk'] at h1; cases h1
        · rw [(fut_other hi h hop).1 hbs, hbs] at hbz'; cases hbz'
    refine .manual (by rw [← bo_kept h hlive]; exact hbo') hbz ?_
    rcases (step_tables h).wakes f with h1 | ⟨_, h1⟩
    · rw [hwz'] at h1; exact Nat.le_zero.1 h1
    · rw [hbz'] at h1; cases h1

theorem delivered_not_blocked (hi : Inv s) {w : Waiter} {n : Nid} (htg : Targets s w n) (hd : Delivered s w)
    (hb : OwnerBlocked s n) : False := by
  cases ownerBlocked_iff.1 hb with
  | @sync u hp htk =>
    rcases hd with ⟨v, rfl, htok⟩ | ⟨f, rfl, -⟩
    · rw [show v = u from htg, htk] at htok; cases htok
    · exact htg
  | @exec u f hbo hc hp htk =>
    rcases hd with ⟨v, rfl, htok⟩ | ⟨g, rfl, -⟩
    · obtain ⟨-, hc', hfp'⟩ := htg
      rw [(hi.busy v f hc' hfp').2 u hc (by rw [hp]; rfl), htok] at htk; cases htk
    · obtain ⟨rfl, h2⟩ := htg
      rw [h2] at hbo; cases hbo
  | @manual f hbo hbz hwz =>
    rcases hd with ⟨v, rfl, -⟩ | ⟨g, rfl, hwak⟩
    · rw [htg.1] at hbo; cases hbo
    · rw [show g = f from htg.1, hwz] at hwak; cases hwak

theorem wk_step (hi : Inv s) (hw : WInv s) (h : Step cfg s t l s') : PWk s' := by
  have hi' := Inv_step hi h
  have ho := step_th_other h
  intro n hwk' hlive' hb'
  obtain ⟨hlive, hb⟩ := blocked_before hi hw h hwk' hlive' hb'
  cases hwk : (s.wl.node n).woken with
  | true =>
    obtain ⟨u, hp, w, hw0, htg⟩ := hw.wk n hwk hlive hb
    have htg' := targets_step hi hw h htg hlive hlive'
    by_cases hu : u = t
    · subst hu
      rcases carried_local h hp hw0 with ⟨hp', hw'⟩ | hd
      · exact ⟨u, hp', w, hw', htg'⟩
      · exact (delivered_not_blocked hi' htg' hd hb').elim
    · exact ⟨u, by rw [ho u hu]; exact hp, w, by rw [ho u hu]; exact hw0, htg'⟩
  | false =>
    -- freshly marked by the stepping thread, which now carries the handle
    obtain ⟨⟨hpc, hn⟩, hpp, hws⟩ := (node_trans hi h).marked n hwk' hwk
    have hex : ∃ w, (s.wl.node n).waiter = some w ∧ Targets s w n := by
      rcases hpc with hpc | hpc
      · obtain ⟨hl, -⟩ := hi.wnTgt t hpc
        rw [← hn] at hl
        exact hw.handle hl hwk
      · have := (hw.tw t hpc).2.1
        rw [← hn] at this; exact this
    obtain ⟨w, hwt, htg⟩ := hex
    refine ⟨t, hpp, w, ?_, targets_step hi hw h htg hlive hlive'⟩
    rcases hws with hws | hws <;> rw [hws, hwt] <;> simp

theorem activePc_own {pc : Pc} (h : activePc pc = true) : syncOnly pc = true ∨ futPc pc = true := by
  cases pc with
  | taLoad k => cases k <;> first | (left; rfl) | (right; rfl) | cases h
  | taCas k => cases k <;> first | (left; rfl) | (right; rfl) | cases h
  | llSwap k => cases k <;> first | (left; rfl) | (right; rfl) | cases h
  | llLoad k => cases k <;> first | (left; rfl) | (right; rfl) | cases h
  | llSpin k => cases k <;> first | (left; rfl) | (right; rfl) | cases h
  | spinYield => left; rfl
  | qRearm => right; rfl
  | qFetchOr => right; rfl
  | qLoad => right; rfl
  | qCas => right; rfl
  | _ => cases h

theorem dropPc_futPc {pc : Pc} (h : dropPc pc = true) : futPc pc = true ∧ asyncOnly pc = true := by
  cases pc with
  | llSwap k => cases k <;> first | exact ⟨rfl, rfl⟩ | cases h
  | llLoad k => cases k <;> first | exact ⟨rfl, rfl⟩ | cases h
  | llSpin k => cases k <;> first | exact ⟨rfl, rfl⟩ | cases h
  | ff1 a => cases a <;> first | exact ⟨rfl, rfl⟩ | cases h
  | ff2 a => cases a <;> first | exact ⟨rfl, rfl⟩ | cases h
  | llRel a => cases a <;> first | exact ⟨rfl, rfl⟩ | cases h
  | dLoad => exact ⟨rfl, rfl⟩
  | _ => cases h

theorem prewake_other (hi : Inv s) (h : Step cfg s t l s') {u : Tid} (hu : u ≠ t) (hp : PreWake s u) :
    PreWake s' u := by
  unfold PreWake at hp ⊢
  rw [step_th_other h u hu]
  rcases hp with hp | ⟨hd, hwk⟩
  · exact Or.inl hp
  · right
    exact ⟨hd, (node_other hi h hu (Or.inr (dropPc_futPc hd).1)).woken_of hwk⟩

theorem own_isWriter (hi : Inv s) (hp : (s.th t).pc = .qLoad) :
    (s.wl.node (me t (s.th t))).isWriter = (s.th t).wr := by
  cases hc : (s.th t).cur with
  | none => simp only [me, hc]; exact hi.thrWr t hc (by rw [hp]; rfl)
  | some f =>
    simp only [me, hc]
    rw [hi.futNodeWr f (hi.phNode t f hc (by rw [hp]; rfl)), hi.futWr t f hc (by rw [hp]; rfl)]

theorem not_free_of_holds (hi : Inv s) {u : Tid} {b : Bool} (hm : (u, b) ∈ s.holders) (hf : LockFree s) : False := by
  have := holders_nil hi.free hf.1 hf.2
  rw [this] at hm; cases hm

theorem single_cov (hwf : s.wl.WF) {n : Nid} (hq : s.wl.queue = [n]) :
    (s.wl.node n).isWriter = true ∨ s.wl.writers = 0 := by
  have := hwf.writers
  rw [hq] at this
  cases hiw : (s.wl.node n).isWriter with
  | true => exact Or.inl rfl
  | false => right; rw [this]; simp [hiw]

theorem pre_step (hi : Inv s) (h : Step cfg s t l s') {u : Tid} (hp : PreWake s u)
    (hq' : s'.wl.queue ≠ []) : (∃ u, PreWake s' u) ∨ ∃ n, Cov s' n := by
  by_cases hut : u = t
  · subst hut
    rcases prewake_local hi h hp with h1 | h1 | ⟨hpc, hq, hiw, hwk⟩
    · exact Or.inl ⟨u, h1⟩
    · exact absurd h1 hq'
    · obtain ⟨hl, hwr⟩ := hi.wnTgt u hpc
      right
      exact ⟨(s.th u).tgt, by rw [hq]; exact (hi.wf.linked _).1 hl, Or.inl (by rw [hiw]; exact hwr), Or.inl hwk⟩
  · exact Or.inl ⟨u, prewake_other hi h hut hp⟩

theorem cov_step (hi : Inv s) (h2 : Inv2 s) (hw : WInv s) (hi' : Inv s') (h : Step cfg s t l s') {n : Nid}
    (hc : Cov s n) (hf' : LockFree s') (hq' : s'.wl.queue ≠ []) : (∃ u, PreWake s' u) ∨ ∃ n, Cov s' n := by
  obtain ⟨hmem, hwz, hcov⟩ := hc
  have hl : (s.wl.node n).linked = true := (hi.wf.linked n).2 hmem
  have ho := step_th_other h
  have hmem' : n ∈ s'.wl.queue ∨ (∃ u, PreWake s' u) := by
    rcases (step_list h).queue with hq | ⟨-, -, -, hq⟩ | ⟨hq, hlk, hpc⟩ | ⟨m, hun, -, -⟩
    · left; rw [hq]; exact hmem
    · left; rw [hq]; exact List.mem_append_left _ hmem
    · by_cases hne : n = me t (s.th t)
      · -- the stepping thread unlinks `n`, its own node
        have hqne : s'.wl.queue ≠ s.wl.queue := by
          intro he
          have : n ∈ s'.wl.queue := by rw [he]; exact hmem
          rw [hq, hne] at this
          exact ((List.Nodup.mem_erase_iff hi.wf.nodup).1 this).1 rfl
        have hdrop : (s.th t).pc = .llSwap .drop := by
          rcases hpc with hp | ⟨_, k, hp, hk | hk | hk⟩
          · exact (not_free_of_holds hi' (unlink_holds hw h (Or.inl hp) hqne) hf').elim
          · subst hk
            exact (not_free_of_holds hi' (unlink_holds hw h (Or.inr (Or.inl hp)) hqne) hf').elim
          · subst hk
            exact (not_free_of_holds hi' (unlink_holds hw h (Or.inr (Or.inr hp)) hqne) hf').elim
          · rw [hk] at hp; exact hp
        right
        rcases hcov with hwk | ⟨u, hme, hact⟩
        · have hpt : PreWake s t := Or.inr ⟨by rw [hdrop]; rfl, by rw [← hne]; exact hwk⟩
          rcases prewake_local hi h hpt with h1 | h1 | ⟨hp1, -⟩
          · exact ⟨t, h1⟩
          · exact absurd h1 hq'
          · rw [hdrop] at hp1; cases hp1
        · exfalso
          have := Owner.unique hi (.of_class hi (activePc_own hact)) (Or.inr (by rw [hdrop]; rfl)) (hme.trans hne)
          subst this
          rw [hdrop] at hact; cases hact
      · left; rw [hq]; exact (List.mem_erase_of_ne hne).2 hmem
    · right; exact ⟨t, Or.inl (by rw [hun.2.1]; rfl)⟩
  by_cases hpre : ∃ u, PreWake s' u
  · exact Or.inl hpre
  replace hmem' : n ∈ s'.wl.queue := hmem'.resolve_right hpre
  have hl' : (s'.wl.node n).linked = true := (hi'.wf.linked n).2 hmem'
  have hiw : (s'.wl.node n).isWriter = (s.wl.node n).isWriter := (node_trans hi h).kind n hl
  have hthird : ((s'.wl.node n).woken = true ∨ OwnerActive s' n)
      ∨ ((s.wl.node n).isWriter = false ∧ 0 < s.wl.writers) := by
    rcases hcov with hwk | ⟨u, hme, hact⟩
    · left
      cases hwk' : (s'.wl.node n).woken with
      | true => exact Or.inl rfl
      | false =>
        obtain ⟨hme, hact⟩ := (node_trans hi h).rearmed n hwk hwk' hl'
        exact Or.inr ⟨t, hme, hact⟩
    · by_cases hut : u = t
      · subst hut
        rcases active_local h hact with ⟨hme', hact'⟩ | hnf | ⟨hpq, hwr, hwp⟩
        · exact Or.inl (Or.inr ⟨u, by rw [hme', hme], hact'⟩)
        · exfalso
          rcases hnf with h1 | h1
          · rw [hf'.1] at h1; cases h1
          · exact h1 hf'.2
        · right
          refine ⟨by rw [← hme, own_isWriter hi hpq]; exact hwr, ?_⟩
          exact (h2.wpIn u (by rw [hpq]; rfl) (by rw [hpq]; rfl)).1 hwp
      · exact Or.inl (Or.inr ⟨u, by rw [ho u hut]; exact hme, by rw [ho u hut]; exact hact⟩)
  replace hthird : (s'.wl.node n).woken = true ∨ OwnerActive s' n := by
    refine hthird.resolve_right ?_
    rintro ⟨hr, hpos⟩
    rcases hwz with h1 | h1
    · rw [hr] at h1; cases h1
    · omega
  by_cases hsec : (s'.wl.node n).isWriter = true ∨ s'.wl.writers = 0
  · exact Or.inr ⟨n, hmem', hsec, hthird⟩
  · -- a writer has been linked behind the reader node `n`: it covers
    have hnw := not_or.1 hsec
    have hw0 : s.wl.writers = 0 := by
      rcases hwz with h1 | h1
      · rw [← hiw] at h1; exact absurd h1 hnw.1
      · exact h1
    have hpos' : 0 < s'.wl.writers := Nat.pos_of_ne_zero hnw.2
    rw [hi'.wf.writers] at hpos'
    obtain ⟨m, hm', hmw'⟩ := List.countP_pos_iff.1 hpos'
    have hold : m ∈ s.wl.queue → False := by
      intro hm
      have hlm := (hi.wf.linked m).2 hm
      have := hi.wf.writers_pos hlm (by rw [← (node_trans hi h).kind m hlm]; exact hmw')
      omega
    rcases (step_list h).queue with hq | ⟨-, hp', hme, hq⟩ | ⟨hq, -, -⟩ | ⟨k, -, -, hq⟩
    · exact (hold (by rw [← hq]; exact hm')).elim
    · have hm'' := hm'
      rw [hq] at hm''
      rcases List.mem_append.1 hm'' with h1 | h1
      · exact (hold h1).elim
      · have hmm : m = me t (s.th t) := by simpa using h1
        right
        exact ⟨m, hm', Or.inl hmw', Or.inr ⟨t, by rw [hme, hmm], by rw [hp']; rfl⟩⟩
    · exact (hold (List.mem_of_mem_erase (by rw [← hq]; exact hm'))).elim
    · exact (hold (List.mem_of_mem_erase (by rw [← hq]; exact hm'))).elim

/-- the releaser read `HAS_QUEUED` and is on its way into `wake_waiters`, or the only queued node is still in its
re-check -/
theorem release_cover (hi : Inv s) (hw : WInv s) (h : Step cfg s t l s') (hwl : s'.wl = s.wl)
    (hq' : s'.wl.queue ≠ []) (hnext : s.word.hq = true → (s'.th t).pc = .llSwap .wake)
    (hpr : (s.th t).pc = .relAnd ∨ (s.th t).pc = .relSub) : (∃ u, PreWake s' u) ∨ ∃ n, Cov s' n := by
  have ho := step_th_other h
  cases hq0 : s.word.hq with
  | true => exact Or.inl ⟨t, Or.inl (by rw [hnext hq0]; rfl)⟩
  | false =>
    rcases hw.m2 hq0 with he | ⟨u, hu, hqu⟩
    · rw [hwl] at hq'; exact absurd he hq'
    · have hut : u ≠ t := by
        intro he; subst he; rw [hu] at hpr
        rcases hpr with h0 | h0 <;> cases h0
      right
      refine ⟨me u (s.th u), by rw [hwl, hqu]; exact List.mem_singleton.2 rfl, ?_,
        Or.inr ⟨u, by rw [ho u hut], by rw [ho u hut, hu]; rfl⟩⟩
      rw [hwl]
      exact single_cov hi.wf hqu

theorem nlw_step (hi : Inv s) (h2 : Inv2 s) (hw : WInv s) (h : Step cfg s t l s') : PNlw s' := by
  have hi' := Inv_step hi h
  intro hf' hq'
  by_cases hf : LockFree s
  · by_cases hqe : s.wl.queue = []
    · -- the queue was empty: the stepping thread has just linked its node
      rcases (step_list h).of_empty hqe with hq | ⟨hp', hme, hq1⟩
      · exact absurd hq hq'
      · right
        exact ⟨me t (s.th t), by rw [hq1]; exact List.mem_singleton.2 rfl, single_cov hi'.wf hq1,
          Or.inr ⟨t, hme, by rw [hp']; rfl⟩⟩
    · rcases hw.nlw hf hqe with ⟨u, hu⟩ | ⟨n, hn⟩
      · exact pre_step hi h hu hq'
      · exact cov_step hi h2 hw hi' h hn hf' hq'
  · -- the lock has just been released
    rcases (step_word h).guard with ⟨e1, e2⟩ | ⟨-, e1, -⟩ | ⟨-, e1, -⟩ | ⟨-, -, -, hpr, hwl, -, -, hnext⟩
      | ⟨e1, e2, hpr, hwl, -, -, hnext⟩
    · exact absurd ⟨by rw [← e1]; exact hf'.1, by rw [← e2]; exact hf'.2⟩ hf
    · rw [hf'.1] at e1; cases e1
    · have := hf'.2; rw [e1] at this; omega
    · exact release_cover hi hw h hwl hq' hnext (Or.inl hpr)
    · have hr1 : s.word.readers = 1 := by
        have h0 := hf'.2
        rw [e2] at h0
        have hwl0 : s.word.wl = false := by rw [← e1]; exact hf'.1
        have : s.word.readers ≠ 0 := fun hz => hf ⟨hwl0, hz⟩
        omega
      exact release_cover hi hw h hwl hq' (hnext hr1) (Or.inr hpr)

theorem WInv_step (hi : Inv s) (h2 : Inv2 s) (hw : WInv s) (h : Step cfg s t l s') : WInv s' := by
  obtain ⟨p1, p2, p3, p6⟩ := perthread_step hi hw h
  obtain ⟨g2, g3⟩ := handle_step hi hw h
  exact { boc := boc_step hi hw h, boPark := p1, bb := bb_step hi hw h, w1 := g2, w2 := g3,
          qw := p2, qz := p3, pk := pk_step hi hw h, fl := fl_step hi hw h, tw := tw_step hi hw h,
          m2 := m2_step hi hw h, hl := p6, wk := wk_step hi hw h, nlw := nlw_step hi h2 hw h }

theorem WInv_init (prog : Tid → List ROp) : WInv (init prog) := by
  constructor
  all_goals
    simp [init, PBoc, PBoPark, PBb, PW1, PW2, PQw, PQz, PPk, PFl, PTw, PM2, PHl, PWk, PNlw, futPc, armedPc,
      holdUnlinkPc]

theorem WInv_reach {s : State} (h : Reach cfg s) : Inv s ∧ Inv2 s ∧ WInv s := by
  refine ReachOf.inv (fun s => Inv s ∧ Inv2 s ∧ WInv s) ?_ ?_ s h
  · rintro s ⟨prog, rfl⟩; exact ⟨Inv_init prog, Inv2_init prog, WInv_init prog⟩
  · intro s t l s' ⟨hi, h2, hw⟩ hm
    have hs := step_of_mem hm
    exact ⟨Inv_step hi hs, Inv2_step hi h2 hs, WInv_step hi h2 hw hs⟩

end Fv.Sync.RwLock
