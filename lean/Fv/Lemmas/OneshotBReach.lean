import Fv.Lemmas.OneshotBJ
import Fv.Lemmas.OneshotBI
import Fv.Lemmas.OneshotBT
import Fv.Lemmas.OneshotBC
import Fv.Lemmas.OneshotBW
/-! Every invariant of the step-level oneshot model holds in every reachable state. -/
namespace Fv.Chan.OneshotB

theorem AInv.tr {s s' : State} {a : Ag} (A : AInv s) (t : Tr s a (s.loc a) s') : AInv s' :=
  ⟨J1.step A t, J2.step A t, J2b.step A t, J3.step A t, I2.step A t, I3.step A t, I3b.step A t, I4.step A t,
   I4b.step A t, C5.step A t, Cnt.step A t, D6.step A t, W8.step A t, E7.step A t⟩

theorem reach_ainv {progS : Nat → List Op} {progR : List Op} {s : State} (h : Reach progS progR s) : AInv s := by
  induction h with
  | init => exact ainv_init _ _
  | step _ hs ih => exact ih.tr (step_tr hs)

end Fv.Chan.OneshotB
