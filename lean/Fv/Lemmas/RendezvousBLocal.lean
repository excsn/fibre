import Fv.Lemmas.RendezvousB
import Fv.Lemmas.Common
/-! What a step of the rendezvous B-model establishes about the acting agent itself (`Local`), case by case. -/
namespace Fv.Chan.RendezvousB

attribute [local grind] recOf sendReg recvIn okRes
attribute [local grind =] upd_apply Fv.nodup_snoc List.Nodup.mem_erase_iff
attribute [local grind →] List.mem_of_mem_erase
attribute [local grind ←] List.Nodup.erase

theorem InvR.start {s : State} (hi : InvR s) (t : Nat) :
    Thr s t (s.pc t) ∧ (∀ r, recOf (s.pc t) = some r → r ∈ s.sq → LinkS s r (s.pc t)) ∧
      (∀ r, recOf (s.pc t) = some r → r ∈ s.rq → LinkR s r (s.pc t)) ∧
      (∀ r, HitS s t r → LinkS s r (s.pc (s.owner r))) ∧ (∀ r, HitR s t r → LinkR s r (s.pc (s.owner r))) ∧ Glob s :=
  ⟨hi.thr t, fun r hr h => ((hi.thr t).own hr).1 ▸ hi.sq r h, fun r hr h => ((hi.thr t).own hr).1 ▸ hi.rq r h,
    fun r h => hi.sq r h.mem, fun r h => hi.rq r h.mem, hi.glob⟩

theorem local_call {s s' : State} {t : Nat} {op : Op} (hi : InvR s) (h : stepCall s t op = some s') : Local s t s' := by
  have lt_sq : ∀ r, r ∈ s.sq → r < s.nextRec := fun r hr => ((hi.thr _).own (sendReg_recOf (hi.sq r hr).2.2)).2
  have lt_rq : ∀ r, r ∈ s.rq → r < s.nextRec := fun r hr => ((hi.thr _).own (recvIn_recOf (hi.rq r hr).2)).2
  have hg := hi.glob; simp only [Glob] at hg
  cases hp : s.pc t <;> step_cases h hp <;>
    (simp only [Local, Glob, LinkS, LinkR, Thr.eq_def, Own, hp, upd_same]; refine ⟨?_, ?_, ?_, ?_⟩ <;> grind)

/- The facts about `t` and the goal are unfolded once per control state of `t` (33 times), before the step function is
split into its ~90 branches; `Thr.eq_def` etc. rather than the equation lemmas, since a `simp only` with the 33
equations of a role function costs more to set up than to run. -/
theorem invR_local {s s' : State} {t : Nat} {l : Label} (hi : InvR s) (h : step s t l = some s') : Local s t s' := by
  cases l with
  | call op => exact local_call hi h
  | _ =>
    obtain ⟨ht, hsq, hrq, hhs, hhr, hg⟩ := hi.start t
    simp only [Glob] at hg
    cases hp : s.pc t <;>
      simp only [hp, Thr.eq_def, SReg, RReg, Own, Woken, LinkS, LinkR, recOf.eq_def, sendReg.eq_def, recvIn.eq_def,
        reduceCtorEq, Option.some.injEq, forall_eq', false_imp_iff, implies_true, and_false, and_true, imp_false]
        at ht hsq hrq <;>
      simp only [hp, HitS, HitR, LinkS, LinkR, false_imp_iff, implies_true] at hhs hhr <;>
      simp only [Local, hp, recOf.eq_def, reduceCtorEq, Option.some.injEq, forall_eq', false_imp_iff, implies_true] <;>
      step_cases h hp <;>
      (simp only [Glob, LinkS, LinkR, Thr.eq_def, SReg, RReg, Own, Woken, upd_same]; refine ⟨?_, ?_, ?_, ?_⟩ <;> grind)

end Fv.Chan.RendezvousB
