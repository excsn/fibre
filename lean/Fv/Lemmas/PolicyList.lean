import Fv.Cache.Policy.LruList
/-!
Association lists `List (key × cost)`; `LruList.WF` and list equations for the `LruList` operations; the
contract predicates (`EvictSound`, `AccessOk`, `AdmitOk`, `RemoveOk`) in which the C14 theorems are stated;
and `Drained`, the form in which every eviction loop establishes `EvictSound`: the old tracked list is, up to
order, the new one plus the entries it popped (`Drained.Loop`: the same about a loop entered in the middle).
-/
namespace Fv.Cache.Policy

def keys (l : List (Nat × Nat)) : List Nat := l.map (·.1)
def costSum (l : List (Nat × Nat)) : Nat := (l.map (·.2)).sum
def costOf (l : List (Nat × Nat)) (k : Nat) : Option Nat :=
  (l.find? (fun p => p.1 == k)).map (·.2)

@[simp] theorem keys_nil : keys [] = [] := rfl
@[simp] theorem keys_cons (p : Nat × Nat) (l) : keys (p :: l) = p.1 :: keys l := rfl
@[simp] theorem keys_append (a b) : keys (a ++ b) = keys a ++ keys b := by simp [keys]
theorem keys_reverse (l : List (Nat × Nat)) : keys l.reverse = (keys l).reverse := by
  simp [keys]
@[simp] theorem costSum_nil : costSum [] = 0 := rfl
@[simp] theorem costSum_cons (p : Nat × Nat) (l) : costSum (p :: l) = p.2 + costSum l := by
  simp [costSum]
@[simp] theorem costSum_append (a b) : costSum (a ++ b) = costSum a + costSum b := by
  simp [costSum]
@[simp] theorem costOf_nil (k) : costOf [] k = none := rfl
theorem costOf_cons (p : Nat × Nat) (l k) :
    costOf (p :: l) k = if p.1 = k then some p.2 else costOf l k := by
  by_cases h : p.1 = k <;> simp [costOf, h]

theorem mem_keys {l : List (Nat × Nat)} {k : Nat} : k ∈ keys l ↔ ∃ c, (k, c) ∈ l := by
  simp [keys]

theorem mem_keys_of_mem {l : List (Nat × Nat)} {p : Nat × Nat} (h : p ∈ l) : p.1 ∈ keys l :=
  List.mem_map_of_mem h

theorem keys_perm {a b : List (Nat × Nat)} (h : a.Perm b) : (keys a).Perm (keys b) := h.map _
theorem costSum_perm {a b : List (Nat × Nat)} (h : a.Perm b) : costSum a = costSum b :=
  (h.map _).sum_nat

@[simp] theorem costSum_reverse (l : List (Nat × Nat)) : costSum l.reverse = costSum l :=
  costSum_perm (List.reverse_perm l)

theorem costOf_eq_none_iff {l : List (Nat × Nat)} {k : Nat} : costOf l k = none ↔ k ∉ keys l := by
  induction l with
  | nil => simp
  | cons p l ih =>
    rw [costOf_cons]
    by_cases h : p.1 = k
    · simp [h]
    · have h' : ¬ k = p.1 := fun e => h e.symm
      simp [h, h', ih]

theorem costOf_isSome_iff {l : List (Nat × Nat)} {k : Nat} : (costOf l k).isSome ↔ k ∈ keys l := by
  have := @costOf_eq_none_iff l k
  cases hc : costOf l k <;> simp_all

theorem mem_of_costOf {l : List (Nat × Nat)} {k c : Nat} (h : costOf l k = some c) : (k, c) ∈ l := by
  induction l with
  | nil => simp at h
  | cons p l ih =>
    rw [costOf_cons] at h
    by_cases hp : p.1 = k
    · simp [hp] at h; subst hp; subst h; simp
    · simp [hp] at h; exact List.mem_cons_of_mem _ (ih h)

theorem costOf_eq_some_iff {l : List (Nat × Nat)} (hnd : (keys l).Nodup) {k c : Nat} :
    costOf l k = some c ↔ (k, c) ∈ l := by
  refine ⟨mem_of_costOf, ?_⟩
  induction l with
  | nil => simp
  | cons p l ih =>
    intro hm
    rw [costOf_cons]
    simp only [keys_cons, List.nodup_cons] at hnd
    rcases List.mem_cons.1 hm with rfl | hm
    · simp
    · have : p.1 ≠ k := fun e => hnd.1 (e ▸ mem_keys_of_mem hm)
      simp [this, ih hnd.2 hm]

theorem costOf_push (t : List (Nat × Nat)) (k c) : costOf ((k, c) :: t) k = some c := by
  simp [costOf_cons]

theorem costOf_append (a b : List (Nat × Nat)) (k) :
    costOf (a ++ b) k = (costOf a k).or (costOf b k) := by
  induction a with
  | nil => simp
  | cons p a ih => simp only [List.cons_append, costOf_cons]; split <;> simp [ih]

theorem nodup_keys_append {a b : List (Nat × Nat)} (ha : (keys a).Nodup) (hb : (keys b).Nodup)
    (hd : ∀ x, x ∈ keys a → x ∉ keys b) : (keys (a ++ b)).Nodup := by
  rw [keys_append, List.nodup_append]
  exact ⟨ha, hb, fun x hx y hy e => hd x hx (e ▸ hy)⟩

theorem disjoint_of_nodup_keys_append {a b : List (Nat × Nat)} (h : (keys (a ++ b)).Nodup) :
    ∀ x, x ∈ keys a → x ∉ keys b := by
  rw [keys_append, List.nodup_append] at h
  exact fun x hx hx' => h.2.2 x hx x hx' rfl

theorem costSum_eq_lookup_sum {t q : List (Nat × Nat)} (hnd : (keys t).Nodup)
    (hsub : ∀ p ∈ q, p ∈ t) :
    costSum q = ((keys q).map (fun k => (costOf t k).getD 0)).sum := by
  simp only [costSum, keys, List.map_map]
  congr 1
  apply List.map_congr_left
  intro p hp
  simp [(costOf_eq_some_iff hnd).2 (hsub p hp)]

@[simp] theorem mem_without {l : List (Nat × Nat)} {k : Nat} {p : Nat × Nat} :
    p ∈ LruList.without l k ↔ p ∈ l ∧ p.1 ≠ k := by simp [LruList.without]

theorem without_sublist (l : List (Nat × Nat)) (k) : (LruList.without l k).Sublist l :=
  List.filter_sublist

theorem nodup_without {l : List (Nat × Nat)} (k) (h : (keys l).Nodup) :
    (keys (LruList.without l k)).Nodup := ((without_sublist l k).map _).nodup h

theorem mem_keys_without {l : List (Nat × Nat)} {k x : Nat} :
    x ∈ keys (LruList.without l k) ↔ x ∈ keys l ∧ x ≠ k := by
  simp only [mem_keys, mem_without]
  constructor
  · rintro ⟨c, h1, h2⟩; exact ⟨⟨c, h1⟩, h2⟩
  · rintro ⟨⟨c, h1⟩, h2⟩; exact ⟨c, h1, h2⟩

theorem not_mem_keys_without (l : List (Nat × Nat)) (k) : k ∉ keys (LruList.without l k) :=
  fun h => (mem_keys_without.1 h).2 rfl

theorem nodup_push {l : List (Nat × Nat)} (k c : Nat) (h : (keys l).Nodup) :
    (keys ((k, c) :: LruList.without l k)).Nodup :=
  List.nodup_cons.2 ⟨not_mem_keys_without _ _, nodup_without k h⟩

theorem without_eq_self {l : List (Nat × Nat)} {k : Nat} (h : k ∉ keys l) : LruList.without l k = l := by
  simp only [LruList.without, List.filter_eq_self]
  intro p hp
  have : p.1 ≠ k := fun e => h (e ▸ mem_keys_of_mem hp)
  simpa using this

theorem without_append (a b : List (Nat × Nat)) (k) :
    LruList.without (a ++ b) k = LruList.without a k ++ LruList.without b k := by
  simp [LruList.without]

theorem without_cons_self (l : List (Nat × Nat)) (k c) :
    LruList.without ((k, c) :: l) k = LruList.without l k := by simp [LruList.without]

theorem without_cons_ne (l : List (Nat × Nat)) {p : Nat × Nat} {k} (h : p.1 ≠ k) :
    LruList.without (p :: l) k = p :: LruList.without l k := by simp [LruList.without, h]

theorem perm_without {l : List (Nat × Nat)} (hnd : (keys l).Nodup) {k c : Nat} (hm : (k, c) ∈ l) :
    l.Perm ((k, c) :: LruList.without l k) := by
  induction l with
  | nil => simp at hm
  | cons p l ih =>
    simp only [keys_cons, List.nodup_cons] at hnd
    rcases List.mem_cons.1 hm with rfl | hm
    · rw [without_cons_self, without_eq_self hnd.1]
    · have hne : p.1 ≠ k := fun e => hnd.1 (e ▸ mem_keys_of_mem hm)
      rw [without_cons_ne _ hne]
      exact ((ih hnd.2 hm).cons p).trans (List.Perm.swap _ _ _)

theorem costSum_without {l : List (Nat × Nat)} (hnd : (keys l).Nodup) {k c : Nat}
    (h : costOf l k = some c) : costSum (LruList.without l k) + c = costSum l := by
  have := costSum_perm (perm_without hnd (mem_of_costOf h))
  simp at this; omega

theorem without_concat_self {init : List (Nat × Nat)} {k c : Nat}
    (hnd : (keys (init ++ [(k, c)])).Nodup) : LruList.without (init ++ [(k, c)]) k = init := by
  have hk : k ∉ keys init := fun hm => disjoint_of_nodup_keys_append hnd k hm (by simp)
  rw [without_append, without_eq_self hk]; simp [LruList.without]

theorem without_map {α} (f : α → Nat × Nat) (l : List α) (k : Nat) :
    LruList.without (l.map f) k = (l.filter (fun e => (f e).1 != k)).map f := by
  simp only [LruList.without, List.filter_map]; rfl

namespace LruList

def WF (l : LruList) : Prop := (keys l.items).Nodup ∧ l.cost = costSum l.items

theorem lookup_eq (l : LruList) (k) : l.lookup k = costOf l.items k := rfl

theorem contains_iff (l : LruList) (k) : l.contains k = true ↔ k ∈ keys l.items := by
  simp [contains, lookup_eq, costOf_isSome_iff]

theorem WF_empty : WF {} := by simp [WF]

theorem pushFront_items (l : LruList) (k c) : (l.pushFront k c).items = (k, c) :: without l.items k := by
  unfold pushFront
  split
  · rfl
  · next h => rw [lookup_eq, costOf_eq_none_iff] at h; simp [without_eq_self h]

theorem pushFront_WF {l : LruList} (h : l.WF) (k c) : (l.pushFront k c).WF := by
  refine ⟨?_, ?_⟩
  · rw [pushFront_items]; exact nodup_push k c h.1
  · unfold pushFront
    split
    · next old ho =>
      have := costSum_without h.1 ho
      simp [h.2]; omega
    · simp [h.2]; omega

theorem moveToFront_items (l : LruList) (k) :
    (l.moveToFront k).items = match costOf l.items k with
      | some c => (k, c) :: without l.items k
      | none => l.items := by
  unfold moveToFront; rw [lookup_eq]; split <;> simp_all

theorem moveToFront_perm {l : LruList} (h : l.WF) (k) : (l.moveToFront k).items.Perm l.items := by
  rw [moveToFront_items]; split
  · next c hc => exact (perm_without h.1 (mem_of_costOf hc)).symm
  · exact .refl _

theorem moveToFront_WF {l : LruList} (h : l.WF) (k) : (l.moveToFront k).WF := by
  have hp := moveToFront_perm h k
  have hc : (l.moveToFront k).cost = l.cost := by unfold moveToFront; split <;> rfl
  exact ⟨(keys_perm hp).nodup_iff.2 h.1, by rw [hc, costSum_perm hp, h.2]⟩

theorem remove_items (l : LruList) (k) : (l.remove k).1.items = without l.items k := by
  unfold remove; split
  · rfl
  · next h => rw [lookup_eq, costOf_eq_none_iff] at h; simp [without_eq_self h]

theorem remove_snd (l : LruList) (k) : (l.remove k).2 = costOf l.items k := by
  unfold remove; rw [lookup_eq]; split <;> simp_all

theorem remove_snd_isSome {l : LruList} {k : Nat} : (l.remove k).2.isSome ↔ k ∈ keys l.items := by
  rw [remove_snd, costOf_isSome_iff]

theorem remove_WF {l : LruList} (h : l.WF) (k) : (l.remove k).1.WF := by
  refine ⟨by rw [remove_items]; exact nodup_without k h.1, ?_⟩
  unfold remove; split
  · next c hc => have := costSum_without h.1 hc; simp [h.2]; omega
  · exact h.2

theorem remove_eq_none {l : LruList} {k} (h : k ∉ keys l.items) : l.remove k = (l, none) := by
  unfold remove; rw [lookup_eq, costOf_eq_none_iff.2 h]

theorem remove_eq_some {l : LruList} {k c} (h : costOf l.items k = some c) :
    l.remove k = ({ items := without l.items k, cost := l.cost - c }, some c) := by
  unfold remove; rw [lookup_eq, h]

/-- for reading a `match l.remove k with | (l', some _)` branch -/
theorem remove_some {l l' : LruList} {k c} (h : l.remove k = (l', some c)) :
    l' = (l.remove k).1 ∧ k ∈ keys l.items :=
  ⟨by rw [h], remove_snd_isSome.1 (by rw [h]; rfl)⟩

theorem remove_none {l l' : LruList} {k} (h : l.remove k = (l', none)) :
    l' = l ∧ k ∉ keys l.items := by
  have hk : k ∉ keys l.items := by rw [← costOf_eq_none_iff, ← remove_snd, h]
  rw [remove_eq_none hk] at h
  exact ⟨(Prod.mk.inj h).1.symm, hk⟩

theorem popBack_cases {l : LruList} (hw : l.WF) :
    (l.items = [] ∧ l.popBack = (l, none)) ∨
    ∃ init k c, l.items = init ++ [(k, c)]
      ∧ l.popBack = ({ items := init, cost := l.cost - c }, some (k, c))
      ∧ WF { items := init, cost := l.cost - c } := by
  rcases List.eq_nil_or_concat l.items with hnil | ⟨init, ⟨k, c⟩, h⟩
  · exact .inl ⟨hnil, by simp [popBack, hnil]⟩
  · rw [List.concat_eq_append] at h
    have hnd := hw.1; rw [h] at hnd
    have hr : l.remove k = ({ items := init, cost := l.cost - c }, some c) := by
      have hc : costOf l.items k = some c := (costOf_eq_some_iff hw.1).2 (by simp [h])
      rw [remove_eq_some hc, h, without_concat_self hnd]
    refine .inr ⟨init, k, c, h, by simp [popBack, h, hr], ?_⟩
    have := remove_WF hw k
    rwa [hr] at this

theorem tailKey_concat {l : LruList} {init k c} (h : l.items = init ++ [(k, c)]) : l.tailKey = some k := by
  simp [tailKey, h]

theorem tailKey_nil {l : LruList} (h : l.items = []) : l.tailKey = none := by simp [tailKey, h]

end LruList

/-- contract of one `evict` call; `t`, `t'`: the tracked list before and after -/
structure EvictSound (t t' : List (Nat × Nat)) (vs : List Nat) (freed : Nat) : Prop where
  nodup : vs.Nodup
  tracked : ∀ k ∈ vs, k ∈ keys t
  freed_eq : freed = (vs.map (fun k => (costOf t k).getD 0)).sum
  gone : ∀ k ∈ vs, k ∉ keys t'
  kept : ∀ p, p ∈ t' ↔ p ∈ t ∧ p.1 ∉ vs
  nodup' : (keys t').Nodup

structure AccessOk (t t' : List (Nat × Nat)) (k : Nat) : Prop where
  others : ∀ p, p.1 ≠ k → (p ∈ t' ↔ p ∈ t)
  self : k ∈ keys t' ↔ k ∈ keys t

structure AdmitOk (t t' : List (Nat × Nat)) (k : Nat) (victims : List Nat) : Prop where
  others : ∀ p, p.1 ≠ k → (p ∈ t' ↔ p ∈ t ∧ p.1 ∉ victims)
  self : k ∈ keys t' ↔ k ∉ victims
  victims_tracked : ∀ v ∈ victims, v = k ∨ v ∈ keys t

def RemoveOk (t t' : List (Nat × Nat)) (k : Nat) : Prop := ∀ p, p ∈ t' ↔ p ∈ t ∧ p.1 ≠ k

def Admission.victims : Admission → List Nat
  | .admit => []
  | .reject => []
  | .admitAndEvict vs => vs


def Drained (t t' : List (Nat × Nat)) (vs : List Nat) (freed : Nat) : Prop :=
  ∃ popped, vs = keys popped ∧ freed = costSum popped ∧ t.Perm (t' ++ popped)

namespace Drained
variable {t t1 t' : List (Nat × Nat)} {vs : List Nat} {freed : Nat}

theorem nil (t : List (Nat × Nat)) : Drained t t [] 0 := ⟨[], rfl, rfl, by simp⟩

theorem cons {p : Nat × Nat} (hp : t.Perm (p :: t1)) (h : Drained t1 t' vs freed) :
    Drained t t' (p.1 :: vs) (p.2 + freed) := by
  obtain ⟨popped, rfl, rfl, h⟩ := h
  exact ⟨p :: popped, rfl, by simp, (hp.trans (h.cons p)).trans List.perm_middle.symm⟩

theorem append_left (w : List (Nat × Nat)) (h : Drained t t' vs freed) :
    Drained (w ++ t) (w ++ t') vs freed := by
  obtain ⟨popped, hv, hf, hp⟩ := h
  exact ⟨popped, hv, hf, by rw [List.append_assoc]; exact hp.append_left w⟩

theorem costSum_eq (h : Drained t t' vs freed) : costSum t = costSum t' + freed := by
  obtain ⟨popped, _, rfl, h⟩ := h
  simpa using costSum_perm h

theorem enough {n : Nat} (h : Drained t t' vs freed) (hd : n ≤ freed ∨ t' = [])
    (hn : n ≤ costSum t) : n ≤ freed := by
  have := h.costSum_eq
  rcases hd with hd | rfl
  · exact hd
  · simpa [this] using hn

theorem sound (hnd : (keys t).Nodup) (h : Drained t t' vs freed) : EvictSound t t' vs freed := by
  obtain ⟨popped, rfl, rfl, hp⟩ := h
  have hk := keys_perm hp
  obtain ⟨hn', hnp, hdisj⟩ := List.nodup_append.1
    (by simpa using hk.nodup_iff.1 hnd : (keys t' ++ keys popped).Nodup)
  exact {
    nodup := hnp
    tracked := fun k hk' => hk.mem_iff.2 (by simp [hk'])
    freed_eq := costSum_eq_lookup_sum hnd fun p h => hp.mem_iff.2 (by simp [h])
    gone := fun k hk1 hk2 => hdisj k hk2 k hk1 rfl
    kept := fun p =>
      ⟨fun h => ⟨hp.mem_iff.2 (by simp [h]), fun h2 => hdisj _ (mem_keys_of_mem h) _ h2 rfl⟩,
       fun ⟨h1, h2⟩ => (List.mem_append.1 (hp.mem_iff.1 h1)).resolve_right
        fun h => h2 (mem_keys_of_mem h)⟩
    nodup' := hn' }

end Drained

/-- the rest of an eviction loop entered with `vs` and `freed` so far and `need` still to free; `halt`: nothing
left (for ARC: nothing `replace` would take) -/
def Drained.Loop (halt : List (Nat × Nat) → Prop) (t t' : List (Nat × Nat)) (need : Nat)
    (vs : List Nat) (freed : Nat) (r : List Nat × Nat) : Prop :=
  ∃ vs' f, r = (vs ++ vs', freed + f) ∧ Drained t t' vs' f ∧ (need ≤ f ∨ halt t')

namespace Drained.Loop
variable {halt : List (Nat × Nat) → Prop} {t t1 t' : List (Nat × Nat)} {need freed : Nat}
  {vs : List Nat} {r : List Nat × Nat}

theorem stop (h : need ≤ 0 ∨ halt t) : Loop halt t t need vs freed (vs, freed) :=
  ⟨[], 0, by simp, .nil _, h⟩

theorem round {p : Nat × Nat} (hp : t.Perm (p :: t1))
    (h : Loop halt t1 t' (need - p.2) (vs ++ [p.1]) (freed + p.2) r) :
    Loop halt t t' need vs freed r := by
  obtain ⟨vs', f, rfl, hd, hdone⟩ := h
  exact ⟨p.1 :: vs', p.2 + f, by simp [Nat.add_assoc], hd.cons hp, hdone.imp (by omega) id⟩

theorem evict {n : Nat} (h : Loop halt t t' n [] 0 r) :
    Drained t t' r.1 r.2 ∧ (n ≤ r.2 ∨ halt t') := by
  obtain ⟨vs', f, rfl, hd, hdone⟩ := h
  simpa using And.intro hd hdone

end Drained.Loop

theorem AccessOk.rfl' {t : List (Nat × Nat)} (k) : AccessOk t t k := ⟨fun _ _ => .rfl, .rfl⟩

theorem AccessOk.trans_perm {t t1 t2 : List (Nat × Nat)} {k : Nat} (h : AccessOk t t1 k)
    (hp : t2.Perm t1) : AccessOk t t2 k :=
  ⟨fun p hpk => (hp.mem_iff).trans (h.others p hpk), ((keys_perm hp).mem_iff).trans h.self⟩

theorem AccessOk.of_perm {t t' : List (Nat × Nat)} (h : t'.Perm t) (k) : AccessOk t t' k :=
  (AccessOk.rfl' k).trans_perm h

theorem AccessOk.of_push {t : List (Nat × Nat)} {k : Nat} (hk : k ∈ keys t) (c : Nat) :
    AccessOk t ((k, c) :: LruList.without t k) k := by
  refine ⟨?_, by simp [hk]⟩
  intro p hp
  have : p ≠ (k, c) := fun e => hp (by simp [e])
  simp [this, hp]

theorem AccessOk.mem_keys {t t' : List (Nat × Nat)} {k : Nat} (h : AccessOk t t' k) (x : Nat) :
    x ∈ keys t' ↔ x ∈ keys t := by
  by_cases hx : x = k
  · subst hx; exact h.self
  · simp only [Fv.Cache.Policy.mem_keys]
    exact exists_congr fun c => h.others (x, c) hx

theorem AccessOk.append_left {t t' : List (Nat × Nat)} {k : Nat} (w : List (Nat × Nat))
    (h : AccessOk t t' k) : AccessOk (w ++ t) (w ++ t') k := by
  refine ⟨?_, ?_⟩
  · intro p hp; simp only [List.mem_append, h.others p hp]
  · simp only [keys_append, List.mem_append, h.self]

theorem AccessOk.append_right {t t' : List (Nat × Nat)} {k : Nat} (m : List (Nat × Nat))
    (h : AccessOk t t' k) : AccessOk (t ++ m) (t' ++ m) k := by
  refine ⟨?_, ?_⟩
  · intro p hp; simp only [List.mem_append, h.others p hp]
  · simp only [keys_append, List.mem_append, h.self]

theorem AdmitOk.of_perm {t t' t'' : List (Nat × Nat)} {k : Nat} {v : List Nat} (h : AdmitOk t t' k v)
    (hp : t''.Perm t') : AdmitOk t t'' k v :=
  ⟨fun p hpk => hp.mem_iff.trans (h.others p hpk), (keys_perm hp).mem_iff.trans h.self,
    h.victims_tracked⟩

theorem AdmitOk.of_push (t : List (Nat × Nat)) (k c) :
    AdmitOk t ((k, c) :: LruList.without t k) k [] := by
  refine ⟨?_, by simp, by simp⟩
  intro p hp
  have : p ≠ (k, c) := fun e => hp (by simp [e])
  simp [this, hp]

theorem AdmitOk.of_cons {t : List (Nat × Nat)} {k : Nat} (hk : k ∉ keys t) (c : Nat) :
    AdmitOk t ((k, c) :: t) k [] := by
  have := AdmitOk.of_push t k c
  rwa [without_eq_self hk] at this

theorem AdmitOk.of_access {t t' : List (Nat × Nat)} {k : Nat} (h : AccessOk t t' k)
    (hk : k ∈ keys t') : AdmitOk t t' k [] :=
  ⟨fun p hp => by simpa using h.others p hp, by simpa using hk, by simp⟩

theorem AdmitOk.of_noop {t : List (Nat × Nat)} {k} (h : k ∈ keys t) : AdmitOk t t k [] :=
  .of_access (.rfl' k) h

theorem AdmitOk.then_evict {t t1 t2 : List (Nat × Nat)} {k : Nat} {vs : List Nat} {freed : Nat}
    (h1 : AdmitOk t t1 k []) (h2 : EvictSound t1 t2 vs freed) : AdmitOk t t2 k vs := by
  refine ⟨?_, ?_, ?_⟩
  · intro p hp
    rw [h2.kept p, h1.others p hp]; simp
  · constructor
    · intro hk hv; exact h2.gone k hv hk
    · intro hv
      have : k ∈ keys t1 := h1.self.2 (by simp)
      obtain ⟨c, hc⟩ := mem_keys.1 this
      exact mem_keys_of_mem ((h2.kept (k, c)).2 ⟨hc, hv⟩)
  · intro v hv
    by_cases hvk : v = k
    · exact Or.inl hvk
    · right
      obtain ⟨c, hc⟩ := mem_keys.1 (h2.tracked v hv)
      exact mem_keys_of_mem (((h1.others (v, c) hvk).1 hc).1)

theorem RemoveOk.of_without (t : List (Nat × Nat)) (k) : RemoveOk t (LruList.without t k) k :=
  fun _ => mem_without

theorem LruList.remove_ok (l : LruList) (k : Nat) : RemoveOk l.items (l.remove k).1.items k := by
  rw [remove_items]; exact .of_without _ k

/-- `admit k c` of the policies that ignore a key they track already (FIFO, SLRU, Clock: the old
cost stays, F9c) and add a new one; `a` is the state after the call. -/
structure KeepOrAdd {σ : Type} (tr : σ → List (Nat × Nat)) (I : σ → Prop) (s a : σ) (k c : Nat) :
    Prop where
  inv : I s → I a
  ok : AdmitOk (tr s) (tr a) k []
  fresh : k ∉ keys (tr s) → costOf (tr a) k = some c
  kept : k ∈ keys (tr s) → a = s

/-- `s'`: the state with the new key added, wherever the policy puts it -/
theorem KeepOrAdd.of_ite {σ : Type} {tr : σ → List (Nat × Nat)} {I : σ → Prop} {s a s' : σ}
    {k c : Nat} (ha : a = if k ∈ keys (tr s) then s else s')
    (hs' : k ∉ keys (tr s) → (I s → I s') ∧ (tr s').Perm ((k, c) :: tr s)) :
    KeepOrAdd tr I s a k c := by
  subst ha
  split
  · next hk => exact ⟨id, .of_noop hk, fun h => absurd hk h, fun _ => rfl⟩
  · next hk =>
    obtain ⟨hi, hp⟩ := hs' hk
    refine ⟨hi, (AdmitOk.of_cons hk c).of_perm hp, fun _ => ?_, fun h => absurd h hk⟩
    -- `(k, c)` is the only binding of `k`
    cases hc : costOf (tr s') k with
    | none => exact absurd ((keys_perm hp).mem_iff.2 (by simp)) (costOf_eq_none_iff.1 hc)
    | some c' =>
      rcases List.mem_cons.1 (hp.mem_iff.1 (mem_of_costOf hc)) with e | hm
      · cases e; rfl
      · exact absurd (mem_keys_of_mem hm) hk


theorem perm_eraseIdx {α} {l : List α} {i : Nat} {e : α} (h : l[i]? = some e) :
    l.Perm (e :: l.eraseIdx i) := by
  induction l generalizing i with
  | nil => simp at h
  | cons a l ih =>
    cases i with
    | zero => simp at h; subst h; simp
    | succ i =>
      simp at h
      simp only [List.eraseIdx_cons_succ]
      exact ((ih h).cons a).trans (List.Perm.swap _ _ _)

theorem map_map_of_comp_eq {α β} {f : α → β} {g : α → α} (h : ∀ a, f (g a) = f a) (l : List α) :
    (l.map g).map f = l.map f := by
  simp [h]

theorem map_set_same {α β} {f : α → β} {l : List α} {i : Nat} {e e' : α} (h : l[i]? = some e)
    (hf : f e' = f e) : (l.set i e').map f = l.map f := by
  induction l generalizing i with
  | nil => simp
  | cons a l ih =>
    cases i with
    | zero => simp at h; subst h; simp [hf]
    | succ i => simp at h; simp [ih h]

end Fv.Cache.Policy
