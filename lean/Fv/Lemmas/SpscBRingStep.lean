import Fv.Lemmas.SpscBCtl
/-! Preservation of the ring invariant `RInv` by every step. -/
namespace Fv.Chan.SpscB

theorem getD_of_some {o : Option Nat} {v : Nat} (h : o = some v) : o.getD 0 = v := by simp [h]

theorem isPush_of_eq {m : Mic} (h : m = .pushLdHead ∨ m = .pushStTail ∨ m = .pushLdTail) : isPush m = true := by
  rcases h with h | h | h <;> simp [h, isPush]
theorem isPop_of_eq {m : Mic} (h : m = .popLdHead ∨ m = .popLdTail ∨ m = .popStHead) : isPop m = true := by
  rcases h with h | h | h <;> simp [h, isPop]

/-- positions at which `RT` has a clause -/
def constrained : Mic → Bool
  | .pushLdHead | .pushStTail | .popLdTail | .popStHead => true
  | _ => false

theorem RT.of_nc {l : Loc} (h : constrained l.m = false) (tail head cachedTail cap : Nat) (atTail atHead : Option Nat) :
    RT l tail head cachedTail cap atTail atHead := by
  cases hm : l.m <;> simp_all [RT, constrained]

@[simp, grind =] theorem afterPush_nc (l : Loc) (b : Bool) : constrained (afterPush l b).m = false := by
  obtain ⟨k, m, reg, spun, v, t, h, tm⟩ := l
  cases k <;> cases b <;> cases reg <;> cases spun <;> cases tm <;> rfl
@[simp, grind =] theorem afterPop_nc (l : Loc) (x : Option Nat) : constrained (afterPop l x).m = false := by
  obtain ⟨k, m, reg, spun, v, t, h⟩ := l
  cases k <;> cases x <;> cases reg <;> rfl

def ringOf (s : State) :=
  (s.cap, s.phys, s.tail, s.head, s.cachedHead, s.cachedTail, s.slots, s.pushed, s.popped, s.drained)

theorem rinv_frame {s s' : State} (r : Role) (hi : RInv s) (hr : ringOf s' = ringOf s)
    (ho : s'.loc (other r) = s.loc (other r)) (hn : constrained (s'.loc r).m = false) : RInv s' := by
  obtain ⟨h1, h2, h3, h4, h5, h6, h7, h8, th⟩ := hi
  cases s; cases s'
  simp only [ringOf, Prod.mk.injEq] at hr
  obtain ⟨rfl, rfl, rfl, rfl, rfl, rfl, rfl, rfl, rfl, rfl⟩ := hr
  exact ⟨h1, h2, h3, h4, h5, h6, h7, h8, (forall_role r).2 ⟨RT.of_nc hn .., ho ▸ th _⟩⟩

attribute [local grind] constrained isPush isPop
attribute [local grind =] updN_apply

variable {s s' : State} {r : Role}

/-- When `r` is inside `push` (`pop`) the other thread is not (`push_excl`, `pop_excl`), so its clauses survive; `hne`: the
slot written or cleared is not the one the other side is about to use. -/
theorem rinv_ring (hc : CInv s) (hi : RInv s) (h : RingAct s r (s.loc r) s') : RInv s' := by
  obtain ⟨h1, h2, h3, h4, h5, h6, h7, h8, th⟩ := hi
  have hPu := push_excl hc r
  have hPo := pop_excl hc r
  rw [forall_role r] at th
  simp only [RT] at th
  cases h with
  | pushLdTailFull hm hf =>
    refine ⟨h1, h2, h3, h4, h5, h6, h7, h8, (forall_role r).2 ?_⟩
    dsimp only [RT, setLoc]; simp only [upd_same, upd_other]; grind
  | pushLdTailRoom hm hroom =>
    have hne : s.head < s.tail → s.head % s.phys ≠ s.tail % s.phys := fun hl => mod_ne_of_lt hl (by omega)
    refine ⟨h1, h2, h3, h4, h5, h6, h7, ?_, (forall_role r).2 ?_⟩
    · dsimp only; rw [window_write_tail _ h3 (by omega)]; exact h8
    · dsimp only [RT]; simp only [upd_same, upd_other]; grind
  | pushLdHeadFull hm hf =>
    refine ⟨h1, h2, h3, h4, Nat.le_refl _, h6, h7, h8, (forall_role r).2 ⟨RT.of_nc (by simp) .., ?_⟩⟩
    dsimp only [RT]; simp only [upd_other]; grind
  | pushLdHeadRoom hm hroom =>
    have ht := th.1.1 hm
    rw [ht] at hroom ⊢
    have hne : s.head < s.tail → s.head % s.phys ≠ s.tail % s.phys := fun hl => mod_ne_of_lt hl (by omega)
    refine ⟨h1, h2, h3, h4, Nat.le_refl _, h6, h7, ?_, (forall_role r).2 ?_⟩
    · dsimp only; rw [window_write_tail _ h3 (by omega)]; exact h8
    · dsimp only [RT]; simp only [upd_same, upd_other]; grind
  | pushStTail hm =>
    obtain ⟨ht, hlt, hsl⟩ := th.1.2.1 hm
    rw [ht]
    refine ⟨h1, h2, ?_, ?_, h5, h6, ?_, ?_, (forall_role r).2 ⟨RT.of_nc (by simp) .., ?_⟩⟩ <;> dsimp only [RT]
    · omega
    · omega
    · omega
    · rw [window_publish _ _ h3, hsl, List.map_append, h8]; simp
    · simp only [upd_other]; grind
  | popLdHeadEmpty hm he =>
    refine ⟨h1, h2, h3, h4, h5, h6, h7, h8, (forall_role r).2 ?_⟩
    dsimp only [RT, setLoc]; simp only [upd_same, upd_other]; grind
  | popLdHeadItem hm he =>
    obtain ⟨v, hv⟩ := window_head_some h8 (by omega : 0 < s.tail - s.head)
    refine ⟨h1, h2, h3, h4, h5, h6, h7, h8, (forall_role r).2 ?_⟩
    dsimp only [RT, setLoc]; simp only [upd_same, upd_other]; grind
  | popLdTailEmpty hm he =>
    refine ⟨h1, h2, h3, h4, h5, h3, Nat.le_refl _, h8, (forall_role r).2 ⟨RT.of_nc (by simp) .., ?_⟩⟩
    dsimp only [RT]; simp only [upd_other]; grind
  | popLdTailItem hm he =>
    obtain ⟨v, hv⟩ := window_head_some h8 (by grind : 0 < s.tail - s.head)
    refine ⟨h1, h2, h3, h4, h5, h3, Nat.le_refl _, h8, (forall_role r).2 ?_⟩
    dsimp only [RT]; simp only [upd_same, upd_other]; grind
  | popStHeadDrain hm hk | popStHead hm hk =>
    obtain ⟨hh, hct, hsl⟩ := th.1.2.2.2 hm
    have hlt : s.head < s.tail := by omega
    have hne : s.tail - s.head < s.phys → s.tail % s.phys ≠ s.head % s.phys := fun hl => (mod_ne_of_lt hlt hl).symm
    have hd : (s.loc r).k = .drn ∨ s.drained = [] :=
      Classical.or_iff_not_imp_left.2 (drained_nil_of_pop hc (r := r) (by simp [hm, isPop]))
    rw [hh]
    refine ⟨h1, h2, ?_, ?_, ?_, ?_, h7, ?_, (forall_role r).2 ⟨RT.of_nc (by simp) .., ?_⟩⟩ <;> dsimp only [RT]
    · omega
    · omega
    · omega
    · omega
    · rw [h8, window_consume _ _ hlt (by omega), hsl]; rcases hd with e | e <;> simp_all
    · simp only [upd_other]; grind

theorem QAct.nc {l l' : Loc} (h : QAct s r l l') : constrained l'.m = false := by
  cases h <;> grind

/-- Outside `push` and `pop` no ring field changes and the thread lands where `RT` has no clause. -/
theorem rinv_step (hc : CInv s) (hi : RInv s) (h : Act s r (s.loc r) s') : RInv s' := by
  cases h with
  | quiet hq => exact rinv_frame r hi rfl (upd_other ..) (by simpa [setLoc] using hq.nc)
  | ring hr => exact rinv_ring hc hi hr
  | wkUnlockNone _ _ _ hl | wkUnpark _ hl | swapClosedDone _ _ hl | subCountMore _ _ hl =>
    cases hl <;> exact rinv_frame r hi rfl (upd_other ..) (by simp only [setLoc, upd_same]; grind)
  | _ => exact rinv_frame r hi rfl (upd_other ..) (by simp only [setLoc, upd_same]; grind)

end Fv.Chan.SpscB
