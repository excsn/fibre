import Fv.Lemmas.SpmcBBasic
import Fv.Lemmas.Common
/-! Safety invariant of `Fv.Chan.SpmcB`: definitions, frame rules, and the lower bound that the producer's scan
computes (`pub_of_guard`, `lb_all`). `Core` is the part of the state the safety facts talk about (not control
states, owners, park tokens, waker lists, the park flag, reader counts, ghost sets of the wake-up invariants), so
that a step which only moves a control state leaves `s.core` unchanged by `rfl`. `GFact`: global facts (B1 through
the ghost credit `lim`, B2 slot contents, B3 per cell, every open receiver registered in both copies of the cursor
list); `sFact`, `rFact`: what a thread inside an operation knows at its control state. -/
namespace Fv.Chan.SpmcB
open Fv.Chan.LeftRightB (upd upd_apply upd_ne)

structure Core where
  cap : Nat
  head : Nat
  nextCell : Nat
  lim : Nat
  dirty : Bool
  pdropped : Bool
  sclosed : Bool
  seq : Nat → Nat
  val : Nat → Nat
  cur : Nat → Nat
  c0 : Nat → Nat
  sent : List Nat
  got : Nat → List Nat
  rclosed : Nat → Bool
  rAlive : Nat → Bool
  resv : Nat → Option Nat
  data : Nat → List Nat
  live : Nat

def State.core (s : State) : Core :=
  { cap := s.cap, head := s.head, nextCell := s.nextCell, lim := s.lim, dirty := s.dirty,
    pdropped := s.pdropped, sclosed := s.sclosed, seq := s.seq, val := s.val, cur := s.cur, c0 := s.c0,
    sent := s.sent, got := s.got, rclosed := s.rclosed, rAlive := s.rAlive, resv := s.resv,
    data := s.lr.data, live := s.lr.live }

def Core.pub (c : Core) : List Nat := c.data c.live

structure GFact (c : Core) : Prop where
  cap_pos : 0 < c.cap
  lim_pub : ∀ r, r ∈ c.pub → c.lim ≤ c.cur r + c.cap
  n_le_lim : c.sent.length ≤ c.lim
  head_le : c.head ≤ c.sent.length
  dirty_lim : c.dirty = true → c.sent.length < c.lim
  cur_le : ∀ r, c.cur r ≤ c.sent.length
  b2s : ∀ i, i < c.sent.length → c.sent.length ≤ i + c.cap → c.seq (i % c.cap) = 2 * i + 1
  b2v : ∀ i, i < c.sent.length → c.sent.length ≤ i + c.cap → (c.sent.length = i + c.cap → c.dirty = false) →
          c.val (i % c.cap) = c.sent.getD i 0
  b2e : ∀ j, j < c.cap → c.sent.length ≤ j → c.seq j = 2 * j
  b2r : ∀ j i, j < c.cap → c.seq j = 2 * i + 1 → i < c.sent.length ∧ c.sent.length ≤ i + c.cap ∧ i % c.cap = j
  got_ok : ∀ r, c.c0 r ≤ c.cur r ∧ c.got r = (c.sent.drop (c.c0 r)).take (c.cur r - c.c0 r)
  cells : ∀ i r, r ∈ c.data i → r < c.nextCell
  alive_lt : ∀ r, c.rAlive r = true → r < c.nextCell
  resv_lt : ∀ n t, c.resv n = some t → n < c.nextCell ∧ c.rAlive n = false
  regd : ∀ r, r < c.nextCell → c.rclosed r = false → c.resv r = none → r ∈ c.data 0 ∧ r ∈ c.data 1
  pd_closed : c.pdropped = true → c.sclosed = true

def sendK : ScanK → Bool
  | .probe _ => false
  | _ => true

def hOK (k : ScanK) (h head : Nat) : Prop := sendK k = true → headAfter k = false → h = head

def hOK2 (k : ScanK) (h head : Nat) : Prop := sendK k = true → h = head

/-- control states of `enter()` before the guard exists -/
def isRd : LPC → Bool
  | .rLoad => true
  | .rInc _ => true
  | .rChk _ => true
  | .rBack _ => true
  | _ => false

/-- control states of `modify()` -/
def isWr : LPC → Bool
  | .wLock _ => true
  | .wLoad _ => true
  | .wMut1 _ _ => true
  | .wPub _ _ => true
  | .wWait _ _ => true
  | .wSpin _ _ => true
  | .wMut2 _ _ => true
  | .wUnlock => true
  | _ => false

/-- no write in progress -/
def idleLike (c : Core) : Prop := c.head = c.sent.length ∧ c.dirty = false

structure Scan (c : Core) (k : ScanK) : Prop where
  idle : idleLike c
  opn : sendK k = true → c.sclosed = false

/-- the write of slot `j` of a batch of `k` slots starting at index `h` -/
structure Write (c : Core) (h j k : Nat) : Prop where
  head : c.head = h
  len : c.sent.length = h + j
  lt : j < k
  lim : h + k ≤ c.lim
  opn : c.sclosed = false

theorem scan_iff {c : Core} {k : ScanK} : Scan c k ↔ idleLike c ∧ (sendK k = true → c.sclosed = false) :=
  ⟨fun h => ⟨h.idle, h.opn⟩, fun h => ⟨h.1, h.2⟩⟩

theorem write_iff {c : Core} {h j k : Nat} :
    Write c h j k ↔ c.head = h ∧ c.sent.length = h + j ∧ j < k ∧ h + k ≤ c.lim ∧ c.sclosed = false :=
  ⟨fun w => ⟨w.head, w.len, w.lt, w.lim, w.opn⟩, fun ⟨a, b, d, e, f⟩ => ⟨a, b, d, e, f⟩⟩

def sFact (c : Core) : SPC → Prop
  | .sFlag _ => idleLike c
  | .sHead k => Scan c k
  | .sEnter k h p => Scan c k ∧ hOK k h c.head ∧ isRd p = true
  | .sScan k h _ done _ m => Scan c k ∧ hOK k h c.head ∧
        (∀ r, r ∈ done → r < c.nextCell) ∧
        (∀ v, m = some v → (∀ r, r ∈ done → v ≤ c.cur r) ∧ v ≤ c.sent.length) ∧ (m = none → done = [])
  | .sHead2 k _ _ m => Scan c k ∧ m + c.cap ≤ c.lim ∧ m ≤ c.sent.length
  | .sExit k h _ _ m => Scan c k ∧ (∀ v, m = some v → hOK2 k h c.head ∧ v + c.cap ≤ c.lim ∧ v ≤ c.sent.length)
  | .bHead _ k => idleLike c ∧ c.sclosed = false ∧ 0 < k ∧ c.head + k ≤ c.lim
  | .wSeqLd _ h j k => Write c h j k ∧ c.dirty = false
  | .wVal _ h j k q => Write c h j k ∧ c.dirty = false ∧ q = c.seq ((h + j) % c.cap)
  | .wSeqSt x h j k => Write c h j k ∧ c.dirty = true ∧ c.val ((h + j) % c.cap) = x.items.getD j 0
  | .wHeadSt _ h k => c.head = h ∧ c.sent.length = h + k ∧ c.dirty = false ∧ c.sclosed = false
  | .cFlag _ => idleLike c
  | .cStore => idleLike c ∧ c.sclosed = true
  | .cLock _ => idleLike c
  | .cWake _ _ => idleLike c
  | .cUnlock _ => idleLike c
  | _ => idleLike c ∧ c.sclosed = false

def rBase (c : Core) (r : Nat) : Prop := r < c.nextCell ∧ c.resv r = none ∧ c.rclosed r = false

/-- the cell `n` that thread `t`, cloning the handle on `r`, has allocated and not yet handed out -/
structure cloneFact (c : Core) (t r n : Nat) : Prop where
  ne : n ≠ r
  resv : c.resv n = some t
  cur : c.cur n = c.cur r
  c0 : c.c0 n = c.cur r
  got : c.got n = []
  opn : c.rclosed n = false

theorem cloneFact_iff {c : Core} {t r n : Nat} : cloneFact c t r n ↔
    n ≠ r ∧ c.resv n = some t ∧ c.cur n = c.cur r ∧ c.c0 n = c.cur r ∧ c.got n = [] ∧ c.rclosed n = false :=
  ⟨fun h => ⟨h.ne, h.resv, h.cur, h.c0, h.got, h.opn⟩, fun ⟨a, b, d, e, f, g⟩ => ⟨a, b, d, e, f, g⟩⟩

def opOf : LPC → Option LOp
  | .wLock o => some o
  | .wLoad o => some o
  | .wMut1 o _ => some o
  | .wPub o _ => some o
  | .wWait o _ => some o
  | .wSpin o _ => some o
  | .wMut2 o _ => some o
  | _ => none

/-- where the pushed cell already is, by stage of `modify` -/
def pushedAt (c : Core) (n : Nat) : LPC → Prop
  | .wPub _ l => n ∈ c.data (1 - l)
  | .wWait _ l => n ∈ c.data (1 - l)
  | .wSpin _ l => n ∈ c.data (1 - l)
  | .wMut2 _ l => n ∈ c.data (1 - l)
  | .wUnlock => n ∈ c.data 0 ∧ n ∈ c.data 1
  | _ => True

def rFact (c : Core) (t r : Nat) : RPC → Prop
  | .rCur _ => rBase c r
  | .rSeq _ k => rBase c r ∧ k = c.cur r
  | .rVal _ k => rBase c r ∧ k = c.cur r ∧ k < c.sent.length
  | .rSt _ k vs => rBase c r ∧ k = c.cur r ∧ k + vs.length ≤ c.sent.length ∧ vs = (c.sent.drop k).take vs.length
  | .rDrop _ k => rBase c r ∧ k = c.cur r
  | .rHead _ k => rBase c r ∧ k = c.cur r ∧ c.pdropped = true
  | .bHd _ k => rBase c r ∧ k = c.cur r
  | .bDrop _ k => rBase c r ∧ k = c.cur r
  | .bHd2 _ k => rBase c r ∧ k = c.cur r ∧ c.pdropped = true
  | .bVals _ k n => rBase c r ∧ k = c.cur r ∧ k + n ≤ c.head
  | .gCur _ => rBase c r
  | .gLock _ k => rBase c r ∧ k = c.cur r
  | .gUnlock _ k => rBase c r ∧ k = c.cur r
  | .eDrop _ => rBase c r
  | .eHead _ => rBase c r ∧ c.pdropped = true
  | .eCur _ h => rBase c r ∧ c.pdropped = true ∧ h = c.head
  | .eLock _ k => rBase c r ∧ k = c.cur r ∧ c.pdropped = true ∧ c.head ≤ k
  | .eUnlock _ k => rBase c r ∧ k = c.cur r ∧ c.pdropped = true ∧ c.head ≤ k
  | .kPark _ => rBase c r
  | .kCur _ => rBase c r
  | .cCur => rBase c r
  | .mLock (.clone n) => rBase c r ∧ cloneFact c t r n
  | .mMod (.clone n) p => rBase c r ∧ cloneFact c t r n ∧ (∀ o, opOf p = some o → o = .push n) ∧ pushedAt c n p ∧ isWr p = true
  | .mUnlock (.clone n) => rBase c r ∧ cloneFact c t r n ∧ n ∈ c.data 0 ∧ n ∈ c.data 1
  | .mLock .unreg => r < c.nextCell ∧ c.resv r = none ∧ c.rclosed r = true
  | .mMod .unreg p => r < c.nextCell ∧ c.resv r = none ∧ c.rclosed r = true ∧ (∀ o, opOf p = some o → o = .remove r) ∧ isWr p = true
  | .mUnlock .unreg => r < c.nextCell ∧ c.resv r = none ∧ c.rclosed r = true
  | _ => r < c.nextCell ∧ c.resv r = none

structure Safe (s : State) : Prop where
  g : GFact s.core
  sf : ∀ t q, s.pc t = .snd q → sFact s.core q
  rf : ∀ t r q, s.pc t = .rcv r q → rFact s.core t r q
  idle : s.sOwner = none → idleLike s.core
  resvFree : ∀ n, s.resv n ≠ none → s.rOwner n = none

theorem rFact_base {c : Core} {t r : Nat} {q : RPC} (h : rFact c t r q) : r < c.nextCell ∧ c.resv r = none := by
  cases q with
  | mLock k => cases k <;> (simp only [rFact, rBase] at h; first | exact ⟨h.1, h.2.1⟩ | exact ⟨h.1.1, h.1.2.1⟩)
  | mMod k p => cases k <;> (simp only [rFact, rBase] at h; first | exact ⟨h.1, h.2.1⟩ | exact ⟨h.1.1, h.1.2.1⟩)
  | mUnlock k => cases k <;> (simp only [rFact, rBase] at h; first | exact ⟨h.1, h.2.1⟩ | exact ⟨h.1.1, h.1.2.1⟩)
  | _ => simp only [rFact, rBase] at h; first | exact h | exact ⟨h.1, h.2.1⟩ | exact ⟨h.1.1, h.1.2.1⟩

theorem safe_S {s s' : State} {t : Nat} {q : SPC} {p : PC} (ha : InvA s) (hs : Safe s) (hpc : s.pc t = .snd q)
    (m : MoveS s s' t p) (hg : GFact s'.core)
    (hnew : ∀ q', p = .snd q' → sFact s'.core q')
    (hret : ∀ res, p = .ret res → idleLike s'.core)
    (hrf : ∀ u r q, rFact s.core u r q → rFact s'.core u r q) : Safe s' := by
  have hown : s.sOwner = some t := ha.sown hpc
  have hp := m.ok
  have hso := m.sOwner
  refine ⟨hg, ?_, ?_, ?_, ?_⟩
  · intro u q' h
    rw [m.pc] at h
    rcases pc_upd h with ⟨_, e⟩ | ⟨hut, h⟩
    · exact hnew q' e
    · exact absurd (snd_unique ha hpc h).1 hut
  · intro u r q' h
    rw [m.pc] at h
    rcases pc_upd h with ⟨_, e⟩ | ⟨_, h⟩
    · exact absurd e (okS_not_rcv hp)
    · exact hrf u r q' (hs.rf u r q' h)
  · intro h
    rcases hp with ⟨res, rfl⟩ | ⟨q', rfl⟩
    · exact hret res rfl
    · rw [hso] at h; simp only [isRet] at h; rw [hown] at h; simp at h
  · intro n hn
    rw [m.resv] at hn; rw [m.rOwner]; exact hs.resvFree n hn

theorem safe_R {s s' : State} {t r : Nat} {q : RPC} {p : PC} (ha : InvA s) (hs : Safe s) (hpc : s.pc t = .rcv r q)
    (m : MoveR s s' t r p) (hg : GFact s'.core)
    (hnew : ∀ q', p = .rcv r q' → rFact s'.core t r q')
    (hsf : ∀ q, sFact s.core q → sFact s'.core q)
    (hrf : ∀ u r' q, u ≠ t → r' ≠ r → rFact s.core u r' q → rFact s'.core u r' q)
    (hidle : idleLike s.core → idleLike s'.core)
    (hrv : ∀ n, s'.resv n ≠ none → s.resv n ≠ none ∨ s.rOwner n = none) : Safe s' := by
  have hp := m.ok
  refine ⟨hg, ?_, ?_, ?_, ?_⟩
  · intro u q' h
    rw [m.pc] at h
    rcases pc_upd h with ⟨_, e⟩ | ⟨_, h⟩
    · exact absurd e (okR_not_snd hp)
    · exact hsf q' (hs.sf u q' h)
  · intro u r' q' h
    rw [m.pc] at h
    rcases pc_upd h with ⟨rfl, e⟩ | ⟨hut, h⟩
    · rcases hp with ⟨res, rfl⟩ | ⟨q'', rfl, _⟩
      · cases e
      · cases e; exact hnew _ rfl
    · have hne : r' ≠ r := by
        intro e; subst e
        exact hut (ha.unique (ρ := .rcv r') (by rw [h]; rfl) (by rw [hpc]; rfl))
      exact hrf u r' q' hut hne (hs.rf u r' q' h)
  · intro h; rw [m.toFrameR.sOwner] at h; exact hidle (hs.idle h)
  · intro n hn
    have hold : s.rOwner n = none := by
      rcases hrv n hn with h | h
      · exact hs.resvFree n h
      · exact h
    rw [m.rOwner]; split
    · simp only [upd_apply]; split <;> simp [hold]
    · exact hold

theorem rFact_isWr {c : Core} {t r : Nat} {k : MK} {p : LPC} (h : rFact c t r (.mMod k p)) : isWr p = true := by
  cases k <;> exact h.2.2.2.2

/-- the mutation that a `modify` performs, with what is known of the cell it concerns -/
inductive ModOp (c : Core) (t r : Nat) : MK → LOp → Prop
  | clone (n : Nat) : rBase c r → cloneFact c t r n → ModOp c t r (.clone n) (.push n)
  | unreg : c.rclosed r = true → ModOp c t r .unreg (.remove r)

theorem rFact_modOp {c : Core} {t r : Nat} {k : MK} {p : LPC} {o : LOp} (h : rFact c t r (.mMod k p))
    (ho : opOf p = some o) : ModOp c t r k o := by
  cases k with
  | clone n => exact h.2.2.1 o ho ▸ .clone n h.1 h.2.1
  | unreg => exact h.2.2.2.1 o ho ▸ .unreg h.2.2.1

theorem rFact_mono_S {c c' : Core} (hn : c'.nextCell = c.nextCell) (hrv : c'.resv = c.resv)
    (hcl : c'.rclosed = c.rclosed) (hcur : c'.cur = c.cur) (hc0 : c'.c0 = c.c0) (hgot : c'.got = c.got)
    (hdata : c'.data = c.data) (hsent : ∃ e, c'.sent = c.sent ++ e) (hhead : c.head ≤ c'.head)
    (hpd : c.pdropped = true → c'.pdropped = true ∧ c'.head = c.head)
    {u r : Nat} {q : RPC} (h : rFact c u r q) : rFact c' u r q := by
  obtain ⟨e, he⟩ := hsent
  cases q with
  | mLock k => cases k <;> simp_all [rFact, rBase, cloneFact_iff]
  | mMod k p => cases k <;> cases p <;> simp_all [rFact, rBase, cloneFact_iff, pushedAt]
  | mUnlock k => cases k <;> simp_all [rFact, rBase, cloneFact_iff]
  | rVal x k => simp only [rFact, rBase, hn, hrv, hcl, hcur, he, List.length_append] at *; exact ⟨h.1, h.2.1, by omega⟩
  | rSt x k vs =>
    simp only [rFact, rBase, hn, hrv, hcl, hcur, he, List.length_append] at *
    refine ⟨h.1, h.2.1, by omega, ?_⟩
    rw [List.drop_append_of_le_length (by omega), List.take_append_of_le_length (by simp; omega)]
    exact h.2.2.2
  | bVals x k n => simp only [rFact, rBase, hn, hrv, hcl, hcur] at *; exact ⟨h.1, h.2.1, by omega⟩
  | eLock x k =>
    simp only [rFact, rBase, hn, hrv, hcl, hcur] at *
    exact ⟨h.1, h.2.1, (hpd h.2.2.1).1, by have := h.2.2.2; rw [(hpd h.2.2.1).2]; omega⟩
  | eUnlock x k =>
    simp only [rFact, rBase, hn, hrv, hcl, hcur] at *
    exact ⟨h.1, h.2.1, (hpd h.2.2.1).1, by have := h.2.2.2; rw [(hpd h.2.2.1).2]; omega⟩
  | _ => simp_all [rFact, rBase]

def AgreeAt (c c' : Core) (x : Nat) : Prop :=
  c'.cur x = c.cur x ∧ c'.c0 x = c.c0 x ∧ c'.got x = c.got x ∧ c'.rclosed x = c.rclosed x ∧ c'.resv x = c.resv x

/-- `ex`: the cells that the step touches, besides those it allocates -/
theorem rFact_ext {c c' : Core} (ex : Nat → Prop) (hg : GFact c) (hn : c.nextCell ≤ c'.nextCell)
    (hmaps : ∀ x, ¬ ex x → x < c.nextCell → AgreeAt c c' x)
    (hsent : c'.sent = c.sent) (hhead : c'.head = c.head) (hpd : c'.pdropped = c.pdropped)
    (hdata : ∀ i x, ¬ ex x → x ∈ c.data i → x ∈ c'.data i)
    {u r : Nat} {q : RPC} (hr : ¬ ex r) (hcl : ∀ n, c.resv n = some u → ¬ ex n)
    (h : rFact c u r q) : rFact c' u r q := by
  have hb := rFact_base h
  have ⟨a1, a2, a3, a4, a5⟩ := hmaps r hr hb.1
  have hclone : ∀ n, cloneFact c u r n → cloneFact c' u r n := by
    intro n ⟨f1, f2, f3, f4, f5, f6⟩
    have ⟨b1, b2, b3, b4, b5⟩ := hmaps n (hcl n f2) (hg.resv_lt n u f2).1
    exact ⟨f1, by rw [b5]; exact f2, by rw [b1, a1]; exact f3, by rw [b2, a1]; exact f4, by rw [b3]; exact f5, by rw [b4]; exact f6⟩
  have hmem : ∀ n i, c.resv n = some u → n ∈ c.data i → n ∈ c'.data i := fun n i hn' hm => hdata i n (hcl n hn') hm
  cases q with
  | mLock k =>
    cases k with
    | clone n => simp only [rFact, rBase] at *; rw [a4, a5]; exact ⟨⟨by omega, h.1.2.1, h.1.2.2⟩, hclone n h.2⟩
    | unreg => simp only [rFact] at *; rw [a4, a5]; exact ⟨by omega, h.2.1, h.2.2⟩
  | mMod k p =>
    cases k with
    | clone n =>
      simp only [rFact, rBase] at *; rw [a4, a5]
      refine ⟨⟨by omega, h.1.2.1, h.1.2.2⟩, hclone n h.2.1, h.2.2.1, ?_, h.2.2.2.2⟩
      have hrn := h.2.1.resv
      have hp := h.2.2.2.1
      cases p <;> simp only [pushedAt] at * <;> first | trivial | exact hmem n _ hrn hp | exact ⟨hmem n _ hrn hp.1, hmem n _ hrn hp.2⟩
    | unreg => simp only [rFact] at *; rw [a4, a5]; exact ⟨by omega, h.2.1, h.2.2.1, h.2.2.2.1, h.2.2.2.2⟩
  | mUnlock k =>
    cases k with
    | clone n =>
      simp only [rFact, rBase] at *; rw [a4, a5]
      have hrn := h.2.1.resv
      exact ⟨⟨by omega, h.1.2.1, h.1.2.2⟩, hclone n h.2.1, hmem n _ hrn h.2.2.1, hmem n _ hrn h.2.2.2⟩
    | unreg => simp only [rFact] at *; rw [a4, a5]; exact ⟨by omega, h.2.1, h.2.2⟩
  | _ =>
    simp only [rFact, rBase, a1, a4, a5, hsent, hhead, hpd] at h ⊢
    first
      | exact ⟨⟨by omega, h.1.2.1, h.1.2.2⟩, h.2⟩
      | exact ⟨by omega, h.2.1, h.2.2⟩
      | exact ⟨by omega, h.2⟩

theorem sFact_mono_R {c c' : Core} (hcap : c'.cap = c.cap) (hhead : c'.head = c.head) (hsent : c'.sent = c.sent)
    (hdirty : c'.dirty = c.dirty) (hlim : c'.lim = c.lim) (hseq : c'.seq = c.seq) (hval : c'.val = c.val)
    (hscl : c'.sclosed = c.sclosed) (hn : c.nextCell ≤ c'.nextCell) (hcur : ∀ x, x < c.nextCell → c.cur x ≤ c'.cur x)
    {q : SPC} (h : sFact c q) : sFact c' q := by
  cases q with
  | sScan k h0 i done todo m =>
    simp only [sFact, scan_iff, idleLike, hcap, hhead, hsent, hdirty, hlim, hscl] at *
    obtain ⟨f1, f3, f4, f5, f6⟩ := h
    refine ⟨f1, f3, fun r hr => by have := f4 r hr; omega, ?_, f6⟩
    intro v hv
    refine ⟨?_, (f5 v hv).2⟩
    intro r hr
    have := (f5 v hv).1 r hr; have := hcur r (f4 r hr); omega
  | _ => simp only [sFact, scan_iff, write_iff, idleLike, hcap, hhead, hsent, hdirty, hlim, hseq, hval, hscl] at *; exact h

theorem rFact_S_of {s s' : State} (fr : FrameS s s') (hdata : s'.lr.data = s.lr.data)
    (hsent : ∃ e, s'.sent = s.sent ++ e) (hhead : s.head ≤ s'.head)
    (hpd : s.pdropped = true → s'.pdropped = true ∧ s'.head = s.head) :
    ∀ u r q, rFact s.core u r q → rFact s'.core u r q :=
  fun _ _ _ h => rFact_mono_S (c := s.core) (c' := s'.core) fr.nextCell fr.resv fr.rclosed fr.cur fr.c0 fr.got
    hdata hsent hhead hpd h

theorem gfact_wVal {c : Core} (hg : GFact c) {v : Nat} (hlim : c.sent.length < c.lim) :
    GFact { c with val := upd c.val (c.sent.length % c.cap) v, dirty := true } := by
  refine { hg with dirty_lim := fun _ => hlim, b2v := ?_ } <;> dsimp only
  intro i hi hw hd
  have hne : c.sent.length ≠ i + c.cap := fun e => by simpa using hd e
  have : i % c.cap ≠ c.sent.length % c.cap := mod_ne_of_lt hi (by omega)
  simp only [upd_apply, if_neg this]
  exact hg.b2v i hi hw (fun e => absurd e hne)

theorem gfact_wSeqSt {c : Core} (hg : GFact c) {v : Nat} (hd : c.dirty = true)
    (hv : c.val (c.sent.length % c.cap) = v) :
    GFact { c with seq := upd c.seq (c.sent.length % c.cap) (2 * c.sent.length + 1), sent := c.sent ++ [v], dirty := false } := by
  have hlt := hg.dirty_lim hd
  refine { hg with n_le_lim := ?_, head_le := ?_, dirty_lim := ?_, cur_le := ?_, b2s := ?_, b2v := ?_, b2e := ?_, b2r := ?_, got_ok := ?_ } <;> dsimp only
  · have := hg.n_le_lim; simp only [List.length_append, List.length_singleton]; omega
  · have := hg.head_le; simp only [List.length_append, List.length_singleton]; omega
  · intro h; simp at h
  · intro r; simp only [List.length_append, List.length_singleton]; have := hg.cur_le r; omega
  · intro i hi hw
    simp only [List.length_append, List.length_singleton] at hi hw
    simp only [upd_apply]
    by_cases e : i = c.sent.length
    · subst e; simp
    · have : i % c.cap ≠ c.sent.length % c.cap := mod_ne_of_lt (by omega) (by omega)
      rw [if_neg this]; exact hg.b2s i (by omega) (by omega)
  · intro i hi hw _
    simp only [List.length_append, List.length_singleton] at hi hw
    by_cases e : i = c.sent.length
    · subst e; rw [hv]; simp
    · have hi' : i < c.sent.length := by omega
      rw [hg.b2v i hi' (by omega) (fun e' => by omega)]
      simp [List.getD, List.getElem?_append_left hi']
  · intro j hj hw
    simp only [List.length_append, List.length_singleton] at hw
    simp only [upd_apply]
    have : j ≠ c.sent.length % c.cap := by
      have := Nat.mod_le c.sent.length c.cap; omega
    rw [if_neg this]; exact hg.b2e j hj (by omega)
  · intro j i hj hs
    simp only [List.length_append, List.length_singleton]
    simp only [upd_apply] at hs
    split at hs
    · rename_i e
      have : i = c.sent.length := by omega
      subst this; exact ⟨by omega, by omega, e.symm⟩
    · rename_i e
      have ⟨a, b, d⟩ := hg.b2r j i hj hs
      refine ⟨by omega, ?_, d⟩
      -- the oldest index of the window lives in the slot that is being overwritten
      by_cases hb : c.sent.length = i + c.cap
      · exfalso; apply e; rw [← d, hb]; simp
      · omega
  · intro r
    have ⟨a, b⟩ := hg.got_ok r
    refine ⟨a, ?_⟩
    have := hg.cur_le r
    rw [List.drop_append_of_le_length (by omega), List.take_append_of_le_length (by simp; omega)]
    exact b

theorem omin_le_left {m : Option Nat} {v x : Nat} (h : m = some x) : omin m v ≤ x := by
  subst h; simp only [omin]; omega
theorem omin_le_right (m : Option Nat) (v : Nat) : omin m v ≤ v := by
  cases m <;> simp only [omin] <;> omega

theorem GFact.mem_data {c : Core} (hg : GFact c) {i : Nat} (hi : i < 2) {r : Nat} (hb : rBase c r) : r ∈ c.data i := by
  have hreg := hg.regd r hb.1 hb.2.2 hb.2.1
  have : i = 0 ∨ i = 1 := by omega
  rcases this with rfl | rfl
  · exact hreg.1
  · exact hreg.2

theorem GFact.mem_pub {c : Core} (hg : GFact c) (hl : c.live < 2) {r : Nat} (hb : rBase c r) : r ∈ c.pub :=
  hg.mem_data hl hb

theorem omin_lb {cur : Nat → Nat} {done : List Nat} {m : Option Nat} {r : Nat}
    (hlb : ∀ v, m = some v → ∀ x, x ∈ done → v ≤ cur x) (hnone : m = none → done = []) :
    ∀ x, x ∈ done ++ [r] → omin m (cur r) ≤ cur x := by
  intro x hx
  rcases List.mem_append.1 hx with hx | hx
  · cases hm : m with
    | none => rw [hnone hm] at hx; cases hx
    | some v => exact Nat.le_trans (omin_le_left (hm ▸ rfl)) (hlb v hm x hx)
  · rw [List.mem_singleton.1 hx]; exact omin_le_right _ _

theorem writer_is_mMod {s : State} (hs : Safe s) {w : Nat} {i : Nat}
    (hw : LeftRightB.waitingOn i (lrpc (s.pc w))) :
    ∃ rw kw p, s.pc w = .rcv rw (.mMod kw p) ∧ LeftRightB.waitingOn i p := by
  cases hq : s.pc w with
  | idle => rw [hq] at hw; simp [lrpc, LeftRightB.waitingOn] at hw
  | ret res => rw [hq] at hw; simp [lrpc, LeftRightB.waitingOn] at hw
  | snd q =>
    rw [hq] at hw
    have hf := hs.sf w q hq
    cases q <;> simp only [lrpc, lrpcS, LeftRightB.waitingOn] at hw
    case sEnter k h p =>
      have := hf.2.2
      cases p <;> simp_all [isRd]
  | rcv r q =>
    rw [hq] at hw
    cases q <;> simp only [lrpc, lrpcR, LeftRightB.waitingOn] at hw
    case mMod k p => exact ⟨r, k, p, rfl, hw⟩

/-- the list published now is the guard's snapshot, or one mutation ahead of it, made by a `modify` that is still
waiting for this guard -/
theorem pub_of_guard {s : State} (hl : LRI s) (hs : Safe s) {t i : Nat} {L : List Nat}
    (hg : lrpc (s.pc t) = .rHold i L) :
    s.core.pub = L ∨ ∃ w rw kw p o, s.pc w = .rcv rw (.mMod kw p) ∧ (p = .wWait o i ∨ p = .wSpin o i) ∧
      ModOp s.core w rw kw o ∧ s.core.pub = apL o L := by
  rcases hl.snapshot hg with e | ⟨w, o, hw, e⟩
  · exact Or.inl e
  · obtain ⟨rw, kw, p, hpw, _⟩ := writer_is_mMod hs (i := i) (w := w) (by rcases hw with hw | hw <;> rw [hw] <;> exact rfl)
    have hpp : p = .wWait o i ∨ p = .wSpin o i := by simpa only [hpw, lrpc, lrpcR] using hw
    have hop : opOf p = some o := by rcases hpp with rfl | rfl <;> rfl
    exact Or.inr ⟨w, rw, kw, p, o, hpw, hpp, rFact_modOp (hs.rf w rw _ hpw) hop, e⟩

/-- when the producer loads the last cursor of its snapshot, the running minimum bounds every cursor in the list
published now: a cell pushed since the snapshot belongs to a `clone` that is still waiting for this very reader,
and has its parent's cursor -/
theorem lb_all {s : State} (hl : LRI s) (hs : Safe s) {t : Nat} {k : ScanK} {h i : Nat} {done : List Nat}
    {r : Nat} {m : Option Nat} (hpc : s.pc t = .snd (.sScan k h i done [r] m)) :
    ∀ x, x ∈ s.core.pub → omin m (s.cur r) ≤ s.cur x := by
  have hst := hl.stage t
  simp only [hpc, lrpc, lrpcS, LeftRightB.stageOK] at hst
  obtain ⟨hi2, hdata⟩ := hst
  obtain ⟨_, _, _, hlb, hnone⟩ := hs.sf t _ hpc
  have hsnap : ∀ x, x ∈ done ++ [r] → omin m (s.cur r) ≤ s.cur x := omin_lb (fun v hv => (hlb v hv).1) hnone
  intro x hx
  rcases pub_of_guard hl hs (t := t) (by rw [hpc]; rfl) with e | ⟨w, rw, kw, p, o, _, _, hmo, e⟩ <;> rw [e] at hx
  · exact hsnap x hx
  · cases hmo with
    | clone n hb cl =>
      rcases List.mem_append.1 hx with hx | hx
      · exact hsnap x hx
      · cases List.mem_singleton.1 hx
        have := hsnap rw (hdata ▸ hs.g.mem_data hi2 hb)
        have hcn := cl.cur
        simp only [State.core] at hcn; omega
    | unreg =>
      simp only [apL, List.mem_filter] at hx
      exact hsnap x hx.1

theorem gfact_lim {c : Core} (hg : GFact c) {v : Nat} (hlb : ∀ x, x ∈ c.pub → v ≤ c.cur x) :
    GFact { c with lim := max c.lim (v + c.cap) } := by
  refine { hg with lim_pub := ?_, n_le_lim := ?_, dirty_lim := ?_ } <;> dsimp only
  · intro r hr; have := hg.lim_pub r hr; have := hlb r hr; omega
  · have := hg.n_le_lim; omega
  · intro h; have := hg.dirty_lim h; omega

theorem gfact_head {c : Core} (hg : GFact c) {h : Nat} (hh : h ≤ c.sent.length) : GFact { c with head := h } := by
  exact { hg with head_le := hh }

theorem gfact_sclosed {c : Core} (hg : GFact c) : GFact { c with sclosed := true } := by
  exact { hg with pd_closed := fun _ => rfl }

theorem gfact_pdropped {c : Core} (hg : GFact c) (h : c.sclosed = true) : GFact { c with pdropped := true } := by
  exact { hg with pd_closed := fun _ => h }

theorem gfact_rSt {c : Core} (hg : GFact c) {r k : Nat} {vs : List Nat} (hk : k = c.cur r)
    (hle : k + vs.length ≤ c.sent.length) (hvs : vs = (c.sent.drop k).take vs.length) :
    GFact { c with cur := upd c.cur r (k + vs.length), got := upd c.got r (c.got r ++ vs) } := by
  refine { hg with lim_pub := ?_, cur_le := ?_, got_ok := ?_ } <;> dsimp only
  · intro x hx; simp only [upd_apply]; have := hg.lim_pub x hx
    split
    · rename_i e; subst e; simp only [Core.pub] at *; omega
    · exact this
  · intro x; simp only [upd_apply]; split
    · exact hle
    · exact hg.cur_le x
  · intro x; simp only [upd_apply]
    split
    · rename_i e; subst e
      have ⟨a, b⟩ := hg.got_ok x
      refine ⟨by omega, ?_⟩
      rw [b, hvs]
      subst hk
      rw [List.length_take, List.length_drop, Nat.min_eq_left (by omega)]
      have e1 : c.cur x + vs.length - c.c0 x = (c.cur x - c.c0 x) + vs.length := by omega
      rw [e1]
      have e2 : List.drop (c.cur x) c.sent = List.drop (c.cur x - c.c0 x) (List.drop (c.c0 x) c.sent) := by
        rw [List.drop_drop]; congr 1; omega
      rw [e2, ← List.take_add]
    · exact hg.got_ok x

theorem gfact_cCur {c : Core} (hg : GFact c) {t r : Nat} :
    GFact { c with nextCell := c.nextCell + 1, cur := upd c.cur c.nextCell (c.cur r),
                   c0 := upd c.c0 c.nextCell (c.cur r), rclosed := upd c.rclosed c.nextCell false,
                   got := upd c.got c.nextCell [], resv := upd c.resv c.nextCell (some t) } := by
  refine { hg with lim_pub := ?_, cur_le := ?_, got_ok := ?_, cells := ?_, alive_lt := ?_, resv_lt := ?_, regd := ?_ } <;> dsimp only
  · intro x hx; simp only [upd_apply]
    have := hg.cells c.live x hx
    rw [if_neg (by omega)]; exact hg.lim_pub x hx
  · intro x; simp only [upd_apply]; split
    · exact hg.cur_le r
    · exact hg.cur_le x
  · intro x; simp only [upd_apply]; split
    · simp
    · exact hg.got_ok x
  · intro i x hx; have := hg.cells i x hx; omega
  · intro x hx; have := hg.alive_lt x hx; omega
  · intro n u hn; simp only [upd_apply] at hn ⊢
    split at hn
    · rename_i e; subst e
      refine ⟨by omega, ?_⟩
      cases ha : c.rAlive c.nextCell
      · rfl
      · have := hg.alive_lt _ ha; omega
    · have := hg.resv_lt n u hn; exact ⟨by omega, this.2⟩
  · intro x hx hcl hrv
    simp only [upd_apply] at hx hcl hrv ⊢
    by_cases e : x = c.nextCell
    · subst e; simp at hrv
    · rw [if_neg e] at hcl hrv
      exact hg.regd x (by omega) hcl hrv

theorem gfact_close {c : Core} (hg : GFact c) {r : Nat} : GFact { c with rclosed := upd c.rclosed r true } := by
  refine { hg with regd := ?_ } <;> dsimp only
  intro x hx hcl hrv
  simp only [upd_apply] at hcl
  split at hcl
  · cases hcl
  · exact hg.regd x hx hcl hrv

theorem gfact_born {c : Core} (hg : GFact c) {n t : Nat} (hrv : c.resv n = some t)
    (hm : n ∈ c.data 0 ∧ n ∈ c.data 1) :
    GFact { c with rAlive := upd c.rAlive n true, resv := upd c.resv n none } := by
  refine { hg with alive_lt := ?_, resv_lt := ?_, regd := ?_ } <;> dsimp only
  · intro x hx; simp only [upd_apply] at hx
    split at hx
    · rename_i e; subst e; exact (hg.resv_lt x t hrv).1
    · exact hg.alive_lt x hx
  · intro x u hx; simp only [upd_apply] at hx ⊢
    split at hx
    · cases hx
    · rename_i e; rw [if_neg e]; exact hg.resv_lt x u hx
  · intro x hx hcl hr
    simp only [upd_apply] at hr
    split at hr
    · rename_i e; subst e; exact hm
    · exact hg.regd x hx hcl hr

theorem gfact_mut {c : Core} (hg : GFact c) {i t r : Nat} {k : MK} {o : LOp} (hi : i ≠ c.live) (ho : ModOp c t r k o) :
    GFact { c with data := upd c.data i (apL o (c.data i)) } := by
  refine { hg with lim_pub := ?_, cells := ?_, regd := ?_ } <;> dsimp only
  · intro x hx
    simp only [Core.pub, upd_ne hi.symm] at hx
    exact hg.lim_pub x hx
  · intro j x hx
    simp only [upd_apply] at hx
    split at hx
    · rename_i e; subst e
      rcases ho with ⟨n, _, cl⟩ | _
      · simp only [apL, List.mem_append, List.mem_singleton] at hx
        rcases hx with hx | hx
        · exact hg.cells j x hx
        · subst hx; exact (hg.resv_lt x t cl.resv).1
      · simp only [apL, List.mem_filter] at hx; exact hg.cells j x hx.1
    · exact hg.cells j x hx
  · intro x hx hcl hrv
    have ⟨a, b⟩ := hg.regd x hx hcl hrv
    have key : ∀ j, x ∈ c.data j → x ∈ upd c.data i (apL o (c.data i)) j := by
      intro j hj
      simp only [upd_apply]
      split
      · rename_i e; subst e
        rcases ho with ⟨n, _, _⟩ | hr
        · simp only [apL, List.mem_append]; exact Or.inl hj
        · simp only [apL, List.mem_filter]
          refine ⟨hj, ?_⟩
          have : x ≠ r := by intro e; subst e; rw [hr] at hcl; cases hcl
          simpa using this
      · exact hj
    exact ⟨key 0 a, key 1 b⟩

theorem gfact_pub {c : Core} (hg : GFact c) {l t r : Nat} {k : MK} {o : LOp} (hl : l = c.live) (hl2 : l < 2)
    (hd : c.data (1 - l) = apL o (c.data l)) (ho : ModOp c t r k o) :
    GFact { c with live := 1 - l } := by
  refine { hg with lim_pub := ?_ } <;> dsimp only
  intro x hx
  have g2 := hg.lim_pub
  simp only [Core.pub] at hx g2
  rw [hd] at hx
  subst hl
  rcases ho with ⟨n, hb, cl⟩ | _
  · simp only [apL, List.mem_append, List.mem_singleton] at hx
    rcases hx with hx | hx
    · exact hg.lim_pub x hx
    · subst hx
      have := hg.lim_pub r (hg.mem_pub hl2 hb)
      have := cl.cur
      omega
  · simp only [apL, List.mem_filter] at hx
    exact hg.lim_pub x hx.1

end Fv.Chan.SpmcB
