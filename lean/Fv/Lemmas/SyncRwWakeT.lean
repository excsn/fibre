import Fv.Lemmas.SyncRwWakeA
/-!
What `Fv/Props/C10.lean` (c)/(d) takes from `WInv`: wake conservation (`woken_node_accounted`), no lost wakeup
(`no_lost_wakeup`), and `progress`, of which quiescent deadlock freedom is the contrapositive.
-/
namespace Fv.Sync.RwLock
open Fv.Sync
variable {cfg : Cfg} {s s' : State} {t : Tid} {l : Lbl}

def Enabled (cfg : Cfg) (s : State) (t : Tid) : Prop := ∃ l s', (l, s') ∈ next cfg s t ∧ l ≠ .parkSpur

def runnablePc : Pc → Bool
  | .idle | .wPark | .boPark | .wnWake => false
  | .taLoad _ | .taCas _ | .spinYield | .llSwap _ | .llLoad _ | .llSpin _ | .qRearm | .qFetchOr | .qLoad | .qCas
  | .ff1 _ | .ff2 _ | .llRel _ | .wLoad | .relSub | .relAnd | .wnStore | .wrStore | .dLoad | .ret _ => true

theorem runnable_enabled (h : runnablePc (s.th t).pc = true) : Enabled cfg s t := by
  unfold Enabled next
  cases hpc : (s.th t).pc <;> rw [hpc] at h <;> try (cases h)
  all_goals simp only [nTaLoad, nTaCas, nSpinYield, nLlSwap, nLlLoad, nLlSpin, nQRearm, nQFetchOr, nQLoad, nQCas,
    nFf1, nFf2, nLlRel, nWLoad, nRelSub, nRelAnd, nWnStore, nWrStore, nDLoad, nRet]
  all_goals (try split)
  all_goals exact ⟨_, _, List.mem_cons_self, by simp⟩

theorem park_enabled (h : (s.th t).pc = .wPark ∨ (s.th t).pc = .boPark) (htok : s.token t = true) :
    Enabled cfg s t := by
  unfold Enabled next
  rcases h with h | h <;> rw [h] <;> simp only [nWPark, nBoPark, htok, if_true]
  all_goals exact ⟨_, _, List.mem_append_left _ List.mem_cons_self, by simp⟩

theorem wnWake_enabled (h : (s.th t).pc = .wnWake) {u : Tid} {r : List Waiter}
    (hw : (s.th t).ws = .thread u :: r) : Enabled cfg s t := by
  unfold Enabled next
  rw [h]; simp only [nWnWake, hw]
  exact ⟨_, _, List.mem_cons_self, by simp⟩

/-! For `progress`: a busy future has a thread operating on it; a thread at `wnWake` carries a thread handle first
(counting wakers are delivered by `drain`). -/

def PWn (s : State) : Prop := ∀ t, (s.th t).pc = .wnWake → ∃ u r, (s.th t).ws = .thread u :: r
def PBusyEx (s : State) : Prop := ∀ f, (s.fut f).busy = true → ∃ t, opOn s t f

theorem wn_step (hi : Inv s) (hp : PWn s) (h : Step cfg s t l s') : PWn s' := by
  intro u
  by_cases hu : u = t
  · subst hu; exact wnWake_local hi h
  · rw [step_th_other h u hu]; exact hp u

theorem busyEx_step (hi : Inv s) (hw : WInv s) (hp : PBusyEx s) (h : Step cfg s t l s') : PBusyEx s' := by
  intro f hb'
  obtain ⟨k1, k2⟩ := (fut_trans hi hw h).opOn f
  cases hb : (s.fut f).busy with
  | false => exact ⟨t, k2 hb hb'⟩
  | true =>
    obtain ⟨u, hu⟩ := hp f hb
    by_cases hut : u = t
    · subst hut
      rcases k1 hu with h1 | h1
      · exact ⟨u, h1⟩
      · rw [h1] at hb'; cases hb'
    · exact ⟨u, by unfold opOn at hu ⊢; rw [step_th_other h u hut]; exact hu⟩

theorem extra_reach {s : State} (h : Reach cfg s) : PWn s ∧ PBusyEx s := by
  induction h with
  | init h0 =>
    obtain ⟨prog, rfl⟩ := h0
    exact ⟨fun t hp => by simp [init] at hp, fun f hb => by simp [init] at hb⟩
  | step hr hm ih =>
    obtain ⟨hi, -, hw⟩ := WInv_reach hr
    have hs := step_of_mem hm
    exact ⟨wn_step hi ih.1 hs, busyEx_step hi hw ih.2 hs⟩

/-- a thread parked without a token: a sync waiter in the park loop of `read_slow` / `write_slow`,
or the harness executor of a `read_async` / `write_async` future that returned `Pending` -/
def ParkedBlocked (s : State) (u : Tid) : Prop :=
  ((s.th u).pc = .wPark ∨ (s.th u).pc = .boPark) ∧ s.token u = false

/-- a manually polled future that returned `Pending` (its node is allocated), is not being polled
or dropped right now, and has no wake recorded since its last poll -/
def PendingBlocked (s : State) (f : Fid) : Prop :=
  (s.fut f).phase = .startedNode ∧ (s.fut f).busy = false ∧ s.wakes f = 0

theorem ParkedBlocked.blocked (hi : Inv s) (hw : WInv s) {u : Tid} (hb : ParkedBlocked s u) :
    Live s (me u (s.th u)) ∧ OwnerBlocked s (me u (s.th u)) := by
  obtain ⟨hp | hp, htk⟩ := hb
  · simp only [me, hi.syncCur u (by rw [hp]; rfl)]
    exact ⟨trivial, hp, htk⟩
  · obtain ⟨f, hc⟩ := Option.ne_none_iff_exists'.1 (hi.asyncCur u (by rw [hp]; rfl))
    obtain ⟨hbl, hph⟩ := hw.boPark u hp
    simp only [me, hc]
    exact ⟨hph f hc, ownerBlocked_iff.2 (.exec (by rw [← hw.boc u f hc (by rw [hp]; rfl)]; exact hbl) hc hp htk)⟩

/-- a `block_on` future is busy for its whole life (`PBb`), so a `Pending` one is polled manually -/
theorem PendingBlocked.blocked (hw : WInv s) {f : Fid} (hb : PendingBlocked s f) : OwnerBlocked s (.fut f) := by
  obtain ⟨hph, hbz, hwz⟩ := hb
  refine ownerBlocked_iff.2 (.manual (Bool.eq_false_iff.2 fun hbo => ?_) hbz hwz)
  rcases hw.bb f hbo with h2 | h2
  · rw [hbz] at h2; cases h2
  · rw [hph] at h2; cases h2

theorem Accounted.covered (hi : Inv s) (hw : WInv s) {n : Nid} (ha : Accounted s n) (hl : Live s n)
    (hb : OwnerBlocked s n) :
    n ∈ s.wl.queue ∨ ((s.wl.node n).woken = true ∧ ∃ t, PostWake s t n) ∨ MarkPending s n :=
  ha.imp (hi.wf.linked n).1 (Or.imp_left fun h1 => ⟨h1, hw.wk n h1 hl hb⟩)

theorem woken_node_accounted (hr : Reach cfg s) {n : Nid} (hlive : Live s n)
    (hwk : (s.wl.node n).woken = true) : ¬ OwnerBlocked s n ∨ ∃ t, PostWake s t n := by
  obtain ⟨-, -, hw⟩ := WInv_reach hr
  by_cases hb : OwnerBlocked s n
  · exact Or.inr (hw.wk n hwk hlive hb)
  · exact Or.inl hb

theorem no_lost_wakeup (hr : Reach cfg s) (hfree : LockFree s) (hq : s.wl.queue ≠ []) :
    (∃ t, PreWake s t)
    ∨ ∃ n ∈ s.wl.queue,
        ((s.wl.node n).isWriter = true ∨ ∀ m ∈ s.wl.queue, (s.wl.node m).isWriter = false)
        ∧ (((s.wl.node n).woken = true ∧ (¬ OwnerBlocked s n ∨ ∃ t, PostWake s t n)) ∨ OwnerActive s n) := by
  obtain ⟨hi, -, hw⟩ := WInv_reach hr
  rcases hw.nlw hfree hq with h1 | ⟨n, hn, hwz, hcov⟩
  · exact Or.inl h1
  · right
    refine ⟨n, hn, ?_, ?_⟩
    · rcases hwz with h1 | h1
      · exact Or.inl h1
      · right
        intro m hm
        have := hi.wf.writers
        rw [h1] at this
        simpa using List.countP_eq_zero.1 this.symm m hm
    · rcases hcov with h1 | h1
      · exact Or.inl ⟨h1, woken_node_accounted hr (live_of_linked hi ((hi.wf.linked n).2 hn)) h1⟩
      · exact Or.inr h1

def Quiescent (cfg : Cfg) (s : State) : Prop := ∀ t l s', (l, s') ∈ next cfg s t → l = .parkSpur

theorem runnable_of_ne {pc : Pc} (h1 : pc ≠ .idle) (h2 : pc ≠ .wPark) (h3 : pc ≠ .boPark) (h4 : pc ≠ .wnWake) :
    runnablePc pc = true := by
  cases pc <;> first | rfl | exact absurd rfl h1 | exact absurd rfl h2 | exact absurd rfl h3 | exact absurd rfl h4

/-- the executor has re-polled every woken task: the one thing the lock cannot do itself -/
def Served (s : State) : Prop :=
  ∀ g, (s.fut g).bo = false → (s.fut g).phase = .startedNode → (s.fut g).busy = false → s.wakes g = 0

theorem slowL_runnable {pc : Pc} (h : slowL pc = true) (hp : pc ≠ .wPark) : runnablePc pc = true := by
  cases pc <;> first | rfl | exact absurd rfl hp | cases h
theorem futPc_runnable {pc : Pc} (h : futPc pc = true) (hp : pc ≠ .boPark) : runnablePc pc = true := by
  cases pc <;> first | rfl | exact absurd rfl hp | cases h
theorem activePc_runnable {pc : Pc} (h : activePc pc = true) : runnablePc pc = true := by
  cases pc <;> first | rfl | cases h
theorem preWakePc_runnable {pc : Pc} (h : preWakePc pc = true ∨ dropPc pc = true) : runnablePc pc = true := by
  rcases h with h | h <;> cases pc <;> first | rfl | cases h
theorem postWakePc_runnable {pc : Pc} (h : postWakePc pc = true) (hp : pc ≠ .wnWake) : runnablePc pc = true := by
  cases pc <;> first | rfl | exact absurd rfl hp | cases h

theorem stuck_owner_blocked {s : State} (hr : Reach cfg s) (stuck : ∀ t, ¬ Enabled cfg s t) (hexec : Served s)
    {n : Nid} (hl : (s.wl.node n).linked = true) : OwnerBlocked s n := by
  obtain ⟨hi, -, hw⟩ := WInv_reach hr
  have hbe := (extra_reach hr).2
  have tok : ∀ v, (s.th v).pc = .wPark ∨ (s.th v).pc = .boPark → s.token v = false := fun v hp =>
    Bool.eq_false_iff.2 fun htk => stuck v (park_enabled hp htk)
  refine ownerBlocked_iff.2 ?_
  cases n with
  | thr v =>
    have hp : (s.th v).pc = .wPark :=
      Classical.byContradiction fun hp => stuck v (runnable_enabled (slowL_runnable (hi.thrNode v hl).2.1 hp))
    exact .sync hp (tok v (Or.inl hp))
  | fut g =>
    have hph := hi.futNode g hl
    have op : ∀ v, opOn s v g → (s.th v).pc = .boPark := fun v hop =>
      Classical.byContradiction fun hp => stuck v (runnable_enabled (futPc_runnable hop.2 hp))
    cases hbo : (s.fut g).bo with
    | true =>
      obtain ⟨v, hv⟩ := hbe g ((hw.bb g hbo).resolve_right (by rw [hph]; exact FPhase.noConfusion))
      exact .exec hbo hv.1 (op v hv) (tok v (Or.inr (op v hv)))
    | false =>
      have hnb : (s.fut g).busy = false := Bool.eq_false_iff.2 fun hbz => by
        obtain ⟨v, hv⟩ := hbe g hbz
        have := (hw.boPark v (op v hv)).1
        rw [hw.boc v g hv.1 hv.2, hbo] at this; cases this
      exact .manual hbo hnb (hexec g hbo hph hnb)

/-- Otherwise nobody is inside `wake_waiters`, carries a handle or is about to mark a node; the owner of every
queued node is blocked (`stuck_owner_blocked`), so no queued node is `WOKEN` (`PWk`) and the queue is empty (`PNlw`);
and a blocked waiter has its node queued, `WOKEN` or about to be marked (`PPk`, `PFl`). -/
theorem progress (hr : Reach cfg s) (hfree : LockFree s) (hexec : Served s)
    (hb : s.wl.queue ≠ [] ∨ (∃ u, ParkedBlocked s u) ∨ ∃ f, PendingBlocked s f) : ∃ t, Enabled cfg s t := by
  refine Classical.byContradiction fun hn => ?_
  have stuck : ∀ t, ¬ Enabled cfg s t := fun t h => hn ⟨t, h⟩
  obtain ⟨hi, -, hw⟩ := WInv_reach hr
  have hwn := (extra_reach hr).1
  have post : ∀ u n, PostWake s u n → False := by
    rintro u n ⟨hp, -⟩
    by_cases hpc : (s.th u).pc = .wnWake
    · obtain ⟨v, r, hv⟩ := hwn u hpc
      exact stuck u (wnWake_enabled hpc hv)
    · exact stuck u (runnable_enabled (postWakePc_runnable hp hpc))
  have hempty : s.wl.queue = [] := by
    refine Classical.byContradiction fun hqe => ?_
    rcases hw.nlw hfree hqe with ⟨u, hu⟩ | ⟨n, hn, -, hwk | ⟨u, _, hu⟩⟩
    · exact stuck u (runnable_enabled (preWakePc_runnable (hu.imp id And.left)))
    · have hl := (hi.wf.linked n).2 hn
      obtain ⟨u, hu⟩ := hw.wk n hwk (live_of_linked hi hl) (stuck_owner_blocked hr stuck hexec hl)
      exact post u n hu
    · exact stuck u (runnable_enabled (activePc_runnable hu))
  -- a blocked waiter's node is accounted for, and none of the three ways is left
  have none : ∀ n, Accounted s n → Live s n → OwnerBlocked s n → False := by
    intro n ha hl hbl
    rcases ha.covered hi hw hl hbl with h1 | ⟨-, u, hu⟩ | ⟨v, hv, -⟩
    · rw [hempty] at h1; cases h1
    · exact post u n hu
    · exact stuck v (runnable_enabled (by rw [hv]; rfl))
  rcases hb with hqne | ⟨u, hb⟩ | ⟨f, hb⟩
  · exact hqne hempty
  · exact none _ (hw.pk u (Or.inr hb.1)) (hb.blocked hi hw).1 (hb.blocked hi hw).2
  · exact none _ (hw.fl f hb.1 hb.2.1) hb.1 (hb.blocked hw)

end Fv.Sync.RwLock
