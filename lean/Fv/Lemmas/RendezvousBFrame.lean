import Fv.Lemmas.RendezvousB
/-! Every step of the rendezvous B-model has the frame `Frame`: a look at the successor state, case by case. -/
namespace Fv.Chan.RendezvousB

attribute [local grind] recOf owes
attribute [local grind =] upd_apply bump_apply

theorem step_frame {s s' : State} {t : Nat} {l : Label} (h : step s t l = some s') : Frame s t s' := by
  cases l <;> cases hp : s.pc t <;> step_cases h hp <;>
    (simp only [Frame, HitR, HitS, hp, upd_same, imp_self, implies_true, Nat.le_refl, false_imp_iff, iff_self, and_self,
      true_and, and_true] <;> and_intros <;> grind)

end Fv.Chan.RendezvousB
