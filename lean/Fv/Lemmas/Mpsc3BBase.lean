import Fv.Chan.Mpsc3B
/-! What one step of the `Mpsc3B` model does, as far as its invariants are concerned (`step_sum`): the case analysis
over the program counters is done here, once; each invariant is a frame argument over that summary plus the few
steps that matter to it. -/
namespace Fv.Chan.Mpsc3B

@[simp] theorem upd_same {α} (f : Nat → α) (i : Nat) (a : α) : upd f i a i = a := by simp [upd]
theorem upd_other {α} (f : Nat → α) (i j : Nat) (a : α) (h : j ≠ i) : upd f i a j = f j := by simp [upd, h]
theorem upd_apply {α} (f : Nat → α) (i j : Nat) (a : α) : upd f i a j = if j = i then a else f j := rfl
theorem upd2_apply {α} (f : Nat → Nat → α) (i j i' j' : Nat) (a : α) :
    upd2 f i j a i' j' = if i' = i ∧ j' = j then a else f i' j' := rfl

theorem upd_self {α} (f : Nat → α) (i : Nat) {a : α} (h : f i = a) : f = upd f i a := by
  funext j; rw [upd_apply]; split
  · next e => rw [e, h]
  · rfl

theorem forall_upd {α} {P : Nat → α → Prop} {f : Nat → α} {i : Nat} {a : α} (hi : P i a) (ho : ∀ j, j ≠ i → P j (f j))
    (j : Nat) : P j (upd f i a j) := by
  rw [upd_apply]; split
  · next e => exact e ▸ hi
  · next e => exact ho j e

/-- the critical sections of the five mutexes -/
def inHead : Pc → Bool
  | .dId | .dRetire | .dSlot | .dEmpty | .dDr | .dG | .dUnlock | .pDr | .pPr
  | .sFence | .sSC | .sSLock | .sSFlag | .sSCnt | .sSUnlock | .sUnpark | .sAC | .sALock | .sACnt | .sAUnlock | .sAWake
  | .fUnlock => true
  | _ => false

def inSS : Pc → Bool
  | .rgCnt | .rgUnlock | .fnCnt | .fnUnlock | .wsSFlag | .wsSCnt | .wsSUnlock | .sSFlag | .sSCnt | .sSUnlock => true
  | _ => false

def inAS : Pc → Bool
  | .uaCnt | .uaUnlock | .raCnt | .raUnlock | .wsACnt | .wsAUnlock | .sACnt | .sAUnlock => true
  | _ => false

def inSR : Pc → Bool
  | .nSCnt | .nSFlag | .nSUnlock | .waSCnt | .waSFlag | .waSUnpark | .waSUnlock | .rrUnlock | .frUnlock => true
  | _ => false

def inAR : Pc → Bool
  | .nACnt | .nAUnlock | .waACnt | .waAWake | .waAUnlock | .arUnlock | .auUnlock => true
  | _ => false

def free (p : Pc) : Bool := !inHead p && !inSS p && !inAS p && !inSR p && !inAR p

/-- pcs of a send-form call after its handle's `closed` flag was read `false` in this pass -/
def inP : Pc → Bool
  | .cRx | .tG | .tP | .tFadd | .tCred | .eId | .eRet | .eSpin | .eCas | .wSt
  | .nFence | .nSC | .nSLock | .nSCnt | .nSFlag | .nSUnlock | .nSUnpark | .nAC | .nALock | .nACnt | .nAUnlock | .nAWake
  | .sYield | .raLock | .raCnt | .raUnlock | .raFence => true
  | _ => false

/-- pcs from which a send-form call can (re-)read its `closed` flag or claim a ticket -/
def inS : Pc → Bool
  | .cClosed | .rgLock | .rgCnt | .rgUnlock | .rgFence | .pkSpinLd | .pkSpin | .pkFlagLd | .pkPark | .pkSwap => true
  | p => inP p

/-- the three visible actions that change the handle bookkeeping -/
def special : Pc → Bool
  | .cnAdd | .clCas | .clSub => true
  | _ => false

def recvPc : Pc → Bool
  | .rClosed | .dLock | .dId | .dRetire | .dSlot | .dEmpty | .dDr | .dG | .dUnlock | .pDr | .pPr
  | .sFence | .sSC | .sSLock | .sSFlag | .sSCnt | .sSUnlock | .sUnpark | .sAC | .sALock | .sACnt | .sAUnlock | .sAWake
  | .rSc | .fLock | .fUnlock | .rrLock | .rrUnlock | .rrCnt | .rrFence | .rpSpinLd | .rpSpin | .rpFlagLd | .rpPark
  | .frLock | .frUnlock | .frCnt | .frFlagLd | .frSpin | .rFlagReset | .rYield
  | .arLock | .arUnlock | .arCnt | .arFence | .auLock | .auUnlock | .auCnt
  | .rcCas | .rdStore | .wsSLock | .wsSFlag | .wsSCnt | .wsSUnlock | .wsALock | .wsACnt | .wsAUnlock | .wsUnpark | .wsWake => true
  | _ => false

/-- pcs that hold no claimed ticket and are not a distinguished consumer phase -/
def quiet : Pc → Bool
  | .tCred | .eId | .eRet | .eSpin | .eCas | .wSt | .dRetire | .dEmpty | .pDr | .pPr => false
  | _ => true

/-- the claimed ticket has had its credit check (`ensure_resident`, slot store) -/
def hold : Pc → Bool
  | .eId | .eRet | .eSpin | .eCas | .wSt => true
  | _ => false

/-- the step from `idle` is a call, the step from `ret` a return -/
def envPc : Pc → Bool
  | .idle | .ret => true
  | _ => false

/-- the steps visible in the ticket-level projection `absC` -/
def coreStep : Pc → Bool
  | .tFadd | .tCred | .wSt | .dLock | .dId | .dRetire | .dSlot | .dEmpty | .dDr | .dUnlock | .pDr | .pPr | .fLock | .fUnlock => true
  | _ => false

/-- the steps that matter to the chunk-table invariant `TInv` -/
def tblStep : Pc → Bool
  | .eId | .eRet | .eCas | .wSt | .dRetire | .dEmpty => true
  | _ => false

macro "nx_unfold" "at" h:ident : tactic => `(tactic| simp only [nxIdle, nxRet, nxCClosed, nxCRx, nxTG, nxTP, nxTFadd, nxTCred, nxEId, nxERet, nxESpin, nxECas, nxWSt, nxNFence, nxNSC, nxNSLock, nxNSCnt, nxNSFlag, nxNSUnlock, nxNSUnpark, nxNAC, nxNALock, nxNACnt, nxNAUnlock, nxNAWake, nxSYield, nxRgLock, nxRgCnt, nxRgUnlock, nxRgFence, nxPkSpinLd, nxPkSpin, nxPkFlagLd, nxPkPark, nxPkSwap, nxFnLock, nxFnCnt, nxFnUnlock, nxFnFlagLd, nxFnSpin, nxUaLock, nxUaCnt, nxUaUnlock, nxRaLock, nxRaCnt, nxRaUnlock, nxRaFence, nxBoPark, nxCnAdd, nxClCas, nxClSub, nxWaSLock, nxWaSCnt, nxWaSFlag, nxWaSUnpark, nxWaSUnlock, nxWaALock, nxWaACnt, nxWaAWake, nxWaAUnlock, nxRcCas, nxRdStore, nxWsSLock, nxWsSFlag, nxWsSCnt, nxWsSUnlock, nxWsALock, nxWsACnt, nxWsAUnlock, nxWsUnpark, nxWsWake, nxRClosed, nxDLock, nxDId, nxDRetire, nxDSlot, nxDEmpty, nxDDr, nxDG, nxDUnlock, nxPDr, nxPPr, nxSFence, nxSSC, nxSSLock, nxSSFlag, nxSSCnt, nxSSUnlock, nxSUnpark, nxSAC, nxSALock, nxSACnt, nxSAUnlock, nxSAWake, nxRSc, nxFLock, nxFUnlock, nxRrLock, nxRrUnlock, nxRrCnt, nxRrFence, nxRpSpinLd, nxRpSpin, nxRpFlagLd, nxRpPark, nxFrLock, nxFrUnlock, nxFrCnt, nxFrFlagLd, nxFrSpin, nxRFlagReset, nxRYield, nxArLock, nxArUnlock, nxArCnt, nxArFence, nxAuLock, nxAuUnlock, nxAuCnt, nxLG, nxLD] at $h:ident)

/-- the pcs at which a call leaves the thread -/
def entryPc : Pc → Bool
  | .ret | .cClosed | .rClosed | .uaLock | .auLock | .cnAdd | .clCas | .rcCas | .lG => true
  | _ => false

theorem entryPc_class {p : Pc} (h : entryPc p = true) : inP p = false ∧ p ≠ .clSub ∧ (inS p = true → p = .cClosed) := by
  revert h; cases p <;> decide

/-- where a call starts (`y`: the record `callTh` makes of `x0`), by the kind of operation -/
structure CallSum (s : State) (op : Op) (x0 y : Th) : Prop where
  entry : entryPc y.pc = true
  hb : y.hb = x0.hb
  rb : y.rb = x0.rb
  h : x0.h = (opHandle s op).getD 0 → y.h = (opHandle s op).getD 0
  clone : y.pc = .cnAdd ↔ ∃ a b, op = .clone a b
  handle : y.pc = .clCas ∨ y.pc = .cClosed → (opHandle s op).isSome = true
  recv : recvPc y.pc = true → opRecv s op = true

theorem callTh_sum (c : Cfg) (s : State) (x x0 : Th) (op : Op) : CallSum s op x0 (callTh c s x x0 op) := by
  cases op <;> simp only [callTh, retWith] <;> (try (repeat' split)) <;> constructor <;>
    simp [opHandle, opRecv, entryPc, recvPc, *]

theorem free_retPending (x : Th) : free (retPending x).pc = true := by unfold retPending; split <;> rfl
theorem free_enterLoop (x : Th) : free (enterLoop x).pc = true := rfl
theorem free_parkSeqS (c : Cfg) (x : Th) : free (parkSeqS c x).pc = true := by unfold parkSeqS; split <;> rfl
theorem free_parkSeqR (c : Cfg) (x : Th) : free (parkSeqR c x).pc = true := by unfold parkSeqR; split <;> rfl
theorem free_flushCall (x : Th) (k : FlSite) : free (flushCall x k).pc = true := rfl

theorem pubDone_pc (x : Th) : (pubDone x).pc = .dDr ∨ (pubDone x).pc = .dId ∨ (pubDone x).pc = .fUnlock := by
  unfold pubDone; split <;> simp

theorem notSp_retPending (x : Th) : special (retPending x).pc = false := by
  unfold retPending; split <;> rfl
theorem notP_retPending (x : Th) : inP (retPending x).pc = false := by
  unfold retPending; split <;> rfl
theorem notS_retPending (x : Th) : inS (retPending x).pc = false := by
  unfold retPending; split <;> rfl
theorem notSp_enterLoop (x : Th) : special (enterLoop x).pc = false := rfl
theorem notP_enterLoop (x : Th) : inP (enterLoop x).pc = false := rfl
theorem notSp_parkSeqS (c : Cfg) (x : Th) : special (parkSeqS c x).pc = false := by
  unfold parkSeqS; split <;> rfl
theorem notP_parkSeqS (c : Cfg) (x : Th) : inP (parkSeqS c x).pc = false := by
  unfold parkSeqS; split <;> rfl
theorem notSp_parkSeqR (c : Cfg) (x : Th) : special (parkSeqR c x).pc = false := by
  unfold parkSeqR; split <;> rfl
theorem notP_parkSeqR (c : Cfg) (x : Th) : inP (parkSeqR c x).pc = false := by
  unfold parkSeqR; split <;> rfl
theorem notS_parkSeqR (c : Cfg) (x : Th) : inS (parkSeqR c x).pc = false := by
  unfold parkSeqR; split <;> rfl
theorem notSp_flushCall (x : Th) (k : FlSite) : special (flushCall x k).pc = false := rfl
theorem notP_flushCall (x : Th) (k : FlSite) : inP (flushCall x k).pc = false := rfl
theorem notS_flushCall (x : Th) (k : FlSite) : inS (flushCall x k).pc = false := rfl
theorem notSp_tsOk (x : Th) : special (tsOk x).pc = false := by
  unfold tsOk retWith; repeat' split
  all_goals rfl
theorem notP_callTh (c : Cfg) (s : State) (x x0 : Th) (op : Op) : inP (callTh c s x x0 op).pc = false :=
  (entryPc_class (callTh_sum c s x x0 op).entry).1

theorem h_retPending (x : Th) : (retPending x).h = x.h := by unfold retPending; split <;> rfl
theorem hb_retPending (x : Th) : (retPending x).hb = x.hb := by unfold retPending; split <;> rfl
theorem h_enterLoop (x : Th) : (enterLoop x).h = x.h := rfl
theorem hb_enterLoop (x : Th) : (enterLoop x).hb = x.hb := rfl
theorem h_parkSeqS (c : Cfg) (x : Th) : (parkSeqS c x).h = x.h := by unfold parkSeqS; split <;> rfl
theorem hb_parkSeqS (c : Cfg) (x : Th) : (parkSeqS c x).hb = x.hb := by unfold parkSeqS; split <;> rfl
theorem h_parkSeqR (c : Cfg) (x : Th) : (parkSeqR c x).h = x.h := by unfold parkSeqR; split <;> rfl
theorem hb_parkSeqR (c : Cfg) (x : Th) : (parkSeqR c x).hb = x.hb := by unfold parkSeqR; split <;> rfl
theorem h_flushCall (x : Th) (k : FlSite) : (flushCall x k).h = x.h := rfl
theorem hb_flushCall (x : Th) (k : FlSite) : (flushCall x k).hb = x.hb := rfl
theorem h_tsOk (x : Th) : (tsOk x).h = x.h := by
  unfold tsOk retWith; repeat' split
  all_goals rfl
theorem hb_tsOk (x : Th) : (tsOk x).hb = x.hb := by
  unfold tsOk retWith; repeat' split
  all_goals rfl

theorem notR_retPending (x : Th) : recvPc (retPending x).pc = false := by
  unfold retPending; split <;> rfl
theorem notR_enterLoop (x : Th) : recvPc (enterLoop x).pc = false := rfl
theorem notR_parkSeqS (c : Cfg) (x : Th) : recvPc (parkSeqS c x).pc = false := by
  unfold parkSeqS; split <;> rfl
theorem notR_tsOk (x : Th) : recvPc (tsOk x).pc = false := by
  unfold tsOk retWith; repeat' split
  all_goals rfl
theorem rb_retPending (x : Th) : (retPending x).rb = x.rb := by
  unfold retPending; split <;> rfl
theorem rb_enterLoop (x : Th) : (enterLoop x).rb = x.rb := rfl
theorem rb_parkSeqS (c : Cfg) (x : Th) : (parkSeqS c x).rb = x.rb := by
  unfold parkSeqS; split <;> rfl
theorem rb_parkSeqR (c : Cfg) (x : Th) : (parkSeqR c x).rb = x.rb := by
  unfold parkSeqR; split <;> rfl
theorem rb_flushCall (x : Th) (k : FlSite) : (flushCall x k).rb = x.rb := rfl
theorem rb_tsOk (x : Th) : (tsOk x).rb = x.rb := by
  unfold tsOk retWith; repeat' split
  all_goals rfl

/-- `new` is `old`, except at the steps `w` -/
def Unless {α} (w : Bool) (new old : α) : Prop := new = bif w then new else old

theorem Unless.eq {α} {w : Bool} {new old : α} (h : Unless w new old) (hw : w = false) : new = old := by
  rw [Unless, hw] at h; exact h

/-- a mutex (`m`, then `m'`) under a step of `t` from `p` to `q`; `inM`: its critical section -/
def LockEff (inM : Pc → Bool) (p q : Pc) (m m' : Option Tid) (t : Tid) : Prop :=
  match inM p, inM q with
  | false, true => m = none ∧ m' = some t
  | true, false => m' = none
  | _, _ => m' = m

def locksOf (s : State) := (s.mHead, s.mSS, s.mAS, s.mSR, s.mAR)
def handOf (s : State) := (s.sClosed, s.hLive, s.hUsed, s.counted, s.senderCount)
def tblOf (s : State) := (s.tblId, s.retired, s.hCid, s.hPos, s.slot)
def coreOf (s : State) :=
  (s.gtail, s.progress, s.drained, s.hPos, s.hUnpub, s.hCid, s.hIdx, s.slot, s.log, s.recvd, s.seq, s.mHead)

/-- where a step from `p` can lead (`q`), class by class -/
def flow (p q : Pc) : Bool :=
  (!special q || special p || envPc p) &&
  (!inS q || inS p || envPc p || p == .boPark) &&
  (!inP q || inP p || p == .cClosed) &&
  (!recvPc q || recvPc p || envPc p || p == .boPark) &&
  (!(q == .wSt || q == .eCas) || tblStep p) &&
  (coreStep p || (quiet p && quiet q) || (hold p && hold q))

structure Flow (p q : Pc) : Prop where
  toSpecial : special q = true → special p = true ∨ envPc p = true
  toS : inS q = true → inS p = true ∨ envPc p = true ∨ p = .boPark
  toP : inP q = true → inP p = true ∨ p = .cClosed
  toRecv : recvPc q = true → recvPc p = true ∨ envPc p = true ∨ p = .boPark
  toTbl : q = .wSt ∨ q = .eCas → tblStep p = true
  core : coreStep p = true ∨ (quiet p = true ∧ quiet q = true) ∨ (hold p = true ∧ hold q = true)

theorem flow_spec {p q : Pc} (h : flow p q = true) : Flow p q := by
  simp only [flow, Bool.and_eq_true, Bool.or_eq_true, Bool.not_eq_true', beq_iff_eq] at h
  constructor <;> grind

/-- the thread-local part; `m`, `m'`: `locksOf` before and after -/
structure ThSum (p : Pc) (x x' : Th) (t : Tid) (m m' : Option Tid × Option Tid × Option Tid × Option Tid × Option Tid) : Prop where
  own : Unless (envPc p) (x'.h, x'.hb, x'.rb) (x.h, x.hb, x.rb)
  claim : Unless (!hold p) (x'.tk, x'.okc) (x.tk, x.okc)
  flow : flow p x'.pc = true
  head : LockEff inHead p x'.pc m.1 m'.1 t
  ss : LockEff inSS p x'.pc m.2.1 m'.2.1 t
  as : LockEff inAS p x'.pc m.2.2.1 m'.2.2.1 t
  sr : LockEff inSR p x'.pc m.2.2.2.1 m'.2.2.2.1 t
  ar : LockEff inAR p x'.pc m.2.2.2.2 m'.2.2.2.2 t

/-- A step of `t` from pc `p`: only `t`'s record changes; the tables of the handle, chunk-table and ticket-level
invariants change only at the steps named, the busy marks only at `idle` / `ret`; an action never starts at `idle` /
`ret`, and a call, a return or a spurious wake-up never at one of the steps named (`env`). -/
structure StepSum (l : Label) (p : Pc) (s s' : State) (t : Tid) (x' : Th) : Prop where
  th : s'.th = upd s.th t x'
  env : (bif l == .act then envPc p else coreStep p || tblStep p || special p) = false
  busy : Unless (envPc p) (s'.sBusy, s'.rBusy) (s.sBusy, s.rBusy)
  hand : Unless (special p || envPc p) (handOf s') (handOf s)
  tbl : Unless (tblStep p) (tblOf s') (tblOf s)
  core : Unless (coreStep p) (coreOf s') (coreOf s)
  loc : ThSum p (s.th t) x' t (locksOf s) (locksOf s')

/-- By evaluation after case analysis; the state-level clauses are settled before the new thread record is split, so
that the splits work on a small goal. Not by evaluation: the guard of a lock acquisition (a hypothesis after the
split) and the pc of a step that stays where it is (`hp`). -/
theorem step_sum {c s t l a s' p} (hp : (s.th t).pc = p) (h : stepA c s t l = some (a, s')) :
    ∃ x', StepSum l p s s' t x' := by
  cases l <;> simp only [stepA, next, stepCall, stepRet, stepSpurious] at h <;> rw [hp] at h
  case' act => cases p <;> dsimp only at h <;> nx_unfold at h
  all_goals repeat' (first | cases h | split at h)
  all_goals refine ⟨_, rfl, rfl, rfl, rfl, rfl, rfl, ?_⟩
  all_goals dsimp only [locksOf, callTh, callX0, retPending, retWith, parkSeqS, parkSeqR, enterLoop, tsCall, tsOk, tsErr,
    chkClosed, chkOpen, nrDone, finDoneS, finDoneR, deqCall, flushCall, deqDone, scDone, flushDone, pubDone,
    probeDone, pollEntry]
  all_goals (try (repeat' split))
  all_goals first
    | exact ⟨rfl, rfl, rfl, rfl, rfl, rfl, rfl, rfl⟩
    | (refine ⟨rfl, rfl, ?_, ?_, ?_, ?_, ?_, ?_⟩ <;> first | exact rfl | exact ⟨‹_›, rfl⟩ | (rw [hp]; exact rfl))

theorem StepSum.eq_of_th {l p s s' t x' y} (hs : StepSum l p s s' t x') (h : s'.th = upd s.th t y) : x' = y := by
  simpa only [upd_same] using congrFun (hs.th.symm.trans h) t

/-- `block_on`'s wake-up, by token or spurious, re-polls the future -/
theorem boPark_th {c s t l a s'} (hp : (s.th t).pc = .boPark) (h : stepA c s t l = some (a, s')) :
    s'.th = upd s.th t (pollEntry (s.th t)) := by
  cases l <;> simp only [stepA, next, stepCall, stepRet, stepSpurious, hp, nxBoPark] at h
  · split at h <;> cases h; rfl
  · cases h
  · cases h
  · cases h; rfl

structure LInv (s : State) : Prop where
  head : ∀ u, inHead (s.th u).pc = true → s.mHead = some u
  ss : ∀ u, inSS (s.th u).pc = true → s.mSS = some u
  as : ∀ u, inAS (s.th u).pc = true → s.mAS = some u
  sr : ∀ u, inSR (s.th u).pc = true → s.mSR = some u
  ar : ∀ u, inAR (s.th u).pc = true → s.mAR = some u

theorem lock_pres {inM : Pc → Bool} {m m' : Option Tid} {th th' : Tid → Th} {t : Tid} {x' : Th}
    (hI : ∀ u, inM (th u).pc = true → m = some u) (hth : th' = upd th t x')
    (hr : LockEff inM (th t).pc x'.pc m m' t) : ∀ u, inM (th' u).pc = true → m' = some u := by
  intro u hu
  rw [hth] at hu
  unfold LockEff at hr
  by_cases hut : u = t
  · subst hut
    rw [upd_same] at hu
    cases hp : inM (th u).pc <;> simp only [hp, hu] at hr
    · exact hr.2
    · rw [hr]; exact hI u hp
  · rw [upd_other _ _ _ _ hut] at hu
    have hm := hI u hu
    cases hp : inM (th t).pc <;> cases hq : inM x'.pc <;> simp only [hp, hq] at hr
    · rw [hr]; exact hm
    · rw [hr.1] at hm; cases hm
    · exact absurd (Option.some.inj ((hI t hp).symm.trans hm)).symm hut
    · rw [hr]; exact hm

theorem linv_init (c : Cfg) (p : Tid → List Op) : LInv (init c p) := by
  constructor <;> intro u hu <;> cases hu

theorem linv_step {c s t l s'} (hi : LInv s) (h : step c s t l = some s') : LInv s' := by
  obtain ⟨⟨a, s1⟩, hA, rfl⟩ := Option.map_eq_some_iff.1 h
  obtain ⟨x', hs⟩ := step_sum rfl hA
  exact ⟨lock_pres hi.head hs.th hs.loc.head, lock_pres hi.ss hs.th hs.loc.ss, lock_pres hi.as hs.th hs.loc.as,
         lock_pres hi.sr hs.th hs.loc.sr, lock_pres hi.ar hs.th hs.loc.ar⟩

theorem reach_inv {c p} {I : State → Prop} (h0 : I (init c p))
    (hs : ∀ {s t l s'}, Reach c p s → I s → step c s t l = some s' → I s') {s} (h : Reach c p s) : I s := by
  induction h with
  | init => exact h0
  | step hr h ih => exact hs hr ih h

theorem linv_reach {c p s} (h : Reach c p s) : LInv s :=
  reach_inv (linv_init c p) (fun _ => linv_step) h

end Fv.Chan.Mpsc3B
