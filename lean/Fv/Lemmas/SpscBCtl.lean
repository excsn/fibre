import Fv.Lemmas.SpscBStep
/-! Preservation of the control invariant `CInv` by every step of the SPSC step-level model. -/
namespace Fv.Chan.SpscB

/-- `CInv` as seen from thread `r` (`lo`, `go`: the other thread's locals and `gone`) -/
def C1 (r : Role) (l lo : Loc) (g go : Bool) : Prop :=
  okAt l.k l.m ∧
  (∀ q, kSide l.k = some q → q = r) ∧
  (g = true → l.k = .drn ∨ l.m = .idle ∨ isRet l.m = true) ∧
  (l.k = .drn → g = true ∧ go = true ∧ lo.k ≠ .drn)

theorem cinv_iff {s : State} (r : Role) : CInv s ↔
    C1 r (s.loc r) (s.loc (other r)) (s.gone r) (s.gone (other r)) ∧
    C1 (other r) (s.loc (other r)) (s.loc r) (s.gone (other r)) (s.gone r) ∧
    (s.drained ≠ [] → s.gone r = true ∧ s.gone (other r) = true) := by
  constructor
  · intro ⟨a, b, c, d, e⟩
    exact ⟨⟨a r, b r, c r, d r⟩, ⟨a _, b _, c _, by simpa using d (other r)⟩,
      fun h => by cases r <;> simp [e h]⟩
  · intro ⟨⟨a, b, c, d⟩, ⟨a', b', c', d'⟩, e⟩
    refine ⟨(forall_role r).2 ⟨a, a'⟩, (forall_role r).2 ⟨b, b'⟩, (forall_role r).2 ⟨c, c'⟩,
      (forall_role r).2 ⟨d, by simpa using d'⟩, fun h => by cases r <;> simp_all⟩

variable {s s' : State} {r : Role}

theorem CInv.quiet (r : Role) (hc : CInv s) (hq : CQuiet (s.loc r) (s'.loc r))
    (ho : s'.loc (other r) = s.loc (other r)) (hd : s'.drained ≠ [] → s.drained ≠ [] ∨ (s.loc r).k = .drn)
    (hg : s'.gone = s.gone) : CInv s' := by
  obtain ⟨q1, q2, q3, q4, q5⟩ := hq
  rw [cinv_iff r] at hc ⊢
  simp only [C1, hg, ho] at hc ⊢
  generalize s'.loc r = l' at *
  generalize s.loc r = l at *
  grind

attribute [local grind] okAt kSide isRet inNotify

/-- Beyond a move of the thread's position, only a call, a return and the end of `Drop` (which sets `gone` and may start
the drain) change what `CInv` reads. -/
theorem cinv_step (hc : CInv s) (h : Act s r (s.loc r) s') : CInv s' := by
  have ok := hc.ok r
  cases h with
  | quiet hq => exact hc.quiet r (by simpa [setLoc] using (hq.move ok).1) (upd_other ..) .inl rfl
  | ring hr =>
    obtain ⟨hm, ho⟩ := hr.move ok
    cases hr with
    | popStHeadDrain _ hk => exact hc.quiet r hm.1 ho (fun _ => .inr hk) rfl
    | _ => exact hc.quiet r hm.1 ho .inl rfl
  | callWait | call | ret =>
    rw [cinv_iff r] at hc ⊢
    simp only [C1, upd_same, upd_other] at hc ⊢
    grind
  | wkUnlockNone _ _ _ hl | wkUnpark _ hl | swapClosedDone _ _ hl | subCountMore _ _ hl =>
    cases hl with
    | dropLast | dropFirst =>
      rw [cinv_iff r] at hc ⊢
      simp only [C1, upd_same, upd_other] at hc ⊢
      grind
    | _ => refine hc.quiet r ?_ (upd_other ..) .inl rfl; simp only [setLoc, upd_same, CQuiet]; grind
  | _ => refine hc.quiet r ?_ (upd_other ..) .inl rfl; simp only [setLoc, upd_same, CQuiet]; grind

theorem reach_cinv {cap : Nat} {pp pc : List Op} {s : State} (h : Reach cap pp pc s) : CInv s := by
  induction h with
  | init => exact cinv_init _ _ _
  | step _ hs ih => exact cinv_step ih (step_act (ih.ok _) hs)

end Fv.Chan.SpscB
