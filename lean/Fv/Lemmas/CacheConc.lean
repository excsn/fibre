import Fv.Lemmas.CacheConcStep
/-! Basic lemmas for the concurrent cache model `Fv.Cache.Conc`: function update, the resting program
counters, finite sums, the register replay, `removeKeys`, `mkNotes`. -/
namespace Fv.Cache.Conc

@[simp] theorem upd_same {α} (f : Nat → α) (i : Nat) (a : α) : upd f i a i = a := by simp [upd]
theorem upd_other {α} (f : Nat → α) (i j : Nat) (a : α) (h : j ≠ i) : upd f i a j = f j := by simp [upd, h]
theorem upd_apply {α} (f : Nat → α) (i j : Nat) (a : α) : upd f i a j = if j = i then a else f j := rfl

theorem upd_self {α} {f : Nat → α} {i : Nat} {a : α} (h : f i = a) : upd f i a = f := by
  funext j; simp only [upd]; split <;> simp [*]

theorem isRest_iff {pc : PC} : isRest pc = true ↔ pc = .idle ∨ ∃ r, pc = .done r := by
  cases pc <;> simp [isRest]

@[simp] theorem sumF_nil (f : Nat → Int) : sumF [] f = 0 := rfl
@[simp] theorem sumF_cons (a : Nat) (l : List Nat) (f : Nat → Int) : sumF (a :: l) f = f a + sumF l f := rfl

theorem sumF_congr {l : List Nat} {f g : Nat → Int} (h : ∀ i ∈ l, f i = g i) : sumF l f = sumF l g := by
  induction l with
  | nil => rfl
  | cons a l ih =>
    simp only [sumF_cons]
    rw [h a (by simp), ih (fun i hi => h i (by simp [hi]))]

theorem sumF_zero {l : List Nat} {f : Nat → Int} (h : ∀ i ∈ l, f i = 0) : sumF l f = 0 := by
  induction l with
  | nil => rfl
  | cons a l ih => rw [sumF_cons, h a (by simp), ih fun i hi => h i (by simp [hi])]; rfl

theorem sumF_upd_of_not_mem {l : List Nat} {f : Nat → Int} {i : Nat} {a : Int} (h : i ∉ l) :
    sumF l (upd f i a) = sumF l f :=
  sumF_congr fun _ hj => upd_other _ _ _ _ fun e => h (e ▸ hj)

theorem sumF_upd_of_mem {l : List Nat} {f : Nat → Int} {i : Nat} {a : Int} (hn : l.Nodup) (h : i ∈ l) :
    sumF l (upd f i a) = sumF l f - f i + a := by
  induction l with
  | nil => simp at h
  | cons b l ih =>
    simp only [sumF_cons]
    rw [List.nodup_cons] at hn
    by_cases hb : i = b
    · subst hb
      rw [sumF_upd_of_not_mem hn.1, upd_same]; omega
    · rw [ih hn.2 (by simpa [hb] using h), upd_other _ _ _ _ (Ne.symm hb)]; omega

theorem regOf_append (r : Reg) (h1 h2 : List HEv) : regOf r (h1 ++ h2) = regOf (regOf r h1) h2 := by
  simp [regOf, List.foldl_append]

@[simp] theorem regOf_nil (r : Reg) : regOf r [] = r := rfl
@[simp] theorem regOf_cons (r : Reg) (e : HEv) (h : List HEv) : regOf r (e :: h) = regOf (applyEv r e) h := rfl

theorem histOk_append (r : Reg) (h1 h2 : List HEv) :
    histOk r (h1 ++ h2) = (histOk r h1 && histOk (regOf r h1) h2) := by
  induction h1 generalizing r with
  | nil => simp [histOk]
  | cons e es ih => simp [histOk, ih, Bool.and_assoc]

theorem histOk_split {r : Reg} {pre post : List HEv} {e : HEv} :
    histOk r (pre ++ e :: post) = true ↔
      histOk r pre = true ∧ evOk (regOf r pre) e = true ∧ histOk (applyEv (regOf r pre) e) post = true := by
  simp [histOk_append, histOk]

theorem vals_upd (m : Nat → Option Entry) (k : Nat) (e : Option Entry) :
    vals (upd m k e) = upd (vals m) k (e.map (·.val)) := by
  funext j; simp only [vals, upd]; split <;> rfl

theorem vals_none : vals (fun _ => none) = fun _ => none := rfl

theorem removeKeys_cons (nsh sh : Nat) (m : Nat → Option Entry) (k : Nat) (ks : List Nat) :
    (∃ e, m k = some e ∧ removeKeys nsh sh m (k :: ks) =
        ((removeKeys nsh sh (upd m k none) ks).1, (k, e) :: (removeKeys nsh sh (upd m k none) ks).2)) ∨
      removeKeys nsh sh m (k :: ks) = removeKeys nsh sh m ks := by
  simp only [removeKeys]
  split
  · rename_i e he
    refine Or.inl ⟨e, ?_, rfl⟩
    split at he
    · exact he
    · simp at he
  · exact Or.inr rfl

theorem removeKeys_spec (nsh sh t : Nat) (ks : List Nat) (m : Nat → Option Entry) :
    histOk (vals m) (forgetEvs t (removeKeys nsh sh m ks).2) = true ∧
    regOf (vals m) (forgetEvs t (removeKeys nsh sh m ks).2) = vals (removeKeys nsh sh m ks).1 := by
  induction ks generalizing m with
  | nil => simp [removeKeys, forgetEvs, histOk]
  | cons k ks ih =>
    rcases removeKeys_cons nsh sh m k ks with ⟨e, hk, h⟩ | h <;> rw [h]
    · have := ih (upd m k none)
      rw [vals_upd] at this
      simpa [forgetEvs, histOk, evOk, applyEv, vals, hk] using this
    · exact ih m

theorem removeKeys_none (nsh sh : Nat) (ks : List Nat) (m : Nat → Option Entry) (j : Nat) (h : m j = none) :
    (removeKeys nsh sh m ks).1 j = none := by
  induction ks generalizing m with
  | nil => simpa [removeKeys]
  | cons k ks ih =>
    rcases removeKeys_cons nsh sh m k ks with ⟨e, _, h'⟩ | h' <;> rw [h']
    · apply ih; simp [upd_apply, h]
    · exact ih m h

theorem removeKeys_cost (nsh sh : Nat) (ks : List Nat) (m : Nat → Option Entry) (dom : List Nat)
    (hn : dom.Nodup) (hd : ∀ k, m k ≠ none → k ∈ dom) :
    sumF dom (fun k => costAt ((removeKeys nsh sh m ks).1 k)) =
      sumF dom (fun k => costAt (m k)) - removedCost (removeKeys nsh sh m ks).2 := by
  induction ks generalizing m with
  | nil => simp [removeKeys, removedCost]
  | cons k ks ih =>
    rcases removeKeys_cons nsh sh m k ks with ⟨e, hk, h⟩ | h <;> rw [h]
    · have e1 : (fun j => costAt (upd m k none j)) = upd (fun j => costAt (m j)) k 0 := by
        funext j; simp only [upd]; split <;> rfl
      rw [ih (upd m k none) fun j hj => hd j fun h0 => hj (by simp [upd_apply, h0]), e1,
        sumF_upd_of_mem hn (hd k (by simp [hk]))]
      simp [hk, costAt, removedCost]; omega
    · exact ih m hd

theorem mkNotes_length (rid : Nat) (w : Reason) (r : List (Nat × Entry)) : (mkNotes rid w r).length = r.length := by
  induction r generalizing rid with
  | nil => rfl
  | cons p r ih => obtain ⟨k, e⟩ := p; simp [mkNotes, ih]

theorem mkNotes_rids (rid : Nat) (w : Reason) (r : List (Nat × Entry)) :
    (mkNotes rid w r).map (·.rid) = List.range' rid r.length := by
  induction r generalizing rid with
  | nil => rfl
  | cons p r ih => obtain ⟨k, e⟩ := p; simp [mkNotes, ih, List.range'_succ]

end Fv.Cache.Conc
