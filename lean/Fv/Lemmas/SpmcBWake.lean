import Fv.Lemmas.SpmcBWakeFlag
import Fv.Lemmas.SpmcBSafe
/-! Wake-up invariants, part 3 (the receivers' slot waker lists); all three parts across calls, spurious park returns
and teardown, hence in every reachable state. -/
namespace Fv.Chan.SpmcB
open Fv.Chan.LeftRightB (upd upd_apply upd_same)

theorem W3thread_of_owed {s : State} {u r : Nat} {q : RPC} (h : OwedL s u) : W3thread s u r q :=
  ⟨fun _ _ => Or.inr h, fun _ _ _ _ => Or.inl h, fun _ _ => Or.inl h⟩

/-- frame rule for a step of the sender-side thread: every waiter keeps what it relies on if a waker held is woken or
still held, a waker taken out of a slot list is held, a drain owed stays owed unless the slot list is now empty,
and a newly published index or `producer_dropped` comes with the promise to drain the slots concerned. Each
condition defaults to the proof for a step that does not touch what it speaks of. -/
theorem invW3_S {s s' : State} {t : Nat} {q : SPC} {p' : PC} (ha : InvA s) (h3 : InvW3 s) (hq : s.pc t = .snd q)
    (m : MoveS s s' t p') (hcp : 0 < s.cap)
    (htok : ∀ u, u ≠ t → s.token u = true → s'.token u = true := by exact fun _ _ a => a)
    (hacc : ∀ u, u ∈ accOf q → s'.token u = true ∨ ∃ q', p' = .snd q' ∧ u ∈ accOf q' := by exact nofun)
    (hwk : ∀ j u, u ∈ s.wk j → u ∈ s'.wk j ∨ ∃ q', p' = .snd q' ∧ u ∈ accOf q' := by exact fun _ _ a => Or.inl a)
    (hdr : ∀ c, willDrain q c → s'.wk (c % s.cap) = [] ∨ ∃ q', p' = .snd q' ∧ willDrain q' c := by exact nofun)
    (hdc : ∀ j, j < s.cap → willDrainC q j → s'.wk j = [] ∨ ∃ q', p' = .snd q' ∧ willDrainC q' j := by
      exact fun _ _ => nofun)
    (hsent : ∀ c, c < s'.sent.length → c < s.sent.length ∨ ∃ q', p' = .snd q' ∧ willDrain q' c := by
      exact fun _ => Or.inl)
    (hpd : s'.pdropped = true → s.pdropped = true ∨ ∃ q', p' = .snd q' ∧ ∀ j, willDrainC q' j := by exact Or.inl) :
    InvW3 s' := by
  have hpc := m.pc
  have hme : ∀ q', p' = .snd q' → s'.pc t = .snd q' := fun q' e => by rw [hpc, upd_same, e]
  have old : ∀ {u r : Nat} {qu : RPC}, s'.pc u = .rcv r qu → u ≠ t ∧ s.pc u = .rcv r qu := by
    intro u r qu hu
    rw [hpc] at hu
    rcases pc_upd hu with ⟨_, e⟩ | hu
    · exact absurd e (okS_not_rcv m.ok)
    · exact hu
  refine ⟨fun u r qu hu => ?_, fun u r x hu => h3.fresh u r x (old hu).2⟩
  obtain ⟨hut, hu⟩ := old hu
  obtain ⟨h1, h2, h3'⟩ := h3.all u r qu hu
  have held : (∃ q', p' = .snd q' ∧ u ∈ accOf q') → OwedL s' u := fun ⟨q', e, hm⟩ => Or.inr ⟨t, q', hme q' e, hm⟩
  have howed : OwedL s u → OwedL s' u := by
    rintro (a | ⟨p, q0, hp0, hm⟩)
    · exact Or.inl (htok u hut a)
    · obtain ⟨rfl, rfl⟩ := snd_unique ha hq hp0
      exact (hacc u hm).elim Or.inl held
  have hwk' : ∀ j, u ∈ s.wk j → u ∈ s'.wk j ∨ OwedL s' u := fun j a => (hwk j u a).imp_right held
  -- `u` is in a slot list that the sender will still drain
  have drain : ∀ {P : SPC → Prop} {j : Nat}, u ∈ s'.wk j → (s'.wk j = [] ∨ ∃ q', p' = .snd q' ∧ P q') →
      u ∈ s'.wk j ∧ ∃ p q', s'.pc p = .snd q' ∧ P q' := by
    rintro P j a (e | ⟨q', e, d⟩)
    · rw [e] at a; cases a
    · exact ⟨a, t, q', hme q' e, d⟩
  rw [W3thread, m.cap, m.cur]
  refine ⟨fun n hn => (h1 n hn).elim (hwk' _) (fun a => Or.inr (howed a)), fun n hn h1n hlt => ?_, fun hn hpd' => ?_⟩
  · rcases hsent _ hlt with hlt | new
    · rcases h2 n hn h1n hlt with a | ⟨a, p, q0, hp0, d⟩
      · exact Or.inl (howed a)
      · obtain ⟨rfl, rfl⟩ := snd_unique ha hq hp0
        exact (hwk' _ a).symm.imp_right fun a' => drain a' (hdr _ d)
    · exact ((h1 n hn).elim (hwk' _) (fun a => Or.inr (howed a))).symm.imp_right fun a' => drain a' (Or.inr new)
  · rcases hpd hpd' with hpd' | ⟨q', e, d⟩
    · rcases h3' hn hpd' with a | ⟨a, p, q0, hp0, d⟩
      · exact Or.inl (howed a)
      · obtain ⟨rfl, rfl⟩ := snd_unique ha hq hp0
        exact (hwk' _ a).symm.imp_right fun a' => drain a' (hdc _ (Nat.mod_lt _ hcp) d)
    · exact ((h1 2 hn).elim (hwk' _) (fun a => Or.inr (howed a))).symm.imp_right fun a' => drain a' (Or.inr ⟨q', e, d _⟩)

theorem wake3_actS {s s' : State} {t : Nat} {p : SPC} (ha : InvA s) (hs : Safe s) (hw : InvW s)
    (hq : s.pc t = .snd p) (h : actS s t p = some s') : InvW3 s' := by
  have h3 := hw.w3
  have hcp : 0 < s.cap := hs.g.cap_pos
  have mov {p' : PC} := actS_move h (p' := p')
  cases p
  case pPark x =>
    open_actS h
    refine invW3_S ha h3 hq (mov rfl) hcp (htok := fun u hut hu => ?_)
    show upd s.token t false u = true; simp only [upd_apply, if_neg hut]; exact hu
  case wSeqLd x h0 j k | wVal x h0 j k q =>
    cases h
    exact invW3_S ha h3 hq (mov rfl) hcp (hdr := fun _ d => Or.inr ⟨_, rfl, d⟩)
  case wSeqSt x h0 j k =>
    -- the index `h0 + j` is published: both continuations owe the drain of every index of the batch
    have hN : s.sent.length = h0 + j := (hs.sf t _ hq).1.len
    have hjk := (hs.sf t _ hq).1.lt
    open_actS h <;>
      refine invW3_S ha h3 hq (mov rfl) hcp (hdr := fun _ d => Or.inr ⟨_, rfl, d⟩) (hsent := fun c hc => ?_) <;>
      simp only [List.length_append, List.length_singleton] at hc <;>
      exact (Nat.lt_or_ge c s.sent.length).imp_right fun _ => ⟨_, rfl, by simp only [willDrain]; omega⟩
  case wHeadSt x h0 k =>
    cases h
    exact invW3_S ha h3 hq (mov rfl) hcp (hdr := fun _ d => Or.inr ⟨_, rfl, by simp only [willDrain] at d ⊢; omega⟩)
  case wLockW x h0 j k acc =>
    -- the wakers of slot `h0 + j` move into the to-wake list
    open_actS h
    refine invW3_S ha h3 hq (mov rfl) hcp (hacc := fun u hm => Or.inr ⟨_, rfl, List.mem_append_left _ hm⟩)
      (hwk := fun j0 u a => ?_) (hdr := fun c d => ?_)
    · by_cases e : j0 = (h0 + j) % s.cap
      · subst e; exact Or.inr ⟨_, rfl, List.mem_append_right _ a⟩
      · left; show u ∈ upd s.wk ((h0 + j) % s.cap) [] j0; simp only [upd_apply, if_neg e]; exact a
    · simp only [willDrain] at d
      by_cases e : c = h0 + j
      · subst e; left; show upd s.wk ((h0 + j) % s.cap) [] ((h0 + j) % s.cap) = []; simp
      · exact Or.inr ⟨_, rfl, by simp only [willDrain]; omega⟩
  case wUnlockW x h0 j k acc =>
    open_actS h
    · exact invW3_S ha h3 hq (mov rfl) hcp (hacc := fun _ hm => Or.inr ⟨_, rfl, hm⟩)
        (hdr := fun _ d => Or.inr ⟨_, rfl, by simp only [willDrain] at d ⊢; omega⟩)
    · -- the last slot of the batch has been drained
      refine invW3_S ha h3 hq (mov rfl) hcp (hacc := fun u hm => ?_)
        (hdr := fun _ d => by simp only [willDrain] at d; omega)
      cases acc with
      | nil => cases hm
      | cons w rest => exact Or.inr ⟨_, rfl, hm⟩
  case wWake x k acc =>
    cases acc with
    | nil => simp [actS, stepWWake] at h
    | cons w rest =>
      cases h
      refine invW3_S ha h3 hq (mov rfl) hcp (htok := fun u _ a => ?_) (hacc := fun u hm => ?_)
      · show upd s.token w true u = true; simp only [upd_apply]; split <;> simp [a]
      · rcases List.mem_cons.1 hm with rfl | hm
        · left; show upd s.token u true u = true; simp
        · cases rest with
          | nil => cases hm
          | cons w2 rest2 => exact Or.inr ⟨_, rfl, hm⟩
  case cStore =>
    -- `producer_dropped` is set: the closing thread owes the drain of every slot
    cases h
    exact invW3_S ha h3 hq (mov rfl) hcp (hpd := fun _ => Or.inr ⟨_, rfl, fun j => Nat.zero_le j⟩)
  case cLock j =>
    -- the wakers of slot `j` move into the to-wake list: that slot is drained, the later ones are still to be
    open_actS h <;>
      refine invW3_S ha h3 hq (mov rfl) hcp
        (hwk := fun j0 u a => if e : j0 = j then ?_ else
          Or.inl (show u ∈ upd s.wk j [] j0 by simp only [upd_apply, if_neg e]; exact a))
        (hdc := fun j0 _ d => by
          by_cases e : j0 = j
          · subst e; left; show upd s.wk j0 [] j0 = []; simp
          · exact Or.inr ⟨_, rfl, by simp only [willDrainC] at d ⊢; omega⟩)
    -- left of `hwk`: the waiters in slot `j` itself, where there was none and where there were some
    · subst e; rename_i e; rw [e] at a; cases a
    · subst e; exact Or.inr ⟨_, rfl, a⟩
  case cWake j ws =>
    cases ws with
    | nil => simp [actS, stepCWake] at h
    | cons w rest =>
      have tok : ∀ u, s.token u = true → upd s.token w true u = true := fun u a => by
        simp only [upd_apply]; split <;> simp [a]
      cases rest with
      | nil =>
        cases h
        refine invW3_S ha h3 hq (mov rfl) hcp (htok := fun u _ => tok u) (hacc := fun u hm => ?_)
          (hdc := fun _ _ d => Or.inr ⟨_, rfl, d⟩)
        left; rw [List.mem_singleton.1 hm]; show upd s.token w true w = true; simp
      | cons w2 rest2 =>
        cases h
        refine invW3_S ha h3 hq (mov rfl) hcp (htok := fun u _ => tok u) (hacc := fun u hm => ?_)
          (hdc := fun _ _ d => Or.inr ⟨_, rfl, d⟩)
        rcases List.mem_cons.1 hm with rfl | hm
        · left; show upd s.token u true u = true; simp
        · exact Or.inr ⟨_, rfl, hm⟩
  case cUnlock j =>
    open_actS h
    · exact invW3_S ha h3 hq (mov rfl) hcp
        (hdc := fun _ _ d => Or.inr ⟨_, rfl, by simp only [willDrainC] at d ⊢; omega⟩)
    · -- the last slot has been drained: nobody can still rely on the closing thread
      exact invW3_S ha h3 hq (mov rfl) hcp (hdc := fun _ _ d => by simp only [willDrainC] at d; omega)
  -- the other steps hold no wakers, owe no drain, and touch none of the waker lists, tokens, `sent`, `producer_dropped`
  all_goals open_actS h <;> exact invW3_S ha h3 hq (mov rfl) hcp

theorem snd_kept {s s' : State} {t : Nat} {p' : PC} (hq : ∀ q0, s.pc t ≠ .snd q0) (hpc : s'.pc = upd s.pc t p') :
    ∀ p q0, s.pc p = .snd q0 → s'.pc p = .snd q0 := by
  intro p q0 hp0
  rw [hpc]; simp only [upd_apply]; rw [if_neg]; exact hp0
  intro e; subst e; exact hq q0 hp0

theorem OwedL_move {s s' : State} {u : Nat} (h : OwedL s u) (htok : s.token u = true → s'.token u = true)
    (hsnd : ∀ p q0, s.pc p = .snd q0 → s'.pc p = .snd q0) : OwedL s' u :=
  h.imp htok fun ⟨p, q0, hp0, hm⟩ => ⟨p, q0, hsnd p q0 hp0, hm⟩

theorem W3thread_none {s : State} {t r : Nat} {q : RPC} (h : wstage q = none) : W3thread s t r q := by
  refine ⟨?_, ?_, ?_⟩ <;> (rw [h]; nofun)

theorem wstage_le_two {q : RPC} {m : Nat} (h : wstage q = some m) : m ≤ 2 := by
  cases q <;> simp only [wstage] at h <;> (try split at h) <;> cases h <;> decide

/-- the facts are downward closed in the stage -/
theorem W3thread_move {s s' : State} {t r : Nat} {q q' : RPC} (h : W3thread s t r q)
    (hst : ∀ n, wstage q' = some n → ∃ m, wstage q = some m ∧ n ≤ m)
    (hcap : s'.cap = s.cap) (hcur : s'.cur r = s.cur r) (hsent : s'.sent = s.sent) (hpd : s'.pdropped = s.pdropped)
    (hwk : ∀ j, t ∈ s.wk j → t ∈ s'.wk j) (htok : s.token t = true → s'.token t = true)
    (hsnd : ∀ p q0, s.pc p = .snd q0 → s'.pc p = .snd q0) : W3thread s' t r q' := by
  obtain ⟨h1, h2, h3⟩ := h
  have howed : OwedL s t → OwedL s' t := fun a => OwedL_move a htok hsnd
  rw [W3thread, hcap, hcur, hsent, hpd]
  refine ⟨fun n hn => ?_, fun n hn h1n hlt => ?_, fun hn hp => ?_⟩
  · obtain ⟨m, hm, _⟩ := hst n hn
    exact (h1 m hm).imp (hwk _) howed
  · obtain ⟨m, hm, hle⟩ := hst n hn
    exact (h2 m hm (by omega) hlt).imp howed fun ⟨a, p, q0, hp0, hd⟩ => ⟨hwk _ a, p, q0, hsnd p q0 hp0, hd⟩
  · obtain ⟨m, hm, hle⟩ := hst 2 hn
    have : m = 2 := by have := wstage_le_two hm; omega
    subst this
    exact (h3 hm hp).imp howed fun ⟨a, p, q0, hp0, hd⟩ => ⟨hwk _ a, p, q0, hsnd p q0 hp0, hd⟩

theorem invW3_R {s s' : State} {t r : Nat} {q : RPC} {p' : PC} (ha : InvA s) (hs : Safe s) (h3 : InvW3 s)
    (hq : s.pc t = .rcv r q) (m : MoveR s s' t r p') (hnew : ∀ q', p' = .rcv r q' → W3thread s' t r q')
    (hcur : ∀ r', r' ≠ r → r' < s.nextCell → s'.cur r' = s.cur r' := by exact fun _ _ _ => rfl)
    (hwk : ∀ j u, u ∈ s.wk j → u ∈ s'.wk j := by exact fun _ _ a => a)
    (htok : ∀ u, u ≠ t → s.token u = true → s'.token u = true := by exact fun _ _ a => a) : InvW3 s' := by
  have hpc := m.pc
  have hp := m.ok
  have sndk := snd_kept (hq ▸ nofun) hpc
  refine ⟨fun u r' q' hu => ?_, fun u r' x hu => ?_⟩
  all_goals
    rw [hpc] at hu
    by_cases hut : u = t
    · subst hut; rw [upd_same] at hu
      rcases hp with ⟨res, rfl⟩ | ⟨q'', rfl, nf⟩
      · cases hu
      · simp only [PC.rcv.injEq] at hu; obtain ⟨rfl, rfl⟩ := hu
        first | exact hnew _ rfl | cases nf
    simp only [upd_apply, if_neg hut] at hu
  · have hne : r' ≠ r := by
      intro e; subst e
      exact hut (ha.unique (ρ := .rcv r') (by rw [hu]; rfl) (by rw [hq]; rfl))
    exact W3thread_move (h3.all u r' q' hu) (fun n hn => ⟨n, hn, Nat.le_refl _⟩) m.cap
      (hcur r' hne (rFact_base (hs.rf u r' q' hu)).1) m.sent m.pdropped (fun j => hwk j u) (htok u hut) sndk
  · exact h3.fresh u r' x hu

theorem stage_onEmpty {r : Nat} {x : RCtx} {q' : RPC} {n : Nat} (e : onEmpty r x = .rcv r q') (hn : wstage q' = some n) :
    x.reg = true ∧ n = 2 := by
  unfold onEmpty at e
  split at e
  · cases e
  · cases e
  · split at e
    · rename_i hreg; cases e; simp only [wstage] at hn; exact ⟨hreg, (Option.some.inj hn).symm⟩
    · cases e; simp only [wstage] at hn; cases hn

theorem stage_wkDone {r : Nat} {k : WK} {q' : RPC} (e : wkDone k = .rcv r q') : False := by
  unfold wkDone at e; split at e <;> cases e

theorem wstage_afterRPark {r : Nat} {x : RCtx} {q' : RPC} (e : afterRPark r x = .rcv r q') : wstage q' = none := by
  unfold afterRPark at e
  split at e <;> cases e <;> rfl

/-- the stage of the target is none, or that of the source -/
syntax "stage_tac" : tactic
macro_rules | `(tactic| stage_tac) => `(tactic|
  (intro q' n e hn
   first
     | (cases e; exact ⟨n, hn, Nat.le_refl _⟩)
     | (cases e; simp [wstage] at hn; done)
     | exact absurd e (by simp)
     | exact (stage_wkDone e).elim
     | (rw [wstage_afterRPark e] at hn; cases hn)))

theorem invW3_R_move {s s' : State} {t r : Nat} {q : RPC} {p' : PC} (ha : InvA s) (hs : Safe s) (h3 : InvW3 s)
    (hq : s.pc t = .rcv r q) (m : MoveR s s' t r p')
    (hst : ∀ q' n, p' = .rcv r q' → wstage q' = some n → ∃ m, wstage q = some m ∧ n ≤ m := by stage_tac)
    (hcur : s'.cur = s.cur := by rfl) (hwk : s'.wk = s.wk := by rfl) (htok : s'.token = s.token := by rfl) :
    InvW3 s' := by
  refine invW3_R ha hs h3 hq m (fun q' e => ?_) (fun r' _ _ => by rw [hcur]) (fun j u a => by rw [hwk]; exact a)
    (fun u _ a => by rw [htok]; exact a)
  exact W3thread_move (h3.all t r q hq) (fun n hn => hst q' n e hn) m.cap (by rw [hcur]) m.sent m.pdropped
    (fun j a => by rw [hwk]; exact a) (fun a => by rw [htok]; exact a) (snd_kept (hq ▸ nofun) m.pc)

theorem no_drain_when_dropped {s : State} (hs : Safe s) (hp : s.pdropped = true) {p : Nat} {q0 : SPC} {c : Nat}
    (hp0 : s.pc p = .snd q0) (hd : willDrain q0 c) : False := by
  have hcl : s.core.sclosed = true := hs.g.pd_closed hp
  have : sendQ q0 = true := by cases q0 <;> first | rfl | cases hd
  rw [open_of_sFact (hs.sf p q0 hp0) this] at hcl; cases hcl

theorem wake3_actR {s s' : State} {t r : Nat} {p : RPC} (ha : InvA s) (hl : LRI s) (hs : Safe s) (hw : InvW s)
    (hq : s.pc t = .rcv r p) (h : actR s t r p = some s') : InvW3 s' := by
  have h3 := hw.w3
  have mov {p' : PC} := actR_move h (p' := p')
  obtain ⟨m1, m2, m3⟩ := h3.all t r p hq
  have hf := hs.rf t r p hq
  have owed : ∀ {s1 : State} {p' : PC}, s1.pc = upd s.pc t p' → s1.token = s.token → OwedL s t → OwedL s1 t :=
    fun e1 e2 a => OwedL_move a (fun a => e2 ▸ a) (snd_kept (hq ▸ nofun) e1)
  cases p
  case rFlag x =>
    have hreg := h3.fresh t r x hq
    open_actR h
    · exact invW3_R_move ha hs h3 hq (mov rfl)
    · exact invW3_R_move ha hs h3 hq (mov rfl) (fun q' n e hn => by cases e; simp [wstage, hreg] at hn)
  case rSeq x c =>
    open_actR h
    · exact invW3_R_move ha hs h3 hq (mov rfl)
    · -- the re-check found nothing: index `c` is not published yet
      rename_i hne
      simp only [rFact] at hf
      obtain ⟨hb, hc⟩ := hf
      have hnot : ¬ s.cur r < s.sent.length := by
        intro hlt
        have h1 := hs.g.lim_pub r (hs.g.mem_pub hl.live2 hb)
        have h2 := hs.g.n_le_lim
        exact hne (hs.g.b2s c (by rw [hc]; exact hlt) (by rw [hc]; show s.core.sent.length ≤ s.core.cur r + s.core.cap; omega))
      refine invW3_R ha hs h3 hq (mov rfl) ?_
      intro q' e; cases e
      refine ⟨fun n hn => ?_, fun n _ _ hlt => absurd hlt hnot, fun hn => ?_⟩
      · simp only [wstage] at hn
        split at hn
        · rename_i hreg
          exact (m1 0 (by simp only [wstage, hreg, if_true])).imp_right (owed rfl rfl)
        · cases hn
      · simp only [wstage] at hn; split at hn <;> cases hn
  case rSt x c vs =>
    cases h
    refine invW3_R ha hs h3 hq (mov rfl) (fun q' e => by cases e; exact W3thread_none rfl) (hcur := ?_)
    intro r' hne _; show upd s.cur r (c + vs.length) r' = s.cur r'; simp only [upd_apply, if_neg hne]
  case rDrop x c | bDrop x c =>
    open_actR h
    · exact invW3_R_move ha hs h3 hq (mov rfl)
    · rename_i hnd
      -- `producer_dropped` read false: stage 1 → 2, the clause for a dropped sender is vacuous
      refine invW3_R ha hs h3 hq (mov rfl) ?_
      intro q' e
      have hk := snd_kept (hq ▸ nofun) (s' := s.goR t r (onEmpty r x)) rfl
      refine ⟨fun n hn => ?_, fun n hn _ hlt => ?_, fun _ hp => absurd hp hnd⟩
      · obtain ⟨hreg, _⟩ := stage_onEmpty e hn
        exact (m1 1 (by simp only [wstage, hreg, if_true])).imp_right (owed rfl rfl)
      · obtain ⟨hreg, _⟩ := stage_onEmpty e hn
        exact (m2 1 (by simp only [wstage, hreg, if_true]) (Nat.le_refl _) hlt).imp (owed rfl rfl)
          fun ⟨a, p0, q0, hp0, hd⟩ => ⟨a, p0, q0, hk p0 q0 hp0, hd⟩
  case rHead x c =>
    open_actR h
    · exact invW3_R_move ha hs h3 hq (mov rfl)
    · rename_i hlt
      -- the sender is gone and an item is left: a drain cannot be pending, so the wake is already under way
      simp only [rFact] at hf
      obtain ⟨hb, hc, hp⟩ := hf
      refine invW3_R ha hs h3 hq (mov rfl) ?_
      intro q' e
      have hcN : s.cur r < s.sent.length := by
        have := hs.g.head_le
        have e1 : s.core.head = s.head := rfl
        have e2 : s.core.sent.length = s.sent.length := rfl
        have e3 : c = s.cur r := hc
        omega
      have howed : ∀ n, wstage q' = some n → OwedL (s.goR t r (onEmpty r x)) t := by
        intro n hn
        obtain ⟨hreg, _⟩ := stage_onEmpty e hn
        rcases m2 1 (by simp only [wstage, hreg, if_true]) (Nat.le_refl _) hcN with a | ⟨_, p0, q0, hp0, hd⟩
        · exact owed rfl rfl a
        · exact (no_drain_when_dropped hs hp hp0 hd).elim
      exact ⟨fun n hn => Or.inr (howed n hn), fun n hn _ _ => Or.inl (howed n hn), fun hn _ => Or.inl (howed 2 hn)⟩
  case bHd x c =>
    open_actR h
    · rename_i hle
      simp only [rFact] at hf
      obtain ⟨hb, hc⟩ := hf
      refine invW3_R ha hs h3 hq (mov rfl) ?_
      intro q' e; cases e
      have hk := snd_kept (hq ▸ nofun) (s' := s.goR t r (.rcv r (.bDrop x c))) rfl
      refine ⟨fun n hn => ?_, fun n hn _ hlt => ?_, fun hn => ?_⟩
      · simp only [wstage] at hn
        split at hn
        · rename_i hreg
          exact (m1 0 (by simp only [wstage, hreg, if_true])).imp_right (owed rfl rfl)
        · cases hn
      · simp only [wstage] at hn
        split at hn
        · rename_i hreg
          -- head ≤ c < |sent|: the producer is between its sequence stores and the head store
          have hltN : s.head < s.sent.length := by
            have e3 : c = s.cur r := hc
            have : s.cur r < s.sent.length := hlt
            omega
          rcases idle_or_writing ha hs with hi | ⟨p0, q0, hq0, hwq⟩
          · have := hi.1; omega
          · have hf0 := hs.sf p0 q0 hq0
            have hdr : willDrain q0 (s.cur r) := by
              have e3 : c = s.cur r := hc
              have e1 : s.core.head = s.head := rfl
              have e2 : s.core.sent.length = s.sent.length := rfl
              have hlt' : s.cur r < s.sent.length := hlt
              cases q0 <;> simp only [inWr] at hwq <;> (first | cases hwq | skip) <;> simp only [sFact, write_iff] at hf0 <;>
                simp only [willDrain] <;> omega
            exact (m1 0 (by simp only [wstage, hreg, if_true])).symm.imp (owed rfl rfl) fun a => ⟨a, p0, q0, hk p0 q0 hq0, hdr⟩
        · cases hn
      · simp only [wstage] at hn; split at hn <;> cases hn
    · exact invW3_R_move ha hs h3 hq (mov rfl)
  case gLock x c =>
    open_actR h
    simp only [rFact] at hf
    obtain ⟨hb, hc⟩ := hf
    refine invW3_R ha hs h3 hq (mov rfl) ?_ (hwk := ?_)
    · intro q' e; cases e
      refine ⟨fun n _ => Or.inl ?_, fun n hn h1n => ?_, fun hn => ?_⟩
      · show t ∈ upd s.wk (c % s.cap) (s.wk (c % s.cap) ++ [t]) (s.cur r % s.cap)
        have e3 : c = s.cur r := hc
        rw [← e3]; simp
      · simp only [wstage] at hn; cases hn; omega
      · simp only [wstage] at hn; cases hn
    · intro j u a; show u ∈ upd s.wk (c % s.cap) (s.wk (c % s.cap) ++ [t]) j
      simp only [upd_apply]; split
      · rename_i e; subst e; exact List.mem_append_left _ a
      · exact a
  case gUnlock x c =>
    cases h
    exact invW3_R_move ha hs h3 hq (mov rfl)
      (fun q' n e hn => by cases e; simp only [wstage] at hn ⊢; exact ⟨0, rfl, by simp at hn; omega⟩)
  case kPark x =>
    open_actR h
    refine invW3_R ha hs h3 hq (mov rfl) (fun q' e => W3thread_none (wstage_afterRPark e)) (htok := ?_)
    intro u hut a; show upd s.token t false u = true; simp only [upd_apply, if_neg hut]; exact a
  case wpUnpark k th =>
    cases h
    refine invW3_R ha hs h3 hq (mov rfl) (fun q' e => (stage_wkDone e).elim) (htok := ?_)
    intro u _ a; show upd s.token th true u = true; simp only [upd_apply]; split <;> simp [a]
  case cCur =>
    cases h
    refine invW3_R ha hs h3 hq (mov rfl) (fun q' e => by cases e; exact W3thread_none rfl) (hcur := ?_)
    intro r' _ hlt; show upd s.cur s.nextCell (s.cur r) r' = s.cur r'
    simp only [upd_apply]; rw [if_neg]; exact Nat.ne_of_lt hlt
  -- the other steps change nothing the waiters read and move to a control state of the same stage or of none
  all_goals
    open_actR h <;> exact invW3_R_move ha hs h3 hq (mov rfl)

theorem wake_act {s s' : State} {t : Nat} (ha : InvA s) (hl : LRI s) (hs : Safe s) (hw : InvW s)
    (h : act s t = some s') : InvW s' := by
  rcases act_cases h with ⟨p, hpc, h⟩ | ⟨r, p, hpc, h⟩
  · exact ⟨wake1_actS ha hw hpc h, wake2_actS ha hl hs hw hpc h, wake3_actS ha hs hw hpc h⟩
  · exact ⟨wake1_actR hl hs hw hpc h, wake2_actR hl hs hw hpc h, wake3_actR ha hl hs hw hpc h⟩

theorem free_class {p : PC} (h : isFree p = true) :
    wcls p = (false, none, false) ∧ (∀ q, p ≠ .snd q) ∧ (∀ r q, p ≠ .rcv r q) := by
  cases p <;> simp_all [isFree, wcls, preCasPC, upkPC, csmPC]

/-- the handle was free, so the flag is IDLE -/
theorem invW2_callS {s s' : State} {t : Nat} {q : SPC} (ha : InvA s) (h1 : InvW1 s) (h2 : InvW2 s) (hno : s.sOwner = none)
    (hpc : s'.pc = upd s.pc t (.snd q)) (hflag : s'.flag = s.flag)
    (hq0 : armed0 q = false) (hk : kOf q = 0) (hsh : ∀ k, q = .sHead k → rk k = false) : InvW2 s' := by
  have h0 : s'.flag = 0 := hflag.trans (h2.idle0 hno)
  refine .of_at (fun u q' h => ?_) (fun _ => h0) (fun u r k th p q' hu _ => ?_)
  · rcases pc_upd (hpc ▸ h) with ⟨_, e⟩ | ⟨_, h⟩
    · cases e; exact .cold h0 hq0 (hk ▸ Nat.zero_le _) hsh
    · have := ha.sown h; rw [hno] at this; cases this
  · -- nobody holds the flag in CONSUMING while it is IDLE
    rcases pc_upd (hpc ▸ hu) with ⟨_, e⟩ | ⟨_, hu⟩
    · cases e
    · have := h1.flag_csm.2 (by rw [(h1.csm_iff u).2 (by rw [hu]; rfl)]; nofun)
      rw [h2.idle0 hno] at this; cases this

theorem invW3_free {s s' : State} {t : Nat} {p' : PC} (h3 : InvW3 s) (hfree : isFree (s.pc t) = true)
    (hpc : s'.pc = upd s.pc t p') (hcap : s'.cap = s.cap) (hcur : s'.cur = s.cur) (hsent : s'.sent = s.sent)
    (hpd : s'.pdropped = s.pdropped) (hwk : s'.wk = s.wk) (htok : s'.token = s.token)
    (hnew : ∀ r q', p' = .rcv r q' → wstage q' = none)
    (hfresh : ∀ r x, p' = .rcv r (.rFlag x) → x.reg = false) : InvW3 s' := by
  have ⟨_, f4, _⟩ := free_class hfree
  have sndk := snd_kept f4 hpc
  refine ⟨?_, ?_⟩
  · intro u r q hu
    rw [hpc] at hu
    rcases pc_upd hu with ⟨rfl, e⟩ | ⟨_, hu⟩
    · exact W3thread_none (hnew r q e)
    · exact W3thread_move (h3.all u r q hu) (fun n hn => ⟨n, hn, Nat.le_refl _⟩) hcap (by rw [hcur]) hsent hpd
        (fun j a => by rw [hwk]; exact a) (fun a => by rw [htok]; exact a) sndk
  · intro u r x hu
    rw [hpc] at hu
    rcases pc_upd hu with ⟨_, e⟩ | ⟨_, hu⟩
    · exact hfresh r x e
    · exact h3.fresh u r x hu

/-- the fields the wake-up invariants read, besides `pc` and `sOwner` -/
def wkey (s : State) :=
  (s.cap, s.flag, s.pthread, s.wq, s.upk, s.csm, s.cur, s.sent, s.pdropped, s.wk, s.token, s.argm, s.lr, s.head)

theorem entryS_cold {q : SPC} (h : entryS q = true) :
    armed0 q = false ∧ kOf q = 0 ∧ ∀ k, q = .sHead k → rk k = false := by
  unfold entryS at h
  split at h
  · exact ⟨rfl, rfl, nofun⟩
  · exact ⟨rfl, rfl, nofun⟩
  · exact ⟨rfl, rfl, fun k e => by cases e; rfl⟩
  · exact ⟨rfl, rfl, nofun⟩
  · cases h

theorem entryR_class {r : Nat} {q : RPC} (h : entryR q = true) :
    wcls (.rcv r q) = (false, none, false) ∧ wstage q = none ∧ ∀ x, q = .rFlag x → x.reg = false := by
  refine ⟨?_, ?_, fun x e => by subst e; simpa [entryR] using h⟩
  · cases q <;> first | rfl | cases h
  · cases q <;> first | rfl | cases h

theorem wake_call {s s' : State} {t : Nat} {op : Op} (ha : InvA s) (hw : InvW s)
    (h : stepCall s t op = some s') : InvW s' := by
  obtain ⟨hfree, e⟩ := call_eff h
  have ⟨c, c4, c5⟩ := free_class hfree
  -- an operation on a receiver handle, or a zero-action operation
  have goO : ∀ (p' : PC) (s1 : State), s1.pc = upd s.pc t p' → s1.sOwner = s.sOwner → wkey s1 = wkey s →
      wcls p' = (false, none, false) → (∀ q, p' ≠ .snd q) →
      (∀ r q', p' = .rcv r q' → wstage q' = none) → (∀ r x, p' = .rcv r (.rFlag x) → x.reg = false) → InvW s1 := by
    intro p' s1 e1 e2 ek k k4 k5 k6
    simp only [wkey, Prod.mk.injEq] at ek
    obtain ⟨e3, e4, e5, e6, e7, e8, e9, e10, e11, e12, e13, e14, e15, e16⟩ := ek
    exact ⟨invW1_frame hw.w1 rfl e1 (k.trans c.symm) (by rw [e4]) e6 e7 e8,
      invW2_other hw.w2 e1 k4 e2 (e4 ▸ id) (fun _ _ _ e => by rw [e] at k; cases k) fun p q _ _ a =>
        a.keep e3 e4 e5 (e13 ▸ id) (fun _ h => Or.inl (e7 ▸ h)) fun _ h =>
          witPC_pub h (by rw [State.pub, State.pub, e15]; exact fun _ a => a) e14 e9 e6 e3 e16,
      invW3_free hw.w3 hfree e1 e3 e9 e10 e11 e12 e13 k5 k6⟩
  cases e with
  | sender q a hf hq =>
    simp only [sFreeH, Bool.and_eq_true, Option.isNone_iff_eq_none] at hf
    have ⟨a0, ak, ash⟩ := entryS_cold hq
    exact ⟨invW1_frame hw.w1 rfl rfl c.symm,
      invW2_callS ha hw.w1 hw.w2 hf.2 rfl rfl a0 ak ash,
      invW3_free hw.w3 hfree rfl rfl rfl rfl rfl rfl rfl (fun r q' e => by cases e) (fun r x e => by cases e)⟩
  | receiver r q al tn _ hq _ _ =>
    have ⟨k, k5, k6⟩ := entryR_class (r := r) hq
    exact goO _ _ rfl rfl rfl k (fun _ e => nomatch e) (fun _ _ e => by cases e; exact k5) (fun _ x e => by cases e; exact k6 x rfl)
  | ret res | convS _ | convR r _ => exact goO _ _ rfl rfl rfl rfl (fun _ e => nomatch e) (fun _ _ e => nomatch e) (fun _ _ e => nomatch e)

theorem wake_spurious {s s' : State} {t : Nat} (ha : InvA s) (hs : Safe s) (hw : InvW s)
    (h : stepSpurious s t = some s') : InvW s' := by
  rcases spurious_cases h with ⟨x, hq, rfl, m⟩ | ⟨r, x, hq, rfl, m⟩
  · refine ⟨invW1_frame hw.w1 hq rfl (okS_class (quiet_afterPark x).okS), ?_, ?_⟩
    · exact invW2_park ha hw.w2 hq m rfl rfl
    · exact invW3_S ha hw.w3 hq m hs.g.cap_pos
  · refine ⟨invW1_frame hw.w1 hq rfl (quietR_afterRPark r x).cls, ?_, ?_⟩
    · exact invW2_R hw.w2 m
    · exact invW3_R ha hs hw.w3 hq m (fun q' e => W3thread_none (wstage_afterRPark e))

theorem wake_teardown {s s' : State} (hw : InvW s) (h : stepTeardown s = some s') : InvW s' := by
  cases (teardown_eff h).1
  obtain ⟨⟨a1, a2, a3, a4, a5, a6⟩, ⟨b1, b2, b3, b4, b5, b6, b7, b8⟩, ⟨c1, c2⟩⟩ := hw
  refine ⟨⟨a1, a2, a3, a4, a5, a6⟩, ⟨b1, b2, b3, b4, b5, ?_, b7, b8⟩, ⟨c1, c2⟩⟩
  intro p q hp hf
  exact witPC_pub (b6 p q hp hf)

theorem wake_init (cap : Nat) : InvW (init cap) := by
  refine ⟨?_, ?_, ?_⟩
  · constructor <;> simp [init, preCasPC, upkPC, csmPC]
  · constructor <;> simp [init]
  · constructor <;> simp [init]

theorem wake_step {s s' : State} {t : Nat} {l : Label} (ha : InvA s) (hl : LRI s) (hs : Safe s) (hw : InvW s)
    (h : step s t l = some s') : InvW s' := by
  cases l <;> simp only [step] at h
  · exact wake_call ha hw h
  · exact wake_act ha hl hs hw h
  · exact wake_spurious ha hs hw h
  · exact wake_teardown hw h

theorem wake_reach {cap : Nat} (hc : 0 < cap) {s : State} (h : Reach cap s) (hnt : s.taint = false) : InvW s := by
  induction h with
  | init => exact wake_init cap
  | step hr hst ih =>
    have h0 := taint_mono hst hnt
    exact wake_step (invA_reach hr) (lri_reach hr) (safe_reach hc hr h0) (ih h0) hst

end Fv.Chan.SpmcB
