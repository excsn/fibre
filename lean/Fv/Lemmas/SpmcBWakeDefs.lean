import Fv.Chan.SpmcB
import Fv.Lemmas.SpmcBLeftRight
/-!
Wake-up invariants of `Fv.Chan.SpmcB` (C05 in safety form): definitions.

* `InvW1` — the ghost sets (`wq`, `upk`, `csm`) mirror the control states;
* `InvW2` — the producer's three-state park flag: who may be where for each flag value, the
  hand-off of the thread handle, and the Dekker argument (`witPC`): while the flag is PARKED, either
  the cursor that made the re-check say "full" is still published and unchanged, or a consumer that
  changed it has not yet tested the flag;
* `InvW3` — the receivers' slot waker lists: a registered waiter is in its slot's list, or has a
  token, or sits in the sender's to-wake list; once an item (or the drop of the sender) arrived after
  its re-check, the sender is still before the drain of that slot.
-/
namespace Fv.Chan.SpmcB
open Fv.Chan.LeftRightB (upd upd_apply upd_same)

/-- consumer control states between the cursor store / the publication of an unregistration and
the test of the producer's park flag -/
def preCas : RPC → Bool
  | .wpFence _ => true
  | .wpLoad _ => true
  | .wpCas _ => true
  | .mMod .unreg (.wWait _ _) => true
  | .mMod .unreg (.wSpin _ _) => true
  | .mMod .unreg (.wMut2 _ _) => true
  | .mMod .unreg .wUnlock => true
  | .mUnlock .unreg => true
  | _ => false

def preCasPC : PC → Bool
  | .rcv _ q => preCas q
  | _ => false

/-- the thread is about to unpark `p` -/
def upkPC : PC → Option Nat
  | .rcv _ (.wpUnpark _ p) => some p
  | _ => none

/-- the thread holds the park flag in CONSUMING -/
def csmPC : PC → Bool
  | .rcv _ (.wpIdle _ _) => true
  | _ => false

structure InvW1 (s : State) : Prop where
  wq_iff : ∀ u, u ∈ s.wq ↔ preCasPC (s.pc u) = true
  wq_nodup : s.wq.Nodup
  upk_iff : ∀ u p, (u, p) ∈ s.upk ↔ upkPC (s.pc u) = some p
  upk_nodup : s.upk.Nodup
  csm_iff : ∀ u, s.csm = some u ↔ csmPC (s.pc u) = true
  flag_csm : s.flag = 2 ↔ s.csm ≠ none

/-- scans made by the re-check after arming -/
def rk : ScanK → Bool
  | .recheck _ => true
  | .recheckB _ => true
  | _ => false

/-- armed, and a completed hand-off means the wake is in flight -/
def armed0 : SPC → Bool
  | .aFence _ => true
  | .sEnter k _ _ => rk k
  | .sScan k _ _ _ _ _ => rk k
  | .sHead2 k _ _ _ => rk k
  | .sExit k _ _ _ _ => rk k
  | .pPark _ => true
  | _ => false

/-- where the producer can be while the flag is PARKED -/
def armed1 : SPC → Bool
  | .dCas _ => true
  | .pHead _ => true
  | .pLoad _ => true
  | .pCas _ => true
  | q => armed0 q

/-- where the producer can be while the flag is CONSUMING -/
def armed2 : SPC → Bool
  | .dSpin _ => true
  | .dLoad _ => true
  | .dSpin2 _ => true
  | .pSpin _ => true
  | q => armed1 q

/-- Dekker witness: the cursor that is (so far) the minimum of the re-check is still published and
unchanged — or some consumer has changed the list / a cursor and not yet tested the flag -/
def witPC (s : State) : SPC → Prop
  | .sScan k _ _ _ _ (some mv) => rk k = true → (s.argm ∈ s.pub ∧ s.cur s.argm = mv) ∨ s.wq ≠ []
  | .sHead2 k _ _ mv => rk k = true → (s.argm ∈ s.pub ∧ s.cur s.argm = mv) ∨ s.wq ≠ []
  | .sExit k _ _ _ (some mv) => rk k = true → (s.argm ∈ s.pub ∧ s.cur s.argm = mv) ∨ s.wq ≠ []
  | .pPark _ => (s.argm ∈ s.pub ∧ s.cur s.argm + s.cap ≤ s.head) ∨ s.wq ≠ []
  | _ => True

/-- number of slots of the write in progress -/
def kOf : SPC → Nat
  | .bHead _ k => k
  | .wSeqLd _ _ _ k => k
  | .wVal _ _ _ k _ => k
  | .wSeqSt _ _ _ k => k
  | .wHeadSt _ _ k => k
  | .wLockW _ _ _ k _ => k
  | .wUnlockW _ _ _ k _ => k
  | _ => 0

structure InvW2 (s : State) : Prop where
  parked : ∀ p q, s.pc p = .snd q → s.flag = 1 → armed1 q = true ∧ s.pthread = some p
  idle0 : s.sOwner = none → s.flag = 0
  consuming : ∀ p q, s.pc p = .snd q → s.flag = 2 → armed2 q = true
  idle_th : ∀ u r k th p q, s.pc u = .rcv r (.wpIdle k th) → s.pc p = .snd q → th = some p
  handed : ∀ p q, s.pc p = .snd q → armed0 q = true → s.flag = 0 → s.token p = true ∨ ∃ u, (u, p) ∈ s.upk
  wit : ∀ p q, s.pc p = .snd q → s.flag = 1 → witPC s q
  kcap : ∀ p q, s.pc p = .snd q → kOf q ≤ s.cap
  shead : ∀ p k, s.pc p = .snd (.sHead k) → rk k = false

/-- wakers the sender-side thread has taken out of a slot list and not yet woken -/
def accOf : SPC → List Nat
  | .wLockW _ _ _ _ acc => acc
  | .wUnlockW _ _ _ _ acc => acc
  | .wWake _ _ acc => acc
  | .cWake _ ws => ws
  | _ => []

/-- the producer is still before the drain of the slot of index `c` -/
def willDrain (q : SPC) (c : Nat) : Prop :=
  match q with
  | .wSeqLd _ h _ k => h ≤ c ∧ c < h + k
  | .wVal _ h _ k _ => h ≤ c ∧ c < h + k
  | .wSeqSt _ h _ k => h ≤ c ∧ c < h + k
  | .wHeadSt _ h k => h ≤ c ∧ c < h + k
  | .wLockW _ h j k _ => h + j ≤ c ∧ c < h + k
  | .wUnlockW _ h j k _ => h + j < c ∧ c < h + k
  | _ => False

/-- the closing sender is still before the drain of slot `j` -/
def willDrainC (q : SPC) (j : Nat) : Prop :=
  match q with
  | .cLock j0 => j0 ≤ j
  | .cWake j0 _ => j0 < j
  | .cUnlock j0 => j0 < j
  | _ => False

/-- a wake of `t` is already under way: token, or in the sender's to-wake list -/
def OwedL (s : State) (t : Nat) : Prop := s.token t = true ∨ ∃ p q, s.pc p = .snd q ∧ t ∈ accOf q

/-- stage of a blocking receive after it registered its waker: 0 = before the re-check's load,
1 = the re-check found nothing, 2 = past the `producer_dropped` test -/
def wstage : RPC → Option Nat
  | .gUnlock _ _ => some 0
  | .rCur x => if x.reg then some 0 else none
  | .rSeq x _ => if x.reg then some 0 else none
  | .bHd x _ => if x.reg then some 0 else none
  | .rDrop x _ => if x.reg then some 1 else none
  | .rHead x _ => if x.reg then some 1 else none
  | .bDrop x _ => if x.reg then some 1 else none
  | .bHd2 x _ => if x.reg then some 1 else none
  | .eDrop _ => some 2
  | .eHead _ => some 2
  | .eCur _ _ => some 2
  | .kPark _ => some 2
  | _ => none

/-- what a blocking receive that has registered its waker can rely on -/
def W3thread (s : State) (t r : Nat) (q : RPC) : Prop :=
  (∀ n, wstage q = some n → t ∈ s.wk (s.cur r % s.cap) ∨ OwedL s t) ∧
  (∀ n, wstage q = some n → 1 ≤ n → s.cur r < s.sent.length →
      OwedL s t ∨ (t ∈ s.wk (s.cur r % s.cap) ∧ ∃ p q', s.pc p = .snd q' ∧ willDrain q' (s.cur r))) ∧
  (wstage q = some 2 → s.pdropped = true →
      OwedL s t ∨ (t ∈ s.wk (s.cur r % s.cap) ∧ ∃ p q', s.pc p = .snd q' ∧ willDrainC q' (s.cur r % s.cap)))

structure InvW3 (s : State) : Prop where
  all : ∀ t r q, s.pc t = .rcv r q → W3thread s t r q
  fresh : ∀ t r x, s.pc t = .rcv r (.rFlag x) → x.reg = false

structure InvW (s : State) : Prop where
  w1 : InvW1 s
  w2 : InvW2 s
  w3 : InvW3 s

end Fv.Chan.SpmcB
