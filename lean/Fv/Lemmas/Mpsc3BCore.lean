import Fv.Lemmas.Mpsc3BBase
/-! Ticket-level core of the `Mpsc3B` model and the small transition system `CStep` that the projection of a model
state follows (`Fv.Lemmas.Mpsc3BSim`). P1–P3 of DESIGN Appendix A.3 are proved here, on `CStep`, with their
consequences: capacity bound, `logged = received ++ buffered`, exactly-once, per-producer FIFO. -/
namespace Fv.Chan.Mpsc3B

structure Claim where
  tk : Nat
  chk : Option Bool            -- `none`: `credit_ok` not yet evaluated
  deriving DecidableEq, Repr

/-- phase of the thread holding the head lock -/
inductive CPh
  | other
  | retire                                 -- about to store `consumer_retired` and advance `cid`
  | taking (sk : Bool) (g : Option Tok)    -- read SET (`sk = false`, value `g`) / SKIP at `pos`; about to reset the slot
  | pub1 (f : Nat)                         -- `publish_progress`: `unpublished` zeroed, about to store `drained`
  | pub2 (f : Nat)                         -- about to store `progress`
  deriving DecidableEq, Repr

structure Core where
  gtail : Nat
  progress : Nat
  drained : Nat
  pos : Nat
  unpub : Nat
  cid : Nat
  idx : Nat
  slot : Nat → Slot
  log : Nat → Option Tok
  recvd : List Tok
  seq : Tid → Nat
  claim : Tid → Option Claim
  cph : CPh

def tkSlot : Bool → Option Tok → Slot
  | false, some y => .set y
  | _, _ => .skip

def tkRecv (r : List Tok) : Bool → Option Tok → List Tok
  | false, some y => r ++ [y]
  | _, _ => r

def pend : CPh → Nat
  | .pub1 f => f
  | .pub2 f => f
  | _ => 0

inductive CStep (c : Cfg) : Core → Core → Prop
  | fadd (k : Core) (p : Tid) (h : k.claim p = none) :
      CStep c k { k with gtail := k.gtail + 1, claim := upd k.claim p (some ⟨k.gtail, none⟩) }
  | cred (k : Core) (p : Tid) (tk : Nat) (cold : Bool) (h : k.claim p = some ⟨tk, none⟩) :
      CStep c k { k with claim := upd k.claim p (some ⟨tk, some (wlt tk (if cold then k.drained else k.progress) c.cap)⟩) }
  | wset (k : Core) (p : Tid) (tk v : Nat) (h : k.claim p = some ⟨tk, some true⟩) :
      CStep c k { k with slot := upd k.slot tk (.set ⟨p, k.seq p, v⟩), log := upd k.log tk (some ⟨p, k.seq p, v⟩),
                         seq := upd k.seq p (k.seq p + 1), claim := upd k.claim p none }
  | wskip (k : Core) (p : Tid) (tk : Nat) (h : k.claim p = some ⟨tk, some false⟩) :
      CStep c k { k with slot := upd k.slot tk .skip, claim := upd k.claim p none }
  | toRetire (k : Core) (h : k.cph = .other) (hi : k.idx = c.chunkCap) : CStep c k { k with cph := .retire }
  | retire (k : Core) (h : k.cph = .retire) : CStep c k { k with cid := k.cid + 1, idx := 0, cph := .other }
  | look (k : Core) (sk : Bool) (g : Option Tok) (h : k.cph = .other)
      (hs : k.slot (k.cid * c.chunkCap + k.idx) = tkSlot sk g) : CStep c k { k with cph := .taking sk g }
  | drainKeep (k : Core) (sk : Bool) (g : Option Tok) (h : k.cph = .taking sk g) :
      CStep c k { k with slot := upd k.slot (k.cid * c.chunkCap + k.idx) .empty, idx := k.idx + 1, pos := k.pos + 1,
                         unpub := k.unpub + 1, recvd := tkRecv k.recvd sk g, cph := .other }
  | drainPub (k : Core) (sk : Bool) (g : Option Tok) (h : k.cph = .taking sk g) :
      CStep c k { k with slot := upd k.slot (k.cid * c.chunkCap + k.idx) .empty, idx := k.idx + 1, pos := k.pos + 1,
                         unpub := 0, recvd := tkRecv k.recvd sk g, cph := .pub1 (k.unpub + 1) }
  | flushPub (k : Core) (h : k.cph = .other) : CStep c k { k with unpub := 0, cph := .pub1 k.unpub }
  | pubDr (k : Core) (f : Nat) (h : k.cph = .pub1 f) : CStep c k { k with drained := k.pos, cph := .pub2 f }
  | pubPr (k : Core) (f : Nat) (h : k.cph = .pub2 f) : CStep c k { k with progress := k.pos, cph := .other }
  | mirror (k : Core) (h : k.cph = .other) : CStep c k { k with drained := k.pos }

/-- tokens logged at tickets `< n`, in ticket order -/
def collect (log : Nat → Option Tok) : Nat → List Tok
  | 0 => []
  | n + 1 => collect log n ++ (log n).toList

/-- tokens in SET slots at tickets `lo ≤ t < lo + n`, in ticket order -/
def buffered (slot : Nat → Slot) (lo : Nat) : Nat → List Tok
  | 0 => []
  | n + 1 => buffered slot lo n ++ (match slot (lo + n) with | .set x => [x] | _ => [])

structure CInv (c : Cfg) (k : Core) : Prop where
  ord1 : k.progress ≤ k.drained
  ord2 : k.drained ≤ k.pos
  ord3 : k.pos ≤ k.gtail
  posEq : k.pos = k.cid * c.chunkCap + k.idx
  below : ∀ t, t < k.pos → k.slot t = .empty
  above : ∀ t, k.gtail ≤ t → k.slot t = .empty
  claimRange : ∀ p tk ch, k.claim p = some ⟨tk, ch⟩ → k.pos ≤ tk ∧ tk < k.gtail ∧ k.slot tk = .empty
  claimUniq : ∀ p q tk ch ch', k.claim p = some ⟨tk, ch⟩ → k.claim q = some ⟨tk, ch'⟩ → p = q
  claimed : ∀ t, k.pos ≤ t → t < k.gtail → k.slot t = .empty → ∃ p ch, k.claim p = some ⟨t, ch⟩
  capSet : ∀ t x, k.slot t = .set x → t < k.pos + c.cap
  okCap : ∀ p tk, k.claim p = some ⟨tk, some true⟩ → tk < k.pos + c.cap
  logSlot : ∀ t x, k.pos ≤ t → (k.slot t = .set x ↔ k.log t = some x)
  recvdEq : k.recvd = collect k.log k.pos
  logBound : ∀ t x, k.log t = some x → t < k.gtail
  seqK : ∀ t x, k.log t = some x → x.k < k.seq x.p
  fifo : ∀ t1 t2 x1 x2, k.log t1 = some x1 → k.log t2 = some x2 → x1.p = x2.p → t1 < t2 → x1.k < x2.k
  logClaim : ∀ t x tk ch, k.log t = some x → k.claim x.p = some ⟨tk, ch⟩ → t < tk
  phRetire : k.cph = .retire → k.idx = c.chunkCap
  phTaking : ∀ sk g, k.cph = .taking sk g → k.slot k.pos = tkSlot sk g
  unpubEq : k.progress + k.unpub + pend k.cph = k.pos
  phPub1 : ∀ f, k.cph = .pub1 f → k.unpub = 0
  phPub2 : ∀ f, k.cph = .pub2 f → k.unpub = 0
  phPub2d : ∀ f, k.cph = .pub2 f → k.drained = k.pos

theorem collect_upd_ge (log : Nat → Option Tok) (t : Nat) (v : Option Tok) (n : Nat) (h : n ≤ t) :
    collect (upd log t v) n = collect log n := by
  induction n with
  | zero => rfl
  | succ m ih =>
    have : upd log t v m = log m := upd_other _ _ _ _ (by omega)
    simp [collect, ih (by omega), this]

theorem buffered_upd_lt (slot : Nat → Slot) (lo n t : Nat) (v : Slot) (h : t < lo) :
    buffered (upd slot t v) lo n = buffered slot lo n := by
  induction n with
  | zero => rfl
  | succ m ih =>
    have : upd slot t v (lo + m) = slot (lo + m) := upd_other _ _ _ _ (by omega)
    simp [buffered, ih, this]

def cinit : Core :=
  { gtail := 0, progress := 0, drained := 0, pos := 0, unpub := 0, cid := 0, idx := 0, slot := fun _ => .empty,
    log := fun _ => none, recvd := [], seq := fun _ => 0, claim := fun _ => none, cph := .other }

theorem cinv_init (c : Cfg) : CInv c cinit := by
  constructor <;> simp [cinit, collect, pend]

/-- the clauses of `CInv` about the consumer's counters and phase, for the steps that only move these -/
structure Book (c : Cfg) (k : Core) (pr dr un : Nat) (ph : CPh) : Prop where
  ord1 : pr ≤ dr
  ord2 : dr ≤ k.pos
  phase : match ph with
    | .other => True
    | .retire => k.idx = c.chunkCap
    | .taking sk g => k.slot k.pos = tkSlot sk g
    | .pub1 _ => un = 0
    | .pub2 _ => un = 0 ∧ dr = k.pos
  unpubEq : pr + un + pend ph = k.pos

theorem CInv.book {c k} (hi : CInv c k) : Book c k k.progress k.drained k.unpub k.cph := by
  refine ⟨hi.ord1, hi.ord2, ?_, hi.unpubEq⟩
  cases h : k.cph with
  | other => trivial
  | retire => exact hi.phRetire h
  | taking => exact hi.phTaking _ _ h
  | pub1 => exact hi.phPub1 _ h
  | pub2 => exact ⟨hi.phPub2 _ h, hi.phPub2d _ h⟩

theorem cinv_book {c k pr dr un ph} (hi : CInv c k) (hb : Book c k pr dr un ph) :
    CInv c { k with progress := pr, drained := dr, unpub := un, cph := ph } :=
  { hi with
    ord1 := hb.ord1, ord2 := hb.ord2, unpubEq := hb.unpubEq
    phRetire := fun e => by cases e; exact hb.phase
    phTaking := fun _ _ e => by cases e; exact hb.phase
    phPub1 := fun _ e => by cases e; exact hb.phase
    phPub2 := fun _ e => by cases e; exact hb.phase.1
    phPub2d := fun _ e => by cases e; exact hb.phase.2 }

/-- `publish_progress` starts: the unpublished count is handed over to the phase -/
theorem cinv_flushPub {c k} (hi : CInv c k) (h : k.cph = .other) : CInv c { k with unpub := 0, cph := .pub1 k.unpub } := by
  have b := hi.book
  rw [h] at b
  exact cinv_book hi { b with unpubEq := by have := b.unpubEq; simp only [pend] at this ⊢; omega, phase := rfl }

theorem wlt_true {a b cap : Nat} (h : wlt a b cap = true) : b ≤ a ∧ a - b < cap := by
  simpa [wlt] using h

theorem tkSlot_ne_empty (sk : Bool) (g : Option Tok) : tkSlot sk g ≠ .empty := by
  cases sk <;> cases g <;> simp [tkSlot]

attribute [local grind =] upd_apply
attribute [local grind .] tkSlot_ne_empty

/-- the clauses of `CInv` that tie the claims to the EMPTY slots of the window (P1, P2), over the components they
read. The fields are named as in `CInv`: a step lemma builds the new `CInv` as `{ w, hi with … }` from the new `Win`
and the old invariant. -/
structure Win (cap pos gtail : Nat) (slot : Nat → Slot) (claim : Tid → Option Claim) : Prop where
  below : ∀ t, t < pos → slot t = .empty
  above : ∀ t, gtail ≤ t → slot t = .empty
  claimRange : ∀ p tk ch, claim p = some ⟨tk, ch⟩ → pos ≤ tk ∧ tk < gtail ∧ slot tk = .empty
  claimUniq : ∀ p q tk ch ch', claim p = some ⟨tk, ch⟩ → claim q = some ⟨tk, ch'⟩ → p = q
  claimed : ∀ t, pos ≤ t → t < gtail → slot t = .empty → ∃ p ch, claim p = some ⟨t, ch⟩
  capSet : ∀ t x, slot t = .set x → t < pos + cap
  okCap : ∀ p tk, claim p = some ⟨tk, some true⟩ → tk < pos + cap

theorem CInv.win {c k} (hi : CInv c k) : Win c.cap k.pos k.gtail k.slot k.claim :=
  ⟨hi.below, hi.above, hi.claimRange, hi.claimUniq, hi.claimed, hi.capSet, hi.okCap⟩

section Win
variable {cap pos gtail : Nat} {slot : Nat → Slot} {claim : Tid → Option Claim} {p : Tid} {tk : Nat}

theorem Win.fadd (hw : Win cap pos gtail slot claim) (h : claim p = none) (ho : pos ≤ gtail) :
    Win cap pos (gtail + 1) slot (upd claim p (some ⟨gtail, none⟩)) := by
  obtain ⟨bl, ab, cr, cu, cd, cs, oc⟩ := hw
  refine ⟨bl, ?_, ?_, ?_, ?cd, cs, ?_⟩
  case cd =>
    intro t h1 h2 h3
    by_cases e : t = gtail
    · exact ⟨p, none, by simp [e]⟩
    · obtain ⟨q, ch, hq⟩ := cd t h1 (by omega) h3
      exact ⟨q, ch, by grind⟩
  all_goals grind

/-- `credit_ok` evaluated to `b`; `true` only inside the capacity window -/
theorem Win.cred {b : Bool} (hw : Win cap pos gtail slot claim) (h : claim p = some ⟨tk, none⟩)
    (hb : b = true → tk < pos + cap) : Win cap pos gtail slot (upd claim p (some ⟨tk, some b⟩)) := by
  obtain ⟨bl, ab, cr, cu, cd, cs, oc⟩ := hw
  refine ⟨bl, ab, ?_, ?_, ?cd, cs, ?_⟩
  case cd =>
    intro t h1 h2 h3
    obtain ⟨q, ch, hq⟩ := cd t h1 h2 h3
    by_cases e : q = p
    · subst e; rw [h] at hq; cases hq; exact ⟨q, _, upd_same ..⟩
    · exact ⟨q, ch, by rw [upd_other _ _ _ _ e]; exact hq⟩
  all_goals grind

/-- `p` stores a non-EMPTY value at its ticket and gives the claim up; a SET only after `credit_ok` -/
theorem Win.write {b : Bool} {v : Slot} (hw : Win cap pos gtail slot claim) (h : claim p = some ⟨tk, some b⟩)
    (hv : v ≠ .empty) (hb : ∀ x, v = .set x → b = true) : Win cap pos gtail (upd slot tk v) (upd claim p none) := by
  obtain ⟨bl, ab, cr, cu, cd, cs, oc⟩ := hw
  have hr := cr p tk _ h
  refine ⟨?_, ?_, ?cr, ?_, ?cd, ?cs, ?_⟩
  case cr =>
    intro q t ch hq
    by_cases e : q = p
    · subst e; simp at hq
    · rw [upd_other _ _ _ _ e] at hq
      have h1 := cr q t ch hq
      have hne : t ≠ tk := fun e2 => e (cu q p tk _ _ (e2 ▸ hq) h)
      exact ⟨h1.1, h1.2.1, by rw [upd_other _ _ _ _ hne]; exact h1.2.2⟩
  case cd =>
    -- whoever claimed `t ≠ tk` before still does
    intro t h1 h2 h3
    have hne : t ≠ tk := fun e => by rw [e, upd_same] at h3; exact hv h3
    rw [upd_other _ _ _ _ hne] at h3
    obtain ⟨q, ch, hq⟩ := cd t h1 h2 h3
    refine ⟨q, ch, ?_⟩
    rw [upd_other _ _ _ _ fun e => ?_]; exact hq
    rw [e, h] at hq; cases hq; exact hne rfl
  case cs =>
    intro t x hx
    by_cases e : t = tk
    · subst e; rw [upd_same] at hx; exact oc p t (hb x hx ▸ h)
    · exact cs t x (by rwa [upd_other _ _ _ _ e] at hx)
  all_goals grind

theorem Win.drain (hw : Win cap pos gtail slot claim) (hne : slot pos ≠ .empty) :
    Win cap (pos + 1) gtail (upd slot pos .empty) claim := by
  obtain ⟨bl, ab, cr, cu, cd, cs, oc⟩ := hw
  refine ⟨?_, ?_, ?cr, cu, ?cd, ?_, ?_⟩
  case cr =>
    intro q t ch hq
    have := cr q t ch hq
    have hne2 : t ≠ pos := fun e => hne (e ▸ this.2.2)
    exact ⟨by omega, this.2.1, by rw [upd_other _ _ _ _ hne2]; exact this.2.2⟩
  case cd =>
    intro t h1 h2 h3
    rw [upd_other _ _ _ _ (by omega)] at h3
    exact cd t (by omega) h2 h3
  all_goals grind

end Win

theorem cinv_fadd {c k p} (hi : CInv c k) (h : k.claim p = none) :
    CInv c { k with gtail := k.gtail + 1, claim := upd k.claim p (some ⟨k.gtail, none⟩) } :=
  { hi.win.fadd h hi.ord3, hi with
    ord3 := Nat.le_succ_of_le hi.ord3
    logBound := fun t x e => Nat.lt_succ_of_lt (hi.logBound t x e)
    logClaim := by have := hi.logClaim; have := hi.logBound; simp only []; grind }

theorem cinv_cred {c k p tk} (cold : Bool) (hi : CInv c k) (h : k.claim p = some ⟨tk, none⟩) :
    CInv c { k with claim := upd k.claim p (some ⟨tk, some (wlt tk (if cold then k.drained else k.progress) c.cap)⟩) } :=
  have hb : wlt tk (if cold then k.drained else k.progress) c.cap = true → tk < k.pos + c.cap := fun e => by
    have h1 := wlt_true e
    have h2 := hi.ord1
    have h3 := hi.ord2
    cases cold <;> simp at h1 <;> omega
  { hi.win.cred h hb, hi with
    logClaim := by have := hi.logClaim; simp only []; grind }

theorem cinv_wset {c k p tk v} (hi : CInv c k) (h : k.claim p = some ⟨tk, some true⟩) :
    CInv c { k with slot := upd k.slot tk (.set ⟨p, k.seq p, v⟩), log := upd k.log tk (some ⟨p, k.seq p, v⟩),
                    seq := upd k.seq p (k.seq p + 1), claim := upd k.claim p none } := by
  have hr := hi.claimRange p tk _ h
  have ls := hi.logSlot
  have lc := hi.logClaim
  have sk := hi.seqK
  have hlog : k.log tk = none := by
    cases e : k.log tk with
    | none => rfl
    | some x => have := (ls tk x hr.1).2 e; rw [hr.2.2] at this; simp at this
  exact
  { hi.win.write h (v := .set ⟨p, k.seq p, v⟩) nofun (fun _ _ => rfl), hi with
    logSlot := by simp only []; grind
    recvdEq := by simp only []; rw [collect_upd_ge _ _ _ _ hr.1]; exact hi.recvdEq
    logBound := by have := hi.logBound; simp only []; grind
    seqK := by
      simp only []
      intro t x hx
      by_cases e : t = tk
      · subst e; simp at hx; subst hx; simp
      · rw [upd_other _ _ _ _ e] at hx
        have := sk t x hx
        by_cases e2 : x.p = p
        · rw [e2] at this ⊢; simp; omega
        · rw [upd_other _ _ _ _ e2]; exact this
    fifo := by
      simp only []
      intro t1 t2 x1 x2 h1 h2 hp hlt
      by_cases e1 : t1 = tk <;> by_cases e2 : t2 = tk
      · omega
      · subst e1
        simp [upd_apply, e2] at h1 h2
        have := lc t2 x2 t1 (some true) h2 (by rw [← hp, ← h1]; exact h)
        omega
      · subst e2
        simp [upd_apply, e1] at h1 h2
        have := sk t1 x1 h1
        rw [← h2]; simp; rw [hp, ← h2] at this; simpa using this
      · simp [upd_apply, e1, e2] at h1 h2
        exact hi.fifo t1 t2 x1 x2 h1 h2 hp hlt
    logClaim := by simp only []; grind
    phTaking := by have := hi.phTaking; simp only []; grind }

theorem cinv_wskip {c k p tk} (hi : CInv c k) (h : k.claim p = some ⟨tk, some false⟩) :
    CInv c { k with slot := upd k.slot tk .skip, claim := upd k.claim p none } := by
  have hr := hi.claimRange p tk _ h
  exact
  { hi.win.write h (v := .skip) nofun nofun, hi with
    logSlot := by have := hi.logSlot; simp only []; grind
    logClaim := by have := hi.logClaim; simp only []; grind
    phTaking := by have := hi.phTaking; simp only []; grind }

theorem cinv_retire {c k} (hi : CInv c k) (h : k.cph = .retire) : CInv c { k with cid := k.cid + 1, idx := 0, cph := .other } :=
  { hi with
    posEq := by simp only []; rw [hi.posEq, hi.phRetire h, Nat.add_mul]; simp
    unpubEq := by have := hi.unpubEq; rw [h] at this; exact this
    phRetire := nofun, phTaking := nofun, phPub1 := nofun, phPub2 := nofun, phPub2d := nofun }

theorem cinv_drain {c k sk g} (hi : CInv c k) (h : k.cph = .taking sk g) :
    CInv c { k with slot := upd k.slot (k.cid * c.chunkCap + k.idx) .empty, idx := k.idx + 1, pos := k.pos + 1,
                    unpub := k.unpub + 1, recvd := tkRecv k.recvd sk g, cph := .other } := by
  have hs := hi.phTaking sk g h
  have hne : k.slot k.pos ≠ .empty := by rw [hs]; exact tkSlot_ne_empty sk g
  have hlt : k.pos < k.gtail := by
    rcases Nat.lt_or_ge k.pos k.gtail with h | h
    · exact h
    · exact absurd (hi.above _ h) hne
  have ls := hi.logSlot
  have pe := hi.posEq
  rw [← pe]
  exact
  { hi.win.drain hne, hi with
    ord2 := Nat.le_succ_of_le hi.ord2
    ord3 := hlt
    posEq := by simp only []; omega
    logSlot := by simp only []; grind
    recvdEq := by
      simp only []
      rw [collect, ← hi.recvdEq]
      cases sk <;> cases g <;> simp [tkSlot] at hs <;> simp [tkRecv]
      all_goals first
        | (have := (ls k.pos _ (Nat.le_refl _)).1 hs; simp [this])
        | (cases e : k.log k.pos with
           | none => simp
           | some x => have := (ls k.pos x (Nat.le_refl _)).2 e; rw [hs] at this; simp at this)
    unpubEq := by have := hi.unpubEq; rw [h] at this; simp only [pend] at this ⊢; omega
    phRetire := nofun, phTaking := nofun, phPub1 := nofun, phPub2 := nofun, phPub2d := nofun }

theorem cinv_step {c k k'} (hi : CInv c k) (h : CStep c k k') : CInv c k' := by
  have b := hi.book
  cases h with
  | fadd p h => exact cinv_fadd hi h
  | cred p tk cold h => exact cinv_cred cold hi h
  | wset p tk v h => exact cinv_wset hi h
  | wskip p tk h => exact cinv_wskip hi h
  | retire h => exact cinv_retire hi h
  | drainKeep sk g h => exact cinv_drain hi h
  | drainPub sk g h => exact cinv_flushPub (cinv_drain hi h) rfl
  | flushPub h => exact cinv_flushPub hi h
  | toRetire h hx => rw [h] at b; exact cinv_book hi { b with phase := hx }
  | look sk g h hs => rw [h] at b; exact cinv_book hi { b with phase := hi.posEq ▸ hs }
  | pubDr f h =>
    rw [h] at b
    exact cinv_book hi { b with ord1 := by have := b.unpubEq; omega, ord2 := Nat.le_refl _, phase := ⟨b.phase, rfl⟩ }
  | pubPr f h =>
    rw [h] at b
    exact cinv_book hi
      { b with ord1 := b.phase.2 ▸ Nat.le_refl _, phase := trivial, unpubEq := by simp only [pend, b.phase.1]; rfl }
  | mirror h =>
    refine cinv_book hi (ph := k.cph) ?_
    rw [h] at b ⊢
    exact { b with ord1 := by have := b.unpubEq; omega, ord2 := Nat.le_refl _ }

theorem buffered_length_le (slot : Nat → Slot) (lo cap : Nat) (h : ∀ t x, slot t = .set x → t < lo + cap) :
    ∀ n, (buffered slot lo n).length ≤ min n cap := by
  intro n
  induction n with
  | zero => simp [buffered]
  | succ m ih =>
    simp only [buffered, List.length_append]
    cases hs : slot (lo + m) with
    | set x =>
      have := h _ _ hs
      simp; omega
    | empty => simp; omega
    | skip => simp; omega

/-- P2 ⇒ at most `cap` values are buffered -/
theorem CInv.buffered_le {c : Cfg} {k : Core} (hi : CInv c k) (n : Nat) : (buffered k.slot k.pos n).length ≤ c.cap :=
  Nat.le_trans (buffered_length_le k.slot k.pos c.cap hi.capSet n) (Nat.min_le_right _ _)

theorem collect_add (log : Nat → Option Tok) (a : Nat) : ∀ n, collect log (a + n) =
    collect log a ++ (List.range n).filterMap (fun i => log (a + i)) := by
  intro n
  induction n with
  | zero => simp
  | succ m ih =>
    rw [← Nat.add_assoc, collect, ih, List.range_succ, List.filterMap_append]
    simp only [List.filterMap_cons, List.filterMap_nil, List.append_assoc]
    cases log (a + m) <;> simp

theorem CInv.seq_eq {c : Cfg} {k : Core} (hi : CInv c k) : ∀ n, collect k.log (k.pos + n) = k.recvd ++ buffered k.slot k.pos n := by
  intro n
  induction n with
  | zero => simp [buffered, hi.recvdEq]
  | succ m ih =>
    rw [← Nat.add_assoc, collect, ih, buffered, List.append_assoc]
    congr 2
    have hl := hi.logSlot (k.pos + m)
    cases hs : k.slot (k.pos + m) with
    | set x => simp [(hl x (by omega)).1 hs]
    | _ =>
      cases h : k.log (k.pos + m) with
      | none => rfl
      | some x => have := (hl x (by omega)).2 h; rw [hs] at this; cases this

theorem mem_collect {log : Nat → Option Tok} {x : Tok} : ∀ {n}, x ∈ collect log n ↔ ∃ t, t < n ∧ log t = some x := by
  intro n
  induction n with
  | zero => simp [collect]
  | succ m ih =>
    simp only [collect, List.mem_append, ih, Option.mem_toList]
    constructor
    · rintro (⟨t, ht, hx⟩ | hx)
      · exact ⟨t, by omega, hx⟩
      · exact ⟨m, by omega, hx⟩
    · rintro ⟨t, ht, hx⟩
      by_cases e : t = m
      · subst e; exact Or.inr hx
      · exact Or.inl ⟨t, by omega, hx⟩

/-- a token carries its producer and per-producer sequence number -/
theorem CInv.log_inj {c : Cfg} {k : Core} (hi : CInv c k) {t1 t2 : Nat} {x : Tok}
    (h1 : k.log t1 = some x) (h2 : k.log t2 = some x) : t1 = t2 := by
  rcases Nat.lt_trichotomy t1 t2 with h | h | h
  · exact absurd (hi.fifo t1 t2 x x h1 h2 rfl h) (Nat.lt_irrefl _)
  · exact h
  · exact absurd (hi.fifo t2 t1 x x h2 h1 rfl h) (Nat.lt_irrefl _)

theorem CInv.collect_pairwise {c : Cfg} {k : Core} (hi : CInv c k) :
    ∀ n, (collect k.log n).Pairwise (fun a b => a ≠ b ∧ (a.p = b.p → a.k < b.k)) := by
  intro n
  induction n with
  | zero => simp [collect]
  | succ m ih =>
    rw [collect, List.pairwise_append]
    refine ⟨ih, ?_, ?_⟩
    · cases k.log m <;> simp
    · intro a ha b hb
      obtain ⟨t, ht, hta⟩ := mem_collect.1 ha
      have hb' : k.log m = some b := by simpa using hb
      refine ⟨?_, fun hp => hi.fifo t m a b hta hb' hp ht⟩
      intro e; subst e
      have := hi.log_inj hta hb'; omega

theorem CInv.collect_nodup {c : Cfg} {k : Core} (hi : CInv c k) (n : Nat) : (collect k.log n).Nodup :=
  (hi.collect_pairwise n).imp (fun h => h.1)

end Fv.Chan.Mpsc3B
