import Fv.Lemmas.OneshotBBase
/-! Every transition of the step-level oneshot model preserves `I2`, `I3`, `I3b`: the cases named are the transitions
that write the state word, `writer`, `taker`, the slot or `freed`. -/
namespace Fv.Chan.OneshotB

variable {s s' : State} {a : Ag}

theorem I2.step (A : AInv s) (t : Tr s a (s.loc a) s') : I2 s' := by
  have hi := A.i2
  have ha := hi.each a
  cases t
  case sCasEW | sStEmpty | sSwapSent =>
    have hJ1 := A.j1
    exact ⟨by grind, each_upd (by grind) fun b _ => by grind⟩
  -- a CAS that succeeds found EMPTY or SENT, so there is no writer
  case dcCasEC | dcCasST | ciCasEC | ciCasST | tCasST | tCasEC | pCasEC =>
    exact ⟨by grind, each_upd (by grind) fun b _ => by grind⟩
  case tStClosed _ hm => exact absurd hm (A.i3b.each a).dead1
  all_goals exact ⟨hi.g, each_upd (by grind) fun b _ => hi.each b⟩

theorem I3.step (A : AInv s) (t : Tr s a (s.loc a) s') : I3 s' := by
  have hi := A.i3
  have ha := hi.each a
  cases t
  -- the writer's critical section: no taker, and the slot stays empty until `sLock`
  case sCasEW | sStEmpty | sLock | sSwapSent =>
    have hJ1 := A.j1; have hJ2 := A.j2; have hJ2b := A.j2b; have hI2 := A.i2
    exact ⟨by grind, each_upd (by grind) fun b _ => by grind⟩
  case dcCasEC | dcCasST | pCasEC =>
    have hJ2 := A.j2; have hJ2b := A.j2b
    exact ⟨by grind, each_upd (by grind) fun b _ => by grind⟩
  -- claim-and-drop and `OneShotShared::drop`: the taker is the acting handle; after the last release nobody is inside
  case xLock | ciCasEC | ciCasST | fLdState_sent | fLdState =>
    have hJ2 := A.j2; have hJ2b := A.j2b; have hI2 := A.i2
    -- `grind` does not turn `o ≠ none` into a witness
    have hTk := s.taker.eq_none_or_eq_some; have hWr := s.writer.eq_none_or_eq_some
    have htk := hi.takerAt; have hwr := hI2.writerAt
    exact ⟨by grind, each_upd (by grind) fun b _ => by grind⟩
  case tCasST | tLock | tLock_none | tStClosed | tCasEC =>
    have hJ2 := A.j2; have hJ2b := A.j2b; have hI2 := A.i2; have hI3b := A.i3b
    exact ⟨by grind, each_upd (by grind) fun b _ => by grind⟩
  all_goals exact ⟨hi.g, each_upd (by grind) fun b _ => hi.each b⟩

theorem I3b.step (A : AInv s) (t : Tr s a (s.loc a) s') : I3b s' := by
  have hi := A.i3b
  have ha := hi.each a
  cases t
  case sCasEW | sStEmpty | sSwapSent =>
    have hI2 := A.i2
    exact ⟨each_upd (by grind) fun b _ => by grind⟩
  case dcCasEC | dcCasST | ciCasEC | ciCasST | tCasEC | pCasEC =>
    have hJ3 := A.j3
    exact ⟨each_upd (by grind) fun b _ => by grind⟩
  -- the claimed slot is not empty: `tStClosed` is never reached
  case tCasST | tLock_none | tStClosed =>
    have hI3 := A.i3
    exact ⟨each_upd (by grind) fun b _ => by grind⟩
  all_goals exact ⟨each_upd (by grind) fun b _ => hi.each b⟩

end Fv.Chan.OneshotB
