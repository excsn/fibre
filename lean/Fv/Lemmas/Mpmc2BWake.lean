import Fv.Chan.Mpmc2B
/-! Wake-up invariant of the mpmc v2 B-model. An agent has at most one waiter record at a time: `RowK` / `RowB` say what
each control state knows of that record, `Links` what a queued or woken record says about its owner. -/
namespace Fv.Chan.Mpmc2B

def recOf : PC → Option Nat
  | .sTry _ r | .sReg _ r | .sWait _ r | .sPark _ r | .sUnl _ r _ | .rTry r | .rReg r | .rWait r | .rPark r | .rUnl r
  | .toTry r | .toReg r | .toRetry r | .toCas r | .toUnl r | .toFin r | .asNew _ r | .asTry _ r | .asReg _ r | .asPend _ r
  | .asUnl _ r _ | .asRef _ r | .fdUnlS _ r | .arNew r | .arTry r | .arReg r | .arPend r | .arUnl r | .fdUnlR r => some r
  | _ => none

/-- the record may sit in a receiver queue in state WAITING (`arTry` / `arReg`: a `RecvFuture` polled again while
still registered) -/
def regAtR : PC → Option Nat
  | .rWait r => some r
  | .rPark r => some r
  | .toCas r => some r
  | .arTry r => some r
  | .arReg r => some r
  | .arPend r => some r
  | _ => none

/-- the record may be in `ar` (CASed to SUCCESS, `try_recv_core` not yet re-entered) -/
def wokenRecv : PC → Option Nat
  | .idle => none
  | .done _ => none
  | .sTry _ _ => none
  | .sReg _ _ => none
  | .sWait _ _ => none
  | .sPark _ _ => none
  | .sUnl _ _ _ => none
  | .tsTry _ => none
  | .rTry r => some r
  | .rReg _ => none
  | .rWait r => some r
  | .rPark r => some r
  | .rUnl _ => none
  | .trTry => none
  | .toTry _ => none
  | .toReg _ => none
  | .toRetry _ => none
  | .toCas r => some r
  | .toUnl _ => none
  | .toFin r => some r
  | .asNew _ _ => none
  | .asTry _ _ => none
  | .asReg _ _ => none
  | .asPend _ _ => none
  | .asUnl _ _ _ => none
  | .asRef _ _ => none
  | .fdUnlS _ _ => none
  | .arNew _ => none
  | .arTry r => some r
  | .arReg r => some r
  | .arPend r => some r
  | .arUnl _ => none
  | .fdUnlR _ => none
  | .hCloneS => none
  | .hCloneR => none
  | .hCloseS => none
  | .hCloseR => none
  | .hProbe => none
  | .hWake _ => none

def regAtS : PC → Option Nat
  | .sWait _ r => some r
  | .sPark _ r => some r
  | .asPend _ r => some r
  | .asRef _ r => some r
  | _ => none

def wokenSend : PC → Option Nat
  | .idle => none
  | .done _ => none
  | .sTry _ r => some r
  | .sReg _ _ => none
  | .sWait _ r => some r
  | .sPark _ r => some r
  | .sUnl _ r _ => some r
  | .tsTry _ => none
  | .rTry _ => none
  | .rReg _ => none
  | .rWait _ => none
  | .rPark _ => none
  | .rUnl _ => none
  | .trTry => none
  | .toTry _ => none
  | .toReg _ => none
  | .toRetry _ => none
  | .toCas _ => none
  | .toUnl _ => none
  | .toFin _ => none
  | .asNew _ _ => none
  | .asTry _ r => some r
  | .asReg _ _ => none
  | .asPend _ r => some r
  | .asUnl _ r _ => some r
  | .asRef _ r => some r
  | .fdUnlS _ _ => none
  | .arNew _ => none
  | .arTry _ => none
  | .arReg _ => none
  | .arPend _ => none
  | .arUnl _ => none
  | .fdUnlR _ => none
  | .hCloneS => none
  | .hCloneR => none
  | .hCloseS => none
  | .hCloseR => none
  | .hProbe => none
  | .hWake _ => none

/-- a `RecvFuture` that was never polled: its record is not in the queue -/
def unregA : PC → Option Nat
  | .arNew r => some r
  | _ => none

/-- control states from which the agent blocks / returns Pending without re-reading its state byte -/
def waitish : PC → Option Nat
  | .idle => none
  | .done _ => none
  | .sTry _ _ => none
  | .sReg _ _ => none
  | .sWait _ _ => none
  | .sPark _ r => some r
  | .sUnl _ _ _ => none
  | .tsTry _ => none
  | .rTry _ => none
  | .rReg _ => none
  | .rWait _ => none
  | .rPark r => some r
  | .rUnl _ => none
  | .trTry => none
  | .toTry _ => none
  | .toReg _ => none
  | .toRetry _ => none
  | .toCas _ => none
  | .toUnl _ => none
  | .toFin _ => none
  | .asNew _ _ => none
  | .asTry _ _ => none
  | .asReg _ _ => none
  | .asPend _ r => some r
  | .asUnl _ _ _ => none
  | .asRef _ r => some r
  | .fdUnlS _ _ => none
  | .arNew _ => none
  | .arTry _ => none
  | .arReg _ => none
  | .arPend r => some r
  | .arUnl _ => none
  | .fdUnlR _ => none
  | .hCloneS => none
  | .hCloneR => none
  | .hCloseS => none
  | .hCloseR => none
  | .hProbe => none
  | .hWake _ => none

/-- deferred wakes a closing agent still has to deliver -/
def wl : PC → List Nat
  | .idle => []
  | .done _ => []
  | .sTry _ _ => []
  | .sReg _ _ => []
  | .sWait _ _ => []
  | .sPark _ _ => []
  | .sUnl _ _ _ => []
  | .tsTry _ => []
  | .rTry _ => []
  | .rReg _ => []
  | .rWait _ => []
  | .rPark _ => []
  | .rUnl _ => []
  | .trTry => []
  | .toTry _ => []
  | .toReg _ => []
  | .toRetry _ => []
  | .toCas _ => []
  | .toUnl _ => []
  | .toFin _ => []
  | .asNew _ _ => []
  | .asTry _ _ => []
  | .asReg _ _ => []
  | .asPend _ _ => []
  | .asUnl _ _ _ => []
  | .asRef _ _ => []
  | .fdUnlS _ _ => []
  | .arNew _ => []
  | .arTry _ => []
  | .arReg _ => []
  | .arPend _ => []
  | .arUnl _ => []
  | .fdUnlR _ => []
  | .hCloneS => []
  | .hCloneR => []
  | .hCloseS => []
  | .hCloseR => []
  | .hProbe => []
  | .hWake ws => ws

def sendSide : PC → Bool
  | .idle => false
  | .done _ => false
  | .sTry _ _ => true
  | .sReg _ _ => true
  | .sWait _ _ => true
  | .sPark _ _ => true
  | .sUnl _ _ _ => true
  | .tsTry _ => true
  | .rTry _ => false
  | .rReg _ => false
  | .rWait _ => false
  | .rPark _ => false
  | .rUnl _ => false
  | .trTry => false
  | .toTry _ => false
  | .toReg _ => false
  | .toRetry _ => false
  | .toCas _ => false
  | .toUnl _ => false
  | .toFin _ => false
  | .asNew _ _ => true
  | .asTry _ _ => true
  | .asReg _ _ => true
  | .asPend _ _ => true
  | .asUnl _ _ _ => true
  | .asRef _ _ => true
  | .fdUnlS _ _ => true
  | .arNew _ => false
  | .arTry _ => false
  | .arReg _ => false
  | .arPend _ => false
  | .arUnl _ => false
  | .fdUnlR _ => false
  | .hCloneS => false
  | .hCloneR => false
  | .hCloseS => false
  | .hCloseR => false
  | .hProbe => false
  | .hWake _ => false

def recvFutRec : PC → Option Nat
  | .arNew r => some r
  | .arTry r => some r
  | .arReg r => some r
  | .arPend r => some r
  | _ => none

/-- blocked / Pending receivers whose record must be enqueued while WAITING -/
def blockR : PC → Option Nat
  | .rWait r => some r
  | .rPark r => some r
  | .arPend r => some r
  | _ => none

/-- wait states of senders and of blocking receivers (their records are never CANCELLED) -/
def liveWait : PC → Option Nat
  | .sWait _ r => some r
  | .sPark _ r => some r
  | .rWait r => some r
  | .rPark r => some r
  | .asPend _ r => some r
  | .asRef _ r => some r
  | _ => none

/-- inside a poll of the future on `r`, Pending on it, unlinking it after a close, or inside its `Drop` -/
def liveFutR : PC → Option Nat
  | .arTry r => some r | .arReg r => some r | .arPend r => some r | .arUnl r => some r | .fdUnlR r => some r
  | .idle => none | .done _ => none | .sTry _ _ => none | .sReg _ _ => none | .sWait _ _ => none | .sPark _ _ => none
  | .sUnl _ _ _ => none | .tsTry _ => none
  | .rTry _ => none | .rReg _ => none | .rWait _ => none | .rPark _ => none | .rUnl _ => none | .trTry => none
  | .toTry _ => none | .toReg _ => none | .toRetry _ => none | .toCas _ => none | .toUnl _ => none | .toFin _ => none
  | .asNew _ _ => none | .asTry _ _ => none | .asReg _ _ => none | .asPend _ _ => none | .asUnl _ _ _ => none
  | .asRef _ _ => none | .fdUnlS _ _ => none
  | .arNew _ => none
  | .hCloneS => none | .hCloneR => none | .hCloseS => none | .hCloseR => none | .hProbe => none | .hWake _ => none

theorem wokenRecv_recOf {p : PC} {r : Nat} (h : wokenRecv p = some r) : recOf p = some r := by
  cases p <;> simp_all [wokenRecv, recOf]

theorem wokenSend_recOf {p : PC} {r : Nat} (h : wokenSend p = some r) : recOf p = some r := by
  cases p <;> simp_all [wokenSend, recOf]

theorem waitish_recOf {p : PC} {r : Nat} (h : waitish p = some r) : recOf p = some r := by
  cases p <;> simp_all [waitish, recOf]

theorem regAtR_woken {p : PC} {r : Nat} (h : regAtR p = some r) : wokenRecv p = some r := by
  cases p <;> simp_all [regAtR, wokenRecv]

theorem regAtS_woken {p : PC} {r : Nat} (h : regAtS p = some r) : wokenSend p = some r := by
  cases p <;> simp_all [regAtS, wokenSend]

theorem liveFutR_recOf {p : PC} {r : Nat} (h : liveFutR p = some r) : recOf p = some r := by
  cases p <;> simp_all [liveFutR, recOf]

theorem wokenRecv_side {p : PC} {r : Nat} (h : wokenRecv p = some r) : sendSide p = false := by
  cases p <;> simp_all [wokenRecv, sendSide]

theorem wokenSend_side {p : PC} {r : Nat} (h : wokenSend p = some r) : sendSide p = true := by
  cases p <;> simp_all [wokenSend, sendSide]

def Own (s : State) (u r : Nat) (k : Bool) : Prop := s.owner r = u ∧ r < s.nextRec ∧ s.kind r = k

/-- every reachable state: ownership; the record of a `RecvFuture` is never CANCELLED while the future lives -/
def RowK (s : State) (u : Nat) : PC → Prop
  | .sTry _ r | .sReg _ r | .sWait _ r | .sPark _ r | .sUnl _ r _ | .asNew _ r | .asTry _ r | .asReg _ r | .asPend _ r
  | .asUnl _ r _ | .asRef _ r | .fdUnlS _ r => Own s u r true
  | .rTry r | .rReg r | .rWait r | .rPark r | .rUnl r | .toTry r | .toReg r | .toRetry r | .toCas r | .toUnl r | .toFin r
  | .arUnl r | .fdUnlR r => Own s u r false
  | .arNew r | .arTry r | .arReg r | .arPend r => Own s u r false ∧ s.st r ≠ .cancelled
  | _ => True

/-- `u` has a park token / a counted wake, or the agent that closed record `r` still holds the wake for `u` -/
def Owed (s : State) (u r : Nat) : Prop := s.wakes u = 0 → u ∈ wl (s.pc (s.wakeBy r))

def Woken (s : State) (u r : Nat) : Prop := (s.st r = .success ∨ s.st r = .closed) → Owed s u r

/-- after a benign history. A `RecvFuture` may be polled again while registered: inside such a poll (`arTry` / `arReg`)
it may still return Pending, so if its queued record is CASed to CLOSED meanwhile it is owed that wake as well -/
def RowB (s : State) (u : Nat) : PC → Prop
  | .sWait _ r => s.st r ≠ .cancelled ∧ (s.st r = .waiting → r ∈ s.wss ∨ r ∈ s.was)
  | .sPark _ r | .asPend _ r | .asRef _ r =>
      s.st r ≠ .cancelled ∧ (s.st r = .waiting → r ∈ s.wss ∨ r ∈ s.was) ∧ Woken s u r
  | .sUnl _ r c | .asUnl _ r c => c = true → s.st r = .closed
  | .rWait r => s.st r ≠ .cancelled ∧ (s.st r = .waiting → r ∈ s.wsr ∨ r ∈ s.war)
  | .rPark r => s.st r ≠ .cancelled ∧ (s.st r = .waiting → r ∈ s.wsr ∨ r ∈ s.war) ∧ Woken s u r
  | .arNew r => r ∉ s.wsr ∧ r ∉ s.war
  | .arTry r | .arReg r => r ∉ s.wsr ∧ (r ∈ s.war → s.st r = .closed → Owed s u r)
  | .arPend r => r ∉ s.wsr ∧ (s.st r = .waiting → r ∈ s.wsr ∨ r ∈ s.war) ∧ Woken s u r
  | _ => True

/-- The clauses under `b →` hold after a benign history only. `war` is finding F17, no dangling waiter record: the raw
state pointer a sender CASes / wakes through never outlives the `RecvFuture` (`stepArTry` unlinks the record of a future
it resolves). The length bounds in `waitR` / `waitS` are Q1 / Q2 of DESIGN Appendix A.5: every buffered item / free slot
is matched by a woken agent that has not yet re-entered the core (the ghost lists `ar` / `asg`). -/
structure Links (b : Prop) (s : State) : Prop where
  lt_s : ∀ r, r ∈ s.wss ∨ r ∈ s.was → r < s.nextRec ∧ s.kind r = true
  lt_r : ∀ r, r ∈ s.wsr ∨ r ∈ s.war → r < s.nextRec ∧ s.kind r = false
  nd_war : s.war.Nodup
  war : ∀ r, r ∈ s.war → s.st r ≠ .success ∧ liveFutR (s.pc (s.owner r)) = some r
  waitR : b → ∀ r, r ∈ s.wsr ∨ r ∈ s.war → s.st r = .waiting →
    regAtR (s.pc (s.owner r)) = some r ∧ s.senders ≠ 0 ∧ s.queue.length ≤ s.ar.length
  waitS : b → ∀ r, r ∈ s.wss ∨ r ∈ s.was → s.st r = .waiting →
    regAtS (s.pc (s.owner r)) = some r ∧ s.receivers ≠ 0 ∧ s.cap - s.queue.length ≤ s.asg.length
  ar : b → ∀ r, r ∈ s.ar → s.st r = .success ∧ wokenRecv (s.pc (s.owner r)) = some r
  asg : b → ∀ r, r ∈ s.asg → s.st r = .success ∧ wokenSend (s.pc (s.owner r)) = some r
  nd_ar : b → s.ar.Nodup
  nd_asg : b → s.asg.Nodup

/-- `b`: the history was `Benign` (no future is dropped between its wake and its next poll) -/
structure Inv (b : Prop) (s : State) : Prop where
  rowK : ∀ u, RowK s u (s.pc u)
  rowB : b → ∀ u, RowB s u (s.pc u)
  links : Links b s

theorem inv_init (b : Prop) (cap : Nat) : Inv b (init cap) := by
  refine ⟨fun _ => ?_, fun _ _ => ?_, ?_⟩ <;> first | constructor | skip
  all_goals simp [init]

section
variable {s s' : State} {u r : Nat} {p : PC}

theorem RowK.own (h : RowK s u p) (hr : recOf p = some r) : s.owner r = u ∧ r < s.nextRec := by
  cases p <;> simp only [recOf, Option.some.injEq, reduceCtorEq] at hr <;> subst hr <;> simp only [RowK, Own] at h <;>
    first | exact ⟨h.1, h.2.1⟩ | exact ⟨h.1.1, h.1.2.1⟩

theorem RowK.congr (h : RowK s u p) (hn : s.nextRec ≤ s'.nextRec)
    (hv : ∀ r, recOf p = some r →
      s'.owner r = s.owner r ∧ s'.kind r = s.kind r ∧ (s.st r ≠ .cancelled → s'.st r ≠ .cancelled)) :
    RowK s' u p := by
  cases p <;>
    simp only [RowK, Own, recOf, Option.some.injEq, forall_eq', reduceCtorEq, false_imp_iff, implies_true] at * <;> grind

theorem RowB.congr (h : RowB s u p)
    (hv : ∀ r, recOf p = some r → s'.st r = s.st r ∧ (r ∈ s.wss ∨ r ∈ s.was → r ∈ s'.wss ∨ r ∈ s'.was) ∧
      (r ∈ s.wsr ∨ r ∈ s.war → r ∈ s'.wsr ∨ r ∈ s'.war) ∧ (r ∈ s'.wsr → r ∈ s.wsr) ∧ (r ∈ s'.war → r ∈ s.war) ∧
      (Owed s u r → Owed s' u r)) : RowB s' u p := by
  cases p <;>
    simp only [RowB, Woken, recOf, Option.some.injEq, forall_eq', reduceCtorEq, false_imp_iff, implies_true] at * <;> grind

theorem RowB.hit (h : RowB s u p) (hr : recOf p = some r) (h0 : s.st r = .waiting)
    (h1 : s'.st r = .success ∨ s'.st r = .closed) (ho : Owed s' u r) (hw : r ∈ s'.wsr → r ∈ s.wsr)
    (hw' : r ∈ s'.war → r ∈ s.war) : RowB s' u p := by
  cases p <;> simp only [recOf, Option.some.injEq, reduceCtorEq] at hr <;> subst hr <;> simp only [RowB, Woken] at * <;>
    grind

end

/-! The clauses of `Inv` over the role functions: `InvK`, `InvD` on every reachable state, `InvR`, `InvA`, `InvW` after a
benign history. -/

structure InvK (s : State) : Prop where
  owner : ∀ t r, recOf (s.pc t) = some r → s.owner r = t ∧ r < s.nextRec ∧ s.kind r = sendSide (s.pc t)
  lt_wss : ∀ r, r ∈ s.wss → r < s.nextRec ∧ s.kind r = true
  lt_was : ∀ r, r ∈ s.was → r < s.nextRec ∧ s.kind r = true
  lt_wsr : ∀ r, r ∈ s.wsr → r < s.nextRec ∧ s.kind r = false
  lt_war : ∀ r, r ∈ s.war → r < s.nextRec ∧ s.kind r = false
  nd_war : s.war.Nodup
  succ_war : ∀ r, r ∈ s.war → s.st r ≠ .success
  not_canc : ∀ t r, recvFutRec (s.pc t) = some r → s.st r ≠ .cancelled

/-- no dangling waiter record (finding F17): the `war` clause of `Links` -/
structure InvD (s : State) : Prop where
  live_war : ∀ r, r ∈ s.war → liveFutR (s.pc (s.owner r)) = some r

structure InvR (s : State) : Prop where
  unreg_a : ∀ t r, unregA (s.pc t) = some r → r ∉ s.war
  r1 : ∀ r, r ∈ s.wsr ∨ r ∈ s.war → s.st r = .waiting → regAtR (s.pc (s.owner r)) = some r
  r2 : ∀ r, r ∈ s.wss ∨ r ∈ s.was → s.st r = .waiting → regAtS (s.pc (s.owner r)) = some r
  d1 : s.senders = 0 → ∀ r, r ∈ s.wsr ∨ r ∈ s.war → s.st r ≠ .waiting
  d2 : s.receivers = 0 → ∀ r, r ∈ s.wss ∨ r ∈ s.was → s.st r ≠ .waiting
  k4s : ∀ t r, regAtS (s.pc t) = some r → s.st r = .waiting → r ∈ s.wss ∨ r ∈ s.was
  k4r : ∀ t r, blockR (s.pc t) = some r → s.st r = .waiting → r ∈ s.wsr ∨ r ∈ s.war
  fut_wsr : ∀ t r, recvFutRec (s.pc t) = some r → r ∉ s.wsr

structure InvA (s : State) : Prop where
  a1 : ∀ r, r ∈ s.ar → s.st r = .success ∧ wokenRecv (s.pc (s.owner r)) = some r
  b1 : ∀ r, r ∈ s.asg → s.st r = .success ∧ wokenSend (s.pc (s.owner r)) = some r
  a2 : s.ar.Nodup
  b2 : s.asg.Nodup
  q1 : ∀ r, r ∈ s.wsr ∨ r ∈ s.war → s.st r = .waiting → s.queue.length ≤ s.ar.length
  q2 : ∀ r, r ∈ s.wss ∨ r ∈ s.was → s.st r = .waiting → s.cap - s.queue.length ≤ s.asg.length
  fl_s : ∀ t v r, s.pc t = .sUnl v r true → s.st r = .closed
  fl_a : ∀ t v r, s.pc t = .asUnl v r true → s.st r = .closed

structure InvW (s : State) : Prop where
  k3 : ∀ t r, waitish (s.pc t) = some r → (s.st r = .success ∨ s.st r = .closed) → s.wakes t = 0 →
        t ∈ wl (s.pc (s.wakeBy r))
  k5 : ∀ t r, liveWait (s.pc t) = some r → s.st r ≠ .cancelled
  k3c : ∀ t r, (s.pc t = .arTry r ∨ s.pc t = .arReg r) → r ∈ s.war → s.st r = .closed → s.wakes t = 0 →
        t ∈ wl (s.pc (s.wakeBy r))

section
variable {b : Prop} {s : State}

theorem Inv.k (h : Inv b s) : InvK s := by
  obtain ⟨l1, l2, l3, l4, -, -, -, -, -, -⟩ := h.links
  refine ⟨fun t r => ?_, fun r hr => l1 r (.inl hr), fun r hr => l1 r (.inr hr), fun r hr => l2 r (.inl hr),
    fun r hr => l2 r (.inr hr), l3, fun r hr => (l4 r hr).1, fun t r => ?_⟩ <;>
    (have h0 := h.rowK t; generalize s.pc t = p at h0 ⊢) <;>
    cases p <;> simp only [recOf, recvFutRec, sendSide, reduceCtorEq, false_imp_iff, Option.some.injEq] <;> intro e <;>
    subst e <;> first | exact h0 | exact h0.1 | exact h0.2

theorem Inv.d (h : Inv b s) : InvD s := ⟨fun r hr => (h.links.war r hr).2⟩

theorem Inv.r (h : Inv b s) (hb : b) : InvR s := by
  have b1 := h.links.waitR hb; have b2 := h.links.waitS hb
  refine ⟨fun t r => ?_, fun r hr hw => (b1 r hr hw).1, fun r hr hw => (b2 r hr hw).1,
    fun h0 r hr hw => (b1 r hr hw).2.1 h0, fun h0 r hr hw => (b2 r hr hw).2.1 h0, fun t r => ?_, fun t r => ?_,
    fun t r => ?_⟩ <;>
    (have h0 := h.rowB hb t; generalize s.pc t = p at h0 ⊢) <;>
    cases p <;> simp only [unregA, regAtS, blockR, recvFutRec, reduceCtorEq, false_imp_iff, Option.some.injEq] <;>
    intro e <;> subst e <;> simp only [RowB] at h0 <;> grind

theorem Inv.a (h : Inv b s) (hb : b) : InvA s := by
  obtain ⟨-, -, -, -, b1, b2, b3, b4, b5, b6⟩ := h.links
  refine ⟨b3 hb, b4 hb, b5 hb, b6 hb, fun r hr hw => (b1 hb r hr hw).2.2, fun r hr hw => (b2 hb r hr hw).2.2,
    fun t v r => ?_, fun t v r => ?_⟩ <;>
    (have h0 := h.rowB hb t; generalize s.pc t = p at h0 ⊢) <;> intro e <;> subst e <;> exact h0 rfl

theorem Inv.w (h : Inv b s) (hb : b) : InvW s := by
  refine ⟨fun t r => ?_, fun t r => ?_, fun t r => ?_⟩ <;>
    (have h0 := h.rowB hb t; generalize s.pc t = p at h0 ⊢) <;>
    cases p <;> simp only [waitish, liveWait, reduceCtorEq, false_imp_iff, Option.some.injEq, false_or, or_false,
      PC.arTry.injEq, PC.arReg.injEq] <;> intro e <;> subst e <;> simp only [RowB, Woken, Owed] at h0 <;> grind
end

end Fv.Chan.Mpmc2B
