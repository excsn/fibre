import Fv.Lemmas.ChainBInv
import Fv.Lemmas.Common
/-! Every step of the slab-chain model preserves the invariant. One theorem per step function: a clause that mentions no
field the step writes is carried over as it is (`{ hX with … }`), each of the others is re-proved from the facts named at
it. Each group of the invariant sees a program counter only through a few observers (`InvX.ppc_move`, `Inv.cpc_move`):
where a step moves between control states that the group does not tell apart, its clauses about the program counter come
from there and only the clauses that read another written field are named. -/
namespace Fv.Chan.ChainB
attribute [local grind =] upd_apply upd2_apply publishNodes_apply sealNodes_nd sealNodes_stub freeNodes_nd
  freeNodes_stub

section
variable {cfg : Cfg} {s s' : State}

theorem InvH.ppc_move (hH : InvH s) {h : Nat} {pc : PPC}
    (e : (s.ppc h = .idle → pc = .idle) ∧ (noSlab pc = true → noSlab (s.ppc h) = true) ∧
      (hasSlab pc = true → hasSlab (s.ppc h) = true)) :
    InvH { s with ppc := upd s.ppc h pc } :=
  { hH with
    active := by grind [! hH.active], no_slab := by grind [! hH.no_slab], has_slab := by grind [! hH.has_slab] }

theorem InvP.ppc_move (hP : InvP s) {h : Nat} {pc : PPC}
    (e : building pc = building (s.ppc h) ∧ (needing pc = true → needing (s.ppc h) = true) ∧
      (pc = .prelink ↔ s.ppc h = .prelink)) :
    InvP { s with ppc := upd s.ppc h pc } :=
  { hP with
    rlen_le := by grind [! hP.rlen_le], rlen_zero := by grind [! hP.rlen_zero],
    need := by grind [! hP.need], prelink := by grind [! hP.prelink], hnext := by grind [! hP.hnext] }

theorem InvC.ppc_move (hC : InvC s) {h : Nat} {pc : PPC} (e : ∀ i o f, pc = .link i o f ↔ s.ppc h = .link i o f) :
    InvC { s with ppc := upd s.ppc h pc } :=
  { hC with gap := by grind [! hC.gap], gap' := by grind [! hC.gap'] }

theorem InvS.ppc_move (hS : InvS cfg s) {h : Nat} {pc : PPC}
    (e : pRelOf pc = pRelOf (s.ppc h) ∧ pHoldsLock pc = pHoldsLock (s.ppc h) ∧
      (∀ b, pc = .rearmRem b ↔ s.ppc h = .rearmRem b) ∧
      ∀ b i, pc = .rearmNode b i ↔ s.ppc h = .rearmNode b i) :
    InvS cfg { s with ppc := upd s.ppc h pc } :=
  { hS with
    rel_p := by grind [! hS.rel_p], rel_p' := by grind [! hS.rel_p'], popped := by grind [! hS.popped],
    popped' := by grind [! hS.popped'], arming := by grind [→ hS.arming],
    arming' := by grind [! hS.arming'], lock_p := by grind [! hS.lock_p] }

theorem inv_pStart {h : Nat} {vals : List Nat} (hi : Inv cfg s) (hs : stepPStart s h vals = some s') : Inv cfg s' := by
  obtain ⟨hH, hP, hC, hS⟩ := hi
  unfold stepPStart at hs
  step_elim hs
  obtain ⟨hlive, hpc, _⟩ := ‹_ ∧ _›
  exact ⟨
    { hH with
      active := by grind [! hH.active], no_slab := by grind [! hH.no_slab],
      has_slab := by grind [! hH.has_slab] },
    { hP with
      rlen_le := by grind [! hP.rlen_le], rlen_zero := by grind [! hP.rlen_zero],
      need := by grind [! hP.need], prelink := by grind [! hP.prelink], held := by grind [! hP.held],
      held' := by grind [→ hP.held', hP.rlen_zero h], hval := by grind [! hP.hval], hnext := by grind [! hP.hnext] },
    { hC.ppc_move (by split <;> simp [hpc]) with },
    { hS.ppc_move (by split <;> simp [hpc]) with }⟩

theorem inv_pBump {h : Nat} (hi : Inv cfg s) (hs : stepPBump cfg s h = some s') : Inv cfg s' := by
  obtain ⟨hH, hP, hC, hS⟩ := hi
  unfold stepPBump at hs
  step_elim hs
  rename_i b hpc hsl hg
  obtain ⟨hfree, hnx, hvl⟩ := hS.bump_node hsl hg.2
  have hb := hS.owned_lt hsl
  exact ⟨
    { hH.ppc_move (by split <;> simp [hpc]) with },
    { hP with
      rlen_le := by grind [! hP.rlen_le], rlen_zero := by grind [! hP.rlen_zero],
      need := by grind [! hP.need], prelink := by grind [! hP.prelink], held := by grind [! hP.held],
      held' := by grind [→ hP.held'], hval := by grind [! hP.hval, ! hP.held],
      hnext := by grind [! hP.hnext] },
    { hC.ppc_move (by split <;> simp [hpc]) with
      at_in := by grind [! hC.at_in], in_at := by grind [→ hC.in_at],
      vals := by grind [! hC.vals, ! hC.at_in, hC.gone_k],
      valk := by grind [! hC.valk, hC.k_le, ! hC.at_in] },
    { hS.ppc_move (by split <;> simp [hpc]) with
      fresh_nodes := by grind [! hS.fresh_nodes], junk := by grind [! hS.junk],
      count := hS.count_congr (by grind),
      owned_pos := by grind [! hS.owned_pos],
      owned_free := by grind [! hS.owned_free, ! hS.owned, ! hS.owned'],
      free_state := by grind [! hS.free_state],
      free_pos := by grind [→ hS.free_pos, → hS.owned, → hS.owned'],
      armed_clean := by grind [! hS.armed_clean], arming_free := by grind [→ hS.arming_free, → hS.owned],
      limbo := by grind [! hS.limbo], dead_val := by grind [! hS.dead_val] }⟩

attribute [local grind =] sealNodes_apply in
/-- `seal_slab`, from the exhausted-slab branch of `bump` (`c = .bump`) or from `seal()` (`c = .close`) -/
theorem inv_sealDec {h b : Nat} {c : PCont} (hi : Inv cfg s) (hsl : s.pslab h = some b)
    (hc : s.ppc h = .build ∧ c = .bump ∧ s.rlen h < (s.pvals h).length ∨ s.ppc h = .sealing ∧ c = .close) :
    Inv cfg (sealDec cfg s h b c) := by
  obtain ⟨hH, hP, hC, hS⟩ := hi
  have ho := hS.owned h b hsl
  have hb := hS.owned_lt hsl
  have hpos := (hS.owned_pos h b hsl).1
  have hcnt := hS.count b hb
  have ht : live cfg s.nst b = live cfg (sealNodes cfg s.nst b (s.ppos h)) b + (cfg.N - s.ppos h) :=
    live_tail hpos (by intro i hi; simp [sealNodes_nd]; omega)
      (by intro i h1 h2; rw [hS.owned_free h b i hsl h1 h2]; simp) (by intro i h1 h2; simp [sealNodes_nd, h1, h2])
  rw [ho] at hcnt; simp at hcnt
  unfold sealDec; dsimp only
  refine ⟨
    { hH with
      active := by grind [! hH.active], slab_live := by grind [! hH.slab_live],
      no_slab := by grind [! hH.no_slab], has_slab := by grind [! hH.has_slab] },
    { hP with
      rlen_le := by grind [! hP.rlen_le], rlen_zero := by grind [! hP.rlen_zero],
      need := by grind [! hP.need], prelink := by grind [! hP.prelink],
      held := by grind [! hP.held, hS.owned_free h b],
      held' := by grind [→ hP.held'], hnext := by grind [! hP.hnext] },
    { hC with
      at_in := by grind [! hC.at_in, hS.owned_free h b], in_at := by grind [→ hC.in_at], gap := by grind [! hC.gap],
      gap' := by grind [! hC.gap'] },
    { hS with
      fresh := by grind [! hS.fresh], fresh_nodes := by grind [! hS.fresh_nodes],
      alloc := by grind [! hS.alloc], junk := by grind [! hS.junk], count := ?_,
      zero := by grind [! hS.zero], sealed_pos := ?_, owned := by grind [! hS.owned],
      owned' := by grind [→ hS.owned'], owned_pos := by grind [! hS.owned_pos],
      owned_free := by grind [! hS.owned_free, → hS.owned], free_state := by grind [! hS.free_state, → hS.free_pos],
      free_pos := by grind [→ hS.free_pos], armed_clean := by grind [! hS.armed_clean],
      armed_full := by grind [! hS.armed_full], arming_free := by grind [! hS.arming_free],
      pool_iff := by grind [! hS.pool_iff], rel_p := by grind [! hS.rel_p], rel_p' := by grind [! hS.rel_p'],
      rel_c := by grind [! hS.rel_c], rel_c' := by grind [! hS.rel_c'], popped := by grind [! hS.popped],
      popped' := by grind [! hS.popped'], arming := by grind [→ hS.arming],
      arming' := by grind [! hS.arming'], lock_p := by grind [! hS.lock_p],
      limbo := by grind [_=_ hS.limbo, hS.owned_free h b],
      dead_val := by grind [! hS.dead_val, hS.owned_free h b, ! hS.armed_clean, hS.owned_pos h b] }⟩
  · intro b' hb'
    by_cases hbb : b' = b
    · subst hbb; simp; split <;> simp <;> omega
    · rw [live_congr (nst := s.nst) (by intro i hi; simp [sealNodes_nd, hbb])]
      simp [upd_apply, hbb]; exact hS.count b' hb'
  · intro b'
    by_cases hbb : b' = b
    · subst hbb; simp; omega
    · simp [upd_apply, hbb]; exact hS.sealed_pos b'

theorem inv_pSealDec {h : Nat} (hi : Inv cfg s) (hs : stepPSealDec cfg s h = some s') : Inv cfg s' := by
  unfold stepPSealDec at hs
  step_elim hs
  · rename_i b hpc hsl hg; exact inv_sealDec hi hsl (.inl ⟨hpc, rfl, hg.1⟩)
  · rename_i b hpc hsl; exact inv_sealDec hi hsl (.inr ⟨hpc, rfl⟩)

theorem inv_pRelFence {h : Nat} (hi : Inv cfg s) (hs : stepPRelFence s h = some s') : Inv cfg s' := by
  obtain ⟨hH, hP, hC, hS⟩ := hi
  unfold stepPRelFence at hs
  step_elim hs
  rename_i hpc
  exact ⟨
    { hH.ppc_move (by simp [hpc]) with },
    { hP.ppc_move (by simp [hpc]) with },
    { hC.ppc_move (by simp [hpc]) with },
    { hS.ppc_move (by simp [hpc]) with }⟩

theorem inv_pRelLock {h : Nat} (hi : Inv cfg s) (hs : stepPRelLock s h = some s') : Inv cfg s' := by
  obtain ⟨hH, hP, hC, hS⟩ := hi
  unfold stepPRelLock at hs
  step_elim hs
  rename_i hpc _
  exact ⟨
    { hH.ppc_move (by simp [hpc]) with },
    { hP.ppc_move (by simp [hpc]) with },
    { hC.ppc_move (by simp [hpc]) with },
    { hS with
      rel_p := by grind [! hS.rel_p], rel_p' := by grind [! hS.rel_p'], popped := by grind [! hS.popped],
      popped' := by grind [! hS.popped'], arming := by grind [→ hS.arming],
      arming' := by grind [! hS.arming'], lock_p := by grind [! hS.lock_p], lock_c := by grind [hS.lock_c] }⟩

theorem inv_pRelUnlock {h : Nat} (hi : Inv cfg s) (hs : stepPRelUnlock cfg s h = some s') : Inv cfg s' := by
  obtain ⟨hH, hP, hC, hS⟩ := hi
  unfold stepPRelUnlock at hs
  step_elim hs
  all_goals
    rename_i b c hpc _
    have hrel := hS.rel_p h b (by simp [hpc])
    have hlk := (hS.lock_p h).2 (by simp [hpc])
    exact ⟨
    { hH.ppc_move (by simp [hpc]) with },
    { hP.ppc_move (by simp [hpc]) with },
    { hC.ppc_move (by simp [hpc]) with },
    { hS with
      fresh := by grind [! hS.fresh], alloc := by grind [! hS.alloc], count := by grind [! hS.count],
      zero := by grind [! hS.zero], sealed_pos := by grind [! hS.sealed_pos], owned := by grind [! hS.owned],
      owned' := by grind [! hS.owned'], free_state := by grind [! hS.free_state],
      free_pos := by grind [→ hS.free_pos], armed_full := by grind [! hS.armed_full],
      arming_free := by grind [! hS.arming_free], pool_iff := by grind [! hS.pool_iff],
      pool_nodup := by grind [hS.pool_nodup, hS.pool_iff b, List.nodup_append], rel_p := by grind [! hS.rel_p],
      rel_p' := by grind [! hS.rel_p'], rel_c := by grind [! hS.rel_c], rel_c' := by grind [! hS.rel_c'],
      popped := by grind [! hS.popped], popped' := by grind [! hS.popped'], arming := by grind [→ hS.arming],
      arming' := by grind [! hS.arming'], lock_p := by grind [=_ hS.lock_p], lock_c := by grind [hS.lock_c] }⟩

theorem inv_pAcqLock {h : Nat} (hi : Inv cfg s) (hs : stepPAcqLock s h = some s') : Inv cfg s' := by
  obtain ⟨hH, hP, hC, hS⟩ := hi
  unfold stepPAcqLock at hs
  step_elim hs
  rename_i hpc _
  exact ⟨
    { hH.ppc_move (by simp [hpc]) with },
    { hP.ppc_move (by simp [hpc]) with },
    { hC.ppc_move (by simp [hpc]) with },
    { hS with
      rel_p := by grind [! hS.rel_p], rel_p' := by grind [! hS.rel_p'], popped := by grind [! hS.popped],
      popped' := by grind [! hS.popped'], arming := by grind [→ hS.arming],
      arming' := by grind [! hS.arming'], lock_p := by grind [! hS.lock_p], lock_c := by grind [hS.lock_c] }⟩

theorem inv_pAcqUnlock {h : Nat} (hi : Inv cfg s) (hs : stepPAcqUnlock s h = some s') : Inv cfg s' := by
  obtain ⟨hH, hP, hC, hS⟩ := hi
  unfold stepPAcqUnlock at hs
  step_elim hs
  all_goals have hlk := (hS.lock_p h).2 (by simp [*])
  · rename_i hpc _ b hlast
    obtain ⟨hnd, hnot, hmem⟩ := pool_pop_nodup hlast hS.pool_nodup
    have hpb := (hS.pool_iff b).1 ((hmem b).2 (.inr rfl))
    exact ⟨
    { hH.ppc_move (by simp [hpc]) with },
    { hP.ppc_move (by simp [hpc]) with },
    { hC.ppc_move (by simp [hpc]) with },
    { hS with
      fresh := by grind [! hS.fresh], alloc := by grind [! hS.alloc], count := by grind [! hS.count],
      zero := by grind [! hS.zero], sealed_pos := by grind [! hS.sealed_pos], owned := by grind [! hS.owned],
      owned' := by grind [! hS.owned'], free_state := by grind [! hS.free_state],
      free_pos := by grind [→ hS.free_pos], armed_full := by grind [! hS.armed_full],
      arming_free := by grind [! hS.arming_free], pool_iff := by grind [! hS.pool_iff],
      pool_nodup := by grind [hS.pool_nodup], rel_p := by grind [! hS.rel_p],
      rel_p' := by grind [! hS.rel_p'], rel_c := by grind [! hS.rel_c], rel_c' := by grind [! hS.rel_c'],
      popped := by grind [! hS.popped], popped' := by grind [! hS.popped'], arming := by grind [→ hS.arming],
      arming' := by grind [! hS.arming'], lock_p := by grind [=_ hS.lock_p], lock_c := by grind [hS.lock_c] }⟩
  · exact ⟨
    { hH.ppc_move (by simp [*]) with },
    { hP.ppc_move (by simp [*]) with },
    { hC.ppc_move (by simp [*]) with },
    { hS with
      rel_p := by grind [! hS.rel_p], rel_p' := by grind [! hS.rel_p'], popped := by grind [! hS.popped],
      popped' := by grind [! hS.popped'], arming := by grind [→ hS.arming],
      arming' := by grind [! hS.arming'], lock_p := by grind [=_ hS.lock_p], lock_c := by grind [hS.lock_c] }⟩

attribute [local grind =] freeNodes_apply in
theorem inv_pRearmRem {h : Nat} (hN : 0 < cfg.N) (hi : Inv cfg s) (hs : stepPRearmRem cfg s h = some s') :
    Inv cfg s' := by
  obtain ⟨hH, hP, hC, hS⟩ := hi
  unfold stepPRearmRem at hs
  step_elim hs
  rename_i b hpc
  have hpop := hS.popped h b hpc
  have hret := fun i => hS.zero_retired b i (by simp [hpop])
  refine ⟨
    { hH.ppc_move (by simp [hpc]) with },
    { hP.ppc_move (by simp [hpc]) with
      held := by grind [! hP.held], held' := by grind [→ hP.held'] },
    { hC.ppc_move (by simp [hpc]) with
      at_in := by grind [! hC.at_in], in_at := by grind [→ hC.in_at] },
    { hS with
      fresh := by grind [! hS.fresh], fresh_nodes := by grind [! hS.fresh_nodes],
      alloc := by grind [! hS.alloc], junk := by grind [! hS.junk], count := ?_,
      zero := by grind [! hS.zero], sealed_pos := by grind [! hS.sealed_pos], owned := by grind [! hS.owned],
      owned' := by grind [! hS.owned'], owned_pos := by grind [! hS.owned_pos, → hS.owned],
      owned_free := by grind [! hS.owned_free], free_state := by grind [! hS.free_state],
      free_pos := by grind [→ hS.free_pos], armed_clean := by grind [! hS.armed_clean],
      armed_full := by grind [! hS.armed_full], arming_free := by grind [! hS.arming_free],
      pool_iff := by grind [! hS.pool_iff], rel_p := by grind [! hS.rel_p], rel_p' := by grind [! hS.rel_p'],
      rel_c := by grind [! hS.rel_c], rel_c' := by grind [! hS.rel_c'], popped := by grind [! hS.popped],
      popped' := by grind [! hS.popped'], arming := by grind [→ hS.arming],
      arming' := by grind [! hS.arming'], lock_p := by grind [! hS.lock_p], limbo := by grind [! hS.limbo],
      dead_val := by grind [! hS.dead_val] }⟩
  intro b' hb'
  by_cases hbb : b' = b
  · subst hbb
    rw [live_all (by intro i hi; simp [freeNodes_nd, hi])]; simp; omega
  · rw [live_congr (nst := s.nst) (by intro i hi; simp [freeNodes_nd, hbb])]
    simp [upd_apply, hbb]; exact hS.count b' hb'

theorem inv_pRearmNode {h : Nat} (hi : Inv cfg s) (hs : stepPRearmNode cfg s h = some s') : Inv cfg s' := by
  obtain ⟨hH, hP, hC, hS⟩ := hi
  unfold stepPRearmNode at hs
  step_elim hs
  all_goals
    rename_i b i hpc _
    obtain ⟨har, hai, hiN⟩ := hS.arming h b i hpc
    have hn := hS.arming_free b h i har hiN
    exact ⟨
    { hH with
      active := by grind [! hH.active], slab_live := by grind [! hH.slab_live, hH.active h],
      no_slab := by grind [! hH.no_slab], has_slab := by grind [! hH.has_slab] },
    { hP.ppc_move (by simp [hpc]) with
      hval := by grind [! hP.hval, ! hP.held], hnext := by grind [! hP.hnext, ! hP.held] },
    { hC with
      linked := by grind [! hC.linked, ! hC.at_in, hC.gone_k], gap := by grind [! hC.gap],
      gap' := by grind [! hC.gap'],
      last := by grind [! hC.last], vals := by grind [! hC.vals, ! hC.at_in, hC.gone_k],
      valk := by grind [! hC.valk] },
    { hS with
      fresh := by grind [! hS.fresh], fresh_nodes := by grind [! hS.fresh_nodes],
      alloc := by grind [! hS.alloc], junk := by grind [! hS.junk], count := by grind [! hS.count],
      zero := by grind [! hS.zero], sealed_pos := by grind [! hS.sealed_pos], owned := by grind [! hS.owned],
      owned' := by grind [→ hS.owned', hH.no_slab h], owned_pos := by grind [! hS.owned_pos],
      owned_free := by grind [! hS.owned_free, hS.arming_free b h], free_state := by grind [! hS.free_state],
      free_pos := by grind [→ hS.free_pos], armed_clean := by grind [! hS.armed_clean],
      armed_full := by grind [! hS.armed_full], arming_free := by grind [! hS.arming_free],
      pool_iff := by grind [! hS.pool_iff], rel_p := by grind [! hS.rel_p], rel_p' := by grind [! hS.rel_p'],
      rel_c := by grind [! hS.rel_c], rel_c' := by grind [! hS.rel_c'], popped := by grind [! hS.popped],
      popped' := by grind [! hS.popped'], arming := by grind [→ hS.arming],
      arming' := by grind [! hS.arming'], lock_p := by grind [! hS.lock_p],
      dead_val := by grind [! hS.dead_val] }⟩

theorem inv_pAlloc {h : Nat} (hi : Inv cfg s) (hs : stepPAlloc cfg s h = some s') : Inv cfg s' := by
  obtain ⟨hH, hP, hC, hS⟩ := hi
  unfold stepPAlloc at hs
  step_elim hs
  rename_i hpc
  have hfr := hS.fresh s.nextSlab (Nat.le_refl _)
  have hfn := fun i => hS.fresh_nodes s.nextSlab i (Nat.le_refl _)
  refine ⟨
    { hH with
      active := by grind [! hH.active], slab_live := by grind [! hH.slab_live, hH.active h],
      no_slab := by grind [! hH.no_slab], has_slab := by grind [! hH.has_slab] },
    { hP.ppc_move (by simp [hpc]) with },
    { hC.ppc_move (by simp [hpc]) with },
    { hS with
      fresh := by grind [! hS.fresh], fresh_nodes := by grind [! hS.fresh_nodes],
      alloc := by grind [! hS.alloc], count := ?_, zero := by grind [! hS.zero],
      sealed_pos := by grind [! hS.sealed_pos], owned := by grind [! hS.owned],
      owned' := by grind [→ hS.owned', hH.no_slab h], owned_pos := by grind [! hS.owned_pos, → hS.owned],
      owned_free := by grind [! hS.owned_free], free_state := by grind [! hS.free_state],
      free_pos := by grind [→ hS.free_pos], armed_clean := by grind [! hS.armed_clean],
      armed_full := by grind [! hS.armed_full], arming_free := by grind [! hS.arming_free],
      pool_iff := by grind [! hS.pool_iff], rel_p := by grind [! hS.rel_p], rel_p' := by grind [! hS.rel_p'],
      rel_c := by grind [! hS.rel_c], rel_c' := by grind [! hS.rel_c'], popped := by grind [! hS.popped],
      popped' := by grind [! hS.popped'], arming := by grind [→ hS.arming],
      arming' := by grind [! hS.arming'], lock_p := by grind [! hS.lock_p] }⟩
  intro b' hb'
  by_cases hbb : b' = s.nextSlab
  · subst hbb
    rw [live_all (by intro i hi; rw [(hfn i).1]; simp)]; simp; omega
  · simp [upd_apply, hbb]; exact hS.count b' (Nat.lt_of_le_of_ne (Nat.le_of_lt_succ hb') hbb)

theorem inv_pPrelink {h : Nat} (hi : Inv cfg s) (hs : stepPPrelink s h = some s') : Inv cfg s' := by
  obtain ⟨hH, hP, hC, hS⟩ := hi
  unfold stepPPrelink at hs
  step_elim hs
  rename_i hpc
  have hp := hP.prelink h hpc
  have ha := hP.held h (s.rlen h - 2) (by omega)
  exact ⟨
    { hH.ppc_move (by simp [hpc]) with },
    { hP with
      rlen_le := by grind [! hP.rlen_le], rlen_zero := by grind [! hP.rlen_zero],
      need := by grind [! hP.need], prelink := by grind [! hP.prelink], hnext := by grind [! hP.hnext, ! hP.held] },
    { hC with
      linked := by grind [! hC.linked, ! hC.at_in, hC.gone_k],
      gap := by grind [→ hC.gap, ! hC.at_in, hC.gone_k], gap' := by grind [! hC.gap'],
      last := by grind [hC.last, ! hC.at_in, hC.k_le] },
    { hS.ppc_move (by simp [hpc]) with
      fresh_nodes := by grind [! hS.fresh_nodes], junk := by grind [! hS.junk],
      armed_clean := by grind [! hS.armed_clean] }⟩

theorem inv_pSwap {h : Nat} (hi : Inv cfg s) (hs : stepPSwap s h = some s') : Inv cfg s' := by
  obtain ⟨hH, hP, hC, hS⟩ := hi
  unfold stepPSwap at hs
  step_elim hs
  rename_i hpc hm
  have hg := hH.not_gone (hH.alive (h := h) (by simp [hpc]))
  have hle := hP.rlen_le h (by simp [hpc])
  have hl := hC.len; have hk := hC.k_le; have hhead := hC.head; have hlast := hC.last hg
  refine ⟨
    { hH.ppc_move (by simp [hpc]) with },
    { hP with
      rlen_le := by grind [! hP.rlen_le], rlen_zero := by grind [! hP.rlen_zero],
      need := by grind [! hP.need], prelink := by grind [! hP.prelink], held := by grind [! hP.held],
      held' := by grind [→ hP.held'], hval := by grind [! hP.hval], hnext := by grind [! hP.hnext] },
    { hC with
      len := by grind [hC.len], k_le := by grind [hC.k_le], at_in := by grind [! hC.at_in, hP.held h],
      in_at := by grind [→ hC.in_at, → hP.held'], tail := by grind [hC.tail], head := by grind [hC.head],
      linked := by grind [! hC.linked, hP.hnext h], gap := by grind [→ hC.gap],
      gap' := by grind [→ hC.gap', → hC.gap],
      last := by grind [hP.hnext h], vals := by grind [! hC.vals, hP.hval h], valk := by grind [! hC.valk], seq := ?_,
      gone_k := by grind [! hC.gone_k] },
    { hS.ppc_move (by simp [hpc]) with
      fresh_nodes := by grind [! hS.fresh_nodes], junk := by grind [! hS.junk], count := hS.count_congr (by grind),
      owned_free := by grind [! hS.owned_free], free_state := by grind [! hS.free_state],
      free_pos := by grind [→ hS.free_pos], armed_clean := by grind [! hS.armed_clean],
      arming_free := by grind [! hS.arming_free], limbo := by grind [! hS.limbo],
      dead_val := by grind [! hS.dead_val] }⟩
  dsimp only; rw [List.take_append_of_le_length (by omega)]; exact hC.seq

theorem inv_pLink {h : Nat} (hi : Inv cfg s) (hs : stepPLink s h = some s') : Inv cfg s' := by
  obtain ⟨hH, hP, hC, hS⟩ := hi
  unfold stepPLink at hs
  step_elim hs
  rename_i i o f hpc
  have hpe := hC.gap' h i o f hpc
  obtain ⟨hgp, hki, hil, hnn⟩ := hC.gap i h hpe
  rw [hpc] at hgp; cases hgp
  have hg := hH.not_gone (hH.alive (h := h) (by simp [hpc]))
  have hin := hC.at_in hg i hki (Nat.le_of_lt hil)
  exact ⟨
    { hH.ppc_move (by simp [hpc]) with },
    { hP.ppc_move (by simp [hpc]) with hnext := by grind [! hP.hnext, ! hP.held] },
    { hC with
      linked := by grind [! hC.linked], gap := by grind [→ hC.gap, hC.at_in hg], gap' := by grind [! hC.gap'],
      last := by grind [hC.last, hC.at_in hg] },
    { hS.ppc_move (by simp [hpc]) with
      fresh_nodes := by grind [! hS.fresh_nodes], junk := by grind [! hS.junk],
      armed_clean := by grind [! hS.armed_clean] }⟩

theorem inv_pClose {h : Nat} (hi : Inv cfg s) (hs : stepPClose s h = some s') : Inv cfg s' := by
  obtain ⟨hH, hP, hC, hS⟩ := hi
  unfold stepPClose at hs
  step_elim hs
  obtain ⟨hlive, hpc⟩ := ‹_ ∧ _›
  exact ⟨
    { hH with
      active := by grind [! hH.active], no_slab := by grind [! hH.no_slab],
      has_slab := by grind [! hH.has_slab] },
    { hP.ppc_move (by split <;> simp [hpc]) with },
    { hC.ppc_move (by split <;> simp [hpc]) with },
    { hS.ppc_move (by split <;> simp [hpc]) with }⟩

theorem inv_pDropDec {h : Nat} (hi : Inv cfg s) (hs : stepPDropDec s h = some s') : Inv cfg s' := by
  obtain ⟨hH, hP, hC, hS⟩ := hi
  unfold stepPDropDec at hs
  step_elim hs
  rename_i hpc
  have hmem : h ∈ s.liveS := (hH.live h).2 (hH.active h (by simp [hpc]))
  exact ⟨
    { hH with
      cnt := by simp [List.length_erase_of_mem hmem, hH.cnt], nodup := hH.nodup.erase h,
      live := by grind [hH.nodup.mem_erase_iff, ! hH.live],
      active := by grind [! hH.active], slab_live := by grind [! hH.slab_live, hH.no_slab h],
      no_slab := by grind [! hH.no_slab], has_slab := by grind [! hH.has_slab],
      fin_live := by grind [! hH.fin_live] },
    { hP.ppc_move (by simp [hpc]) with },
    { hC.ppc_move (by simp [hpc]) with },
    { hS.ppc_move (by simp [hpc]) with }⟩

theorem inv_pClone {h h' : Nat} (hi : Inv cfg s) (hs : stepPClone s h h' = some s') : Inv cfg s' := by
  obtain ⟨hH, hP, hC, hS⟩ := hi
  unfold stepPClone at hs
  step_elim hs
  rename_i hc
  exact ⟨
    { hH with
      cnt := by simp [hH.cnt], nodup := nodup_snoc.2 ⟨hH.nodup, fun hm => by simp [(hH.live h').1 hm] at hc⟩,
      live := by grind [! hH.live],
      active := by grind [! hH.active], slab_live := by grind [! hH.slab_live],
      fin_live := by grind [! hH.fin_live] },
    { hP with },
    { hC with },
    { hS with }⟩

theorem Inv.cpc_move {pc : CPC} (hi : Inv cfg s)
    (e : cFinal pc = cFinal s.cpc ∧ cLast pc = cLast s.cpc ∧ cRelOf pc = cRelOf s.cpc ∧
      cHoldsLock pc = cHoldsLock s.cpc ∧ cRetOf pc = cRetOf s.cpc) : Inv cfg { s with cpc := pc } := by
  obtain ⟨e1, e2, e3, e4, e5⟩ := e
  exact ⟨
    { hi.h with fin_pc := e1 ▸ hi.h.fin_pc, gone_pc := e2 ▸ hi.h.gone_pc },
    { hi.p with },
    { hi.c with },
    { hi.s with
      rel_c := e3 ▸ hi.s.rel_c, rel_c' := e3 ▸ hi.s.rel_c', lock_c := e4 ▸ hi.s.lock_c,
      limbo := e5 ▸ hi.s.limbo, limbo_nd := e5 ▸ hi.s.limbo_nd }⟩

/-- the cursor moves from `s.tail` to its successor `nx`; the value found there goes to `recvd` (`pop_node`) or to
`dropped` (the `Drop` walk) -/
theorem inv_advance {nx : NodeId} {c : CCont} {r d : List Nat} (hi : Inv cfg s) (hn : s.next s.tail = some nx)
    (hg : s.tailGone = false) (hcpc : cRetOf s.cpc = none ∧ cRelOf s.cpc = none ∧ cHoldsLock s.cpc = false)
    (hc : ccFinal c = s.fin ∧ ccLast c = false)
    (hrd : r ++ d = s.recvd ++ s.dropped ++ [(s.val nx).getD 0]) (hd : s.fin = false → d = []) :
    Inv cfg (leaveNode { s with val := upd s.val nx none, tail := nx, k := s.k + 1, recvd := r, dropped := d }
      s.tail c) := by
  obtain ⟨hH, hP, hC, hS⟩ := hi
  obtain ⟨hlt, hnx, hpk⟩ := hC.next_tail hg hn
  have htl := hC.at_in hg s.k (Nat.le_refl _) hC.k_le
  have hvk := hC.valk hg
  rw [← hC.tail] at htl hvk
  have hv := hC.vals (s.k + 1) (by omega) (by omega)
  have hin := hC.at_in hg (s.k + 1) (by omega) (by omega)
  rw [← hnx] at hin hv
  have hsq := hC.seq
  have hl := hC.len
  obtain ⟨hc1, hc2, hc3⟩ := hcpc
  rw [leaveNode_eq]
  refine ⟨
    { hH with
      fin_pc := by grind [hH.fin_pc], gone_pc := by grind [hH.gone_pc] },
    { hP with
      held := by grind [! hP.held], held' := by grind [→ hP.held'], hval := by grind [! hP.hval, ! hP.held] },
    { hC with
      k_le := by grind [hC.k_le], at_in := by grind [! hC.at_in], in_at := by grind [→ hC.in_at],
      tail := by grind [hC.tail], linked := by grind [! hC.linked], gap := by grind [! hC.gap],
      vals := by grind [! hC.vals, hC.at_in hg], valk := by grind [! hC.valk], seq := ?_,
      nodrop := hd, gone_k := by grind [! hC.gone_k] },
    { hS with
      fresh_nodes := by grind [! hS.fresh_nodes], junk := by grind [! hS.junk], count := hS.count_congr (by grind),
      owned_free := by grind [! hS.owned_free], free_state := by grind [! hS.free_state],
      free_pos := by grind [→ hS.free_pos], armed_clean := by grind [! hS.armed_clean],
      arming_free := by grind [! hS.arming_free], rel_c := by grind [! hS.rel_c],
      rel_c' := by grind [! hS.rel_c'], lock_c := by grind [hS.lock_c], limbo := by grind [! hS.limbo],
      limbo_nd := by grind [hS.limbo_nd], dead_val := by grind [! hS.dead_val] }⟩
  simp only [hrd, hsq, hv, List.take_add_one]
  simp [List.getElem?_eq_getElem (show s.k < s.sent.length by omega)]

theorem inv_cPopLoad (hi : Inv cfg s) (hs : stepCPopLoad s = some s') : Inv cfg s' := by
  unfold stepCPopLoad at hs
  step_elim hs
  · rename_i hcpc _ _ _
    exact hi.cpc_move (by simp [hcpc])
  · rename_i hcpc hfin _ nx hn
    exact inv_advance hi hn (hi.h.not_gone hfin) (by simp [hcpc]) (by simp [ccFinal, ccLast, hfin])
      (by simp [hi.c.nodrop hfin]) (fun _ => hi.c.nodrop hfin)

theorem inv_cRetDec (hi : Inv cfg s) (hs : stepCRetDec s = some s') : Inv cfg s' := by
  obtain ⟨hH, hP, hC, hS⟩ := hi
  unfold stepCRetDec at hs
  step_elim hs
  rename_i b i c hpc
  have hlim : s.nst (.nd b i) = .limbo := (hS.limbo _).2 (by rw [hpc]; rfl)
  have hi : i < cfg.N := by
    apply Classical.byContradiction; intro hn
    have := (hS.junk b i (by omega)).1; rw [this] at hlim; simp at hlim
  have hb : b < s.nextSlab := by
    apply Classical.byContradiction; intro hn
    have := (hS.fresh_nodes b i (by omega)).1; rw [this] at hlim; simp at hlim
  have hc := hS.count b hb
  have hfl := live_flip (cfg := cfg) (nst := s.nst) (nst' := upd s.nst (.nd b i) .retired) (b := b) hi
    (by rw [hlim]; simp) (by simp) (by intro j hj; simp [upd_apply, hj])
  have hz := hS.zero b
  have hsp := hS.sealed_pos b
  have hst : s.rem b = 1 → s.sst b = .sealed := by
    intro h1
    cases hs : s.sst b <;> first
      | rfl
      | (exfalso; exact hS.alloc b hb hs)
      | (exfalso; rw [hs] at hc; simp at hc; omega)
      | (exfalso; have := hz (by rw [hs]; rfl); omega)
  refine ⟨
    { hH with
      fin_pc := by grind [hH.fin_pc], gone_pc := by grind [hH.gone_pc] },
    { hP with
      held := by grind [! hP.held], held' := by grind [→ hP.held'] },
    { hC with
      at_in := by grind [! hC.at_in], in_at := by grind [→ hC.in_at] },
    { hS with
      fresh := by grind [! hS.fresh], fresh_nodes := by grind [! hS.fresh_nodes],
      alloc := by grind [! hS.alloc], junk := by grind [! hS.junk], count := ?_, zero := ?_,
      sealed_pos := ?_, owned := by grind [! hS.owned], owned' := by grind [! hS.owned'],
      owned_free := by grind [! hS.owned_free], free_state := by grind [! hS.free_state],
      free_pos := by grind [→ hS.free_pos], armed_clean := by grind [! hS.armed_clean],
      armed_full := by grind [! hS.armed_full], arming_free := by grind [! hS.arming_free],
      pool_iff := by grind [! hS.pool_iff], rel_p := by grind [! hS.rel_p], rel_p' := by grind [! hS.rel_p'],
      rel_c := by grind [! hS.rel_c], rel_c' := by grind [! hS.rel_c'], popped := by grind [! hS.popped],
      popped' := by grind [! hS.popped'], arming := by grind [→ hS.arming],
      arming' := by grind [! hS.arming'], lock_c := by grind [hS.lock_c], limbo := by grind [! hS.limbo],
      limbo_nd := by grind [hS.limbo_nd], dead_val := by grind [! hS.dead_val] }⟩
  · intro b' hb'
    by_cases hbb : b' = b
    · subst hbb
      simp
      split
      · rename_i h1; have := hst h1; simp; omega
      · cases hs : s.sst b' <;> simp [hs] at hc ⊢ <;> omega
    · rw [live_congr (nst := s.nst) (by intro j hj; simp [upd_apply, hbb])]
      simp [upd_apply, hbb]; exact hS.count b' hb'
  · intro b'
    by_cases hbb : b' = b
    · subst hbb; simp; split
      · intro _; omega
      · intro hzz; have := hz hzz; omega
    · simp [upd_apply, hbb]; exact hS.zero b'
  · intro b'
    by_cases hbb : b' = b
    · subst hbb; simp; split
      · simp
      · intro hs; simp [hs] at hc; omega
    · simp [upd_apply, hbb]; exact hS.sealed_pos b'

theorem inv_cRelFence (hi : Inv cfg s) (hs : stepCRelFence s = some s') : Inv cfg s' := by
  unfold stepCRelFence at hs
  step_elim hs
  rename_i hpc
  exact hi.cpc_move (by simp [hpc])

theorem inv_cRelLock (hi : Inv cfg s) (hs : stepCRelLock s = some s') : Inv cfg s' := by
  obtain ⟨hH, hP, hC, hS⟩ := hi
  unfold stepCRelLock at hs
  step_elim hs
  exact ⟨
    { hH with
      fin_pc := by grind [hH.fin_pc], gone_pc := by grind [hH.gone_pc] },
    { hP with },
    { hC with },
    { hS with
      rel_c := by grind [! hS.rel_c], rel_c' := by grind [! hS.rel_c'], lock_p := by grind [! hS.lock_p],
      lock_c := by grind [hS.lock_c], limbo := by grind [! hS.limbo], limbo_nd := by grind [hS.limbo_nd] }⟩

theorem inv_cRelUnlock (hi : Inv cfg s) (hs : stepCRelUnlock cfg s = some s') : Inv cfg s' := by
  obtain ⟨hH, hP, hC, hS⟩ := hi
  unfold stepCRelUnlock at hs
  step_elim hs
  all_goals
    rename_i b c hpc _
    have hrel := hS.rel_c b (by simp [hpc])
    have hlk := hS.lock_c.2 (by simp [hpc])
    exact ⟨
    { hH with
      fin_pc := by grind [hH.fin_pc], gone_pc := by grind [hH.gone_pc] },
    { hP with },
    { hC with },
    { hS with
      fresh := by grind [! hS.fresh], alloc := by grind [! hS.alloc], count := by grind [! hS.count],
      zero := by grind [! hS.zero], sealed_pos := by grind [! hS.sealed_pos], owned := by grind [! hS.owned],
      owned' := by grind [! hS.owned'], free_state := by grind [! hS.free_state],
      free_pos := by grind [→ hS.free_pos], armed_full := by grind [! hS.armed_full],
      arming_free := by grind [! hS.arming_free], pool_iff := by grind [! hS.pool_iff],
      pool_nodup := by grind [hS.pool_nodup, hS.pool_iff b, List.nodup_append], rel_p := by grind [! hS.rel_p],
      rel_p' := by grind [! hS.rel_p'], rel_c := by grind [! hS.rel_c], rel_c' := by grind [! hS.rel_c'],
      popped := by grind [! hS.popped], popped' := by grind [! hS.popped'], arming := by grind [→ hS.arming],
      arming' := by grind [! hS.arming'], lock_p := by grind [=_ hS.lock_p], lock_c := by grind [hS.lock_c],
      limbo := by grind [! hS.limbo], limbo_nd := by grind [hS.limbo_nd] }⟩

theorem inv_cRet (hi : Inv cfg s) (hs : stepCRet s = some s') : Inv cfg s' := by
  unfold stepCRet at hs
  step_elim hs
  rename_i hpc
  exact hi.cpc_move (by simp [hpc])

theorem inv_cFinStart (hi : Inv cfg s) (hs : stepCFinStart s = some s') : Inv cfg s' := by
  obtain ⟨hH, hP, hC, hS⟩ := hi
  unfold stepCFinStart at hs
  step_elim hs
  exact ⟨
    { hH with
      fin_live := by grind [! hH.fin_live], fin_pc := by grind [hH.fin_pc], gone_pc := by grind [hH.gone_pc],
      gone_fin := by grind [! hH.gone_fin] },
    { hP with },
    { hC with
      nodrop := by grind [! hC.nodrop] },
    { hS with
      rel_c := by grind [! hS.rel_c], rel_c' := by grind [! hS.rel_c'], lock_c := by grind [hS.lock_c],
      limbo := by grind [! hS.limbo], limbo_nd := by grind [hS.limbo_nd] }⟩

theorem inv_cFinLoad (hi : Inv cfg s) (hs : stepCFinLoad s = some s') : Inv cfg s' := by
  unfold stepCFinLoad at hs
  step_elim hs
  all_goals
    have hcpc : s.cpc = .finLoad := by assumption
    have hg : s.tailGone = false := by have := hi.h.gone_pc; simpa [hcpc] using this.symm
    have hf : s.fin = true := by have := hi.h.fin_pc; simpa [hcpc] using this.symm
  · obtain ⟨hH, hP, hC, hS⟩ := hi
    have htl := hC.at_in hg s.k (Nat.le_refl _) hC.k_le
    have hvk := hC.valk hg
    rw [← hC.tail] at htl hvk
    have hk := hC.drained (hH.fin_idle hf) (by assumption)
    rw [leaveNode_eq]
    exact ⟨
    { hH with
      fin_pc := by grind [hH.fin_pc], gone_pc := by grind [hH.gone_pc], gone_fin := by grind [! hH.gone_fin] },
    { hP with
      held := by grind [! hP.held], held' := by grind [→ hP.held'] },
    { hC with
      at_in := by grind [! hC.at_in], in_at := by grind [→ hC.in_at], last := by grind [! hC.last],
      valk := by grind [! hC.valk], gone_k := by grind [! hC.gone_k] },
    { hS with
      fresh_nodes := by grind [! hS.fresh_nodes], junk := by grind [! hS.junk], count := hS.count_congr (by grind),
      owned_free := by grind [! hS.owned_free], free_state := by grind [! hS.free_state],
      free_pos := by grind [→ hS.free_pos], armed_clean := by grind [! hS.armed_clean],
      arming_free := by grind [! hS.arming_free], rel_c := by grind [! hS.rel_c],
      rel_c' := by grind [! hS.rel_c'], lock_c := by grind [hS.lock_c], limbo := by grind [! hS.limbo],
      limbo_nd := by grind [hS.limbo_nd], dead_val := by grind [! hS.dead_val] }⟩
  · exact inv_advance hi (by assumption) hg (by simp [hcpc]) (by simp [ccFinal, ccLast, hf])
      (by simp) (fun h => by simp [hf] at h)

theorem inv_step {a : Nat} {l : Label} (hN : 0 < cfg.N) (hi : Inv cfg s) (h : step cfg s a l = some s') :
    Inv cfg s' :=
  match l, h with
  | .pStart _, h => inv_pStart hi h
  | .pBump, h => inv_pBump hi h
  | .pSealDec, h => inv_pSealDec hi h
  | .pRelFence, h => inv_pRelFence hi h
  | .pRelLock, h => inv_pRelLock hi h
  | .pRelUnlock, h => inv_pRelUnlock hi h
  | .pAcqLock, h => inv_pAcqLock hi h
  | .pAcqUnlock, h => inv_pAcqUnlock hi h
  | .pRearmRem, h => inv_pRearmRem hN hi h
  | .pRearmNode, h => inv_pRearmNode hi h
  | .pAlloc, h => inv_pAlloc hi h
  | .pPrelink, h => inv_pPrelink hi h
  | .pSwap, h => inv_pSwap hi h
  | .pLink, h => inv_pLink hi h
  | .pClose, h => inv_pClose hi h
  | .pDropDec, h => inv_pDropDec hi h
  | .pClone _, h => inv_pClone hi h
  | .cPopLoad, h => inv_cPopLoad hi h
  | .cRetDec, h => inv_cRetDec hi h
  | .cRelFence, h => inv_cRelFence hi h
  | .cRelLock, h => inv_cRelLock hi h
  | .cRelUnlock, h => inv_cRelUnlock hi h
  | .cRet, h => inv_cRet hi h
  | .cFinStart, h => inv_cFinStart hi h
  | .cFinLoad, h => inv_cFinLoad hi h

theorem inv_reach {s : State} (hN : 0 < cfg.N) (h : Reach cfg s) : Inv cfg s := by
  induction h with
  | init => exact inv_init cfg
  | step _ hs ih => exact inv_step hN ih hs

end

theorem reach_run {cfg : Cfg} (tr : List (Nat × Label)) (s0 s : State) (h0 : Reach cfg s0)
    (h : run cfg s0 tr = some s) : Reach cfg s :=
  run_closed (fun _ => rfl) (fun _ _ _ _ => rfl) Reach.step tr s0 s h0 h

theorem run_append (cfg : Cfg) (s : State) (a b : List (Nat × Label)) :
    run cfg s (a ++ b) = (run cfg s a).bind (fun s' => run cfg s' b) := by
  induction a generalizing s with
  | nil => simp [run]
  | cons x rest ih =>
    obtain ⟨t, l⟩ := x
    simp only [List.cons_append, run]
    cases step cfg s t l with
    | none => simp
    | some s1 => simp [ih]

end Fv.Chan.ChainB
