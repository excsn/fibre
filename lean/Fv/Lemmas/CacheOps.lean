import Fv.Lemmas.CacheMap
import Fv.Cache.Model
/-
What the state transformers of `Store.lean` / `Maint.lean` / `Model.lean` do to what the cache
properties read (map, clock, stored snapshot, `current_cost`, removal log, listener's view, timer
wheels), once per transformer: `Quiet` (nothing of that differs), `Touch` (one key re-bound), `Put` (the write
paths: one key written, its cost accounted), `Drop` (the removal paths: one binding left the map and was logged).
-/
namespace Fv.Cache
variable {P : Type}
variable (cfg : Cfg) (ops : PolicyOps P) (o : Oracle)

@[simp] theorem modAux_map (s : State P) (i : Nat) (f : Aux P → Aux P) : (s.modAux i f).map = s.map := rfl
@[simp] theorem modAux_now (s : State P) (i : Nat) (f : Aux P → Aux P) : (s.modAux i f).now = s.now := rfl
@[simp] theorem modAux_snap (s : State P) (i : Nat) (f : Aux P → Aux P) : (s.modAux i f).snap = s.snap := rfl
theorem modAt_eq_modify {α} (l : List α) (i : Nat) (f : α → α) : modAt l i f = l.modify i f := by
  induction l generalizing i with
  | nil => simp [modAt]
  | cons a rest ih => cases i <;> simp [modAt, ih]

@[simp] theorem modAux_aux_len (s : State P) (i : Nat) (f : Aux P → Aux P) : (s.modAux i f).aux.length = s.aux.length := by
  simp only [State.modAux, modAt_eq_modify, List.length_modify]
@[simp] theorem cancelTimer_map (s : State P) (i : Nat) (h : Option Nat) : (s.cancelTimer i h).map = s.map := rfl
@[simp] theorem cancelTimer_now (s : State P) (i : Nat) (h : Option Nat) : (s.cancelTimer i h).now = s.now := rfl
@[simp] theorem cancelTimer_snap (s : State P) (i : Nat) (h : Option Nat) : (s.cancelTimer i h).snap = s.snap := rfl
@[simp] theorem subCost_map (s : State P) (c : Nat) : (s.subCost c).map = s.map := rfl
@[simp] theorem subCost_now (s : State P) (c : Nat) : (s.subCost c).now = s.now := rfl
@[simp] theorem subCost_snap (s : State P) (c : Nat) : (s.subCost c).snap = s.snap := rfl
@[simp] theorem subCost_aux (s : State P) (c : Nat) : (s.subCost c).aux = s.aux := rfl
@[simp] theorem addCost_map (s : State P) (c : Nat) : (s.addCost c).map = s.map := rfl
@[simp] theorem addCost_now (s : State P) (c : Nat) : (s.addCost c).now = s.now := rfl
@[simp] theorem addCost_snap (s : State P) (c : Nat) : (s.addCost c).snap = s.snap := rfl
@[simp] theorem addCost_aux (s : State P) (c : Nat) : (s.addCost c).aux = s.aux := rfl
@[simp] theorem logRemoved_map (s : State P) (k : Nat) (e : Entry) (r : Reason) : (s.logRemoved k e r).map = s.map := rfl
@[simp] theorem logRemoved_now (s : State P) (k : Nat) (e : Entry) (r : Reason) : (s.logRemoved k e r).now = s.now := rfl
@[simp] theorem logRemoved_snap (s : State P) (k : Nat) (e : Entry) (r : Reason) : (s.logRemoved k e r).snap = s.snap := rfl
@[simp] theorem logRemoved_aux (s : State P) (k : Nat) (e : Entry) (r : Reason) : (s.logRemoved k e r).aux = s.aux := rfl
@[simp] theorem pushEvent_map (cfg : Cfg) (s : State P) (k c : Nat) : (s.pushEvent cfg k c).map = s.map := rfl
@[simp] theorem pushEvent_now (cfg : Cfg) (s : State P) (k c : Nat) : (s.pushEvent cfg k c).now = s.now := rfl
@[simp] theorem pushEvent_snap (cfg : Cfg) (s : State P) (k c : Nat) : (s.pushEvent cfg k c).snap = s.snap := rfl
@[simp] theorem polAccess_map (ops : PolicyOps P) (s : State P) (i k c : Nat) : (s.polAccess ops i k c).map = s.map := rfl
@[simp] theorem polAccess_now (ops : PolicyOps P) (s : State P) (i k c : Nat) : (s.polAccess ops i k c).now = s.now := rfl
@[simp] theorem polAccess_snap (ops : PolicyOps P) (s : State P) (i k c : Nat) : (s.polAccess ops i k c).snap = s.snap := rfl
@[simp] theorem polRemove_map (ops : PolicyOps P) (s : State P) (i k : Nat) : (s.polRemove ops i k).map = s.map := rfl
@[simp] theorem polRemove_now (ops : PolicyOps P) (s : State P) (i k : Nat) : (s.polRemove ops i k).now = s.now := rfl
@[simp] theorem polRemove_snap (ops : PolicyOps P) (s : State P) (i k : Nat) : (s.polRemove ops i k).snap = s.snap := rfl
@[simp] theorem polClear_map (ops : PolicyOps P) (s : State P) (i : Nat) : (s.polClear ops i).map = s.map := rfl
@[simp] theorem polClear_now (ops : PolicyOps P) (s : State P) (i : Nat) : (s.polClear ops i).now = s.now := rfl
@[simp] theorem polClear_snap (ops : PolicyOps P) (s : State P) (i : Nat) : (s.polClear ops i).snap = s.snap := rfl
@[simp] theorem resetLogs_map (s : State P) : s.resetLogs.map = s.map := rfl
@[simp] theorem resetLogs_snap (s : State P) : s.resetLogs.snap = s.snap := rfl
@[simp] theorem resetLogs_now (s : State P) : s.resetLogs.now = s.now := rfl
@[simp] theorem hit_map (s : State P) (n : Nat) : (s.hit n).map = s.map := rfl
@[simp] theorem hit_snap (s : State P) (n : Nat) : (s.hit n).snap = s.snap := rfl
@[simp] theorem hit_now (s : State P) (n : Nat) : (s.hit n).now = s.now := rfl
@[simp] theorem miss_map (s : State P) (n : Nat) : (s.miss n).map = s.map := rfl
@[simp] theorem miss_snap (s : State P) (n : Nat) : (s.miss n).snap = s.snap := rfl
@[simp] theorem miss_now (s : State P) (n : Nat) : (s.miss n).now = s.now := rfl

def whL (l : List (Aux P)) (j : Nat) : Option Wheel := l[j]?.bind (·.wheel)

theorem getElem?_modAt {α} (l : List α) (i j : Nat) (f : α → α) :
    (modAt l i f)[j]? = if j = i then l[j]?.map f else l[j]? := by
  rw [modAt_eq_modify, List.getElem?_modify]
  by_cases h : j = i
  · subst h; simp
  · simp [h, Ne.symm h]

theorem whL_modAt_ne (l : List (Aux P)) (i j : Nat) (f : Aux P → Aux P) (h : j ≠ i) :
    whL (modAt l i f) j = whL l j := by
  simp [whL, getElem?_modAt, h]

theorem whL_modAt_of (l : List (Aux P)) (i j : Nat) (f : Aux P → Aux P) (hf : ∀ a, (f a).wheel = a.wheel) :
    whL (modAt l i f) j = whL l j := by
  simp only [whL, getElem?_modAt]
  split
  · cases l[j]? <;> simp [hf]
  · rfl

structure NView where
  sent : List Notif
  delivered : List Notif
  lis : Listener

def nview (s : State P) : NView := ⟨s.sent, s.delivered, s.lis⟩

def NView.notify (cfg : Cfg) (v : NView) (n : Notif) : NView :=
  if !cfg.hasListener then v
  else
    let v := { v with sent := v.sent ++ [n] }
    if v.lis.gateClosed then
      match v.lis.inFlight with
      | none => { v with lis := { v.lis with inFlight := some n } }
      | some _ =>
        if v.lis.queue.length < cfg.queueCap then { v with lis := { v.lis with queue := v.lis.queue ++ [n] } }
        else v
    else { v with delivered := v.delivered ++ [n] }

def NView.notifyAll (cfg : Cfg) (v : NView) (ns : List Notif) : NView := ns.foldl (NView.notify cfg) v

theorem notify_eq (s : State P) (n : Notif) :
    s.notify cfg n = { s with sent := ((nview s).notify cfg n).sent, delivered := ((nview s).notify cfg n).delivered,
                              lis := ((nview s).notify cfg n).lis } := by
  unfold State.notify NView.notify nview
  dsimp only
  -- both sides branch on listener / gate / notifier-busy in the same way
  cases cfg.hasListener <;> cases s.lis.gateClosed <;> cases s.lis.inFlight <;> simp <;> split <;> rfl

theorem notifyAll_eq : ∀ (ns : List Notif) (s : State P),
    State.notifyAll cfg s ns = { s with sent := ((nview s).notifyAll cfg ns).sent,
                                        delivered := ((nview s).notifyAll cfg ns).delivered,
                                        lis := ((nview s).notifyAll cfg ns).lis }
  | [], _ => rfl
  | n :: ns, s => by rw [State.notifyAll, notifyAll_eq ns, notify_eq]; rfl

structure QuietX (t s : State P) : Prop where
  now : t.now = s.now
  snap : t.snap = s.snap
  cost : t.met.currentCost = s.met.currentCost
  removed : t.removed = s.removed
  view : nview t = nview s

structure Quiet (t s : State P) : Prop extends QuietX t s where
  map : t.map = s.map
  wheel : ∀ j, whL t.aux j = whL s.aux j

theorem QuietX.refl (s : State P) : QuietX s s := ⟨rfl, rfl, rfl, rfl, rfl⟩
theorem QuietX.trans {a b c : State P} (h1 : QuietX a b) (h2 : QuietX b c) : QuietX a c :=
  ⟨h1.now.trans h2.now, h1.snap.trans h2.snap, h1.cost.trans h2.cost, h1.removed.trans h2.removed, h1.view.trans h2.view⟩
theorem Quiet.refl (s : State P) : Quiet s s := ⟨QuietX.refl s, rfl, fun _ => rfl⟩
theorem Quiet.trans {a b c : State P} (h1 : Quiet a b) (h2 : Quiet b c) : Quiet a c :=
  ⟨h1.toQuietX.trans h2.toQuietX, h1.map.trans h2.map, fun j => (h1.wheel j).trans (h2.wheel j)⟩

theorem quiet_modAux (s : State P) (i : Nat) (f : Aux P → Aux P) (l : List PCall) (hf : ∀ a, (f a).wheel = a.wheel) :
    Quiet { s.modAux i f with plog := l } s :=
  ⟨⟨rfl, rfl, rfl, rfl, rfl⟩, rfl, fun j => whL_modAt_of _ _ j _ hf⟩

theorem quiet_polAccess (s : State P) (i k c : Nat) : Quiet (s.polAccess ops i k c) s :=
  quiet_modAux s i _ _ (fun _ => rfl)
theorem quiet_polRemove (s : State P) (i k : Nat) : Quiet (s.polRemove ops i k) s :=
  quiet_modAux s i _ _ (fun _ => rfl)
theorem quiet_polClear (s : State P) (i : Nat) : Quiet (s.polClear ops i) s :=
  quiet_modAux s i _ _ (fun _ => rfl)

theorem quiet_polAdmit (s : State P) (i k c : Nat) : Quiet (s.polAdmit ops i k c).1 s := by
  unfold State.polAdmit
  split
  · exact quiet_modAux s i _ _ (fun _ => rfl)
  · exact Quiet.refl s

theorem quiet_hit (s : State P) (n : Nat) : Quiet (s.hit n) s := ⟨⟨rfl, rfl, rfl, rfl, rfl⟩, rfl, fun _ => rfl⟩
theorem quiet_miss (s : State P) (n : Nat) : Quiet (s.miss n) s := ⟨⟨rfl, rfl, rfl, rfl, rfl⟩, rfl, fun _ => rfl⟩

theorem polAdmit_decision (s : State P) (i k c : Nat) (vs : List Nat)
    (h : (s.polAdmit ops i k c).2 = .admitAndEvict vs) : ∃ p, (ops.admit p k c).2 = .admitAndEvict vs := by
  unfold State.polAdmit at h
  split at h
  · next a _ => exact ⟨a.policy, h⟩
  · cases h

theorem quiet_polEvict (s : State P) (i n : Nat) (h : List Nat) : Quiet (s.polEvict ops i n h).1 s := by
  unfold State.polEvict
  split
  · split
    · exact quiet_modAux s i _ _ (fun _ => rfl)
    · exact ⟨⟨rfl, rfl, rfl, rfl, rfl⟩, rfl, fun _ => rfl⟩
  · exact Quiet.refl s

theorem quiet_applyAccesses (i : Nat) :
    ∀ (l : List (Nat × Nat)) (s : State P), Quiet (State.applyAccesses ops i s l) s
  | [], s => Quiet.refl s
  | (k, c) :: rest, s => (quiet_applyAccesses i rest _).trans (quiet_polAccess ops s i k c)

theorem quiet_foldl {α} (f : State P → α → State P) (hf : ∀ s a, Quiet (f s a) s) :
    ∀ (l : List α) (s : State P), Quiet (l.foldl f s) s
  | [], s => Quiet.refl s
  | a :: rest, s => (quiet_foldl f hf rest (f s a)).trans (hf s a)

structure Touch (t s : State P) (k : Nat) (e : Entry) : Prop extends QuietX t s where
  map : t.map = put s.map k e

theorem onHit_touch (s : State P) (k : Nat) (e : Entry) :
    Touch (s.onHit cfg k e) s k (e.touch s.now cfg.tti) := by
  unfold State.onHit; dsimp only; split <;> exact ⟨⟨rfl, rfl, rfl, rfl, rfl⟩, rfl⟩

theorem onHit_map (s : State P) (k : Nat) (e : Entry) :
    (s.onHit cfg k e).map = put s.map k (e.touch s.now cfg.tti) := (onHit_touch cfg s k e).map
theorem onHit_now (cfg : Cfg) (s : State P) (k : Nat) (e : Entry) : (s.onHit cfg k e).now = s.now :=
  (onHit_touch cfg s k e).now

theorem get_cases (s : State P) (k : Nat) :
    (s.get cfg k = (s.miss 1, none) ∧ ∀ e, lookup s.map k = some e → e.isExpired s.now cfg.tti = true) ∨
    ∃ e, lookup s.map k = some e ∧ e.isExpired s.now cfg.tti = false ∧
      s.get cfg k = ((s.onHit cfg k e).hit 1, some e.vid) := by
  unfold State.get
  cases h : lookup s.map k with
  | none => exact Or.inl ⟨rfl, fun _ h => nomatch h⟩
  | some e =>
    cases hx : e.isExpired s.now cfg.tti with
    | true => exact Or.inl ⟨by simp [hx], fun e' h' => by cases h'; exact hx⟩
    | false => exact Or.inr ⟨e, rfl, hx, by simp [hx]⟩

theorem get_some (cfg : Cfg) (s : State P) (k v : Nat) (h : (s.get cfg k).2 = some v) :
    ∃ e, lookup s.map k = some e ∧ e.vid = v ∧ e.isExpired s.now cfg.tti = false := by
  rcases get_cases cfg s k with ⟨hg, _⟩ | ⟨e, he, hx, hg⟩
  · rw [hg] at h; cases h
  · rw [hg] at h; cases h; exact ⟨e, he, rfl, hx⟩

theorem get_absent (cfg : Cfg) (s : State P) (k : Nat) (h : lookup s.map k = none) : (s.get cfg k).2 = none := by
  unfold State.get; rw [h]

theorem get_snd (s : State P) (k : Nat) : (s.get cfg k).2 = s.peek cfg k := by
  unfold State.get State.peek
  split
  · split <;> rfl
  · rfl

def holdOf (k : Nat) (r : State P × Option Nat) : State P × Ret :=
  match r with
  | (s, some v) =>
    (match lookup s.map k with
     | some e => { s with map := put s.map k { e with pinned := true } }
     | none => s, .val (some v))
  | (s, none) => (s, .val none)

theorem stepOp_hold (p0 : P) (o : Oracle) (s : State P) (k : Nat) :
    stepOp cfg ops p0 o s (.hold k) = holdOf k (s.resetLogs.get cfg k) := by
  simp only [stepOp, holdOf]
  rcases s.resetLogs.get cfg k with ⟨s', _ | v⟩ <;> rfl

theorem holdOf_ret (k : Nat) (r : State P × Option Nat) : (holdOf k r).2 = .val r.2 := by
  obtain ⟨s, _ | v⟩ := r <;> rfl

theorem holdOf_cases (k : Nat) (r : State P × Option Nat) :
    (holdOf k r).1 = r.1 ∨ ∃ e, lookup r.1.map k = some e ∧ Touch (holdOf k r).1 r.1 k { e with pinned := true } := by
  obtain ⟨s, _ | v⟩ := r
  · exact Or.inl rfl
  · unfold holdOf
    dsimp only
    split
    · next e he => exact Or.inr ⟨e, he, ⟨rfl, rfl, rfl, rfl, rfl⟩, rfl⟩
    · exact Or.inl rfl

/-- the write paths subtract the old cost (if any) and add the new one in either order -/
structure Put (t s : State P) (k : Nat) (e : Entry) : Prop where
  map : t.map = put s.map k e
  now : t.now = s.now
  snap : t.snap = s.snap
  cost : t.met.currentCost = (s.met.currentCost + e.cost + (U64 - costAt s.map k % U64)) % U64
  removed : t.removed = s.removed
  view : nview t = nview s

theorem insertCore_put (s : State P) (k : Nat) (e : Entry) (td : Option Nat) (full : Bool) :
    ∃ t, Put (s.insertCore cfg k e td full) s k { e with timer := t } := by
  have h : ∃ t, (s.insertCore cfg k e td full).map = put s.map k { e with timer := t } ∧
      (s.insertCore cfg k e td full).met.currentCost =
        addW (match lookup s.map k with | some o => subW s.met.currentCost o.cost | none => s.met.currentCost) e.cost ∧
      (s.insertCore cfg k e td full).now = s.now ∧ (s.insertCore cfg k e td full).snap = s.snap ∧
      (s.insertCore cfg k e td full).removed = s.removed ∧ nview (s.insertCore cfg k e td full) = nview s := by
    unfold State.insertCore
    dsimp only
    generalize (s.aux[cfg.shardOf k]?.bind fun x => x.wheel) = ow
    rcases ow with _ | w <;> rcases td with _ | d <;> dsimp only [modAux_map] <;>
      cases lookup s.map k <;> cases full <;> exact ⟨_, rfl, rfl, rfl, rfl, rfl, rfl⟩
  obtain ⟨t, hm, hc, hn, hs, hr, hv⟩ := h
  refine ⟨t, hm, hn, hs, ?_, hr, hv⟩
  rw [hc]
  cases hl : lookup s.map k <;> simp only [costAt, hl, addW, subW, U64] <;> omega

theorem insertCore_now (cfg : Cfg) (s : State P) (k : Nat) (e : Entry) (td : Option Nat) (full : Bool) :
    (s.insertCore cfg k e td full).now = s.now :=
  (insertCore_put cfg s k e td full).elim (fun _ h => h.now)

theorem loadInsert_map (cfg : Cfg) (s : State P) (k vid cost : Nat) :
    (s.loadInsert cfg k vid cost).map = put s.map k (Entry.mk' vid cost s.now cfg.ttl cfg.tti) ∧
      (s.loadInsert cfg k vid cost).snap = s.snap := ⟨rfl, rfl⟩

theorem loadInsert_put (s : State P) (k vid cost : Nat) :
    Put (s.loadInsert cfg k vid cost) s k (Entry.mk' vid cost s.now cfg.ttl cfg.tti) := by
  refine ⟨rfl, rfl, rfl, ?_, rfl, rfl⟩
  show subW (addW s.met.currentCost cost) _ = (s.met.currentCost + cost + (U64 - costAt s.map k % U64)) % U64
  cases hl : lookup s.map k <;> simp only [costAt, hl, addW, subW, U64] <;> omega

theorem orInsert_cases (s : State P) (k vid cost : Nat) :
    (∃ e, lookup s.map k = some e ∧ s.orInsert cfg k vid cost = (s, .val (some e.vid))) ∨
    (lookup s.map k = none ∧ (s.orInsert cfg k vid cost).2 = .val (some vid) ∧
      Put (s.orInsert cfg k vid cost).1 s k (Entry.mk' vid cost s.now cfg.ttl cfg.tti)) := by
  unfold State.orInsert
  split
  · next e he => exact .inl ⟨e, he, rfl⟩
  · next hn =>
    refine .inr ⟨hn, rfl, rfl, rfl, rfl, ?_, rfl, rfl⟩
    show addW s.met.currentCost cost = (_ + cost + _) % U64
    simp only [costAt, hn, addW, U64]; omega

theorem compute_cases (s : State P) (k vid : Nat) :
    (lookup s.map k = none ∧ s.compute k vid = (s, .computed none)) ∨
    (∃ e, lookup s.map k = some e ∧ e.pinned = true ∧ s.compute k vid = (s, .computed (some none))) ∨
    (∃ e, lookup s.map k = some e ∧ e.pinned = false ∧
      s.compute k vid = ({ s with map := put s.map k { e with vid := vid },
                                  met := { s.met with updates := s.met.updates + 1 } }, .computed (some (some e.vid)))) := by
  unfold State.compute
  split
  · next hn => exact .inl ⟨hn, rfl⟩
  · next e he =>
    split
    · next hp => exact .inr (.inl ⟨e, he, hp, rfl⟩)
    · next hp => exact .inr (.inr ⟨e, he, by simpa using hp, rfl⟩)

theorem fetchWith_cases (s : State P) (k vid cost : Nat) :
    (∃ e, lookup s.map k = some e ∧ e.isExpired s.now cfg.tti = false ∧
        s.fetchWith cfg k vid cost = ((s.onHit cfg k e).hit 1, .loaded e.vid false false)) ∨
    ((∀ e, lookup s.map k = some e →
          e.isExpired s.now cfg.tti = true ∨ ¬ (e.expiresAt = 0 ∨ s.now < e.expiresAt)) ∧
        s.fetchWith cfg k vid cost = ((s.miss 1).loadInsert cfg k vid cost, .loaded vid false true)) ∨
    (∃ e g, lookup s.map k = some e ∧ cfg.swr = some g ∧ ¬ (e.expiresAt = 0 ∨ s.now < e.expiresAt) ∧
        s.now < e.expiresAt + g ∧
        s.fetchWith cfg k vid cost = (s.loadInsert cfg k vid cost, .loaded e.vid true true)) := by
  unfold State.fetchWith
  dsimp only
  split
  · next hn => exact .inr (.inl ⟨fun e he => (by rw [hn] at he; cases he), rfl⟩)
  · next e he =>
    have hsome : ∀ {Q : Entry → Prop}, Q e → ∀ e', lookup s.map k = some e' → Q e' :=
      fun h e' he' => by rw [he] at he'; cases he'; exact h
    split
    · split
      · next hx => exact .inr (.inl ⟨hsome (Or.inl hx), rfl⟩)
      · next hx => exact .inl ⟨e, he, by simpa using hx, rfl⟩
    · next hf =>
      split
      · next g hg =>
        split
        · next hlt => exact .inr (.inr ⟨e, g, he, hg, hf, hlt, rfl⟩)
        · exact .inr (.inl ⟨hsome (Or.inr hf), rfl⟩)
      · exact .inr (.inl ⟨hsome (Or.inr hf), rfl⟩)

structure Drop (cfg : Cfg) (t s : State P) (k : Nat) (e : Entry) (r : Reason) (sub told : Bool) (X : Nat → Prop) :
    Prop where
  was : lookup s.map k = some e
  map : t.map = erase s.map k
  now : t.now = s.now
  snap : t.snap = s.snap
  cost : t.met.currentCost = if sub then subW s.met.currentCost e.cost else s.met.currentCost
  removed : t.removed = s.removed ++ [{ key := k, vid := e.vid, reason := r }]
  view : nview t = (nview s).notifyAll cfg (if told then [{ key := k, vid := e.vid, reason := r }] else [])
  wheel : ∀ j, ¬ X j → whL t.aux j = whL s.aux j

theorem evictVictim_cases (s : State P) (v : Nat) :
    s.evictVictim cfg ops v = (s, 0, none) ∨
    ∃ e, Drop cfg (s.evictVictim cfg ops v).1 s v e .capacity false false (fun _ => False) ∧
      (s.evictVictim cfg ops v).2 = (e.cost, some { key := v, vid := e.vid, reason := .capacity }) := by
  unfold State.evictVictim
  split
  · next e he =>
    exact .inr ⟨e, ⟨he, rfl, rfl, rfl, rfl, rfl, rfl, fun j _ => whL_modAt_of _ _ j _ (fun _ => rfl)⟩, rfl⟩
  · exact .inl rfl

theorem ttlRemove_cases (i : Nat) (s : State P) (k : Nat) :
    State.ttlRemove cfg ops i s k = s ∨
    ∃ e, Drop cfg (State.ttlRemove cfg ops i s k) s k e .expired true true (fun _ => False) := by
  unfold State.ttlRemove
  split
  · next e he =>
    refine .inr ⟨e, ?_⟩
    dsimp only
    rw [notify_eq]
    exact ⟨he, rfl, rfl, rfl, rfl, rfl, rfl, fun j _ => whL_modAt_of _ _ j _ (fun _ => rfl)⟩
  · exact .inl rfl

theorem ttiRemove_cases (i : Nat) (s : State P) (k : Nat) :
    State.ttiRemove cfg ops i s k = s ∨
    ∃ e, Drop cfg (State.ttiRemove cfg ops i s k) s k e .expired true true (fun j => j = i) := by
  unfold State.ttiRemove
  split
  · next e he =>
    refine .inr ⟨e, ?_⟩
    dsimp only
    rw [notify_eq]
    refine ⟨he, rfl, rfl, rfl, rfl, rfl, rfl, fun j hj => ?_⟩
    exact (whL_modAt_ne _ _ _ _ hj).trans (whL_modAt_of _ _ j _ (fun _ => rfl))
  · exact .inl rfl

theorem capRemove_cases (i : Nat) (s : State P) (k : Nat) :
    State.capRemove cfg i s k = s ∨
    ∃ e, Drop cfg (State.capRemove cfg i s k) s k e .capacity false true (fun _ => False) := by
  unfold State.capRemove
  split
  · split
    · next e he =>
      refine .inr ⟨e, ?_⟩
      dsimp only
      rw [notify_eq]
      exact ⟨he, rfl, rfl, rfl, rfl, rfl, rfl, fun _ _ => rfl⟩
    · exact .inl rfl
  · exact .inl rfl

theorem removeKey_cases (s : State P) (k : Nat) :
    (lookup s.map k = none ∧ s.removeKey cfg ops k = (s, none)) ∨
    ∃ e, Drop cfg (s.removeKey cfg ops k).1 s k e .invalidated true true (fun j => j = cfg.shardOf k) ∧
      (s.removeKey cfg ops k).2 = some e.vid := by
  unfold State.removeKey
  split
  · next e he =>
    refine .inr ⟨e, ?_, rfl⟩
    dsimp only
    rw [notify_eq]
    refine ⟨he, rfl, rfl, rfl, rfl, rfl, rfl, fun j hj => ?_⟩
    exact Eq.trans (whL_modAt_of _ _ j _ (fun _ => rfl)) (whL_modAt_ne _ _ _ _ hj)
  · next hn => exact .inl ⟨hn, rfl⟩

theorem evictVictims_cons (s : State P) (v : Nat) (vs : List Nat) (rel : Nat)
    (ns : List Notif) :
    State.evictVictims cfg ops s (v :: vs) rel ns =
      State.evictVictims cfg ops (s.evictVictim cfg ops v).1 vs (rel + (s.evictVictim cfg ops v).2.1)
        (ns ++ (s.evictVictim cfg ops v).2.2.toList) := by
  rw [State.evictVictims]
  rcases s.evictVictim cfg ops v with ⟨s', c, _ | n⟩
  · simp
  · rfl

/-- the `AdmitAndEvict` arm of `applyWrite` -/
def State.evictAll (cfg : Cfg) (ops : PolicyOps P) (s : State P) (vs : List Nat) : State P :=
  let r := State.evictVictims cfg ops s vs 0 []
  State.notifyAll cfg (r.1.subCost r.2.1) r.2.2

theorem applyWrite_eq (s : State P) (i : Nat) (w : Nat × Nat) :
    s.applyWrite cfg ops i w =
      match (s.polAdmit ops i w.1 w.2).2 with
      | .admitAndEvict vs => (s.polAdmit ops i w.1 w.2).1.evictAll cfg ops vs
      | _ => (s.polAdmit ops i w.1 w.2).1 := by
  unfold State.applyWrite State.evictAll
  rcases s.polAdmit ops i w.1 w.2 with ⟨s1, _ | _ | vs⟩ <;> rfl

theorem multiRemoveLoop_cons (s : State P) (k : Nat) (ks : List Nat)
    (acc : List (Nat × Nat)) :
    multiRemoveLoop cfg ops s (k :: ks) acc =
      multiRemoveLoop cfg ops (s.removeKey cfg ops k).1 ks
        (acc ++ ((s.removeKey cfg ops k).2.map (fun v => (k, v))).toList) := by
  rw [multiRemoveLoop]
  rcases s.removeKey cfg ops k with ⟨s', _ | v⟩
  · simp
  · rfl

/-- the scripted clock advance that may fire before a `next()` call (`n` items yielded so far) -/
def tick (now : Nat) (inter : Option (Nat × Nat)) (n : Nat) : Nat × Option (Nat × Nat) :=
  match inter with
  | some (after, d) => if n = after then (now + d, none) else (now, inter)
  | none => (now, inter)

theorem tick_cases (now : Nat) (inter : Option (Nat × Nat)) (n : Nat) :
    tick now inter n = (now, inter) ∨ ∃ a d, inter = some (a, d) ∧ tick now inter n = (now + d, none) := by
  unfold tick
  split
  · split
    · exact .inr ⟨_, _, rfl, rfl⟩
    · exact .inl rfl
  · exact .inl rfl

def tickS (s : State P) (inter : Option (Nat × Nat)) (n : Nat) : State P × Option (Nat × Nat) :=
  ({ s with now := (tick s.now inter n).1 }, (tick s.now inter n).2)

theorem tickS_cases (s : State P) (inter : Option (Nat × Nat)) (n : Nat) :
    tickS s inter n = (s, inter) ∨ ∃ a d, inter = some (a, d) ∧ tickS s inter n = ({ s with now := s.now + d }, none) := by
  unfold tickS
  rcases tick_cases s.now inter n with h | ⟨a, d, hi, h⟩ <;> rw [h]
  · exact .inl rfl
  · exact .inr ⟨a, d, hi, rfl⟩

theorem snapDrive_nil (s : State P) (inter : Option (Nat × Nat)) (acc : List (Nat × Nat)) :
    snapDrive cfg s [] inter acc = ((tickS s inter acc.length).1, acc) := by
  unfold snapDrive tickS tick
  rcases inter with _ | ⟨a, d⟩
  · rfl
  · dsimp only; split <;> rfl

theorem snapDrive_cons (s : State P) (k : Nat) (ks : List Nat) (inter : Option (Nat × Nat))
    (acc : List (Nat × Nat)) :
    snapDrive cfg s (k :: ks) inter acc =
      snapDrive cfg ((tickS s inter acc.length).1.get cfg k).1 ks (tickS s inter acc.length).2
        (acc ++ (((tickS s inter acc.length).1.get cfg k).2.map (fun v => (k, v))).toList) := by
  conv => lhs; unfold snapDrive
  unfold tickS tick
  rcases inter with _ | ⟨a, d⟩
  · dsimp only
    rcases s.get cfg k with ⟨s', _ | v⟩
    · simp
    · rfl
  · dsimp only
    by_cases h : acc.length = a
    · simp only [if_pos h]
      rcases State.get cfg { s with now := s.now + d } k with ⟨s', _ | v⟩
      · simp
      · rfl
    · simp only [if_neg h]
      rcases s.get cfg k with ⟨s', _ | v⟩
      · simp
      · rfl

theorem logClearedAll_eq : ∀ (l : List (Nat × Entry)) (s : State P),
    logClearedAll s l =
      { s with removed := s.removed ++ l.map (fun p => { key := p.1, vid := p.2.vid, reason := .cleared }) }
  | [], s => by simp [logClearedAll]
  | (k, e) :: rest, s => by
    rw [logClearedAll, logClearedAll_eq rest]
    simp [State.logRemoved]

theorem clearAll_spec (s : State P) :
    (s.clearAll cfg ops o).map = [] ∧
    (s.clearAll cfg ops o).removed =
      s.removed ++ s.map.map (fun p => { key := p.1, vid := p.2.vid, reason := .cleared }) ∧
    (s.clearAll cfg ops o).met.currentCost = subW s.met.currentCost (costOf s.map) ∧
    (s.clearAll cfg ops o).snap = s.snap ∧ nview (s.clearAll cfg ops o) = nview s := by
  have h1 := quiet_foldl (fun (s : State P) i => (s.shardKeys cfg o.remHint i).foldl (fun s k => s.polRemove ops i k) s)
    (fun s i => quiet_foldl _ (fun s k => quiet_polRemove ops s i k) _ s) (List.range cfg.nshards) s
  unfold State.clearAll
  dsimp only
  generalize (List.range cfg.nshards).foldl _ s = s1 at h1
  rw [logClearedAll_eq]
  have h3 := quiet_foldl (fun (s : State P) i => s.polClear ops i) (fun s i => quiet_polClear ops s i)
    (List.range cfg.nshards)
    { s1 with removed := s1.removed ++ s1.map.map (fun p => { key := p.1, vid := p.2.vid, reason := .cleared }),
              map := [] }
  generalize (List.range cfg.nshards).foldl _ _ = s3 at h3
  refine ⟨h3.map, ?_, ?_, h3.snap.trans h1.snap, h3.view.trans h1.view⟩
  · rw [← h1.removed, ← h1.map]; exact h3.removed
  · show subW s3.met.currentCost _ = _
    rw [h3.cost]; show subW s1.met.currentCost _ = _
    rw [h1.cost]; rfl

theorem stepOp_restore (p0 : P) (s : State P) :
    (s.snap = none ∧ (stepOp cfg ops p0 o s .restore).1 = s.resetLogs) ∨
    ∃ sn, s.snap = some sn ∧ (stepOp cfg ops p0 o s .restore).1 = State.restore cfg p0 s.now sn := by
  show (s.resetLogs.snap = none ∧ (match s.resetLogs.snap with
      | some sn => (State.restore cfg p0 s.resetLogs.now sn, Ret.unit)
      | none => (s.resetLogs, Ret.unit)).1 = _) ∨ ∃ sn, s.resetLogs.snap = some sn ∧ (match s.resetLogs.snap with
      | some sn => (State.restore cfg p0 s.resetLogs.now sn, Ret.unit)
      | none => (s.resetLogs, Ret.unit)).1 = _
  cases s.resetLogs.snap with
  | none => exact .inl ⟨rfl, rfl⟩
  | some sn => exact .inr ⟨sn, rfl, rfl⟩

theorem run_cons_fst (p0 : P) (s : State P) (op : Op) (o : Oracle) (rest : List (Op × Oracle)) :
    (run cfg ops p0 s ((op, o) :: rest)).1 = (run cfg ops p0 (stepOp cfg ops p0 o s op).1 rest).1 := rfl

theorem run_inv {σ : Type} (J : State P → σ → Prop) (p0 : P) :
    ∀ (hist : List (Op × Oracle)),
      (∀ s a op o, (op, o) ∈ hist → J s a → ∃ a', J (stepOp cfg ops p0 o s op).1 a') →
      ∀ s a, J s a → ∃ a', J (run cfg ops p0 s hist).1 a'
  | [], _, _, a, h => ⟨a, h⟩
  | (op, o) :: rest, hstep, s, a, h => by
    obtain ⟨a1, h1⟩ := hstep s a op o List.mem_cons_self h
    rw [run_cons_fst]
    exact run_inv J p0 rest (fun s a op o hm => hstep s a op o (List.mem_cons_of_mem _ hm)) _ a1 h1

end Fv.Cache
