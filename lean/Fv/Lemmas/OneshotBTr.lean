import Fv.Chan.OneshotB
/-! The step function of the step-level oneshot model as a relation: `Tr s a l s'` has one constructor per primitive
transition of a handle `a` at control state `l`, named after the `Mic` position it leaves (`_cl`, `_fail`, `_zero` … for
the arm taken). The continuations `afterClose`, `afterWake` stay symbolic in `Tr` and `afterTry` stands in the form
`tryEnd`; the `_cases` lemmas say where they lead. -/
namespace Fv.Chan.OneshotB

theorem orE_some {α} {x y : Option α} {z : α} (h : orE x y = some z) : x = some z ∨ y = some z := by
  cases x <;> simp_all [orE]

theorem stepAct_cases {s s' : State} {a : Ag} (h : stepAct s a = some s') :
    stepSend s a = some s' ∨ stepWk s a = some s' ∨ stepCl s a = some s' ∨ stepX s a = some s' ∨
    stepPb s a = some s' ∨ stepTry s a = some s' ∨ stepTry2 s a = some s' ∨ stepPoll s a = some s' := by
  unfold stepAct at h
  repeat (rcases orE_some h with h | h; · simp [h])
  simp [h]

theorem W.cases5 (w : W) : w = .empty ∨ w = .writing ∨ w = .sent ∨ w = .taken ∨ w = .closed := by cases w <;> simp

/-- where `OneShotShared::try_recv` answering `r` continues -/
def tryM (l : Loc) (r : Res) : Mic :=
  match l.stage, r with
  | 0, _ => .ret r
  | 1, .empty => .pLdState
  | _, .empty => (match l.k with | .recv _ => .park | _ => .ret .pending)
  | _, _ => .ret r

/-- the second try of a poll answers Empty: the poll is Pending -/
def tryPend (l : Loc) (r : Res) : Bool :=
  match l.stage, r with
  | 0, _ => false
  | 1, .empty => false
  | _, .empty => true
  | _, _ => false

/-- `afterTry` written as one update -/
def tryEnd (s : State) (a : Ag) (l : Loc) (r : Res) : State :=
  { s with armed := s.armed || tryPend l r, loc := upd s.loc a { l with m := tryM l r } }

theorem afterTry_eq (s : State) (a : Ag) (l : Loc) (r : Res) : afterTry s a l r = tryEnd s a l r := by
  unfold afterTry tryEnd tryM tryPend setLoc
  split <;> (try split) <;> simp_all

inductive Tr (s : State) (a : Ag) (l : Loc) : State → Prop
  -- `Sender::send`, `OneShotShared::send`
  | sLdOwn_cl : l.m = .sLdOwn → s.closed a = true → Tr s a l (sendDone s a l (.closedV l.v))
  | sLdOwn : l.m = .sLdOwn → s.closed a = false → Tr s a l (setLoc s a { l with m := .sLdRdrop })
  | sLdRdrop_cl : l.m = .sLdRdrop → s.rdrop = true → Tr s a l (sendDone s a l (.closedV l.v))
  | sLdRdrop : l.m = .sLdRdrop → s.rdrop = false → Tr s a l (setLoc s a { l with m := .sLdState })
  | sLdState_ge : l.m = .sLdState → s.st.geSent = true → Tr s a l (sendDone s a l (.sentV l.v))
  | sLdState : l.m = .sLdState → s.st.geSent = false → Tr s a l (setLoc s a { l with m := .sCasEW })
  | sCasEW : l.m = .sCasEW → s.st = .empty →
      Tr s a l { s with st := .writing, writer := some a.idx, loc := upd s.loc a { l with m := .sLdRdrop2 } }
  | sCasEW_fail : l.m = .sCasEW → s.st ≠ .empty → Tr s a l (sendDone s a l (.sentV l.v))
  | sLdRdrop2_cl : l.m = .sLdRdrop2 → s.rdrop = true → Tr s a l (setLoc s a { l with m := .sStEmpty })
  | sLdRdrop2 : l.m = .sLdRdrop2 → s.rdrop = false → Tr s a l (setLoc s a { l with m := .sLock })
  | sStEmpty : l.m = .sStEmpty → Tr s a l (sendDone { s with st := .empty, writer := none } a l (.closedV l.v))
  | sLock : l.m = .sLock → s.locked = false →
      Tr s a l { s with locked := true, slot := some l.v, mover := some a.idx, moved := s.moved ++ [l.v],
                        loc := upd s.loc a { l with m := .sSwapSent } }
  | sSwapSent : l.m = .sSwapSent →
      Tr s a l { s with st := .sent, writer := none, sres := updN s.sres a.idx (some .ok),
                        loc := upd s.loc a { l with res := .ok, m := .wake } }
  | sUnlock : l.m = .sUnlock → Tr s a l { s with locked := false, loc := upd s.loc a { l with ph := true, m := .dSwapOwn } }
  -- `AtomicWaker::wake`, the executor waker's `unpark`
  | wake_none : l.m = .wake → s.waker = none → Tr s a l (setLoc s a (afterWake l))
  | wake_task {t} : l.m = .wake → s.waker = some (.task t) →
      Tr s a l { s with waker := none, armed := false, loc := upd s.loc a { l with m := .wkUnpark t } }
  | wake_fut {f} : l.m = .wake → s.waker = some (.fut f) →
      Tr s a l { s with waker := none, armed := false, fwakes := updN s.fwakes f (s.fwakes f + 1), loc := upd s.loc a (afterWake l) }
  | wkUnpark {t} : l.m = .wkUnpark t → Tr s a l { s with tok := updN s.tok t true, loc := upd s.loc a (afterWake l) }
  -- `close` / `Drop` of a handle, `OneShotShared::decrement_senders`
  | cCasOwn_cl : l.m = .cCasOwn → s.closed a = true → Tr s a l (setLoc s a { l with m := .ret .closeErr })
  | cCasOwn : l.m = .cCasOwn → s.closed a = false →
      Tr s a l { s with closed := upd s.closed a true, loc := upd s.loc a { l with m := if a.isS then .dcFsub else .ciStRdrop } }
  | dSwapOwn_cl : l.m = .dSwapOwn → s.closed a = true → Tr s a l (setLoc s a { l with m := .arcRel })
  | dSwapOwn : l.m = .dSwapOwn → s.closed a = false →
      Tr s a l { s with closed := upd s.closed a true, loc := upd s.loc a { l with m := if a.isS then .dcFsub else .ciStRdrop } }
  | dcFsub_last : l.m = .dcFsub → s.scount = 1 →
      Tr s a l { s with scount := 0, dec := updN s.dec a.idx true, closer := some a.idx, loc := upd s.loc a { l with m := .dcCasEC } }
  | dcFsub : l.m = .dcFsub → s.scount ≠ 1 →
      Tr s a l { s with scount := s.scount - 1, dec := updN s.dec a.idx true, loc := upd s.loc a (afterClose l) }
  | dcCasEC : l.m = .dcCasEC → s.st = .empty →
      Tr s a l { s with st := .closed, closer := none, loc := upd s.loc a { l with m := .wake } }
  | dcCasEC_fail : l.m = .dcCasEC → s.st ≠ .empty →
      Tr s a l { s with closer := none, loc := upd s.loc a { l with m := .dcLdState } }
  | dcLdState_sent : l.m = .dcLdState → s.st = .sent → Tr s a l (setLoc s a { l with m := .dcLdRdrop })
  | dcLdState : l.m = .dcLdState → s.st ≠ .sent → Tr s a l (setLoc s a { l with m := .dcLdState3 })
  | dcLdRdrop_cl : l.m = .dcLdRdrop → s.rdrop = true → Tr s a l (setLoc s a { l with m := .dcCasST })
  | dcLdRdrop : l.m = .dcLdRdrop → s.rdrop = false → Tr s a l (setLoc s a { l with m := .dcLdState3 })
  | dcCasST : l.m = .dcCasST → s.st = .sent →
      Tr s a l { s with st := .taken, taker := some a, loc := upd s.loc a { l with m := .xLock } }
  | dcCasST_fail : l.m = .dcCasST → s.st ≠ .sent → Tr s a l (setLoc s a (afterClose l))
  | dcLdState3_taken : l.m = .dcLdState3 → s.st = .taken → Tr s a l (setLoc s a (afterClose l))
  | dcLdState3 : l.m = .dcLdState3 → s.st ≠ .taken → Tr s a l (setLoc s a { l with m := .dcLdState4 })
  | dcLdState4_sent : l.m = .dcLdState4 → s.st = .sent → Tr s a l (setLoc s a (afterClose l))
  | dcLdState4 : l.m = .dcLdState4 → s.st ≠ .sent → Tr s a l (setLoc s a { l with m := .wake })
  -- claim-and-drop of an orphaned value, `Receiver::close_internal`, `Arc` release, `OneShotShared::drop`
  | xLock : l.m = .xLock → s.locked = false →
      Tr s a l { s with locked := true, slot := none, taker := none, dropped := s.dropped ++ s.slot.toList,
                        loc := upd s.loc a { l with m := .xUnlock } }
  | xUnlock : l.m = .xUnlock → Tr s a l { s with locked := false, loc := upd s.loc a (afterClose l) }
  | ciStRdrop : l.m = .ciStRdrop → a = .R → Tr s a l { s with rdrop := true, loc := upd s.loc a { l with m := .ciCasEC } }
  | ciCasEC : l.m = .ciCasEC → a = .R → s.st = .empty →
      Tr s a l { s with st := .closed, rClosedIt := true, loc := upd s.loc a { l with m := .ciCasST } }
  | ciCasEC_fail : l.m = .ciCasEC → a = .R → s.st ≠ .empty → Tr s a l (setLoc s a { l with m := .ciCasST })
  | ciCasST : l.m = .ciCasST → a = .R → s.st = .sent →
      Tr s a l { s with st := .taken, taker := some a, loc := upd s.loc a { l with m := .xLock } }
  | ciCasST_fail : l.m = .ciCasST → a = .R → s.st ≠ .sent → Tr s a l (setLoc s a (afterClose l))
  | arcRel_last : l.m = .arcRel → allGone (upd s.gone a true) s.nextH = true →
      Tr s a l { s with gone := upd s.gone a true, loc := upd s.loc a { l with m := .fLdState } }
  | arcRel : l.m = .arcRel → allGone (upd s.gone a true) s.nextH = false →
      Tr s a l { s with gone := upd s.gone a true, loc := upd s.loc a { l with m := .ret (if l.k = .send then l.res else .ok) } }
  | fLdState_sent : l.m = .fLdState → s.st = .sent →
      Tr s a l { s with freed := true, slot := none, dropped := s.dropped ++ s.slot.toList,
                        loc := upd s.loc a { l with m := .ret (if l.k = .send then l.res else .ok) } }
  | fLdState : l.m = .fLdState → s.st ≠ .sent →
      Tr s a l { s with freed := true, loc := upd s.loc a { l with m := .ret (if l.k = .send then l.res else .ok) } }
  -- `Sender::clone`, `is_sent`, `is_closed`
  | clFadd : l.m = .clFadd →
      Tr s a l { s with scount := s.scount + 1, nextH := s.nextH + 1, reopened := s.reopened || s.dec a.idx,
                        prog := upd s.prog (.S s.nextH) (s.progS s.nextH), loc := upd s.loc a { l with m := .ret .ok } }
  | pbLdRdrop : l.m = .pbLdRdrop → Tr s a l (setLoc s a { l with m := .ret (.b s.rdrop) })
  | pbLdState : l.m = .pbLdState → Tr s a l (setLoc s a { l with m := .ret (.b (s.st = .sent ∨ s.st = .taken)) })
  | icLdState_done : l.m = .icLdState → s.st = .taken ∨ s.st = .closed → Tr s a l (setLoc s a { l with m := .ret (.b true) })
  | icLdState : l.m = .icLdState → ¬ (s.st = .taken ∨ s.st = .closed) → Tr s a l (setLoc s a { l with cur := s.st, m := .icLdCount })
  | icLdCount_zero : l.m = .icLdCount → s.scount = 0 →
      Tr s a l (setLoc s a { l with m := .ret (.b (l.cur = .empty ∨ l.cur = .writing)) })
  | icLdCount : l.m = .icLdCount → s.scount ≠ 0 → Tr s a l (setLoc s a { l with m := .ret (.b false) })
  -- `Receiver::try_recv`, `OneShotShared::try_recv`
  | rLdOwn_cl : a = .R → l.m = .rLdOwn → s.closed a = true → Tr s a l (setLoc s a { l with m := .ret .disc })
  | rLdOwn : a = .R → l.m = .rLdOwn → s.closed a = false → Tr s a l (setLoc s a { l with m := .tLdState })
  | tLdState_sent : a = .R → l.m = .tLdState → s.st = .sent → Tr s a l (setLoc s a { l with m := .tCasST })
  | tLdState_taken : a = .R → l.m = .tLdState → s.st = .taken → Tr s a l (tryEnd s a l .empty)
  | tLdState_closed : a = .R → l.m = .tLdState → s.st = .closed → Tr s a l (tryEnd s a l .disc)
  | tLdState_empty : a = .R → l.m = .tLdState → s.st = .empty → Tr s a l (setLoc s a { l with m := .tLdCount })
  | tLdState_writing : a = .R → l.m = .tLdState → s.st = .writing → Tr s a l (tryEnd s a l .empty)
  | tCasST : a = .R → l.m = .tCasST → s.st = .sent →
      Tr s a l { s with st := .taken, taker := some a, loc := upd s.loc a { l with m := .tLock } }
  | tCasST_fail : a = .R → l.m = .tCasST → s.st ≠ .sent → Tr s a l (setLoc s a { l with m := .tLdState2 })
  | tLock {v} : a = .R → l.m = .tLock → s.locked = false → s.slot = some v →
      Tr s a l { s with locked := true, slot := none, taker := none, received := s.received ++ [v],
                        loc := upd s.loc a { l with v := v, res := .okV v, m := .tUnlock } }
  | tLock_none : a = .R → l.m = .tLock → s.locked = false → s.slot = none →
      Tr s a l { s with locked := true, taker := none, loc := upd s.loc a { l with m := .tStClosed } }
  | tStClosed : a = .R → l.m = .tStClosed → Tr s a l { s with st := .closed, loc := upd s.loc a { l with res := .disc, m := .tUnlock } }
  | tUnlock : a = .R → l.m = .tUnlock → Tr s a l (tryEnd { s with locked := false } a l l.res)
  | tLdState2_taken : a = .R → l.m = .tLdState2 → s.st = .taken → Tr s a l (tryEnd s a l .empty)
  | tLdState2_closed : a = .R → l.m = .tLdState2 → s.st = .closed → Tr s a l (tryEnd s a l .disc)
  | tLdState2 : a = .R → l.m = .tLdState2 → s.st ≠ .taken → s.st ≠ .closed → Tr s a l (setLoc s a { l with m := .tLdCount2 })
  | tLdCount2_zero : a = .R → l.m = .tLdCount2 → s.scount = 0 → Tr s a l (tryEnd s a l .disc)
  | tLdCount2 : a = .R → l.m = .tLdCount2 → s.scount ≠ 0 → Tr s a l (tryEnd s a l .empty)
  | tLdCount_zero : a = .R → l.m = .tLdCount → s.scount = 0 → Tr s a l (setLoc s a { l with m := .tCasEC })
  | tLdCount : a = .R → l.m = .tLdCount → s.scount ≠ 0 → Tr s a l (tryEnd s a l .empty)
  | tCasEC : a = .R → l.m = .tCasEC → s.st = .empty → Tr s a l (tryEnd { s with st := .closed, rClosedIt := true } a l .disc)
  | tCasEC_again : a = .R → l.m = .tCasEC → s.st = .sent ∨ s.st = .writing → Tr s a l (setLoc s a { l with m := .tLdState })
  | tCasEC_fail : a = .R → l.m = .tCasEC → s.st ≠ .empty → ¬ (s.st = .sent ∨ s.st = .writing) → Tr s a l (tryEnd s a l .disc)
  -- `OneShotShared::poll_recv`, `thread::park`
  | pLdState_done : a = .R → l.m = .pLdState → s.st = .taken ∨ s.st = .closed → Tr s a l (setLoc s a { l with cur := s.st, m := .pLdCountA })
  | pLdState_empty : a = .R → l.m = .pLdState → s.st = .empty → Tr s a l (setLoc s a { l with cur := s.st, m := .pLdCountB })
  | pLdState : a = .R → l.m = .pLdState → s.st = .sent ∨ s.st = .writing → Tr s a l (setLoc s a { l with cur := s.st, m := .pReg })
  | pLdCountA_zero : a = .R → l.m = .pLdCountA → s.scount = 0 → Tr s a l (setLoc s a { l with m := .ret .disc })
  | pLdCountA : a = .R → l.m = .pLdCountA → s.scount ≠ 0 → Tr s a l (setLoc s a { l with m := .pReg })
  | pLdCountB_zero : a = .R → l.m = .pLdCountB → s.scount = 0 → Tr s a l (setLoc s a { l with m := .pCasEC })
  | pLdCountB : a = .R → l.m = .pLdCountB → s.scount ≠ 0 → Tr s a l (setLoc s a { l with m := .pReg })
  | pCasEC : a = .R → l.m = .pCasEC → s.st = .empty →
      Tr s a l { s with st := .closed, rClosedIt := true, loc := upd s.loc a { l with m := .ret .disc } }
  | pCasEC_again : a = .R → l.m = .pCasEC → s.st = .sent ∨ s.st = .writing → Tr s a l (setLoc s a { l with stage := 1, m := .tLdState })
  | pCasEC_fail : a = .R → l.m = .pCasEC → s.st ≠ .empty → ¬ (s.st = .sent ∨ s.st = .writing) → Tr s a l (setLoc s a { l with m := .ret .disc })
  | pReg_task {t} : a = .R → l.m = .pReg → l.k = .recv t →
      Tr s a l { s with waker := some (.task t), armed := false, loc := upd s.loc a { l with stage := 2, m := .tLdState } }
  | pReg_fut {f} : a = .R → l.m = .pReg → l.k = .poll f →
      Tr s a l { s with waker := some (.fut f), armed := false, loc := upd s.loc a { l with stage := 2, m := .tLdState } }
  | park {t} : a = .R → l.m = .park → l.k = .recv t → s.tok t = true →
      Tr s a l { s with tok := updN s.tok t false, loc := upd s.loc a { l with stage := 1, m := .rLdOwn } }
  -- `thread::park` returning without a token
  | spurious : l.m = .park → Tr s a l (setLoc s a { l with stage := 1, m := .rLdOwn })
  -- call and return of an operation
  | cSend {v i rest} : l.m = .idle → s.gone a = false → s.prog a = .send v :: rest → a = .S i → s.sval i = none →
      Tr s a l { s with prog := upd s.prog a rest, sval := updN s.sval i (some v), loc := upd s.loc a { k := .send, m := .sLdOwn, v := v } }
  | cClone {rest} : l.m = .idle → s.gone a = false → s.prog a = .clone :: rest → a.isS = true →
      Tr s a l { s with prog := upd s.prog a rest, loc := upd s.loc a { k := .clone, m := .clFadd } }
  | cIsSent {rest} : l.m = .idle → s.gone a = false → s.prog a = .isSent :: rest → a.isS = true →
      Tr s a l { s with prog := upd s.prog a rest, loc := upd s.loc a { k := .isSent, m := .pbLdState } }
  | cIsClosedS {rest} : l.m = .idle → s.gone a = false → s.prog a = .isClosed :: rest → a.isS = true →
      Tr s a l { s with prog := upd s.prog a rest, loc := upd s.loc a { k := .isClosed, m := .pbLdRdrop } }
  | cIsClosedR {rest} : l.m = .idle → s.gone a = false → s.prog a = .isClosed :: rest → a = .R →
      Tr s a l { s with prog := upd s.prog a rest, loc := upd s.loc a { k := .isClosed, m := .icLdState } }
  | cClose {rest} : l.m = .idle → s.gone a = false → s.prog a = .close :: rest →
      Tr s a l { s with prog := upd s.prog a rest, loc := upd s.loc a { k := .close, m := .cCasOwn } }
  | cDrop {rest} : l.m = .idle → s.gone a = false → s.prog a = .drop :: rest →
      Tr s a l { s with prog := upd s.prog a rest, loc := upd s.loc a { k := .drop, m := .dSwapOwn } }
  | cTryRecv {rest} : l.m = .idle → s.gone a = false → s.prog a = .tryRecv :: rest → a = .R →
      Tr s a l { s with prog := upd s.prog a rest, loc := upd s.loc a { k := .tryRecv, m := .rLdOwn, stage := 0, q := quiet s } }
  | cRecv {t rest} : l.m = .idle → s.gone a = false → s.prog a = .recv t :: rest → a = .R →
      Tr s a l { s with prog := upd s.prog a rest, loc := upd s.loc a { k := .recv t, m := .rLdOwn, stage := 1, q := quiet s } }
  | cPoll {f rest} : l.m = .idle → s.gone a = false → s.prog a = .poll f :: rest → a = .R → s.fpend f = true →
      Tr s a l { s with prog := upd s.prog a rest, fwakes := updN s.fwakes f 0,
                        loc := upd s.loc a { k := .poll f, m := .rLdOwn, stage := 1, q := quiet s } }
  | cMkfut {f rest} : l.m = .idle → s.gone a = false → s.prog a = .mkfut f :: rest → a = .R → s.fpend f = false →
      Tr s a l { s with prog := upd s.prog a rest, fpend := updN s.fpend f true, fwakes := updN s.fwakes f 0,
                        loc := upd s.loc a { k := .aux, m := .ret .ok } }
  | cDropfut {f rest} : l.m = .idle → s.gone a = false → s.prog a = .dropfut f :: rest → a = .R →
      Tr s a l { s with prog := upd s.prog a rest, fpend := updN s.fpend f false,
                        loc := upd s.loc a { k := .aux, m := .ret (if s.fpend f ∧ s.fwakes f > 0 then .woken else .ok) } }
  | cWakes {f rest} : l.m = .idle → s.gone a = false → s.prog a = .wakes f :: rest → a = .R →
      Tr s a l { s with prog := upd s.prog a rest, loc := upd s.loc a { k := .aux, m := .ret (.n (s.fwakes f)) } }
  | ret {r} : l.m = .ret r → (∀ f, l.k = .poll f → r = .pending) →
      Tr s a l { s with results := upd s.results a (s.results a ++ [r]), loc := upd s.loc a {} }
  | ret_poll {r f} : l.m = .ret r → l.k = .poll f → r ≠ .pending →
      Tr s a l { s with results := upd s.results a (s.results a ++ [r]), loc := upd s.loc a {}, fpend := updN s.fpend f false }

attribute [grind intro] Tr
attribute [grind =] afterTry_eq

theorem afterClose_cases (l : Loc) : afterClose l = { l with m := .ret .ok } ∨ afterClose l = { l with m := .arcRel } := by
  unfold afterClose; split <;> simp

theorem afterWake_cases (l : Loc) :
    (l.k = .send ∧ afterWake l = { l with m := .sUnlock }) ∨ afterWake l = { l with m := .ret .ok } ∨
    afterWake l = { l with m := .arcRel } := by
  unfold afterWake; split
  · simp_all
  · exact .inr (afterClose_cases l)

theorem tryM_cases (l : Loc) (r : Res) :
    (tryPend l r = false ∧ (tryM l r = .ret r ∨ (l.stage = 1 ∧ r = .empty ∧ tryM l r = .pLdState))) ∨
    (tryPend l r = true ∧ 2 ≤ l.stage ∧ r = .empty ∧ ((∃ t, l.k = .recv t ∧ tryM l r = .park) ∨ tryM l r = .ret .pending)) := by
  unfold tryM tryPend
  split <;> (try split) <;> simp_all <;> omega

grind_pattern afterClose_cases => afterClose l
grind_pattern afterWake_cases => afterWake l
grind_pattern tryM_cases => tryM l r

theorem step_tr {s s' : State} {a : Ag} {lb : Label} (h : step s a lb = some s') : Tr s a (s.loc a) s' := by
  have hw := W.cases5 s.st
  cases lb
  case' act => rcases stepAct_cases h with h | h | h | h | h | h | h | h
  -- every branch of the step function is a constructor of `Tr`, which `grind` finds (`[grind intro]`)
  all_goals
    simp only [step, stepCall, stepRet, stepSpurious, stepSend, stepWk, stepCl, stepX, stepPb, stepTry, stepTry2, stepPoll] at h
    (repeat' split at h) <;> cases h <;> grind [Ag.isS]

theorem Tr.received {s s' : State} {a : Ag} (t : Tr s a (s.loc a) s') :
    s'.received = s.received ∨ (a = .R ∧ (s.loc a).m = .tLock) := by
  cases t <;> first | exact .inl rfl | exact .inr ⟨‹_›, ‹_›⟩

theorem Tr.of_idle {s s' : State} {a : Ag} {l : Loc} (t : Tr s a l s') (hm : l.m = .idle) :
    s' = { s with prog := s'.prog, sval := s'.sval, fwakes := s'.fwakes, fpend := s'.fpend, loc := s'.loc } := by
  cases t <;> first | rfl | simp_all

theorem stepCall_idle {s s' : State} {a : Ag} (h : stepCall s a = some s') : (s.loc a).m = .idle := by
  unfold stepCall at h
  split at h
  · assumption
  · cases h

end Fv.Chan.OneshotB
