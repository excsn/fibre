import Fv.Chan.LeftRightB
/-! Inductive invariant of the left-right component (`Fv.Chan.LeftRightB`). The clauses of `Inv` are kept by
frame rules wherever a step does not write what they read (`inv_keep`, `inv_move`), so that each step argues
only about what it changes. -/
namespace Fv.Chan.LeftRightB

theorem upd_apply {β : Type} (f : Nat → β) (i j : Nat) (a : β) : upd f i a j = if j = i then a else f j := rfl
@[simp] theorem upd_same {β : Type} (f : Nat → β) (i : Nat) (a : β) : upd f i a i = a := by simp [upd]
theorem upd_ne {β : Type} {f : Nat → β} {i j : Nat} (h : j ≠ i) (a : β) : upd f i a j = f j := if_neg h
theorem upd_self {β : Type} (f : Nat → β) (i : Nat) : upd f i (f i) = f := by
  funext j; rw [upd_apply]; split
  · rename_i e; rw [e]
  · rfl

theorem upd_cases {β : Type} {P : β → Prop} {pc : Nat → β} {t : Nat} {p' : β} (u : Nat)
    (ht : u = t → P p') (hne : u ≠ t → P (pc u)) : P (upd pc t p' u) := by
  rw [upd_apply]; split
  · exact ht ‹_›
  · exact hne ‹_›

theorem mirror_upd {β : Type} {M M' : Nat → Prop} {C : β → Prop} {pc : Nat → β} {t : Nat} {p' : β}
    (h : ∀ u, M u ↔ C (pc u)) (hne : ∀ u, u ≠ t → (M' u ↔ M u)) (ht : M' t ↔ C p') (u : Nat) :
    M' u ↔ C (upd pc t p' u) :=
  upd_cases (P := fun p => M' u ↔ C p) u (fun e => e ▸ ht) (fun e => (hne u e).trans (h u))

section
variable {α Op : Type} (ap : Op → α → α)

/-- control states that hold the writer mutex -/
def inW : PC α Op → Bool
  | .wLoad _ | .wMut1 _ _ | .wPub _ _ | .wWait _ _ | .wSpin _ _ | .wMut2 _ _ | .wUnlock => true
  | _ => false

/-- control states that count in `active_readers[i]` -/
def onCopy (i : Nat) : PC α Op → Prop
  | .rChk j => j = i
  | .rBack j => j = i
  | .rHold j _ => j = i
  | _ => False

def waitingOn (i : Nat) : PC α Op → Prop
  | .wWait _ l => l = i
  | .wSpin _ l => l = i
  | _ => False

/-- what each control state knows about the shared cells -/
def stageOK (sh : Sh α) : PC α Op → Prop
  | .wLoad _ => sh.data 0 = sh.data 1
  | .wMut1 _ l => l = sh.live ∧ sh.data 0 = sh.data 1
  | .wPub o l => l = sh.live ∧ sh.data (1 - l) = ap o (sh.data l)
  | .wWait o l => sh.live = 1 - l ∧ l < 2 ∧ sh.data (1 - l) = ap o (sh.data l)
  | .wSpin o l => sh.live = 1 - l ∧ l < 2 ∧ sh.data (1 - l) = ap o (sh.data l)
  | .wMut2 o l => sh.live = 1 - l ∧ l < 2 ∧ sh.data (1 - l) = ap o (sh.data l)
  | .wUnlock => sh.data 0 = sh.data 1
  | .rInc i => i < 2
  | .rChk i => i < 2
  | .rBack i => i < 2
  | .rHold i v => i < 2 ∧ sh.data i = v
  | _ => True

structure Inv (sh : Sh α) (pcs : Nat → PC α Op) : Prop where
  live2 : sh.live < 2
  cnt : ∀ i, sh.readers i = (sh.rset i).length
  nodup : ∀ i, (sh.rset i).Nodup
  mem : ∀ t i, t ∈ sh.rset i ↔ onCopy i (pcs t)
  wl : ∀ t, sh.wlock = some t ↔ inW (pcs t) = true
  free : sh.wlock = none → sh.data 0 = sh.data 1
  stage : ∀ t, stageOK ap sh (pcs t)
  view : ∀ t i v, pcs t = .rHold i v → i ≠ sh.live → ∃ w, waitingOn i (pcs w)

theorem inv_init (a : α) : Inv ap (Sh.init a) (fun _ => (.idle : PC α Op)) := by
  constructor <;> simp [Sh.init, onCopy, inW, stageOK]

/-- what a step of thread `t` does, one constructor per outcome of `step` -/
inductive Eff (sh : Sh α) (t : Nat) : PC α Op → Sh α → PC α Op → Prop
  | rBegin : Eff sh t .idle sh .rLoad
  | rLoad : Eff sh t .rLoad sh (.rInc sh.live)
  | rInc (i : Nat) : Eff sh t (.rInc i)
      { sh with readers := upd sh.readers i (sh.readers i + 1), rset := upd sh.rset i (t :: sh.rset i) } (.rChk i)
  | rGuard (i : Nat) : sh.live = i → Eff sh t (.rChk i) sh (.rHold i (sh.data i))
  | rRetry (i : Nat) : sh.live ≠ i → Eff sh t (.rChk i) sh (.rBack i)
  | rBack (i : Nat) : Eff sh t (.rBack i)
      { sh with readers := upd sh.readers i (sh.readers i - 1), rset := upd sh.rset i ((sh.rset i).erase t) } .rLoad
  | rExit (i : Nat) (v : α) : Eff sh t (.rHold i v)
      { sh with readers := upd sh.readers i (sh.readers i - 1), rset := upd sh.rset i ((sh.rset i).erase t) } .idle
  | wBegin (o : Op) : Eff sh t .idle sh (.wLock o)
  | wLock (o : Op) : sh.wlock = none → Eff sh t (.wLock o) { sh with wlock := some t } (.wLoad o)
  | wLoad (o : Op) : Eff sh t (.wLoad o) sh (.wMut1 o sh.live)
  | wMut1 (o : Op) (l : Nat) : Eff sh t (.wMut1 o l)
      { sh with data := upd sh.data (1 - l) (ap o (sh.data (1 - l))) } (.wPub o l)
  | wPub (o : Op) (l : Nat) : Eff sh t (.wPub o l) { sh with live := 1 - l } (.wWait o l)
  | wDrained (o : Op) (l : Nat) : sh.readers l = 0 → Eff sh t (.wWait o l) sh (.wMut2 o l)
  | wBusy (o : Op) (l : Nat) : sh.readers l ≠ 0 → Eff sh t (.wWait o l) sh (.wSpin o l)
  | wSpin (o : Op) (l : Nat) : Eff sh t (.wSpin o l) sh (.wWait o l)
  | wMut2 (o : Op) (l : Nat) : Eff sh t (.wMut2 o l) { sh with data := upd sh.data l (ap o (sh.data l)) } .wUnlock
  | wUnlock : Eff sh t .wUnlock { sh with wlock := none } .idle

theorem step_eff {sh sh' : Sh α} {t : Nat} {p p' : PC α Op} {l : Label Op}
    (h : step ap sh t p l = some (sh', p')) : Eff ap sh t p sh' p' := by
  cases l <;> simp only [step] at h <;> split at h <;> (try split at h) <;> cases h <;> constructor <;> assumption

theorem Inv.writer_unique {ap : Op → α → α} {sh : Sh α} {pcs : Nat → PC α Op} (hi : Inv ap sh pcs)
    {a b : Nat} (ha : inW (pcs a) = true) (hb : inW (pcs b) = true) : a = b := by
  have := (hi.wl a).2 ha; have := (hi.wl b).2 hb; simp_all

theorem waiting_inW {i : Nat} {p : PC α Op} (h : waitingOn i p) : inW p = true := by
  cases p <;> simp_all [waitingOn, inW]

theorem stageOK_data {sh : Sh α} {p : PC α Op} (j : Nat) (x : α) (hw : inW p = false)
    (hg : ∀ i v, p = .rHold i v → i ≠ j) (h : stageOK ap sh p) :
    stageOK ap { sh with data := upd sh.data j x } p := by
  cases p <;> simp_all [stageOK, inW, upd_apply]

theorem stageOK_live {sh : Sh α} {p : PC α Op} (j : Nat) (hw : inW p = false) (h : stageOK ap sh p) :
    stageOK ap { sh with live := j } p := by
  cases p <;> simp_all [stageOK, inW]

theorem Inv.not_writer_of_ne {ap : Op → α → α} {sh : Sh α} {pcs : Nat → PC α Op} (hi : Inv ap sh pcs)
    {t u : Nat} (ht : inW (pcs t) = true) (hut : u ≠ t) : inW (pcs u) = false := by
  cases hw : inW (pcs u); rfl
  exact absurd (hi.writer_unique hw ht) hut

theorem Inv.waits_for_writer {ap : Op → α → α} {sh : Sh α} {pcs : Nat → PC α Op} (hi : Inv ap sh pcs)
    {t u i : Nat} {v : α} (hu : pcs u = .rHold i v) (hne : i ≠ sh.live) (htw : inW (pcs t) = true) :
    waitingOn i (pcs t) := by
  obtain ⟨w, hw⟩ := hi.view u i v hu hne
  exact hi.writer_unique (waiting_inW hw) htw ▸ hw

theorem inW_not_onCopy {p : PC α Op} (h : inW p = true) (i : Nat) : ¬ onCopy i p := by
  cases p <;> first | exact id | cases h

variable {sh sh' : Sh α} {pcs : Nat → PC α Op} {t : Nat} {p p' : PC α Op}

theorem view_keep (hi : Inv ap sh pcs) (hp : pcs t = p) (hl : sh'.live = sh.live)
    (hng : ∀ i v, p' = .rHold i v → i = sh.live) (hwait : ∀ i, waitingOn i p → waitingOn i p')
    (u i : Nat) (v : α) (hu : upd pcs t p' u = .rHold i v) (hne : i ≠ sh'.live) : ∃ w, waitingOn i (upd pcs t p' w) := by
  rw [hl] at hne
  have hut : u ≠ t := fun e => by rw [e, upd_same] at hu; exact hne (hng i v hu)
  rw [upd_apply, if_neg hut] at hu
  obtain ⟨w, hw⟩ := hi.view u i v hu hne
  exact ⟨w, upd_cases (P := waitingOn i) w (fun e => hwait i (hp ▸ e ▸ hw)) (fun _ => hw)⟩

/-- frame rule: a step that leaves the reader counts and the writer mutex alone keeps the clauses about them;
left to show are those that read `live` and `data` -/
theorem inv_keep (hi : Inv ap sh pcs) (hp : pcs t = p)
    (hr : sh'.readers = sh.readers) (hs : sh'.rset = sh.rset) (hwl : sh'.wlock = sh.wlock)
    (hcopy : ∀ i, onCopy i p' ↔ onCopy i p) (hw : inW p' = inW p)
    (hlive : sh'.live < 2) (hfree : sh'.wlock = none → sh'.data 0 = sh'.data 1)
    (hst : stageOK ap sh' p') (hoth : ∀ u, u ≠ t → stageOK ap sh' (pcs u))
    (hview : ∀ u i v, upd pcs t p' u = .rHold i v → i ≠ sh'.live → ∃ w, waitingOn i (upd pcs t p' w)) :
    Inv ap sh' (upd pcs t p') := by
  subst hp
  refine ⟨hlive, fun i => by rw [hr, hs]; exact hi.cnt i, fun i => by rw [hs]; exact hi.nodup i, fun u i => ?_,
    fun u => ?_, hfree, fun u => upd_cases u (fun _ => hst) (hoth u), hview⟩
  · rw [hs]; exact mirror_upd (hi.mem · i) (fun _ _ => Iff.rfl) ((hi.mem t i).trans (hcopy i).symm) u
  · rw [hwl]; exact mirror_upd (C := fun p => inW p = true) hi.wl (fun _ _ => Iff.rfl) ((hi.wl t).trans (by rw [hw])) u

theorem inv_move (hi : Inv ap sh pcs) (hp : pcs t = p) (hst : stageOK ap sh p')
    (hng : ∀ i v, p' = .rHold i v → i = sh.live := by exact nofun)
    (hcopy : ∀ i, onCopy i p' ↔ onCopy i p := by exact fun _ => Iff.rfl) (hw : inW p' = inW p := by rfl)
    (hwait : ∀ i, waitingOn i p → waitingOn i p' := by exact fun _ a => a) : Inv ap sh (upd pcs t p') :=
  inv_keep ap hi hp rfl rfl rfl hcopy hw hi.live2 hi.free hst (fun u _ => hi.stage u)
    (view_keep ap hi hp rfl hng hwait)

theorem inv_readers (hi : Inv ap sh pcs) (hp : pcs t = p) (i : Nat) (L : List Nat) (hL : L.Nodup)
    (hmem : ∀ u, u ≠ t → (u ∈ L ↔ u ∈ sh.rset i)) (hmt : t ∈ L ↔ onCopy i p')
    (hcopy : ∀ j, j ≠ i → (onCopy j p' ↔ onCopy j p)) (hw : inW p' = inW p) (hst : stageOK ap sh p')
    (hng : ∀ i v, p' ≠ .rHold i v) (hwait : ∀ i, ¬ waitingOn i p) :
    Inv ap { sh with readers := upd sh.readers i L.length, rset := upd sh.rset i L } (upd pcs t p') := by
  subst hp
  refine ⟨hi.live2, fun j => ?_, fun j => ?_, fun u j => ?_, fun u => ?_, hi.free,
    fun u => upd_cases u (fun _ => hst) (fun _ => hi.stage u),
    view_keep ap hi rfl rfl (fun i v e => absurd e (hng i v)) (fun i a => absurd a (hwait i))⟩
  · simp only [upd_apply]; split
    · rfl
    · exact hi.cnt j
  · simp only [upd_apply]; split
    · exact hL
    · exact hi.nodup j
  · simp only [upd_apply]; split
    · rename_i e; subst e; exact mirror_upd (hi.mem · j) hmem hmt u
    · rename_i e; exact mirror_upd (hi.mem · j) (fun _ _ => Iff.rfl) ((hi.mem t j).trans (hcopy j e).symm) u
  · exact mirror_upd (C := fun p => inW p = true) hi.wl (fun _ _ => Iff.rfl) ((hi.wl t).trans (by rw [hw])) u

theorem inv_lock (hi : Inv ap sh pcs) (hp : pcs t = p) (hcopy : ∀ i, onCopy i p' ↔ onCopy i p) (x : Option Nat)
    (hoth : ∀ u, u ≠ t → (x = some u ↔ sh.wlock = some u)) (hxt : x = some t ↔ inW p' = true)
    (hfree : x = none → sh.data 0 = sh.data 1) (hst : stageOK ap sh p')
    (hng : ∀ i v, p' ≠ .rHold i v) (hwait : ∀ i, ¬ waitingOn i p) :
    Inv ap { sh with wlock := x } (upd pcs t p') := by
  subst hp
  exact ⟨hi.live2, hi.cnt, hi.nodup,
    fun u i => mirror_upd (hi.mem · i) (fun _ _ => Iff.rfl) ((hi.mem t i).trans (hcopy i).symm) u,
    mirror_upd (C := fun p => inW p = true) hi.wl hoth hxt, hfree,
    fun u => upd_cases u (fun _ => hst) (fun _ => hi.stage u),
    view_keep ap hi rfl rfl (fun i v e => absurd e (hng i v)) (fun i a => absurd a (hwait i))⟩

theorem inv_mut (hi : Inv ap sh pcs) (hp : pcs t = p) (hw : inW p = true) (hw' : inW p' = true)
    (hwait : ∀ i, ¬ waitingOn i p) (j : Nat) (hj : j ≠ sh.live) (x : α)
    (hst : stageOK ap { sh with data := upd sh.data j x } p') :
    Inv ap { sh with data := upd sh.data j x } (upd pcs t p') := by
  have htw : inW (pcs t) = true := hp ▸ hw
  refine inv_keep ap hi hp rfl rfl rfl
    (fun i => iff_of_false (inW_not_onCopy hw' i) (inW_not_onCopy hw i)) (hw'.trans hw.symm) hi.live2
    (fun e => by rw [show sh.wlock = some t from (hi.wl t).2 htw] at e; cases e) hst (fun u hut => ?_)
    (view_keep ap hi hp rfl (fun i v e => by rw [e] at hw'; cases hw') (fun i a => absurd a (hwait i)))
  refine stageOK_data ap _ _ (hi.not_writer_of_ne htw hut) (fun i v hu e => ?_) (hi.stage u)
  exact hwait i (hp ▸ hi.waits_for_writer hu (e ▸ hj) htw)

theorem inv_step {l : Label Op} (hi : Inv ap sh pcs) (h : step ap sh t (pcs t) l = some (sh', p')) :
    Inv ap sh' (upd pcs t p') := by
  have e := step_eff ap h
  generalize hp : pcs t = p at e
  have hst := hi.stage t
  rw [hp] at hst
  have h2 := hi.live2
  cases e with
  | rBegin | wBegin o => exact inv_move ap hi hp trivial
  | rLoad => exact inv_move ap hi hp h2
  | wLoad o => exact inv_move ap hi hp ⟨rfl, hst⟩
  | rRetry i _ | wBusy o l _ | wSpin o l => exact inv_move ap hi hp hst
  | rGuard i hl =>
    exact inv_move ap hi hp ⟨hst, rfl⟩ (fun _ _ e => by cases e; exact hl.symm)
  | rInc i =>
    have hnot : t ∉ sh.rset i := fun a => by have := (hi.mem t i).1 a; rw [hp] at this; exact this
    rw [hi.cnt i]
    exact inv_readers ap hi hp i (t :: sh.rset i) (List.nodup_cons.2 ⟨hnot, hi.nodup i⟩)
      (fun u hu => by simp [hu]) (by simp [onCopy]) (fun j hj => iff_of_false (Ne.symm hj) id) rfl hst nofun (fun _ a => a)
  | rBack i | rExit i v =>
    have hin : t ∈ sh.rset i := (hi.mem t i).2 (by rw [hp]; rfl)
    rw [hi.cnt i, ← List.length_erase_of_mem hin]
    exact inv_readers ap hi hp i _ ((hi.nodup i).erase t) (fun u hu => List.mem_erase_of_ne hu)
      (iff_of_false (hi.nodup i).not_mem_erase id) (fun j hj => iff_of_false id (Ne.symm hj)) rfl trivial nofun
      (fun _ a => a)
  | wLock o hno =>
    exact inv_lock ap (p' := .wLoad o) hi hp (fun _ => Iff.rfl) (some t) (fun u hu => by simp [hno, Ne.symm hu]) (by simp [inW]) nofun
      (hi.free hno) nofun (fun _ a => a)
  | wUnlock =>
    have hwl : sh.wlock = some t := (hi.wl t).2 (by rw [hp]; rfl)
    exact inv_lock ap (p' := .idle) hi hp (fun _ => Iff.rfl) none (fun u hu => by simp [hwl, Ne.symm hu]) (by simp [inW])
      (fun _ => hst) trivial nofun (fun _ a => a)
  | wMut1 o l =>
    obtain ⟨hl, hd⟩ := hst
    refine inv_mut ap hi hp rfl rfl (fun _ a => a) _ (by omega) _ ⟨hl, ?_⟩
    have : l = 0 ∨ l = 1 := by omega
    rcases this with rfl | rfl <;> simp [upd_apply, hd]
  | wMut2 o l =>
    obtain ⟨hl, hl2, hd⟩ := hst
    refine inv_mut ap hi hp rfl rfl (fun _ a => a) _ (by omega) _ ?_
    have : l = 0 ∨ l = 1 := by omega
    rcases this with rfl | rfl <;> simp_all [stageOK, upd_apply]
  | wPub o l =>
    -- the copy just mutated is published: every guard is now on the other copy, which `t` starts to wait for
    obtain ⟨hl, hd⟩ := hst
    have htw : inW (pcs t) = true := by rw [hp]; rfl
    refine inv_keep ap hi hp rfl rfl rfl (fun _ => Iff.rfl) rfl (by show 1 - l < 2; omega)
      (fun e => by rw [show sh.wlock = some t from (hi.wl t).2 htw] at e; cases e) ⟨rfl, by omega, hd⟩
      (fun u hut => stageOK_live ap _ (hi.not_writer_of_ne htw hut) (hi.stage u)) (fun u i v hu hne => ?_)
    have hut : u ≠ t := fun e => by rw [e, upd_same] at hu; cases hu
    rw [upd_apply, if_neg hut] at hu
    have hi2 := hi.stage u; rw [hu] at hi2
    exact ⟨t, by rw [upd_same]; show l = i; have : i ≠ 1 - l := hne; have := hi2.1; omega⟩
  | wDrained o l hz =>
    -- `readers l = 0`: nobody holds a guard on copy `l`
    have htw : inW (pcs t) = true := by rw [hp]; rfl
    refine inv_keep ap hi hp rfl rfl rfl (fun _ => Iff.rfl) rfl h2 hi.free hst (fun u _ => hi.stage u)
      (fun u i v hu hne => ?_)
    have hut : u ≠ t := fun e => by rw [e, upd_same] at hu; cases hu
    rw [upd_apply, if_neg hut] at hu
    have hw := hi.waits_for_writer hu hne htw
    rw [hp] at hw
    have hw : l = i := hw
    subst hw
    have hm := (hi.mem u l).2 (by rw [hu]; rfl)
    have hc := hi.cnt l; rw [hz] at hc
    rw [List.eq_nil_of_length_eq_zero hc.symm] at hm; cases hm

theorem Inv.snapshot {ap : Op → α → α} (hi : Inv ap sh pcs) {i : Nat} {v : α} (hg : pcs t = .rHold i v) :
    sh.data sh.live = v ∨ ∃ w o, (pcs w = .wWait o i ∨ pcs w = .wSpin o i) ∧ sh.data sh.live = ap o v := by
  have hv : sh.data i = v := by have := hi.stage t; rw [hg] at this; exact this.2
  by_cases hl : i = sh.live
  · left; rw [← hl]; exact hv
  · right
    obtain ⟨w, hw⟩ := hi.view t i v hg hl
    have hst := hi.stage w
    cases hp : pcs w <;> rw [hp] at hw hst <;> simp only [waitingOn] at hw
    · subst hw; exact ⟨w, _, Or.inl hp, by rw [hst.1, hst.2.2, hv]⟩
    · subst hw; exact ⟨w, _, Or.inr hp, by rw [hst.1, hst.2.2, hv]⟩

theorem inv_reach {a : α} {s : Sys α Op} (h : Reach ap a s) : Inv ap s.sh s.pcs := by
  induction h with
  | init => exact inv_init ap a
  | step _ hs ih =>
    rename_i s s' t l _
    unfold Sys.step at hs
    split at hs
    · rename_i sh' p' he
      simp at hs; subst hs
      exact inv_step ap ih he
    · simp at hs

end
end Fv.Chan.LeftRightB
