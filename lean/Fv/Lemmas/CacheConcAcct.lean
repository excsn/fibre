import Fv.Lemmas.CacheConc
/-! Accounting invariant of the concurrent cache model:
`current_cost + (adjustments in-flight operations still owe) = Σ resident cost + drift`.
The ghost `drift` changes in one kind of step only (a capacity pass whose policy-reported released cost
differs from what it removed), and `dirty = false → drift = 0`.  With `capacity = u64::MAX` the capacity
pass never gets past its load of `current_cost`, so `drift` never changes. -/
namespace Fv.Cache.Conc

structure InvA (c : Cfg) (s : State) : Prop where
  fresh : ∀ t, c.nThreads ≤ t → s.pc t = .idle
  domNodup : s.dom.Nodup
  domCover : ∀ k, s.map k ≠ none → k ∈ s.dom
  acct : s.cur + pendingAdj c s = residentCost s + s.drift
  clean : s.dirty = false → s.drift = 0

theorem invA_init (c : Cfg) : InvA c init := by
  refine ⟨by simp [init], by simp [init], by simp [init], ?_, by simp [init]⟩
  simp only [pendingAdj, residentCost, init]
  rw [sumF_zero (by intros; rfl)]; rfl

@[simp] theorem adj_idle  : adj (.idle ) = 0 := rfl
@[simp] theorem adj_done {r} : adj (.done r) = 0 := rfl
@[simp] theorem adj_rd {k p} : adj (.rd k p) = 0 := rfl
@[simp] theorem adj_ins {k v c e l} : adj (.ins k v c e l) = 0 := rfl
@[simp] theorem adj_insSub {k} {c} {old} : adj (.insSub k c old) = (c : Int) - old := rfl
@[simp] theorem adj_insEv {k} {c} : adj (.insEv k c) = (c : Int) := rfl
@[simp] theorem adj_insAdd {k} {c} : adj (.insAdd k c) = (c : Int) := rfl
@[simp] theorem adj_insMaint {k} : adj (.insMaint k) = 0 := rfl
@[simp] theorem adj_rm {k} : adj (.rm k) = 0 := rfl
@[simp] theorem adj_rmPol {k} {v} {c} {rid} : adj (.rmPol k v c rid) = - (c : Int) := rfl
@[simp] theorem adj_rmSub {k} {v} {c} {rid} : adj (.rmSub k v c rid) = - (c : Int) := rfl
@[simp] theorem adj_rmNote {k} {v} {rid} : adj (.rmNote k v rid) = 0 := rfl
@[simp] theorem adj_cmp {k} {d} {l} : adj (.cmp k d l) = 0 := rfl
@[simp] theorem adj_oi {k} {v} {c} : adj (.oi k v c) = 0 := rfl
@[simp] theorem adj_oiEv {k} {v} {c} : adj (.oiEv k v c) = (c : Int) := rfl
@[simp] theorem adj_oiAdd {k} {v} {c} : adj (.oiAdd k v c) = (c : Int) := rfl
@[simp] theorem adj_clr {a p} : adj (.clr a p) = 0 := rfl
@[simp] theorem adj_mLock {a} {b} {f} : adj (.mLock a b f) = 0 := rfl
@[simp] theorem adj_mDrain {m} {l} {a} : adj (.mDrain m l a) = 0 := rfl
@[simp] theorem adj_mAdmit {m} {ws} : adj (.mAdmit m ws) = 0 := rfl
@[simp] theorem adj_mVictim {m} {ws} {vs} {tot} {ns} : adj (.mVictim m ws vs tot ns) = - (tot : Int) := rfl
@[simp] theorem adj_mSub {m} {ws} {tot} {ns} : adj (.mSub m ws tot ns) = - (tot : Int) := rfl
@[simp] theorem adj_mNote {m} {ws} {ns} : adj (.mNote m ws ns) = 0 := rfl
@[simp] theorem adj_mTtl {m} : adj (.mTtl m) = 0 := rfl
@[simp] theorem adj_mTtlMap {m} {e} : adj (.mTtlMap m e) = 0 := rfl
@[simp] theorem adj_mTti {m} : adj (.mTti m) = 0 := rfl
@[simp] theorem adj_mCapLoad {m} : adj (.mCapLoad m) = 0 := rfl
@[simp] theorem adj_mCapEvict {m} {n} : adj (.mCapEvict m n) = 0 := rfl
@[simp] theorem adj_mCapMap {m} {v} {r} : adj (.mCapMap m v r) = 0 := rfl
@[simp] theorem adj_mCapSub {m} {r} : adj (.mCapSub m r) = - (r : Int) := rfl
@[simp] theorem adj_mUnlock {m} : adj (.mUnlock m) = 0 := rfl
@[simp] theorem adj_afterWrites (m : MCtx) : adj (afterWrites m) = 0 := by unfold afterWrites; split <;> rfl
@[simp] theorem adj_nextAdmit (m : MCtx) (ws) : adj (nextAdmit m ws) = 0 := by
  cases ws <;> simp [nextAdmit]
@[simp] theorem adj_startDrain (m : MCtx) (l) : adj (startDrain m l) = 0 := by
  unfold startDrain; split <;> simp
@[simp] theorem adj_afterSub (m : MCtx) (ws ns) : adj (afterSub m ws ns) = 0 := by
  cases ns <;> simp [afterSub]
@[simp] theorem adj_afterVictim (m : MCtx) (ws vs tot ns) : adj (afterVictim m ws vs tot ns) = - (tot : Int) := by
  cases vs <;> rfl
@[simp] theorem adj_startPC (c : Cfg) (n : Nat) (op : Op) : adj (startPC c n op) = 0 := by cases op <;> rfl

theorem pend_upd (n : Nat) (pc : Nat → PC) (t : Nat) (x : PC) (ht : t < n) :
    sumF (List.range n) (fun u => adj (upd pc t x u)) = sumF (List.range n) (fun u => adj (pc u)) - adj (pc t) + adj x := by
  have e : (fun u => adj (upd pc t x u)) = upd (fun u => adj (pc u)) t (adj x) := by
    funext u; simp only [upd]; split <;> rfl
  rw [e, sumF_upd_of_mem List.nodup_range (by simp [ht])]

theorem addDom_nodup {d : List Nat} (k : Nat) (h : d.Nodup) : (addDom d k).Nodup := by
  unfold addDom; split
  · exact h
  · exact List.nodup_cons.mpr ⟨by assumption, h⟩

theorem mem_addDom {d : List Nat} {k j : Nat} : j ∈ addDom d k ↔ j = k ∨ j ∈ d := by
  unfold addDom; split
  · exact ⟨Or.inr, fun h => h.elim (· ▸ ‹k ∈ d›) id⟩
  · simp

theorem res_upd (dom : List Nat) (m : Nat → Option Entry) (k : Nat) (e : Option Entry)
    (hn : dom.Nodup) (hc : ∀ j, m j ≠ none → j ∈ dom) :
    sumF (addDom dom k) (fun j => costAt (upd m k e j)) = sumF dom (fun j => costAt (m j)) - costAt (m k) + costAt e := by
  have e1 : (fun j => costAt (upd m k e j)) = upd (fun j => costAt (m j)) k (costAt e) := by
    funext j; simp only [upd]; split <;> rfl
  rw [e1]
  unfold addDom; split
  · rename_i hk; rw [sumF_upd_of_mem hn hk]
  · rename_i hk
    have : m k = none := Classical.byContradiction fun h => hk (hc k h)
    rw [sumF_cons, upd_same, sumF_upd_of_not_mem hk, this]; simp [costAt]; omega

theorem InvA.lt {c : Cfg} {s : State} (hi : InvA c s) {t : Nat} (h : s.pc t ≠ .idle) : t < c.nThreads :=
  Classical.byContradiction fun hn => h (hi.fresh t (by omega))

theorem rest_of_quiescent {c : Cfg} {s : State} (hi : InvA c s) (hq : Quiescent c s) (t : Nat) :
    isRest (s.pc t) = true :=
  if ht : t < c.nThreads then hq t ht else by rw [hi.fresh t (by omega)]; rfl

theorem InvA.step {c : Cfg} {s s' : State} (hi : InvA c s) {t : Nat} (ht : t < c.nThreads) (x : PC)
    (hpc : s'.pc = upd s.pc t x) (hdn : s'.dom.Nodup) (hdc : ∀ k, s'.map k ≠ none → k ∈ s'.dom)
    (hc : s'.cur + adj x + residentCost s + s.drift = s.cur + adj (s.pc t) + residentCost s' + s'.drift)
    (hcl : s'.dirty = false → s'.drift = 0) : InvA c s' := by
  refine ⟨fun u hu => ?_, hdn, hdc, ?_, hcl⟩
  · rw [hpc, upd_other _ _ _ _ (by omega)]; exact hi.fresh u hu
  · have := hi.acct
    simp only [pendingAdj] at *
    rw [hpc, pend_upd _ _ _ _ ht]; omega

theorem InvA.nomap {c : Cfg} {s s' : State} (hi : InvA c s) {t : Nat} (ht : t < c.nThreads) (x : PC)
    (hpc : s'.pc = upd s.pc t x) (hm : s'.map = s.map) (hd : s'.dom = s.dom)
    (hdr : s'.drift = s.drift) (hdi : s'.dirty = s.dirty)
    (hc : s'.cur + adj x = s.cur + adj (s.pc t)) : InvA c s' :=
  hi.step ht x hpc (hd ▸ hi.domNodup) (hm ▸ hd ▸ hi.domCover) (by simp only [residentCost, hm, hd, hdr]; omega)
    (hdi ▸ hdr ▸ hi.clean)

theorem InvA.upd1 {c : Cfg} {s s' : State} (hi : InvA c s) {t : Nat} (ht : t < c.nThreads) (x : PC)
    (hpc : s'.pc = upd s.pc t x) (k : Nat) (e : Option Entry) (hm : s'.map = upd s.map k e)
    (hd : s'.dom = addDom s.dom k)
    (hdr : s'.drift = s.drift) (hdi : s'.dirty = s.dirty)
    (hc : s'.cur + adj x + costAt (s.map k) = s.cur + adj (s.pc t) + costAt e) : InvA c s' := by
  refine hi.step ht x hpc (hd ▸ addDom_nodup k hi.domNodup) (fun j hj => ?_) ?_ (hdi ▸ hdr ▸ hi.clean)
  · rw [hd, mem_addDom]; rw [hm, upd_apply] at hj
    split at hj
    · left; assumption
    · right; exact hi.domCover j hj
  · simp only [residentCost, hm, hd, hdr, res_upd _ _ _ _ hi.domNodup hi.domCover]; omega

theorem addDom_of_res {c : Cfg} {s : State} (hi : InvA c s) {k : Nat} {e : Entry} (h : s.map k = some e) :
    s.dom = addDom s.dom k := by
  simp [addDom, hi.domCover k (by simp [h])]

theorem InvA.removeKeys {c : Cfg} {s s' : State} (hi : InvA c s) {t : Nat} (ht : t < c.nThreads) (x : PC)
    (hpc : s'.pc = upd s.pc t x) (nsh sh : Nat) (ks : List Nat)
    (hm : s'.map = (removeKeys nsh sh s.map ks).1) (hd : s'.dom = s.dom)
    (hc : s'.cur + adj x + removedCost (removeKeys nsh sh s.map ks).2 + s.drift = s.cur + adj (s.pc t) + s'.drift)
    (hdi : s'.dirty = false → s'.drift = 0) : InvA c s' := by
  refine hi.step ht x hpc (hd ▸ hi.domNodup) (fun j hj => ?_) ?_ hdi
  · rw [hd]; exact hi.domCover j fun h0 => hj (hm ▸ removeKeys_none _ _ _ _ _ h0)
  · simp only [residentCost, hm, hd, removeKeys_cost _ _ _ _ _ hi.domNodup hi.domCover]; omega

theorem invA_step {c : Cfg} {s s' : State} {t : Nat} {l : Label} {a : PC} (hi : InvA c s) (hpc : s.pc t = a)
    (h : Step c s t a l s') : InvA c s' := by
  have ht : s.pc t ≠ .idle → t < c.nThreads := hi.lt
  cases h with
  | advance => exact ⟨hi.fresh, hi.domNodup, hi.domCover, hi.acct, hi.clean⟩
  | cmpRetry => exact hi
  | call ht | recall ht => exact hi.nomap ht _ rfl rfl rfl rfl rfl (by simp [hpc])
  -- the map sections that bind a key …
  | insOver | insNew | oiVacant =>
    exact hi.upd1 (ht (by simp [*])) _ rfl _ _ rfl rfl rfl rfl (by simp [*, costAt] <;> omega)
  -- … and those that change or remove a resident binding
  | readHit | readRefresh | rmHit | cmpDone | victim =>
    exact hi.upd1 (ht (by simp [*])) _ rfl _ _ rfl (addDom_of_res hi ‹_›) rfl rfl (by simp [*, costAt] <;> omega)
  -- TTL / TTI cleanup subtracts what it removes inside its section
  | ttlMap | ttiMap => exact hi.removeKeys (ht (by simp [*])) _ rfl _ _ _ rfl rfl (by simp [*] <;> omega) hi.clean
  -- the capacity pass's map section: `drift` moves, and `dirty` records it
  | capMap =>
    exact hi.removeKeys (ht (by simp [*])) _ rfl _ _ _ rfl rfl (by simp [*] <;> omega) fun hd => by
      simp at hd; have := hi.clean hd.1; simp only []; omega
  | clear =>
    exact hi.step (ht (by simp [*])) _ rfl hi.domNodup (by simp)
      (by simp [*, residentCost, sumF_zero (l := s.dom) (f := fun _ => costAt none) (by intros; rfl)]) hi.clean
  -- the steps outside the map sections: what is added to `current_cost` comes off what the thread owes
  | _ => exact hi.nomap (ht (by simp [*])) _ rfl rfl rfl rfl rfl (by simp [*] <;> omega)

theorem invA_reach {c : Cfg} {s : State} (h : Reach c s) : InvA c s := h.inv (invA_init c) invA_step

def capPC : PC → Bool
  | .mCapEvict _ _ => true
  | .mCapMap _ _ _ => true
  | .mCapSub _ _ => true
  | _ => false

@[simp] theorem capPC_afterWrites (m : MCtx) : capPC (afterWrites m) = false := by unfold afterWrites; split <;> rfl
@[simp] theorem capPC_nextAdmit (m : MCtx) (ws) : capPC (nextAdmit m ws) = false := by
  cases ws <;> first | exact capPC_afterWrites _ | rfl
@[simp] theorem capPC_startDrain (m : MCtx) (l) : capPC (startDrain m l) = false := by
  unfold startDrain; split <;> first | exact capPC_nextAdmit _ _ | rfl
@[simp] theorem capPC_afterSub (m : MCtx) (ws ns) : capPC (afterSub m ws ns) = false := by
  cases ns <;> first | exact capPC_nextAdmit _ _ | rfl
@[simp] theorem capPC_afterVictim (m : MCtx) (ws vs tot ns) : capPC (afterVictim m ws vs tot ns) = false := by
  cases vs <;> rfl
@[simp] theorem capPC_startPC (c : Cfg) (n : Nat) (op : Op) : capPC (startPC c n op) = false := by cases op <;> rfl

structure InvU (s : State) : Prop where
  nocap : ∀ t, capPC (s.pc t) = false
  clean : s.dirty = false

theorem invU_init : InvU init := ⟨fun _ => rfl, rfl⟩

theorem obs_lt (s : State) : obs s < 18446744073709551616 := by
  unfold obs two64
  have h1 : (0 : Int) ≤ s.cur % 18446744073709551616 := Int.emod_nonneg _ (by decide)
  have h2 : s.cur % 18446744073709551616 < 18446744073709551616 := Int.emod_lt_of_pos _ (by decide)
  omega

theorem InvU.frame {s s' : State} (hi : InvU s) (t : Nat) (x : PC) (hpc : s'.pc = upd s.pc t x)
    (hx : capPC x = false) (hd : s'.dirty = s.dirty) : InvU s' := by
  refine ⟨?_, by rw [hd]; exact hi.clean⟩
  intro u; rw [hpc, upd_apply]; split
  · exact hx
  · exact hi.nocap u

theorem invU_step {c : Cfg} (hc : 18446744073709551615 ≤ c.capacity) {s s' : State} {t : Nat} {l : Label} {a : PC}
    (hi : InvU s) (hpc : s.pc t = a) (h : Step c s t a l s') : InvU s' := by
  cases h with
  | advance => exact ⟨hi.nocap, hi.clean⟩
  | cmpRetry => exact hi
  -- the capacity pass stops at its load of `current_cost` …
  | capOver => exact absurd (obs_lt s) (by omega)
  -- … so no thread is in its evicting part
  | capNone | capEvict | capMap | capSub => exact absurd (hi.nocap t) (by simp [hpc, capPC])
  | _ => exact hi.frame _ _ rfl (by first | rfl | simp) rfl

theorem invU_reach {c : Cfg} (hc : 18446744073709551615 ≤ c.capacity) {s : State} (h : Reach c s) : InvU s :=
  h.inv invU_init (invU_step hc)

end Fv.Cache.Conc
