import Fv.Lemmas.ChanSeq
/-!
Teardown (C09): in a sequential program the buffer is empty once every handle object is gone —
`TD`. The last `drop` (or the consuming oneshot `send`) runs the shared state's destructor
(`teardownIfLast`), and without a handle no operation can reach the channel any more.
-/
namespace Fv.Chan
open List

def TD (s : St) : Prop := s.hs = [] → s.buf = []

theorem TD_teardownIfLast (s : St) : TD (teardownIfLast s) := by
  unfold teardownIfLast TD
  split
  · intro _; rfl
  · rename_i h; intro he; simp [he] at h

theorem findH_nil (h : HName) : findH [] h = none := rfl

theorem TD_of_hs {s s' : St} (h : s'.hs = s.hs) (hne : s.hs ≠ []) : TD s' := by
  intro he; rw [h] at he; exact absurd he hne

theorem TD_of_same {s s' : St} (h : TD s) (h1 : s'.hs = s.hs) (h2 : s'.buf = s.buf) : TD s' := by
  intro he; rw [h2]; exact h (h1 ▸ he)

theorem osDecSenders_hs (s : St) : (osDecSenders s).hs = s.hs := by
  unfold osDecSenders; simp only []; (repeat' split) <;> rfl

theorem teardownIfLast_hs (s : St) : (teardownIfLast s).hs = s.hs := by
  unfold teardownIfLast; split <;> rfl

theorem closeEffect_hs (fl s side) : (closeEffect fl s side).hs = s.hs := by
  unfold closeEffect osDecSenders
  cases side <;> cases fl.fam <;> simp only [] <;> (repeat' split) <;> rfl

theorem failSend_hs (fl s f tag sent rest) : (failSend fl s f tag sent rest).1.hs = s.hs := by
  unfold failSend; split <;> rfl

theorem rvSendStep_hs (fl s t f h v) : (rvSendStep fl s t f h v).1.hs = s.hs := by
  unfold rvSendStep
  split
  · exact failSend_hs ..
  · split
    · split <;> rfl
    · split
      · rfl
      · exact failSend_hs ..

theorem rvRecvStart_hs (s t f hd) : (rvRecvStart s t f hd).1.hs = s.hs := by
  unfold rvRecvStart; (repeat' split) <;> rfl

theorem osTryRecv_hs (s hd) : (osTryRecv s hd).1.hs = s.hs := by
  unfold osTryRecv; (repeat' split) <;> rfl

theorem osRecvStep_hs {s hd s' p'} (hs : osRecvStep s hd = some (s', p')) : s'.hs = s.hs := by
  unfold osRecvStep at hs
  split at hs
  · cases hs; exact osTryRecv_hs s hd
  · split at hs
    · cases hs; exact osTryRecv_hs s hd
    · cases hs

theorem stgStep_hs {fl s t k h sent rest s' p'} (hs : stgStep fl s t k h sent rest = some (s', p')) : s'.hs = s.hs := by
  unfold stgStep at hs
  split at hs
  · split at hs
    · cases hs; rw [teardownIfLast_hs, osDecSenders_hs]; rfl
    · cases hs; rfl
  · split at hs
    · split at hs
      · split at hs
        · cases hs; rfl
        · cases hs
      · cases hs
    · split at hs
      · cases hs; rw [teardownIfLast_hs, osDecSenders_hs]
      · split at hs
        · cases hs; rfl
        · split at hs
          · cases hs; rw [teardownIfLast_hs]
          · cases hs

theorem microDet_hs {op : Op} {fl cfg s p s' p'} (hp : NF p) (hi : PInv op p) (hs : microDet fl cfg s p = some (s', p')) :
    s'.hs = s.hs := by
  cases p with
  | fresh t op => exact hp.elim
  | bsend t f h sent rest q => exact congrArg Shell.hs (micro_send hi trivial (microDet_mem hs)).pushed.shell
  | bsendEnd t f sent rest => exact congrArg Shell.hs (micro_send hi trivial (microDet_mem hs)).pushed.shell
  | brecv t f h n got => exact congrArg Shell.hs (micro_recv hi trivial (microDet_mem hs)).popped.shell
  | rvSend t v =>
    simp only [microDet] at hs
    split at hs
    · cases hs; rfl
    · split at hs <;> cases hs; rfl
  | rvRecv t =>
    simp only [microDet] at hs
    split at hs
    · cases hs; rfl
    · split at hs <;> cases hs; rfl
  | rvTo t stage =>
    simp only [microDet] at hs
    split at hs
    · split at hs
      · cases hs; rfl
      · split at hs <;> (cases hs; rfl)
    · cases hs; rfl
  | osRecv t h =>
    simp only [microDet] at hs
    split at hs
    · cases hs
    · exact osRecvStep_hs hs
  | stg t k h sent rest => exact stgStep_hs hs
  | fin o => simp [microDet] at hs

theorem setH_ne_nil {hs : List Handle} (h : hs ≠ []) (n f) : setH hs n f ≠ [] := by
  unfold setH; intro he; exact h (map_eq_nil_iff.mp he)

theorem start_noHandle (fl cfg) {s : St} (h : s.hs = []) (t op) :
    start fl cfg s t op = (s, .fin { tag := .noHandle }) := by
  cases op <;> simp [start, startSend, startRecv, startClone, startClose, startCloseSb, startDrop, startDropSb,
    startProbe, startConvert, h, findH_nil]

theorem start_hs (fl cfg s t op) (hg : cfg.granular = false) (hne : s.hs ≠ []) :
    (start fl cfg s t op).1.hs = s.hs ∨ ((∃ o, (start fl cfg s t op).2 = .fin o) ∧ TD (start fl cfg s t op).1) := by
  have conv : ∀ h b, (startConvert fl s h b).1.hs = s.hs ∨
      ((∃ o, (startConvert fl s h b).2 = .fin o) ∧ TD (startConvert fl s h b).1) := by
    intro h b
    unfold startConvert
    split
    · exact .inl rfl
    · split
      · exact .inl rfl
      · refine .inr ⟨⟨_, rfl⟩, fun he => absurd he ?_⟩
        split <;> exact setH_ne_nil hne _ _
  cases op with
  | snd f h vs =>
    simp only [start]; unfold startSend
    split
    · exact .inl rfl
    · rename_i hd hf
      split
      · exact .inl rfl
      · split
        · split
          · unfold osSendStart
            simp only [hg, Bool.false_eq_true, false_and, if_false]
            unfold osSendStep osSendFinish
            split
            · exact .inr ⟨⟨_, rfl⟩, TD_teardownIfLast _⟩
            · split <;> exact .inr ⟨⟨_, rfl⟩, TD_teardownIfLast _⟩
          · exact .inl rfl
        · split
          · split
            · exact .inl (failSend_hs ..)
            · exact .inl (rvSendStep_hs ..)
          · exact .inl rfl
        · exact .inl (congrArg Shell.hs (startSendBuf_step fl cfg s t f h hd vs).pushed.shell)
  | rcv f h n =>
    simp only [start]; unfold startRecv
    split
    · exact .inl rfl
    · rename_i hd hf
      split
      · exact .inl rfl
      · split
        · exact .inl rfl
        · exact .inl rfl
        · split
          · split
            · exact .inl (osTryRecv_hs s hd)
            · split
              · rename_i r hr
                exact .inl (osRecvStep_hs (by rw [hr] : osRecvStep s hd = some (r.1, r.2)))
              · exact .inl rfl
          · exact .inl (rvRecvStart_hs ..)
          · split
            · rename_i r hr
              exact .inl (congrArg Shell.hs (recvStep_step (op := .rcv f h n) rfl
                (by rw [hr] : recvStep fl cfg s t f hd n [] = some (r.1, r.2))).popped.shell)
            · exact .inl (congrArg Shell.hs (mbFlush_still fl s).same.shell)
  | clone h h' =>
    simp only [start]; unfold startClone
    split
    · exact .inl rfl
    · exact .inl rfl
    · split
      · exact .inl rfl
      · refine .inr ⟨⟨_, rfl⟩, fun he => absurd he ?_⟩
        cases h.side <;> simp
  | close h =>
    simp only [start, hg, Bool.false_eq_true, false_and, if_false]; unfold startClose
    split
    · exact .inl rfl
    · split
      · exact .inl rfl
      · refine .inr ⟨⟨_, rfl⟩, fun he => absurd he ?_⟩
        rw [closeEffect_hs]
        exact setH_ne_nil hne _ _
  | drop h =>
    simp only [start, hg, Bool.false_eq_true, false_and, if_false]; unfold startDrop
    split
    · exact .inl rfl
    · exact .inr ⟨⟨_, rfl⟩, TD_teardownIfLast _⟩
  | probe p h =>
    simp only [start]; unfold startProbe
    split
    · exact .inl rfl
    · split <;> exact .inl rfl
  | toAsync h => exact conv h true
  | toSync h => exact conv h false

theorem stepOp_TD {fl s} (htd : TD s) (op : Op) : TD (stepOp fl s op).1 := by
  show TD (stepOpS fl s op).1
  rw [stepOpS_eq]
  by_cases hne : s.hs = []
  · rw [start_noHandle fl seqCfg hne, runPS_fin]; exact htd
  · rcases start_hs fl seqCfg s 0 op rfl hne with h1 | ⟨⟨o, ho⟩, h⟩
    · -- the handle table stays as it is, non-empty, while the operation runs on
      obtain ⟨_, _, h0⟩ := start_step fl seqCfg s 0 op
      have := runPS_induct (fl := fl) (cfg := seqCfg)
        (C := fun s' p' => s'.hs = (start fl seqCfg s 0 op).1.hs ∧ NF p' ∧ PInv op p')
        (fun h hm => have k := (micro_step h.2.2 (microDet_mem hm)).choose_spec.2
          ⟨(microDet_hs h.2.1 h.2.2 hm).trans h.1, k.nf, k.pinv⟩) (op.size + 3) _ _ ⟨rfl, h0.nf, h0.pinv⟩
      exact TD_of_hs (this.1.trans h1) hne
    · rw [ho, runPS_fin]; exact h

theorem runOps_TD {fl} : ∀ (ops : List Op) {s : St}, TD s → TD (runOps fl s ops)
  | [], _, h => h
  | op :: r, _, h => runOps_TD r (stepOp_TD h op)

theorem init_TD (fl : Flavour) : TD (init fl) := fun h => by simp [init] at h

end Fv.Chan
