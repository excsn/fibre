import Fv.Chan.ChainB
/-! Basic lemmas for the slab-chain model: node counting (`cnt`, `live`), the observers through which the invariant reads
program counters and slab states, and what `sealNodes` / `freeNodes` / `publishNodes` / `leaveNode` do to a node. -/
namespace Fv.Chan.ChainB

theorem upd_apply {κ α} [DecidableEq κ] (f : κ → α) (i j : κ) (a : α) :
    upd f i a j = if j = i then a else f j := rfl
@[simp] theorem upd_same {κ α} [DecidableEq κ] (f : κ → α) (i : κ) (a : α) : upd f i a i = a := by simp [upd]
theorem upd_other {κ α} [DecidableEq κ] (f : κ → α) (i j : κ) (a : α) (h : j ≠ i) : upd f i a j = f j := by
  simp [upd, h]

theorem upd2_apply {α} (f : Nat → Nat → α) (i j i' j' : Nat) (a : α) :
    upd2 f i j a i' j' = if i' = i ∧ j' = j then a else f i' j' := rfl

theorem pool_pop {l : List Nat} {b : Nat} (h : l.getLast? = some b) : l = l.dropLast ++ [b] := by
  obtain ⟨ys, e⟩ := List.getLast?_eq_some_iff.1 h
  subst e; simp

theorem pool_pop_nodup {l : List Nat} {b : Nat} (h : l.getLast? = some b) (hn : l.Nodup) :
    l.dropLast.Nodup ∧ b ∉ l.dropLast ∧ ∀ x, x ∈ l ↔ (x ∈ l.dropLast ∨ x = b) := by
  have e := pool_pop h
  rw [e] at hn
  rw [List.nodup_append] at hn
  refine ⟨hn.1, ?_, ?_⟩
  · intro hm; exact hn.2.2 b hm b (by simp) rfl
  · intro x; conv => lhs; rw [e]
    simp

def cnt : Nat → (Nat → Bool) → Nat
  | 0, _ => 0
  | n + 1, p => cnt n p + (if p n then 1 else 0)

theorem cnt_congr {n : Nat} {p q : Nat → Bool} (h : ∀ i, i < n → p i = q i) : cnt n p = cnt n q := by
  induction n with
  | zero => rfl
  | succ n ih =>
    simp only [cnt]
    rw [ih (fun i hi => h i (by omega)), h n (by omega)]

theorem cnt_le (n : Nat) (p : Nat → Bool) : cnt n p ≤ n := by
  induction n with
  | zero => simp [cnt]
  | succ n ih => simp only [cnt]; split <;> omega

theorem cnt_all {n : Nat} {p : Nat → Bool} (h : ∀ i, i < n → p i = true) : cnt n p = n := by
  induction n with
  | zero => rfl
  | succ n ih =>
    simp only [cnt]
    rw [ih (fun i hi => h i (by omega)), h n (by omega)]; simp

theorem cnt_zero {n : Nat} {p : Nat → Bool} (h : cnt n p = 0) : ∀ i, i < n → p i = false := by
  induction n with
  | zero => intro i hi; omega
  | succ n ih =>
    simp only [cnt] at h
    intro i hi
    by_cases hn : i = n
    · subst hn; cases hp : p i <;> simp_all
    · exact ih (by omega) i (by omega)

theorem cnt_none {n : Nat} {p : Nat → Bool} (h : ∀ i, i < n → p i = false) : cnt n p = 0 := by
  induction n with
  | zero => rfl
  | succ n ih =>
    simp only [cnt]
    rw [ih (fun i hi => h i (by omega)), h n (by omega)]; simp

theorem cnt_flip {n i : Nat} {p q : Nat → Bool} (hi : i < n) (hp : p i = true) (hq : q i = false)
    (ho : ∀ j, j ≠ i → q j = p j) : cnt n p = cnt n q + 1 := by
  induction n with
  | zero => omega
  | succ n ih =>
    simp only [cnt]
    by_cases hn : i = n
    · subst hn
      rw [hp, hq, cnt_congr (p := p) (q := q) (fun j hj => (ho j (by omega)).symm)]; simp
    · rw [ih (by omega), ho n (by omega)]; omega

theorem cnt_tail {n u : Nat} {p q : Nat → Bool} (hu : u ≤ n) (hlo : ∀ i, i < u → q i = p i)
    (hp : ∀ i, u ≤ i → i < n → p i = true) (hq : ∀ i, u ≤ i → i < n → q i = false) :
    cnt n p = cnt n q + (n - u) := by
  induction n with
  | zero => simp [cnt]
  | succ n ih =>
    simp only [cnt]
    by_cases hn : u = n + 1
    · subst hn
      rw [cnt_congr (p := p) (q := q) (fun j hj => (hlo j (by omega)).symm), hlo n (by omega)]; simp
    · rw [ih (by omega) (fun i h1 h2 => hp i h1 (by omega)) (fun i h1 h2 => hq i h1 (by omega)),
          hp n (by omega) (by omega), hq n (by omega) (by omega)]
      simp; omega

/-- nodes of slab `b` not yet retired in its current incarnation -/
def live (cfg : Cfg) (nst : NodeId → NodeSt) (b : Nat) : Nat :=
  cnt cfg.N (fun i => decide (nst (.nd b i) ≠ .retired))

theorem live_congr {cfg : Cfg} {nst nst' : NodeId → NodeSt} {b : Nat}
    (h : ∀ i, i < cfg.N → (nst' (.nd b i) = .retired ↔ nst (.nd b i) = .retired)) :
    live cfg nst' b = live cfg nst b := by
  unfold live
  apply cnt_congr
  intro i hi
  have := h i hi
  by_cases h1 : nst (.nd b i) = .retired <;> simp_all

theorem live_flip {cfg : Cfg} {nst nst' : NodeId → NodeSt} {b i : Nat} (hi : i < cfg.N)
    (h0 : nst (.nd b i) ≠ .retired) (h1 : nst' (.nd b i) = .retired)
    (ho : ∀ j, j ≠ i → nst' (.nd b j) = nst (.nd b j)) : live cfg nst b = live cfg nst' b + 1 := by
  unfold live
  apply cnt_flip hi
  · simpa using h0
  · simpa using h1
  · intro j hj; rw [ho j hj]

theorem live_tail {cfg : Cfg} {nst nst' : NodeId → NodeSt} {b u : Nat} (hu : u ≤ cfg.N)
    (hlo : ∀ i, i < u → nst' (.nd b i) = nst (.nd b i))
    (h0 : ∀ i, u ≤ i → i < cfg.N → nst (.nd b i) ≠ .retired)
    (h1 : ∀ i, u ≤ i → i < cfg.N → nst' (.nd b i) = .retired) :
    live cfg nst b = live cfg nst' b + (cfg.N - u) := by
  unfold live
  apply cnt_tail hu
  · intro i hi; rw [hlo i hi]
  · intro i h1' h2; simpa using h0 i h1' h2
  · intro i h1' h2; simpa using h1 i h1' h2

theorem live_all {cfg : Cfg} {nst : NodeId → NodeSt} {b : Nat}
    (h : ∀ i, i < cfg.N → nst (.nd b i) ≠ .retired) : live cfg nst b = cfg.N := by
  unfold live
  apply cnt_all
  intro i hi; simpa using h i hi

theorem live_le (cfg : Cfg) (nst : NodeId → NodeSt) (b : Nat) : live cfg nst b ≤ cfg.N := cnt_le _ _

/-- the producer hold on `remaining` -/
def hold : SlabSt → Nat
  | .owned _ => 1
  | .arming _ => 1
  | _ => 0

/-- slab states in which the count is zero and the slab is between owners -/
def isZero : SlabSt → Bool
  | .releasing _ => true | .pooled => true | .freed => true | .popped _ => true | _ => false

def isArming : SlabSt → Bool
  | .arming _ => true | _ => false

def canFree : SlabSt → Bool
  | .owned _ => true | .arming _ => true | _ => false

def pRelOf : PPC → Option Nat
  | .relFence b _ => some b | .relLock b _ => some b | .relUnlock b _ => some b | _ => none

def cRelOf : CPC → Option Nat
  | .relFence b _ => some b | .relLock b _ => some b | .relUnlock b _ => some b | _ => none

def pHoldsLock : PPC → Bool
  | .relUnlock _ _ => true | .acqUnlock => true | _ => false

def cHoldsLock : CPC → Bool
  | .relUnlock _ _ => true | _ => false

/-- the node whose retire fetch_sub is pending -/
def cRetOf : CPC → Option NodeId
  | .retDec n _ => some n | _ => none

/-- inside `send`/`bump_batch` (a run is being built) -/
def building : PPC → Bool
  | .build => true | .relFence _ .bump => true | .relLock _ .bump => true | .relUnlock _ .bump => true
  | .acqLock => true | .acqUnlock => true | .rearmRem _ => true | .rearmNode _ _ => true | .alloc => true
  | .prelink => true | _ => false

/-- between an exhausted seal and the end of `acquire`: a bump is pending, the handle has no slab -/
def needing : PPC → Bool
  | .relFence _ .bump => true | .relLock _ .bump => true | .relUnlock _ .bump => true
  | .acqLock => true | .acqUnlock => true | .rearmRem _ => true | .rearmNode _ _ => true | .alloc => true
  | _ => false

def noSlab : PPC → Bool
  | .relFence _ _ => true | .relLock _ _ => true | .relUnlock _ _ => true
  | .acqLock => true | .acqUnlock => true | .rearmRem _ => true | .rearmNode _ _ => true | .alloc => true
  | .dropDec => true | _ => false

def hasSlab : PPC → Bool
  | .build => true | .sealing => true | .prelink => true | _ => false

/-- consumer pcs of the `Drop` walk -/
def cFinal : CPC → Bool
  | .retDec _ .walk => true | .retDec _ .last => true
  | .relFence _ .walk => true | .relFence _ .last => true
  | .relLock _ .walk => true | .relLock _ .last => true
  | .relUnlock _ .walk => true | .relUnlock _ .last => true
  | .finLoad => true | .finished => true | _ => false

/-- consumer pcs after the final `retire_node(tail)` began -/
def cLast : CPC → Bool
  | .retDec _ .last => true | .relFence _ .last => true | .relLock _ .last => true
  | .relUnlock _ .last => true | .finished => true | _ => false

theorem sealNodes_apply (cfg : Cfg) (nst : NodeId → NodeSt) (b used : Nat) (n : NodeId) :
    sealNodes cfg nst b used n =
      match n with
      | .nd b' i => if b' = b ∧ used ≤ i ∧ i < cfg.N then .retired else nst n
      | .stub => nst n := rfl

theorem sealNodes_nd (cfg : Cfg) (nst : NodeId → NodeSt) (b used b' i : Nat) :
    sealNodes cfg nst b used (.nd b' i) = if b' = b ∧ used ≤ i ∧ i < cfg.N then .retired else nst (.nd b' i) := rfl
theorem sealNodes_stub (cfg : Cfg) (nst : NodeId → NodeSt) (b used : Nat) :
    sealNodes cfg nst b used .stub = nst .stub := rfl

theorem freeNodes_nd (cfg : Cfg) (nst : NodeId → NodeSt) (b b' i : Nat) :
    freeNodes cfg nst b (.nd b' i) = if b' = b ∧ i < cfg.N then .free else nst (.nd b' i) := rfl
theorem freeNodes_stub (cfg : Cfg) (nst : NodeId → NodeSt) (b : Nat) :
    freeNodes cfg nst b .stub = nst .stub := rfl

theorem freeNodes_apply (cfg : Cfg) (nst : NodeId → NodeSt) (b : Nat) (n : NodeId) :
    freeNodes cfg nst b n =
      match n with
      | .nd b' i => if b' = b ∧ i < cfg.N then .free else nst n
      | .stub => nst n := rfl

theorem publishNodes_apply (nst : NodeId → NodeSt) (h len : Nat) (n : NodeId) :
    publishNodes nst h len n =
      match nst n with
      | .held h' j => if h' = h then .inchain (len + 1 + j) else .held h' j
      | x => x := rfl

theorem publishNodes_held (nst : NodeId → NodeSt) (h len : Nat) (n : NodeId) (h' j : Nat)
    (e : nst n = .held h' j) :
    publishNodes nst h len n = if h' = h then .inchain (len + 1 + j) else .held h' j := by
  simp [publishNodes, e]

theorem publishNodes_other (nst : NodeId → NodeSt) (h len : Nat) (n : NodeId)
    (e : ∀ h' j, nst n ≠ .held h' j) : publishNodes nst h len n = nst n := by
  unfold publishNodes
  split
  · rename_i h' j e'; exact absurd e' (e h' j)
  · rfl

/-- both cases of `leaveNode` as one record -/
theorem leaveNode_eq (s : State) (old : NodeId) (c : CCont) :
    leaveNode s old c = { s with nst := upd s.nst old (if old = .stub then .retired else .limbo),
                                 cpc := if old = .stub then cAfter c else .retDec old c } := by
  cases old <;> simp [leaveNode]

end Fv.Chan.ChainB
