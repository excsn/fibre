import Fv.Chan.Bcast
import Fv.Lemmas.Common
/-!
The sequential broadcast model `Fv/Chan/Bcast.lean`: what a receive returns (`bRecv_cases`) and what a call does to
the receiver records, the sent sequence and the capacity (`BEff`, `stepB'_eff`) — the three components the
backpressure invariant of `Fv/Props/C07.lean` reads.
-/
namespace Fv.Chan
open List

theorem minList_le_of_mem {l : List Nat} {d x : Nat} (h : x ∈ l) : minList l d ≤ x := by
  induction l with
  | nil => cases h
  | cons a r ih =>
    simp only [minList]
    rcases mem_cons.mp h with rfl | h
    · exact Nat.min_le_left _ _
    · exact Nat.le_trans (Nat.min_le_right _ _) (ih h)

theorem minList_le_default (l : List Nat) (d : Nat) : minList l d ≤ d := by
  induction l with
  | nil => exact Nat.le_refl _
  | cons a r ih => exact Nat.le_trans (Nat.min_le_right _ _) ih

theorem bfind_mem {b : BSt} {i r} (h : bfind b i = some r) : r ∈ b.rxs ∧ r.idx = i := by
  unfold bfind at h
  exact ⟨List.mem_of_find?_eq_some h, by simpa using List.find?_some h⟩

theorem bfind_none {b : BSt} {i} (h : bfind b i = none) : i ∉ b.rxs.map (·.idx) := by
  unfold bfind at h
  intro hm
  rw [mem_map] at hm
  obtain ⟨r, hr, rfl⟩ := hm
  have := List.find?_eq_none.mp h r hr
  simp at this

theorem slotIdx_of_not_lapped (b : BSt) (i : Nat) (h1 : i < b.head) (h2 : b.head - i ≤ b.cap) : b.slotIdx i = i := by
  unfold BroadcastSpec.slotIdx
  split
  · rfl
  · rename_i hc
    have : (b.head - 1 - i) / b.cap = 0 := Nat.div_eq_of_lt (by omega)
    simp [this]

theorem bRecv_cases (b : BSt) (r : BHandle) (f : Form) (n : Nat) :
    ((bRecv b r f n).1 = b ∧ (bRecv b r f n).2.got = []) ∨
    ∃ k rc, r.cursor + k ≤ b.head ∧
      (bRecv b r f n).1 = { bset b r.idx (fun x => { x with cursor := x.cursor + k }) with recvd := rc } ∧
      (bRecv b r f n).2.got = (List.range k).map (fun i => b.sent.getD (b.slotIdx (r.cursor + i)) 0) := by
  unfold bRecv
  split
  · split
    · exact .inl ⟨rfl, rfl⟩
    · unfold bRecvOne
      split
      · -- `readable`: the one position read has not been overwritten
        rename_i hrd
        simp only [BSt.readable, Bool.and_eq_true, decide_eq_true_eq] at hrd
        exact .inr ⟨1, _, hrd.1, rfl, by simp [slotIdx_of_not_lapped b _ hrd.1 hrd.2]⟩
      · split
        · exact .inl ⟨rfl, rfl⟩
        · split <;> exact .inl ⟨rfl, rfl⟩
  · simp only []
    split
    · exact .inl ⟨rfl, rfl⟩
    · split
      · exact .inl ⟨rfl, rfl⟩
      · split
        · exact .inl ⟨rfl, rfl⟩
        · unfold bRecvBatch
          split
          · split
            · exact .inl ⟨rfl, rfl⟩
            · split <;> exact .inl ⟨rfl, rfl⟩
          · exact .inr ⟨_, _, by have := Nat.min_le_left (b.head - r.cursor) n; omega, rfl, rfl⟩

inductive BEff (b : BSt) (op : Op) : BSt → Prop
  /-- `ws = []`: none of the three changed -/
  | wrote {b'} (ws : List Val) (hk : ws.length ≤ b.room) (hs : b'.sent = b.sent ++ ws) (hr : b'.rxs = b.rxs)
      (hc : b'.cap = b.cap) : BEff b op b'
  | advanced {b'} (r : BHandle) (k : Nat) (hm : r ∈ b.rxs) (hk : r.cursor + k ≤ b.head)
      (hr : b'.rxs = (bset b r.idx (fun x => { x with cursor := x.cursor + k })).rxs) (hs : b'.sent = b.sent)
      (hc : b'.cap = b.cap) : BEff b op b'
  /-- close, conversion: flags of the records named `i` are rewritten -/
  | flagged {b'} (i : Nat) (g : BHandle → BHandle) (hr : b'.rxs = (bset b i g).rxs) (hs : b'.sent = b.sent)
      (hc : b'.cap = b.cap) (hidx : ∀ x, (g x).idx = x.idx) (hcur : ∀ x, (g x).cursor = x.cursor)
      (hreg : ∀ x, (g x).registered = true → x.registered = true) : BEff b op b'
  | cloned {b'} (h i : Nat) (r r' : BHandle) (hop : op = .clone ⟨.rx, h⟩ ⟨.rx, i⟩) (hf : bfind b h = some r)
      (hn : bfind b i = none) (hi : r'.idx = i) (hcur : r'.cursor = r.cursor) (hr : b'.rxs = b.rxs ++ [r'])
      (hs : b'.sent = b.sent) (hc : b'.cap = b.cap) : BEff b op b'
  | dropped {b'} (p : BHandle → Bool) (hr : b'.rxs = b.rxs.filter p) (hs : b'.sent = b.sent) (hc : b'.cap = b.cap) :
      BEff b op b'

theorem BEff.same {b b' : BSt} {op : Op} (hr : b'.rxs = b.rxs) (hs : b'.sent = b.sent) (hc : b'.cap = b.cap) :
    BEff b op b' :=
  .wrote [] (Nat.zero_le _) (by rw [hs, append_nil]) hr hc

theorem bSend_eff (b : BSt) (op : Op) (f : Form) (vs : List Val) : BEff b op (bSend b f vs).1 := by
  have hk : (vs.take (min b.room vs.length)).length ≤ b.room := by rw [List.length_take]; omega
  unfold bSend
  simp only []
  split
  · exact .same rfl rfl rfl
  · split
    · unfold bFailSend; split <;> exact .same rfl rfl rfl
    · split
      · unfold bFailSend; split <;> exact .same rfl rfl rfl
      · split
        · exact .wrote vs (by omega) rfl rfl rfl
        · split
          · exact .wrote _ hk rfl rfl rfl
          · split
            · exact .wrote _ hk rfl rfl rfl
            · unfold bFailSend; split <;> exact .wrote _ hk rfl rfl rfl

theorem bRecv_eff (b : BSt) (op : Op) {r : BHandle} (hm : r ∈ b.rxs) (f : Form) (n : Nat) :
    BEff b op (bRecv b r f n).1 := by
  rcases bRecv_cases b r f n with ⟨e, -⟩ | ⟨k, rc, hk, e, -⟩ <;> rw [e]
  · exact .same rfl rfl rfl
  · exact .advanced r k hm hk rfl rfl rfl

theorem stepB'_eff (b : BSt) (op : Op) : BEff b op (stepB' b op).1 := by
  cases op with
  | snd f h vs =>
    simp only [stepB', stepB]
    split
    · exact .same rfl rfl rfl
    · split
      · exact .same rfl rfl rfl
      · exact bSend_eff b _ f vs
  | rcv f h n =>
    simp only [stepB', stepB]
    split
    · split <;> exact .same rfl rfl rfl
    · split
      · exact .same rfl rfl rfl
      · split
        · exact .same rfl rfl rfl
        · exact bRecv_eff b _ (bfind_mem ‹_›).1 f n
  | clone h h' =>
    simp only [stepB', stepB]
    split
    · split
      · exact .same rfl rfl rfl
      · exact .same rfl rfl rfl
      · rename_i r hn hf
        exact .cloned h.idx h'.idx r ⟨h'.idx, r.cursor, false, true, r.isAsync⟩ (by cases h; cases h'; simp_all) hf hn rfl rfl
          rfl rfl rfl
    · repeat' split
      all_goals exact .same rfl rfl rfl
  | close h =>
    simp only [stepB', stepB]
    split
    · repeat' split
      all_goals exact .same rfl rfl rfl
    · split
      · exact .same rfl rfl rfl
      · split
        · exact .same rfl rfl rfl
        · exact .flagged _ _ rfl rfl rfl (fun _ => rfl) (fun _ => rfl) (fun _ h => (Bool.false_ne_true h).elim)
  | drop h =>
    simp only [stepB', stepB]
    split
    · split <;> exact .same rfl rfl rfl
    · split
      · exact .same rfl rfl rfl
      · exact .dropped _ rfl rfl rfl
  | probe p h =>
    simp only [stepB', stepB]
    repeat' split
    all_goals exact .same rfl rfl rfl
  | toAsync h | toSync h =>
    simp only [stepB', bConvert]
    split
    · repeat' split
      all_goals exact .same rfl rfl rfl
    · split
      · exact .same rfl rfl rfl
      · split
        · exact .same rfl rfl rfl
        · exact .flagged _ _ rfl rfl rfl (fun _ => rfl) (fun _ => rfl) (fun _ h => h)

end Fv.Chan
