import Fv.Log.Event
/-! Facts about lists, digits and association lists shared by the C20 lemma files. -/
namespace Fv.Log

theorem dec_all_isDigit (n : Nat) : ∀ c ∈ dec n, isDigit c = true := by
  intro c hc
  have : isDigit c = c.isDigit := by simp [isDigit, Char.isDigit, UInt32.le_iff_toNat_le]
  exact this ▸ Nat.isDigit_of_mem_toDigits (by decide) (by decide) hc

theorem dec_ne_nil (n : Nat) : dec n ≠ [] := Nat.toDigits_ne_nil

theorem digitsVal_dec (n : Nat) : digitsVal (dec n) = n := by
  simp [digitsVal, dec]

theorem takeWhile_append_stop {α} {p : α → Bool} {a : List α} {c : α} {r : List α}
    (ha : ∀ x ∈ a, p x = true) (hc : p c = false) :
    (a ++ c :: r).takeWhile p = a ∧ (a ++ c :: r).dropWhile p = c :: r := by
  simp [List.takeWhile_append_of_pos ha, List.dropWhile_append_of_pos ha, hc]

theorem pairwise_mem_cases {α} {R : α → α → Prop} {l : List α} (h : l.Pairwise R) {a b : α} (ha : a ∈ l) (hb : b ∈ l) :
    a = b ∨ R a b ∨ R b a := by
  induction l with
  | nil => simp at ha
  | cons x xs ih =>
    rw [List.pairwise_cons] at h
    rcases List.mem_cons.mp ha with rfl | ha' <;> rcases List.mem_cons.mp hb with rfl | hb'
    · exact Or.inl rfl
    · exact Or.inr (Or.inl (h.1 b hb'))
    · exact Or.inr (Or.inr (h.1 a ha'))
    · exact ih h.2 ha' hb'

theorem lookup_eq_none_of_not_mem {α} (k : Text) (m : List (Text × α)) (h : k ∉ m.map (·.1)) : lookup k m = none := by
  induction m with
  | nil => rfl
  | cons e rest ih =>
    simp only [List.map_cons, List.mem_cons, not_or] at h
    simp only [lookup, h.1, if_false]
    exact ih h.2

theorem Json.lookup_of_mem_nodup {α} (m : List (Text × α)) (hnd : (m.map (·.1)).Nodup) {k : Text} {v : α} (h : (k, v) ∈ m) :
    lookup k m = some v := by
  induction m with
  | nil => simp at h
  | cons e rest ih =>
    simp only [List.map_cons, List.nodup_cons] at hnd
    rcases List.mem_cons.1 h with rfl | h
    · simp [lookup]
    · have : k ≠ e.1 := fun hk => hnd.1 (hk ▸ List.mem_map.2 ⟨(k, v), h, rfl⟩)
      simp only [lookup, this, if_false]
      exact ih hnd.2 h

end Fv.Log
