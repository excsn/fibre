import Fv.Lemmas.SyncMutexInv
import Fv.Lemmas.SyncMutexNlw
import Fv.Lemmas.SyncMutexWk
/-!
`WInv` holds in every reachable state, hence NO LOST WAKEUP (`no_lost_wakeup`) and PROGRESS (`progress`): with the
lock free and a waiter queued some thread can move.  The latter needs two small extra invariants: a busy future has
a thread operating on it, and a thread at `wnWake` carries a thread handle.
-/
namespace Fv.Sync.Mutex
open Fv.Sync
variable {cfg : Cfg} {s s' : State} {t : Tid} {l : Lbl}

theorem WInv_step (hi : Inv s) (hw : WInv s) (h : Step cfg s t l s') : WInv s' := by
  have hi' := Inv_step hi h
  obtain ⟨p0, p1, p2, p3, p4, p5, p6⟩ := perthread_step hi hw h
  have q := fut_trans hi hw h
  exact { boc := p0, boPark := p1, bb := q.bb, w1 := w1_step hi hw h, w2 := (node_trans hw h).w2,
          qw := p2, qz := p3, pk := p4, fl := q.fl, wnTgt := p5, m2 := m2_step hi hw h, hl := p6,
          wk := wk_step hi hw h hi', nlw := nlw_step hi hw h hi'.wf }

theorem WInv_init (prog : Tid → List MOp) : WInv (init prog) := by
  constructor
  all_goals
    simp [init, PBoc, PBoPark, PBb, PW1, PW2, PQw, PQz, PPk, PFl, PWnTgt, PM2, PHl, PWk, PNlw, futPc, armedPc,
      holdUnlinkPc]

theorem WInv_reach {s : State} (h : Reach cfg s) : Inv s ∧ WInv s := by
  refine ReachOf.inv (fun s => Inv s ∧ WInv s) ?_ ?_ s h
  · rintro s ⟨prog, rfl⟩; exact ⟨Inv_init prog, WInv_init prog⟩
  · intro s t l s' ⟨hi, hw⟩ hm
    have hs := step_of_mem hm
    exact ⟨Inv_step hi hs, WInv_step hi hw hs⟩

/-- `PNlw`, with `PWk` for a `WOKEN` head -/
theorem no_lost_wakeup {s : State} (hr : Reach cfg s) (hfree : s.word.locked = false) {hd : Nid} {rest : List Nid}
    (hq : s.wl.queue = hd :: rest) :
    (∃ t, PreWake s t)
      ∨ ((s.wl.node hd).woken = true ∧ (¬ OwnerBlocked s hd ∨ ∃ t, PostWake s t hd))
      ∨ OwnerActive s hd := by
  obtain ⟨hi, hw⟩ := WInv_reach hr
  have hl : (s.wl.node hd).linked = true := (hi.wf.linked hd).2 (by rw [hq]; exact List.mem_cons_self)
  exact (hw.nlw hfree hd (by rw [hq]; rfl)).imp id (Or.imp (fun h1 => ⟨h1, hw.wk hd hl h1⟩) id)

def Enabled (cfg : Cfg) (s : State) (t : Tid) : Prop := ∃ l s', (l, s') ∈ next cfg s t ∧ l ≠ .parkSpur

def runnablePc : Pc → Bool
  | .idle | .wPark | .boPark | .wnWake => false
  | .taLoad _ | .taCas _ | .spinYield | .llSwap _ | .llLoad _ | .llSpin _ | .qRearm | .qFetchOr | .qLoad | .qCas
  | .ff _ | .llRel _ | .wLoad | .relAnd | .wnStore | .dLoad | .ret _ => true

theorem runnable_enabled (h : runnablePc (s.th t).pc = true) : Enabled cfg s t := by
  unfold Enabled next
  cases hpc : (s.th t).pc <;> rw [hpc] at h <;> try (cases h)
  all_goals simp only [nTaLoad, nTaCas, nSpinYield, nLlSwap, nLlLoad, nLlSpin, nQRearm, nQFetchOr, nQLoad, nQCas,
    nFf, nLlRel, nWLoad, nRelAnd, nWnStore, nDLoad, nRet]
  all_goals (try split)
  all_goals exact ⟨_, _, List.mem_cons_self, by simp⟩

theorem park_enabled (h : (s.th t).pc = .wPark ∨ (s.th t).pc = .boPark) (htok : s.token t = true) :
    Enabled cfg s t := by
  unfold Enabled next
  rcases h with h | h <;> rw [h] <;> simp only [nWPark, nBoPark, htok, if_true]
  all_goals exact ⟨_, _, List.mem_append_left _ List.mem_cons_self, by simp⟩

theorem wnWake_enabled (h : (s.th t).pc = .wnWake) {u : Tid} (hw : (s.th t).w = some (.thread u)) :
    Enabled cfg s t := by
  unfold Enabled next
  rw [h]; simp only [nWnWake, hw]
  exact ⟨_, _, List.mem_cons_self, by simp⟩

theorem slowL_runnable {pc : Pc} (h : slowL pc = true) (hp : pc ≠ .wPark) : runnablePc pc = true := by
  cases pc <;> first | rfl | exact absurd rfl hp | cases h
theorem futPc_runnable {pc : Pc} (h : futPc pc = true) (hp : pc ≠ .boPark) : runnablePc pc = true := by
  cases pc <;> first | rfl | exact absurd rfl hp | cases h
theorem activePc_runnable {pc : Pc} (h : activePc pc = true) : runnablePc pc = true := by
  cases pc <;> first | rfl | cases h
theorem preWakePc_runnable {pc : Pc} (h : preWakePc pc = true ∨ dropPc pc = true) : runnablePc pc = true := by
  rcases h with h | h <;> cases pc <;> first | rfl | cases h

def PWn (s : State) : Prop := ∀ t, (s.th t).pc = .wnWake → ∃ u, (s.th t).w = some (.thread u)
def PBusyEx (s : State) : Prop := ∀ f, (s.fut f).busy = true → ∃ t, opOn s t f

theorem extra_reach {s : State} (h : Reach cfg s) : PWn s ∧ PBusyEx s := by
  induction h with
  | init h0 =>
    obtain ⟨prog, rfl⟩ := h0
    exact ⟨fun t hp => by simp [init] at hp, fun f hb => by simp [init] at hb⟩
  | @step s s' t l hr hm ih =>
    obtain ⟨hn, hb⟩ := ih
    have hi := Inv_reach hr
    have hs := step_of_mem hm
    have ho := step_th_other hs
    refine ⟨?_, ?_⟩
    · intro u
      by_cases hu : u = t
      · subst hu; exact wnWake_local hi hs
      · rw [ho u hu]; exact hn u
    · intro f hb'
      obtain ⟨k1, k2⟩ := (fut_local hi hs).opOn f
      cases hbf : (s.fut f).busy with
      | false => exact ⟨t, k2 hbf hb'⟩
      | true =>
        obtain ⟨u, hu⟩ := hb f hbf
        by_cases hut : u = t
        · subst hut
          rcases k1 hu with h1 | h1
          · exact ⟨u, h1⟩
          · rw [h1] at hb'; cases hb'
        · exact ⟨u, by unfold opOn at hu ⊢; rw [ho u hut]; exact hu⟩

/-- the executor has re-polled every woken task: the one thing the lock cannot do itself -/
def Served (s : State) : Prop :=
  ∀ g, (s.fut g).bo = false → (s.fut g).phase = .startedNode → (s.fut g).busy = false → s.wakes g = 0

theorem parked_queued {s : State} (hr : Reach cfg s) {u : Tid}
    (hp : (s.th u).pc = .wPark ∨ (s.th u).pc = .boPark) : me u (s.th u) ∈ s.wl.queue :=
  have ⟨hi, hw⟩ := WInv_reach hr
  (hi.wf.linked _).1 (hw.pk u (Or.inr hp))

theorem pending_queued {s : State} (hr : Reach cfg s) {f : Fid}
    (hph : (s.fut f).phase = .startedNode) (hb : (s.fut f).busy = false) : .fut f ∈ s.wl.queue :=
  have ⟨hi, hw⟩ := WInv_reach hr
  (hi.wf.linked _).1 (hw.fl f hph hb)

theorem stuck_owner_blocked {s : State} (hr : Reach cfg s) (stuck : ∀ t, ¬ Enabled cfg s t) (hexec : Served s)
    {n : Nid} (hl : (s.wl.node n).linked = true) : OwnerBlocked s n := by
  obtain ⟨hi, hw⟩ := WInv_reach hr
  have hbe := (extra_reach hr).2
  have tok : ∀ v, (s.th v).pc = .wPark ∨ (s.th v).pc = .boPark → s.token v = false := fun v hp =>
    Bool.eq_false_iff.2 fun htk => stuck v (park_enabled hp htk)
  refine ownerBlocked_iff.2 ?_
  cases n with
  | thr v =>
    have hp : (s.th v).pc = .wPark :=
      Classical.byContradiction fun hp => stuck v (runnable_enabled (slowL_runnable (hi.thrNode v hl).2 hp))
    exact .sync hp (tok v (Or.inl hp))
  | fut g =>
    have hph := hi.futNode g hl
    have op : ∀ v, opOn s v g → (s.th v).pc = .boPark := fun v hop =>
      Classical.byContradiction fun hp => stuck v (runnable_enabled (futPc_runnable hop.2 hp))
    cases hbo : (s.fut g).bo with
    | true =>
      obtain ⟨v, hv⟩ := hbe g ((hw.bb g hbo).resolve_right (by rw [hph]; exact FPhase.noConfusion))
      exact .exec hbo hv.1 (op v hv) (tok v (Or.inr (op v hv)))
    | false =>
      have hnb : (s.fut g).busy = false := Bool.eq_false_iff.2 fun hbz => by
        obtain ⟨v, hv⟩ := hbe g hbz
        have := hw.boPark v (op v hv)
        rw [hw.boc v g hv.1 hv.2, hbo] at this; cases this
      exact .manual hbo hnb (hexec g hbo hph hnb)

/-- Each cover of the queue head that `no_lost_wakeup` gives is a thread with an enabled step: one inside
`wake_next`, a waker carrying the handle, or the owner of the head. -/
theorem progress {s : State} (hr : Reach cfg s) (hfree : s.word.locked = false) (hexec : Served s)
    (hne : s.wl.queue ≠ []) : ∃ t, Enabled cfg s t := by
  have hi := Inv_reach hr
  have hwn := (extra_reach hr).1
  apply Classical.byContradiction
  intro hno
  have stuck : ∀ t, ¬ Enabled cfg s t := fun t ht => hno ⟨t, ht⟩
  obtain ⟨hd, rest, hqe⟩ := List.exists_cons_of_ne_nil hne
  have hl : (s.wl.node hd).linked = true := (hi.wf.linked hd).2 (by rw [hqe]; exact List.mem_cons_self)
  rcases no_lost_wakeup hr hfree hqe with ⟨u, hu⟩ | ⟨-, hnb | ⟨u, hp, -⟩⟩ | ⟨u, _, hu⟩
  · exact stuck u (runnable_enabled (preWakePc_runnable (hu.imp id And.left)))
  · exact hnb (stuck_owner_blocked hr stuck hexec hl)
  · cases hpc : (s.th u).pc <;> rw [hpc] at hp <;> try (cases hp)
    · exact stuck u (runnable_enabled (by rw [hpc]; rfl))
    · obtain ⟨v, hv⟩ := hwn u hpc
      exact stuck u (wnWake_enabled hpc hv)
  · exact stuck u (runnable_enabled (activePc_runnable hu))

end Fv.Sync.Mutex
