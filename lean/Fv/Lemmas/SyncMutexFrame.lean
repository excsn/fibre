import Fv.Lemmas.SyncMutex
/-!
What one step of thread `t` can change, field by field (`Shared`, `NodeEff`, `Frame`, `Frozen`), and from where `t`
enters a region of its program (`Entry`).  The preservation proofs treat the other threads by these facts and the
stepping thread by a pass over the step cases: `step_split` / `step_simp` over all of them, `narrow_sweep` over
those a row of `Entry` picks.  The region predicates of the wake accounting are here so that the passes evaluate them.
-/
namespace Fv.Sync.Mutex
open Fv.Sync
variable {cfg : Cfg} {s s' : State} {t : Tid} {l : Lbl}

def preWakePc : Pc → Bool
  | .llSwap k | .llLoad k | .llSpin k => (match k with
      | .wakeNext => true | .queue | .spinUnlink | .finish | .drop => false)
  | .wnStore => true
  | .idle | .taLoad _ | .taCas _ | .spinYield | .qRearm | .qFetchOr | .qLoad | .qCas | .ff _ | .llRel _
  | .wLoad | .wPark | .relAnd | .wnWake | .dLoad | .boPark | .ret _ => false

def dropPc : Pc → Bool
  | .llSwap k | .llLoad k | .llSpin k => (match k with
      | .drop => true | .queue | .spinUnlink | .finish | .wakeNext => false)
  | .ff a | .llRel a => (match a with
      | .dropLoad => true | .retOk | .retReady | .parkLoad | .pending | .wake => false)
  | .dLoad => true
  | .idle | .taLoad _ | .taCas _ | .spinYield | .qRearm | .qFetchOr | .qLoad | .qCas
  | .wLoad | .wPark | .relAnd | .wnStore | .wnWake | .boPark | .ret _ => false

def activePc : Pc → Bool
  | .taLoad k | .taCas k => (match k with
      | .lockSpin | .pollTry => true | .lockFast | .tryLock | .asyncFirst => false)
  | .llSwap k | .llLoad k | .llSpin k => (match k with
      | .queue => true | .spinUnlink | .finish | .drop | .wakeNext => false)
  | .spinYield | .qRearm | .qFetchOr | .qLoad | .qCas => true
  | .idle | .ff _ | .llRel _ | .wLoad | .wPark | .relAnd | .wnStore | .wnWake | .dLoad | .boPark | .ret _ => false

def postWakePc : Pc → Bool
  | .llRel a => (match a with
      | .wake => true | .retOk | .retReady | .parkLoad | .pending | .dropLoad => false)
  | .wnWake => true
  | .idle | .taLoad _ | .taCas _ | .spinYield | .llSwap _ | .llLoad _ | .llSpin _ | .qRearm | .qFetchOr | .qLoad
  | .qCas | .ff _ | .wLoad | .wPark | .relAnd | .wnStore | .dLoad | .boPark | .ret _ => false

/-- the list lock is held and the own node was re-armed in this critical section -/
def armedPc : Pc → Bool
  | .llRel a => (match a with
      | .parkLoad | .pending => true | .retOk | .retReady | .wake | .dropLoad => false)
  | .qFetchOr | .qLoad | .qCas => true
  | .idle | .taLoad _ | .taCas _ | .spinYield | .llSwap _ | .llLoad _ | .llSpin _ | .qRearm
  | .ff _ | .wLoad | .wPark | .relAnd | .wnStore | .wnWake | .dLoad | .boPark | .ret _ => false

/-- the guard was obtained lock-free and the own node is about to be unlinked -/
def holdUnlinkPc : Pc → Bool
  | .llSwap k | .llLoad k | .llSpin k => (match k with
      | .spinUnlink | .finish => true | .queue | .drop | .wakeNext => false)
  | .idle | .taLoad _ | .taCas _ | .spinYield | .qRearm | .qFetchOr | .qLoad | .qCas | .ff _ | .llRel _
  | .wLoad | .wPark | .relAnd | .wnStore | .wnWake | .dLoad | .boPark | .ret _ => false

def opOn (s : State) (t : Tid) (f : Fid) : Prop := (s.th t).cur = some f ∧ futPc (s.th t).pc = true

/-- the second disjunct is `take_and_mark_woken` -/
def NodeKept (s s' : State) (t : Tid) (n : Nid) : Prop :=
  s'.wl.node n = s.wl.node n
  ∨ ((s.th t).pc = .wnStore ∧ n = (s.th t).tgt
      ∧ s'.wl.node n = { s.wl.node n with waiter := none, woken := true })

theorem NodeKept.linked {n : Nid} (h : NodeKept s s' t n) : (s'.wl.node n).linked = (s.wl.node n).linked := by
  rcases h with h | ⟨_, _, h⟩ <;> rw [h]

theorem NodeKept.eq_of_not_wnStore {n : Nid} (h : NodeKept s s' t n) (hp : (s.th t).pc ≠ .wnStore) :
    s'.wl.node n = s.wl.node n := by
  rcases h with h | ⟨h1, _, _⟩
  · exact h
  · exact absurd h1 hp

theorem inLL_wnStore : inLL Pc.wnStore = true := rfl

/-- `step_cases` with `s'` kept out of the goal while it is split into branch-free cases: the goals below mention
`s'` dozens of times, the equation `s' = x` once, and `split` pays per occurrence. -/
macro "step_split " h:ident s':ident : tactic => `(tactic| (
  generalize hx : $s' = x
  cases $h:ident
  all_goals (try simp only [taFail, taSucc, llEnter, afterRel, callStep, spinHead, pollHead, pollDone] at hx)
  all_goals (repeat' split at hx)
  all_goals (try clear ‹TaK›)
  all_goals (try clear ‹LlK›)
  all_goals (try clear ‹After›)
  all_goals (try cases ‹TaK›)
  all_goals (try cases ‹LlK›)
  all_goals (try cases ‹After›)
  all_goals subst hx))

set_option hygiene false in
/-- Makes one case of `step_split` ground; further definitions to unfold go in the brackets.  Hygiene is off so
that the `eq_def` names resolve where the macro is used. -/
macro "step_simp" "[" ls:Lean.Parser.Tactic.simpLemma,* "]" : tactic => `(tactic|
  simp only [‹(Thread.pc _) = _›, withPc, setTh, upd_apply, me, myWaiter, curF, Option.getD, ↓reduceIte, reduceCtorEq,
    Fut.ite_phase, Fut.ite_busy, Fut.ite_bo, Node.ite_woken, Node.ite_waiter, Node.ite_linked,
    WaitList.setLocked, WaitList.putNode, WaitList.setWaiter, WaitList.setWoken, WaitList.takeAndMark,
    WaitList.linkBack, WaitList.unlink_locked, WaitList.unlink_queue, WaitList.unlink_node, WaitList.wasLinked,
    Node.fresh,
    isCas.eq_def, inLL.eq_def, slowL.eq_def, syncOnly.eq_def, asyncOnly.eq_def, futPc.eq_def, futNodePc.eq_def,
    futUnlPc.eq_def, TaK.sync.eq_def, After.sync.eq_def, After.async.eq_def, preWakePc.eq_def, dropPc.eq_def,
    activePc.eq_def, postWakePc.eq_def, armedPc.eq_def, holdUnlinkPc.eq_def,
    false_implies, true_implies, implies_true, and_true, true_and, Bool.false_eq_true, false_or, or_false,
    not_false_eq_true, ne_eq, not_true_eq_false, true_or, or_true, false_and, and_false, $ls,*] at *)

set_option hygiene false in
/-- `step_split` and `step_simp` over the transitions only whose source pc satisfies `hpred` (a row of `Entry`, or
the antecedent at hand); a transition it refutes is closed before any state builder is unfolded.  Hygiene is off
as in `step_simp`. -/
macro "narrow_sweep " h:ident hpred:ident s':ident : tactic => `(tactic| (
  generalize hx : $s' = x
  cases $h:ident
  all_goals (try simp only [‹(Thread.pc _) = _›, isCas.eq_def, inLL.eq_def, slowL.eq_def, syncOnly.eq_def,
    asyncOnly.eq_def, futPc.eq_def, futNodePc.eq_def, futUnlPc.eq_def, TaK.sync.eq_def, After.sync.eq_def,
    After.async.eq_def, preWakePc.eq_def, dropPc.eq_def, activePc.eq_def, postWakePc.eq_def, armedPc.eq_def,
    holdUnlinkPc.eq_def, Pc.taLoad.injEq, Pc.taCas.injEq, Pc.llSwap.injEq, Pc.llLoad.injEq, Pc.llSpin.injEq,
    Pc.ff.injEq, Pc.llRel.injEq, reduceCtorEq, Bool.false_eq_true, or_self, or_false, false_or, false_and,
    and_false] at $hpred:ident)
  all_goals (try cases ‹TaK›)
  all_goals (try cases ‹LlK›)
  all_goals (try cases ‹After›)
  all_goals (try (simp only [reduceCtorEq, Bool.false_eq_true, or_self, or_false, false_or, false_and,
    and_false] at $hpred:ident; done))
  all_goals (try simp only [taFail, taSucc, llEnter, afterRel, callStep, spinHead, pollHead, pollDone] at hx)
  all_goals (repeat' split at hx)
  all_goals subst hx
  all_goals (step_simp [])))

/-- What a step of `t` does to node `n`: nothing; an own node is allocated or unlinked; or one of the three writes
under the list lock: the handle registered on entry to the queue block, `rearm`, `take_and_mark_woken`. -/
def NodeEff (s s' : State) (t : Tid) (n : Nid) : Prop :=
  s'.wl.node n = s.wl.node n
  ∨ ((s'.wl.node n).linked = false ∧ ∀ u, n = .thr u → u = t)
  ∨ (n = me t (s'.th t) ∧ (s'.th t).pc = .qRearm
      ∧ s'.wl.node n = { s.wl.node n with waiter := some (myWaiter t (s'.th t)) })
  ∨ ((s.th t).pc = .qRearm ∧ n = me t (s.th t) ∧ me t (s'.th t) = n
      ∧ myWaiter t (s'.th t) = myWaiter t (s.th t) ∧ (s'.th t).pc = .qFetchOr
      ∧ s'.wl.node n = { s.wl.node n with woken := false, linked := true })
  ∨ ((s.th t).pc = .wnStore ∧ n = (s.th t).tgt ∧ (s'.th t).pc = .llRel .wake
      ∧ (s'.th t).w = (s.wl.node n).waiter
      ∧ s'.wl.node n = { s.wl.node n with waiter := none, woken := true })

structure Shared (s s' : State) (t : Tid) : Prop where
  other : ∀ u, u ≠ t → s'.th u = s.th u
  /-- the link in `rearm`'s critical section; unlinking the own node -/
  queue : s'.wl.queue = s.wl.queue
    ∨ ((s.th t).pc = .qRearm ∧ (s'.th t).pc = .qFetchOr ∧ me t (s'.th t) = me t (s.th t)
        ∧ s'.wl.queue = s.wl.queue ++ [me t (s.th t)])
    ∨ (s'.wl.queue = s.wl.queue.erase (me t (s.th t)) ∧ (s.wl.node (me t (s.th t))).linked = true
        ∧ ((s.th t).pc = .qCas
            ∨ (s.wl.locked = false ∧ ∃ k, (s.th t).pc = .llSwap k ∧ (k = .spinUnlink ∨ k = .finish ∨ k = .drop))))
  /-- cleared by `unlock`'s `fetch_and` only -/
  locked : s'.word.locked = s.word.locked
    ∨ (s.word.locked = false ∧ s'.word.locked = true)
    ∨ (s.word.locked = true ∧ s'.word.locked = false ∧ (s.th t).pc = .relAnd
        ∧ s'.wl = s.wl ∧ s'.word.hq = s.word.hq
        ∧ (s.word.hq = true → (s'.th t).pc = .llSwap .wakeNext))
  /-- cleared by `fix_flags` only, when `len = 0` -/
  hq : s'.word.hq = s.word.hq
    ∨ s'.word.hq = true
    ∨ (s'.word.hq = false ∧ s.wl.len = 0 ∧ s'.wl.queue = s.wl.queue ∧ ∃ a, (s.th t).pc = .ff a)
  fetchOr : (s.th t).pc = .qFetchOr → s'.word.hq = true
  token : ∀ u, s'.token u = s.token u
    ∨ s'.token u = true
    ∨ (u = t ∧ s.token u = true ∧ ((s.th t).pc = .wPark ∨ (s.th t).pc = .boPark))
  /-- the exception is the reset at the start of a poll -/
  wakes : ∀ f, s.wakes f ≤ s'.wakes f ∨ ((s.fut f).busy = false ∧ (s'.fut f).busy = true)
  bo : ∀ f, (s'.fut f).bo = (s.fut f).bo ∨ (s.fut f).phase = .absent
  node : ∀ n, NodeEff s s' t n

theorem step_shared (h : Step cfg s t l s') : Shared s s' t := by
  suffices hc : _ ∧ _ ∧ _ ∧ _ ∧ _ ∧ _ ∧ _ ∧ _ ∧ _ from
    ⟨hc.1, hc.2.1, hc.2.2.1, hc.2.2.2.1, hc.2.2.2.2.1, hc.2.2.2.2.2.1, hc.2.2.2.2.2.2.1, hc.2.2.2.2.2.2.2.1,
     hc.2.2.2.2.2.2.2.2⟩
  step_split h s'
  all_goals (step_simp [Nat.le_refl, NodeEff])
  all_goals grind

theorem step_th_other (h : Step cfg s t l s') : ∀ u, u ≠ t → s'.th u = s.th u := (step_shared h).other
theorem node_eff (h : Step cfg s t l s') (n : Nid) : NodeEff s s' t n := (step_shared h).node n

/-- a node written otherwise than by `take_and_mark_woken` is the writer's own -/
theorem kept_thr (h : Step cfg s t l s') (u : Tid) (hu : u ≠ t) : NodeKept s s' t (.thr u) := by
  rcases node_eff h (.thr u) with e | ⟨-, e⟩ | ⟨e, -⟩ | ⟨-, e, -⟩ | ⟨hp, hn, -, -, e⟩
  · exact Or.inl e
  · exact absurd (e u rfl) hu
  · unfold me at e; split at e <;> cases e; exact absurd rfl hu
  · unfold me at e; split at e <;> cases e; exact absurd rfl hu
  · exact Or.inr ⟨hp, hn, e⟩

structure Frame (s s' : State) (t : Tid) : Prop where
  holders : ∀ u b, u ≠ t → (u, b) ∈ s.holders → (u, b) ∈ s'.holders
  fut : ∀ f, (s.fut f).busy = true → ¬ opOn s t f → s'.fut f = s.fut f ∧ NodeKept s s' t (.fut f)

theorem step_frame (hi : Inv s) (h : Step cfg s t l s') : Frame s s' t := by
  suffices hc : _ ∧ _ from ⟨hc.1, hc.2⟩
  have a1 := hi.syncCur t; have a2 := hi.asyncCur t
  clear hi
  step_split h s'
  all_goals (step_simp [NodeKept, opOn])
  all_goals grind

theorem holders_key (h1 : PLockedHeld s) (h2 : PFreeEmpty s) {g : Tid × Bool} (hm : g ∈ s.holders) :
    s.holders = [g] ∧ s.word.locked = true := by
  cases hl : s.word.locked
  · rw [h2 hl] at hm; cases hm
  · obtain ⟨v, hv⟩ := h1 hl; rw [hv] at hm ⊢; simp at hm; subst hm; simp

/-- `u` owns `me u (s.th u)`: its stack node always, the heap node of `cur` while it operates on the future -/
def Owner (s : State) (u : Tid) : Prop := (s.th u).cur = none ∨ futPc (s.th u).pc = true

theorem Owner.of_class (hi : Inv s) {u : Tid} (h : syncOnly (s.th u).pc = true ∨ futPc (s.th u).pc = true) :
    Owner s u := h.imp (hi.syncCur u) id

theorem Owner.unique (hi : Inv s) {u v : Tid} (hu : Owner s u) (hv : Owner s v)
    (h : me u (s.th u) = me v (s.th v)) : u = v := by
  cases hcu : (s.th u).cur <;> cases hcv : (s.th v).cur <;>
    simp only [me, hcu, hcv, Nid.thr.injEq, Nid.fut.injEq, reduceCtorEq] at h
  · exact h
  · subst h
    exact (hi.busy v _ hcv (hv.resolve_left (by simp [hcv]))).2 u hcu (hu.resolve_left (by simp [hcu]))

theorem fut_of_other (hi : Inv s) (h : Step cfg s t l s') {u : Tid} {f : Fid} (hu : u ≠ t)
    (hc : (s.th u).cur = some f) (hp : futPc (s.th u).pc = true) :
    s'.fut f = s.fut f ∧ NodeKept s s' t (.fut f) := by
  obtain ⟨hb, huniq⟩ := hi.busy u f hc hp
  exact (step_frame hi h).fut f hb (fun ⟨h1, h2⟩ => hu (huniq t h1 h2).symm)

theorem node_other (hi : Inv s) (h : Step cfg s t l s') {u : Tid} (hu : u ≠ t) (hown : Owner s u) :
    NodeKept s s' t (me u (s.th u)) := by
  cases hc : (s.th u).cur with
  | none => simp only [me, hc]; exact kept_thr h u hu
  | some f => simp only [me, hc]; exact (fut_of_other hi h hu hc (hown.resolve_left (by simp [hc]))).2

structure Frozen (s s' : State) (t u : Tid) : Prop where
  queue : s'.wl.queue = s.wl.queue
  own : Owner s u → s'.wl.node (me u (s.th u)) = s.wl.node (me u (s.th u))

theorem frozen (hi : Inv s) (h : Step cfg s t l s') {u : Tid} (hu : u ≠ t) (hll : inLL (s.th u).pc = true) :
    Frozen s s' t u := by
  obtain ⟨hlk, huniq⟩ := hi.ll u hll
  have hnt : ∀ pc, (s.th t).pc = pc → inLL pc = true → False := by
    intro pc hp hin; exact hu (huniq t (by rw [hp]; exact hin)).symm
  refine ⟨?_, fun hown => (node_other hi h hu hown).eq_of_not_wnStore (hnt _ · inLL_wnStore)⟩
  rcases (step_shared h).queue with hq | ⟨hp, -⟩ | ⟨-, -, hp | ⟨hl, -⟩⟩
  · exact hq
  · exact (hnt _ hp rfl).elim
  · exact (hnt _ hp rfl).elim
  · rw [hlk] at hl; cases hl

theorem bo_kept (h : Step cfg s t l s') {f : Fid} (hph : (s.fut f).phase = .startedNode) :
    (s'.fut f).bo = (s.fut f).bo :=
  ((step_shared h).bo f).resolve_right (by rw [hph]; nofun)

/-- From where a region of the program is entered; `narrow_sweep` takes the transitions to look at from a row. -/
structure Entry (pc pc' : Pc) : Prop where
  armed : armedPc pc' = true → armedPc pc = true ∨ pc = .qRearm
  qRearm : pc' = .qRearm → pc = .llSwap .queue
  holdUnlink : holdUnlinkPc pc' = true → holdUnlinkPc pc = true ∨ pc = .taCas .lockSpin ∨ pc = .taCas .pollTry
  boPark : pc' = .boPark → pc = .llRel .pending
  wnStore : pc' = .wnStore → pc = .llSwap .wakeNext
  wnWake : pc' = .wnWake → pc = .llRel .wake
  wPark : pc' = .wPark → pc = .wLoad
  wLoad : pc' = .wLoad → pc = .wPark ∨ pc = .llRel .parkLoad

/-- `fix_flags` is not run on the way to a park or to `Pending` (`PFfOk`), so the armed region is entered
through `rearm` only. -/
theorem entry (h : Step cfg s t l s') (hff : (s.th t).pc ≠ .ff .parkLoad ∧ (s.th t).pc ≠ .ff .pending) :
    Entry (s.th t).pc (s'.th t).pc := by
  step_split h s'
  all_goals simp only [‹(Thread.pc _) = _›, withPc, setTh, upd_apply, ↓reduceIte, reduceCtorEq, ne_eq,
    not_false_eq_true, not_true_eq_false, and_self, and_false, false_and] at *
  all_goals (constructor <;> intro hp <;> cases hp <;>
    simp only [armedPc, holdUnlinkPc, reduceCtorEq, or_true, true_or])

theorem Inv.entry (hi : Inv s) (h : Step cfg s t l s') : Entry (s.th t).pc (s'.th t).pc :=
  Mutex.entry h (hi.ffOk t)

end Fv.Sync.Mutex
