import Fv.Lemmas.SpmcBSafe
/-! C09 for the broadcast ring (every payload written into the ring is dropped by the channel exactly once): the
invariant `DropInv` (a payload is dropped when its slot is overwritten a lap later) and what `slotDrops` holds
(`Slot::drop` at teardown drops the slots with an odd sequence number). -/
namespace Fv.Chan.SpmcB

def DropInv (s : State) : Prop :=
  s.torn = false → s.dropped = List.range (s.sent.length + (if s.dirty then 1 else 0) - s.cap)

/-- the fields `DropInv` reads -/
def dkey (s : State) : List Nat × Nat × Nat × Bool :=
  (s.dropped, s.sent.length + (if s.dirty then 1 else 0), s.cap, s.torn)

theorem dropInv_of_dkey {s s' : State} (h : DropInv s) (e : dkey s' = dkey s) : DropInv s' := by
  simp only [dkey, Prod.mk.injEq] at e
  obtain ⟨e1, e2, e3, e4⟩ := e
  intro ht; rw [e4] at ht; rw [e1, e2, e3]; exact h ht

theorem actR_dkey {s s' : State} {t r : Nat} {p : RPC} (h : actR s t r p = some s') : dkey s' = dkey s := by
  obtain ⟨_, fr⟩ := actR_frame h
  simp only [dkey, fr.dropped, fr.sent, fr.dirty, fr.cap, fr.torn]

theorem dropInv_wVal {s : State} (hs : Safe s) (hd : DropInv s) {t : Nat} {x : SCtx} {h0 j k q : Nat}
    (hq : s.pc t = .snd (.wVal x h0 j k q)) : DropInv (stepWVal s t x h0 j k q) := by
  obtain ⟨w, f5, f6⟩ := hs.sf t _ hq
  have hcp : 0 < s.cap := hs.g.cap_pos
  have hN : s.sent.length = h0 + j := w.len
  have hdf : s.dirty = false := f5
  have hq' : q = s.seq ((h0 + j) % s.cap) := f6
  intro ht
  have hold := hd ht
  rw [hdf] at hold; simp only [Bool.false_eq_true, if_false, Nat.add_zero] at hold
  show (if q % 2 = 1 then s.dropped ++ [q / 2] else s.dropped) = List.range (s.sent.length + (if true = true then 1 else 0) - s.cap)
  simp only [if_true]
  by_cases hge : s.cap ≤ s.sent.length
  · -- the slot holds index |sent| − cap
    have hi : s.sent.length - s.cap < s.sent.length := by omega
    have hseq := hs.g.b2s (s.sent.length - s.cap) hi (by show s.sent.length ≤ s.sent.length - s.cap + s.cap; omega)
    have hmod : (s.sent.length - s.cap) % s.cap = s.sent.length % s.cap := by
      have h1 : (s.sent.length - s.cap + s.cap) % s.cap = (s.sent.length - s.cap) % s.cap := Nat.add_mod_right _ _
      rw [Nat.sub_add_cancel hge] at h1; exact h1.symm
    have hqv : q = 2 * (s.sent.length - s.cap) + 1 := by
      rw [hq', ← hN, ← hmod]; exact hseq
    have hodd : q % 2 = 1 := by omega
    have hdiv : q / 2 = s.sent.length - s.cap := by omega
    rw [if_pos hodd, hold, hdiv]
    have : s.sent.length + 1 - s.cap = (s.sent.length - s.cap) + 1 := by omega
    rw [this, List.range_succ]
  · -- first lap: the slot is still uninitialised (even sequence)
    have hlt : s.sent.length < s.cap := by omega
    have hseq := hs.g.b2e s.sent.length hlt (Nat.le_refl _)
    have hmod : s.sent.length % s.cap = s.sent.length := Nat.mod_eq_of_lt hlt
    have hqv : q = 2 * s.sent.length := by
      rw [hq', ← hN, hmod]; exact hseq
    have heven : ¬ q % 2 = 1 := by omega
    rw [if_neg heven, hold]
    have e1 : s.sent.length - s.cap = 0 := by omega
    have e2 : s.sent.length + 1 - s.cap = 0 := by omega
    rw [e1, e2]

theorem dropInv_actS {s s' : State} {t : Nat} {p : SPC} (hs : Safe s) (hd : DropInv s) (hq : s.pc t = .snd p)
    (h : actS s t p = some s') : DropInv s' := by
  cases p
  case wVal x h0 j k q => cases h; exact dropInv_wVal hs hd hq
  case wSeqSt x h0 j k =>
    cases h
    have hdt : s.dirty = true := (hs.sf t _ hq).2.1
    refine dropInv_of_dkey hd ?_
    simp only [dkey, stepWSeqSt, State.goS, List.length_append, List.length_singleton, hdt, if_true]
    simp
  all_goals open_actS h <;> exact dropInv_of_dkey hd rfl

theorem dropInv_step {s s' : State} {t : Nat} {l : Label} (hs : Safe s) (hd : DropInv s)
    (h : step s t l = some s') : DropInv s' := by
  cases l <;> simp only [step] at h
  case call op => cases (call_eff h).2 <;> exact dropInv_of_dkey hd rfl
  case act =>
    rcases act_cases h with ⟨p, hq, h⟩ | ⟨r, p, _, h⟩
    · exact dropInv_actS hs hd hq h
    · exact dropInv_of_dkey hd (actR_dkey h)
  case spurious =>
    unfold stepSpurious at h
    split at h <;> cases h <;> exact dropInv_of_dkey hd rfl
  case teardown =>
    cases (teardown_eff h).1
    intro ht; cases ht

theorem dropInv_reach {cap : Nat} (hc : 0 < cap) {s : State} (h : Reach cap s) (hnt : s.taint = false) : DropInv s := by
  induction h with
  | init => intro _; simp [init]
  | step hr hst ih =>
    have h0 := taint_mono hst hnt
    exact dropInv_step (safe_reach hc hr h0) (ih h0) hst

theorem mem_slotDrops (seq : Nat → Nat) (x : Nat) : ∀ (n a : Nat),
    x ∈ slotDrops seq a n ↔ ∃ j, a ≤ j ∧ j < a + n ∧ seq j % 2 = 1 ∧ seq j / 2 = x := by
  intro n
  induction n with
  | zero => intro a; simp [slotDrops]; intro j h1 h2; omega
  | succ n ih =>
    intro a
    simp only [slotDrops, List.mem_append, ih (a + 1)]
    constructor
    · rintro (h | ⟨j, h1, h2, h3, h4⟩)
      · split at h
        · rename_i ho; simp at h; exact ⟨a, Nat.le_refl _, by omega, ho, h.symm⟩
        · cases h
      · exact ⟨j, by omega, by omega, h3, h4⟩
    · rintro ⟨j, h1, h2, h3, h4⟩
      by_cases e : j = a
      · subst e; left; rw [if_pos h3]; simp [h4]
      · right; exact ⟨j, by omega, by omega, h3, h4⟩

theorem nodup_slotDrops (seq : Nat → Nat) : ∀ (n a : Nat),
    (∀ j1 j2, a ≤ j1 → j1 < a + n → a ≤ j2 → j2 < a + n → seq j1 % 2 = 1 → seq j2 % 2 = 1 → seq j1 / 2 = seq j2 / 2 → j1 = j2) →
    (slotDrops seq a n).Nodup := by
  intro n
  induction n with
  | zero => intro a _; simp [slotDrops]
  | succ n ih =>
    intro a hinj
    have ih' := ih (a + 1) (fun j1 j2 h1 h2 h3 h4 => hinj j1 j2 (by omega) (by omega) (by omega) (by omega))
    simp only [slotDrops]
    split
    · rename_i ho
      refine List.nodup_append.2 ⟨by simp, ih', ?_⟩
      intro x hx y hy
      simp at hx; subst hx
      obtain ⟨j, h1, h2, h3, h4⟩ := (mem_slotDrops seq y n (a + 1)).1 hy
      intro e
      have := hinj a j (Nat.le_refl _) (by omega) (by omega) (by omega) ho h3 (by rw [h4]; exact e)
      omega
    · simpa using ih'

end Fv.Chan.SpmcB
