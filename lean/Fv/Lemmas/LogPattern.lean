import Fv.Log.Pattern
/-! C20 helper lemmas for the pattern encoder: rendering is total because the clamp in `apply_padding` meets the `u16`
precondition of `fmtPad`; what a segment renders to is an infix of the output; every parsed padding fits an `i32`. -/
namespace Fv.Log.Pattern
open Fv.Log

theorem applyPadding_eq (content : Text) (p : Int) :
    applyPadding content p = some
      (if padWidth p ≤ utf8Len content then content
       else if 0 < p then spaces (padWidth p - content.length) ++ content
       else content ++ spaces (padWidth p - content.length)) := by
  unfold applyPadding
  split
  · rfl
  · unfold fmtPad
    have : ¬ 65535 < padWidth p := by unfold padWidth; omega
    simp only [this, if_false, decide_eq_true_eq]
    split <;> rfl

theorem renderSegs_total (ev : Event) (segs : List Segment) : ∃ out, renderSegs ev segs = some out := by
  have seg : ∀ s, ∃ out, renderSeg ev s = some out := fun s => by
    cases s with
    | lit t => exact ⟨t, rfl⟩
    | spec c p o =>
      simp only [renderSeg]
      split
      · exact ⟨_, rfl⟩
      · cases p with
        | none => exact ⟨_, rfl⟩
        | some p => exact ⟨_, applyPadding_eq _ p⟩
  induction segs with
  | nil => exact ⟨[], rfl⟩
  | cons s rest ih =>
    obtain ⟨a, ha⟩ := seg s
    obtain ⟨b, hb⟩ := ih
    exact ⟨a ++ b, by simp only [renderSegs, ha, hb]⟩

theorem infix_applyPadding {content out : Text} {p : Int} (h : applyPadding content p = some out) : content <:+: out := by
  obtain rfl := Option.some.inj ((applyPadding_eq content p).symm.trans h)
  split
  · exact List.infix_refl _
  · split
    · exact (List.suffix_append _ _).isInfix
    · exact (List.prefix_append _ _).isInfix

theorem renderSegs_mem {ev : Event} {segs : List Segment} {out : Text} (h : renderSegs ev segs = some out)
    {s : Segment} (hs : s ∈ segs) : ∃ a, renderSeg ev s = some a ∧ a <:+: out := by
  induction segs generalizing out with
  | nil => simp at hs
  | cons s0 rest ih =>
    simp only [renderSegs] at h
    split at h
    · next a b h0 h1 =>
      obtain rfl := Option.some.inj h
      rcases List.mem_cons.1 hs with rfl | hs
      · exact ⟨a, h0, (List.prefix_append _ _).isInfix⟩
      · obtain ⟨a', ha', hin⟩ := ih h1 hs
        exact ⟨a', ha', hin.trans (List.suffix_append _ _).isInfix⟩
    · cases h

theorem infix_ensureNewline (a out : Text) (h : a <:+: out) : a <:+: ensureNewline out := by
  unfold ensureNewline
  split
  · exact h
  · exact h.trans (List.prefix_append _ _).isInfix

theorem ensureNewline_last (out : Text) : (ensureNewline out).getLast? = some '\n' := by
  unfold ensureNewline
  split
  · assumption
  · simp

theorem message_verbatim_segs {ev : Event} {segs : List Segment} {out : Text} (h : renderSegs ev segs = some out)
    {p : Option Int} {o : Option Text} (hs : Segment.spec 'm' p o ∈ segs) : ev.message.getD [] <:+: out := by
  obtain ⟨a, ha, hin⟩ := renderSegs_mem h hs
  have hm : specContent 'm' o ev = ev.message.getD [] := by simp (decide := true) [specContent]
  simp only [renderSeg, show ('m' : Char) ≠ 'n' by decide, if_false, hm] at ha
  cases p with
  | none => exact Option.some.inj ha ▸ hin
  | some p => exact (infix_applyPadding ha).trans hin

def SpecInRange : Segment → Prop
  | .lit _ => True
  | .spec _ none _ => True
  | .spec _ (some p) _ => -2147483648 ≤ p ∧ p ≤ 2147483647

theorem parsePadding_range {t : Text} {p : Int} (h : parsePadding t = some p) : -2147483648 ≤ p ∧ p ≤ 2147483647 := by
  unfold parsePadding at h
  repeat' split at h
  all_goals simp only [Option.some.injEq, reduceCtorEq] at h
  all_goals omega

theorem matchSpec_inRange {t r : Text} {seg : Segment} (h : matchSpec t = some (seg, r)) : SpecInRange seg := by
  have pad : ∀ c p o, SpecInRange (.spec c (parsePadding p) o) := fun c p o => by
    cases hp : parsePadding p with
    | none => trivial
    | some v => exact parsePadding_range hp
  unfold matchSpec at h
  repeat' split at h
  all_goals simp only [Option.some.injEq, Prod.mk.injEq, reduceCtorEq] at h
  · exact h.1 ▸ pad ..
  · exact h.1 ▸ trivial

theorem parseGo_inRange (fuel : Nat) (t acc : Text) : ∀ s ∈ parseGo fuel t acc, SpecInRange s := by
  have flush : ∀ acc, ∀ s ∈ flushLit acc, SpecInRange s := fun acc s hs => by
    unfold flushLit at hs
    split at hs <;> simp at hs
    subst hs; trivial
  induction fuel generalizing t acc with
  | zero => exact flush acc
  | succ fuel ih =>
    cases t with
    | nil => exact flush acc
    | cons c rest =>
      simp only [parseGo]
      split
      · split
        · next seg rest' hm =>
          simp only [List.forall_mem_append, List.forall_mem_cons]
          exact ⟨flush acc, matchSpec_inRange hm, ih _ _⟩
        · split
          · exact ih _ _
          · split
            · simp only [List.forall_mem_append, List.forall_mem_cons]
              exact ⟨flush acc, trivial, ih _ _⟩
            · exact ih _ _
      · exact ih _ _

end Fv.Log.Pattern
