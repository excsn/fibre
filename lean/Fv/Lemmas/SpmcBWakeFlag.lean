import Fv.Lemmas.SpmcBWakeDefs
import Fv.Lemmas.SpmcBSafeDefs
/-! Wake-up invariants, parts 1 and 2 (ghost mirror, park flag), across the steps of the operations. `InvW2` is read
as "the one thread inside the sender operation satisfies `SenderAt`": a step of that thread establishes `SenderAt`
of its new control state (`invW2_S`), a step of any other thread maps `SenderAt s p q` to `SenderAt s' p q`
(`invW2_other`). -/
namespace Fv.Chan.SpmcB
open Fv.Chan.LeftRightB (upd upd_apply upd_ne mirror_upd)

theorem of_preCasPC {p : PC} (h : preCasPC p = true) : ∃ r q, p = .rcv r q ∧ preCas q = true := by
  cases p <;> first | exact ⟨_, _, rfl, h⟩ | cases h

theorem of_upkPC {p : PC} {x : Nat} (h : upkPC p = some x) : ∃ r k, p = .rcv r (.wpUnpark k x) := by
  unfold upkPC at h
  split at h <;> cases h
  exact ⟨_, _, rfl⟩

theorem of_csmPC {p : PC} (h : csmPC p = true) : ∃ r k th, p = .rcv r (.wpIdle k th) := by
  unfold csmPC at h
  split at h <;> cases h
  exact ⟨_, _, _, rfl⟩

/-- the classes of a control state that the ghost sets `wq`, `upk` and `csm` mirror -/
def wcls (p : PC) : Bool × Option Nat × Bool := (preCasPC p, upkPC p, csmPC p)

theorem wcls_eq {p : PC} {a : Bool} {b : Option Nat} {c : Bool} :
    wcls p = (a, b, c) ↔ preCasPC p = a ∧ upkPC p = b ∧ csmPC p = c := by
  simp only [wcls, Prod.mk.injEq]

theorem invW1_of_wq {s s' : State} {t : Nat} {p : PC} (h : InvW1 s) (hpc : s'.pc = upd s.pc t p)
    (hupk : s'.upk = s.upk) (hcsm : s'.csm = s.csm) (hflag : s'.flag = 2 ↔ s.flag = 2)
    (h2 : upkPC p = upkPC (s.pc t)) (h3 : csmPC p = csmPC (s.pc t))
    (hwq : ∀ u, u ≠ t → (u ∈ s'.wq ↔ u ∈ s.wq)) (hwqt : t ∈ s'.wq ↔ preCasPC p = true) (hnd : s'.wq.Nodup) :
    InvW1 s' := by
  obtain ⟨a1, a2, a3, a4, a5, a6⟩ := h
  refine ⟨?_, hnd, fun u q => ?_, hupk ▸ a4, ?_, by rw [hflag, hcsm]; exact a6⟩
  · rw [hpc]; exact mirror_upd (C := fun p => preCasPC p = true) a1 hwq hwqt
  · revert u; rw [hupk, hpc]
    exact mirror_upd (C := fun p => upkPC p = some q) (a3 · q) (fun _ _ => Iff.rfl) (by rw [a3, h2])
  · rw [hcsm, hpc]; exact mirror_upd (C := fun p => csmPC p = true) a5 (fun _ _ => Iff.rfl) (by rw [a5, h3])

theorem okS_class {p : PC} (hp : okS p) : wcls p = (false, none, false) := by
  rcases hp with ⟨res, rfl⟩ | ⟨q, rfl⟩ <;> rfl

theorem QuietR.cls {r : Nat} {p : PC} (h : QuietR r p) : wcls p = (false, none, false) := by
  rcases h with ⟨res, rfl⟩ | ⟨q, rfl, hq⟩
  · rfl
  · cases q <;> first | rfl | cases hq

theorem invW1_frame {s s' : State} {t : Nat} {q0 p : PC} (h : InvW1 s) (hq : s.pc t = q0) (hpc : s'.pc = upd s.pc t p)
    (hc : wcls p = wcls q0 := by first | rfl | exact QuietR.cls (by quietR_tac))
    (hflag : s'.flag = 2 ↔ s.flag = 2 := by exact Iff.rfl)
    (hwq : s'.wq = s.wq := by rfl) (hupk : s'.upk = s.upk := by rfl) (hcsm : s'.csm = s.csm := by rfl) : InvW1 s' := by
  subst hq
  obtain ⟨h1, h2, h3⟩ := wcls_eq.1 hc
  exact invW1_of_wq h hpc hupk hcsm hflag h2 h3 (fun _ _ => by rw [hwq]) (by rw [hwq, h.wq_iff, h1]) (hwq ▸ h.wq_nodup)

theorem invW1_wq_add {s s' : State} {t : Nat} {q0 p : PC} (h : InvW1 s) (hq : s.pc t = q0)
    (hpc : s'.pc = upd s.pc t p) (hwq : s'.wq = t :: s.wq) (hc : wcls p = (true, (wcls q0).2) := by rfl)
    (h0 : preCasPC q0 = false := by rfl) (hupk : s'.upk = s.upk := by rfl) (hcsm : s'.csm = s.csm := by rfl)
    (hflag : s'.flag = s.flag := by rfl) : InvW1 s' := by
  subst hq
  obtain ⟨h1, h2, h3⟩ := wcls_eq.1 hc
  have hnot : t ∉ s.wq := fun hm => by have := (h.wq_iff t).1 hm; rw [h0] at this; cases this
  exact invW1_of_wq h hpc hupk hcsm (by rw [hflag]) h2 h3 (fun u hu => by simp [hwq, hu]) (by simp [hwq, h1])
    (hwq ▸ List.nodup_cons.2 ⟨hnot, h.wq_nodup⟩)

theorem invW1_wq_del {s s' : State} {t : Nat} {q0 p : PC} (h : InvW1 s) (hq : s.pc t = q0)
    (hpc : s'.pc = upd s.pc t p) (hwq : s'.wq = s.wq.erase t)
    (hc : wcls p = (false, (wcls q0).2) := by first | rfl | exact QuietR.cls (by quietR_tac))
    (hupk : s'.upk = s.upk := by rfl) (hcsm : s'.csm = s.csm := by rfl) (hflag : s'.flag = s.flag := by rfl) :
    InvW1 s' := by
  subst hq
  obtain ⟨h1, h2, h3⟩ := wcls_eq.1 hc
  exact invW1_of_wq h hpc hupk hcsm (by rw [hflag]) h2 h3 (fun u hu => by rw [hwq]; exact List.mem_erase_of_ne hu)
    (by simp [hwq, h1, h.wq_nodup.not_mem_erase]) (hwq ▸ h.wq_nodup.erase t)

theorem armed2_of_armed1 {q : SPC} (h : armed1 q = true) : armed2 q = true := by
  cases q <;> first | rfl | exact h

theorem flag0_of_cold {s : State} (ha : InvA s) (h2 : InvW2 s) {t : Nat} {q : SPC} (hq : s.pc t = .snd q)
    (hc : armed2 q = false) : s.flag = 0 := by
  have h1 : s.flag ≠ 1 := by
    intro h
    have := (h2.parked t q hq h).1
    cases q <;> simp_all [armed2, armed1, armed0]
  have h3 : s.flag ≠ 2 := by
    intro h; have := h2.consuming t q hq h; rw [hc] at this; cases this
  have := ha.flag2; omega

theorem actS_flag2 {s s' : State} {t : Nat} {p : SPC} (ha : InvA s) (h2 : InvW2 s) (hq : s.pc t = .snd p)
    (h : actS s t p = some s') : s'.flag = 2 ↔ s.flag = 2 := by
  cases p
  case aStore x =>
    cases h
    have := flag0_of_cold ha h2 hq rfl
    show (1 : Nat) = 2 ↔ s.flag = 2
    omega
  all_goals open_actS h <;> first | exact Iff.rfl | (show (0 : Nat) = 2 ↔ s.flag = 2; omega)

theorem wake1_actS {s s' : State} {t : Nat} {p : SPC} (ha : InvA s) (hw : InvW s) (hq : s.pc t = .snd p)
    (h : actS s t p = some s') : InvW1 s' := by
  obtain ⟨p', m⟩ := actS_frame h
  exact invW1_frame hw.w1 hq m.pc (okS_class m.ok) (actS_flag2 ha hw.w2 hq h) m.wq m.upk m.csm

structure SenderAt (s : State) (p : Nat) (q : SPC) : Prop where
  parked : s.flag = 1 → armed1 q = true ∧ s.pthread = some p ∧ witPC s q
  consuming : s.flag = 2 → armed2 q = true
  handed : armed0 q = true → s.flag = 0 → s.token p = true ∨ ∃ u, (u, p) ∈ s.upk
  kcap : kOf q ≤ s.cap
  shead : ∀ k, q = .sHead k → rk k = false

theorem InvW2.at {s : State} (h : InvW2 s) {p : Nat} {q : SPC} (hq : s.pc p = .snd q) : SenderAt s p q :=
  ⟨fun hf => ⟨(h.parked p q hq hf).1, (h.parked p q hq hf).2, h.wit p q hq hf⟩, h.consuming p q hq,
    h.handed p q hq, h.kcap p q hq, fun k e => h.shead p k (e ▸ hq)⟩

theorem InvW2.of_at {s : State} (hat : ∀ p q, s.pc p = .snd q → SenderAt s p q) (h0 : s.sOwner = none → s.flag = 0)
    (hth : ∀ u r k th p q, s.pc u = .rcv r (.wpIdle k th) → s.pc p = .snd q → th = some p) : InvW2 s :=
  ⟨fun p q hq hf => ⟨((hat p q hq).parked hf).1, ((hat p q hq).parked hf).2.1⟩, h0, fun p q hq => (hat p q hq).consuming, hth,
    fun p q hq => (hat p q hq).handed, fun p q hq hf => ((hat p q hq).parked hf).2.2, fun p q hq => (hat p q hq).kcap,
    fun p k hq => (hat p _ hq).shead k rfl⟩

theorem invW2_S {s s' : State} {t : Nat} {q : SPC} {p' : PC} (ha : InvA s) (h2 : InvW2 s) (hq : s.pc t = .snd q)
    (m : MoveS s s' t p') (hret : isRet p' = true → s'.flag = 0) (hsnd : ∀ q', p' = .snd q' → SenderAt s' t q') :
    InvW2 s' := by
  refine .of_at (fun u q' h => ?_) (fun h => ?_) (fun u r k th p q' hu hpq => ?_)
  · rcases pc_upd (m.pc ▸ h) with ⟨rfl, e⟩ | ⟨hut, h⟩
    · exact hsnd q' e
    · exact absurd (snd_unique ha hq h).1 hut
  · rcases m.ok with ⟨res, rfl⟩ | ⟨q', rfl⟩
    · exact hret rfl
    · rw [m.sOwner, ha.sown hq] at h; cases h
  · rcases pc_upd (m.pc ▸ hu) with ⟨_, e⟩ | ⟨_, hu'⟩
    · exact absurd e (okS_not_rcv m.ok)
    · rcases pc_upd (m.pc ▸ hpq) with ⟨rfl, _⟩ | ⟨hne, hpq'⟩
      · exact h2.idle_th u r k th _ q hu' hq
      · exact absurd (snd_unique ha hq hpq').1 hne

/-- shape of the targets of steps that leave the armed region or stay outside of it -/
def ColdPC (cap : Nat) (p : PC) : Prop :=
  (∀ q', p = .snd q' → armed0 q' = false ∧ kOf q' ≤ cap) ∧ (∀ k, p = .snd (.sHead k) → rk k = false)

theorem ColdPC.mono {n m : Nat} {p : PC} (h : ColdPC n p) (hnm : n ≤ m) : ColdPC m p :=
  ⟨fun q' e => ⟨(h.1 q' e).1, Nat.le_trans (h.1 q' e).2 hnm⟩, h.2⟩

/-- a target written out as a constructor: `armed0`, `kOf` and `rk` compute -/
syntax "cold_snd" : tactic
macro_rules | `(tactic| cold_snd) => `(tactic|
  exact ⟨fun _ e => by cases e; first | exact ⟨rfl, Nat.zero_le _⟩ | exact ⟨rfl, Nat.le_refl _⟩,
         fun _ e => by first | (cases e; rfl) | cases e⟩)

theorem Quiet.cold {p : PC} (h : Quiet p) (n : Nat) : ColdPC n p := by
  rcases h with ⟨res, rfl⟩ | ⟨q, rfl, hq⟩
  · exact ⟨(fun _ e => nomatch e), (fun _ e => nomatch e)⟩
  · refine ⟨fun _ e => ?_, fun k e => ?_⟩ <;> cases e
    · cases q <;> first | exact ⟨rfl, Nat.zero_le _⟩ | cases hq
    · cases k <;> first | rfl | cases hq

theorem SenderAt.cold {s : State} {p : Nat} {q : SPC} (hf : s.flag = 0) (h0 : armed0 q = false) (hk : kOf q ≤ s.cap)
    (hsh : ∀ k, q = .sHead k → rk k = false) : SenderAt s p q :=
  ⟨fun h => by omega, fun h => by omega, fun a => absurd (h0 ▸ a) nofun, hk, hsh⟩

theorem SenderAt.of_cold {s : State} {p : Nat} {p' : PC} (hf : s.flag = 0) (hc : ColdPC s.cap p') :
    ∀ q', p' = .snd q' → SenderAt s p q' :=
  fun q' e => .cold hf (hc.1 q' e).1 (hc.1 q' e).2 fun k e' => hc.2 k (e' ▸ e)

/-- the sender moves and writes none of flag, handle, tokens, pending unparks; `h0`: `q'` is inside the armed region
only if `q` was, so that a wake owed stays owed -/
theorem SenderAt.move {s s' : State} {t : Nat} {q q' : SPC} (a : SenderAt s t q)
    (h1 : s.flag = 1 → armed1 q' = true ∧ witPC s' q') (h2 : s.flag = 2 → armed2 q' = true)
    (h0 : armed0 q' = true → armed0 q = true := by exact nofun)
    (hflag : s'.flag = s.flag := by rfl) (hpth : s'.pthread = s.pthread := by rfl) (htok : s'.token = s.token := by rfl)
    (hupk : s'.upk = s.upk := by rfl)
    (hk : kOf q' = 0 := by rfl) (hsh : ∀ k, q' ≠ .sHead k := by exact nofun) : SenderAt s' t q' := by
  refine ⟨fun hf => ?_, fun hf => h2 (hflag ▸ hf), fun a0 hf => ?_, hk ▸ Nat.zero_le _, fun k e => absurd e (hsh k)⟩
  · rw [hflag] at hf; rw [hpth]; exact ⟨(h1 hf).1, (a.parked hf).2.1, (h1 hf).2⟩
  · rw [hupk, htok]; exact a.handed (h0 a0) (hflag ▸ hf)

theorem invW2_S_idle {s s' : State} {t : Nat} {q : SPC} {p' : PC} (ha : InvA s) (h2 : InvW2 s) (hq : s.pc t = .snd q)
    (m : MoveS s s' t p') (hflag : s'.flag = 0) (hcold : ColdPC s.cap p') : InvW2 s' :=
  invW2_S ha h2 hq m (fun _ => hflag) (.of_cold hflag (m.cap ▸ hcold))

/-- `ColdPC (kOf q)`: the number of slots of a write in progress stays or drops to zero -/
theorem invW2_S_cold {s s' : State} {t : Nat} {q : SPC} {p' : PC} (ha : InvA s) (h2 : InvW2 s) (hq : s.pc t = .snd q)
    (m : MoveS s s' t p')
    (hcold : ColdPC (kOf q) p' := by first | exact Quiet.cold (by quiet_tac) _ | cold_snd)
    (hflag : s'.flag = s.flag := by rfl) (hc : armed2 q = false := by rfl) : InvW2 s' :=
  invW2_S_idle ha h2 hq m (hflag.trans (flag0_of_cold ha h2 hq hc)) (hcold.mono (h2.kcap t q hq))

theorem invW2_S_to {s s' : State} {t : Nat} {q q' : SPC} (ha : InvA s) (h2 : InvW2 s) (hq : s.pc t = .snd q)
    (m : MoveS s s' t (.snd q')) (hat : SenderAt s' t q') : InvW2 s' :=
  invW2_S ha h2 hq m nofun fun _ e => by cases e; exact hat

/-- `park` returns, with or without a token: past the armed region nothing is owed any more -/
theorem invW2_park {s s' : State} {t : Nat} {x : SCtx} (ha : InvA s) (h2 : InvW2 s) (hq : s.pc t = .snd (.pPark x))
    (m : MoveS s s' t (afterPark x)) (hflag : s'.flag = s.flag) (hpth : s'.pthread = s.pthread) : InvW2 s' := by
  have a := h2.at hq
  refine invW2_S ha h2 hq m ?_ fun q' e => ?_
  · unfold afterPark; split <;> nofun
  · unfold afterPark at e
    split at e <;> cases e <;>
      exact ⟨fun hf => ⟨rfl, hpth.trans (a.parked (hflag.symm.trans hf)).2.1, trivial⟩, fun _ => rfl, nofun, Nat.zero_le _, nofun⟩

/-- a cell of the producer's snapshot is still published, or its unregistration has been published
by a thread that has not yet tested the park flag -/
theorem snap_mem_pub_or_wq {s : State} (hl : LRI s) (hs : Safe s) (h1 : InvW1 s) {t : Nat} {k : ScanK} {h i : Nat}
    {done todo : List Nat} {m : Option Nat} (hq : s.pc t = .snd (.sScan k h i done todo m)) {r : Nat}
    (hr : r ∈ done ++ todo) : r ∈ s.pub ∨ s.wq ≠ [] := by
  rcases pub_of_guard hl hs (t := t) (L := done ++ todo) (by rw [hq]; rfl) with e | ⟨w, rw, kw, p, o, hpw, hpp, hmo, e⟩
  · left; show r ∈ s.core.pub; rw [e]; exact hr
  · cases hmo with
    | clone n _ _ => left; show r ∈ s.core.pub; rw [e]; exact List.mem_append.2 (Or.inl hr)
    | unreg _ =>
      by_cases e' : r = rw
      · right
        have : w ∈ s.wq := (h1.wq_iff w).2 (by
          rw [hpw]; rcases hpp with rfl | rfl <;> rfl)
        intro hnil; rw [hnil] at this; cases this
      · left; show r ∈ s.core.pub
        rw [e]; simp only [apL, List.mem_filter]; exact ⟨hr, by simpa using e'⟩

theorem spaceK_le (cap h mv n : Nat) : spaceK cap h mv n ≤ cap := by unfold spaceK; omega

/-- a re-check ends in the park (minimum still a lap behind the head it loaded) or in the de-arm CAS -/
theorem afterScan_rk {cap : Nat} {k : ScanK} {h : Nat} {L : List Nat} {m : Option Nat} (hrk : rk k = true) :
    (∃ x mv, m = some mv ∧ h - mv ≥ cap ∧ afterScan cap k h L m = .snd (.pPark x)) ∨
      ∃ d, afterScan cap k h L m = .snd (.dCas d) := by
  cases k <;> cases hrk <;> cases m <;> simp only [afterScan]
  all_goals first
    | exact Or.inr ⟨_, rfl⟩
    | (split
       · exact Or.inl ⟨_, _, rfl, ‹_›, rfl⟩
       · exact Or.inr ⟨_, rfl⟩)

theorem afterScan_cold {cap : Nat} {k : ScanK} {h : Nat} {L : List Nat} {m : Option Nat} (hrk : rk k = false)
    (hcp : 0 < cap) : ColdPC cap (afterScan cap k h L m) := by
  cases k <;> cases hrk <;> cases m <;> simp only [afterScan] <;> (repeat' split) <;>
    exact ⟨fun _ e => by cases e <;> first | exact ⟨rfl, Nat.zero_le _⟩ | exact ⟨rfl, hcp⟩ | exact ⟨rfl, spaceK_le ..⟩,
      fun _ e => nomatch e⟩

theorem wake2_actS {s s' : State} {t : Nat} {p : SPC} (ha : InvA s) (hl : LRI s) (hs : Safe s) (hw : InvW s)
    (hq : s.pc t = .snd p) (h : actS s t p = some s') : InvW2 s' := by
  have h2 := hw.w2
  have a := h2.at hq
  have mov {p' : PC} := actS_move h (p' := p')
  cases p
  case sHead k =>
    cases h
    exact invW2_S_cold ha h2 hq (mov rfl)
      ⟨fun q' e => by cases e; exact ⟨a.shead k rfl, Nat.zero_le _⟩, nofun⟩
  case sEnter k h0 p =>
    -- every outcome is `sEnter k h0 _`, `sScan k h0 _ [] _ none` or `sExit k h0 _ _ none`: no minimum yet
    open_actS h
    · revert mov; unfold commitPC; repeat' split
      all_goals exact fun mov => invW2_S_to ha h2 hq (mov rfl) (a.move (fun hf => ⟨(a.parked hf).1, trivial⟩) a.consuming id)
    · exact invW2_S_to ha h2 hq (mov rfl) (a.move (fun hf => ⟨(a.parked hf).1, trivial⟩) a.consuming id)
  case sScan k h0 i done todo m =>
    cases todo with
    | nil => simp [actS, stepSScan] at h
    | cons r rest =>
      -- the Dekker witness for the new running minimum
      have hwit : s.flag = 1 → rk k = true →
          (newArg m (s.cur r) r s.argm ∈ s.pub ∧ s.cur (newArg m (s.cur r) r s.argm) = omin m (s.cur r)) ∨ s.wq ≠ [] := by
        intro hf hrk
        have hr := snap_mem_pub_or_wq hl hs hw.w1 hq (r := r) (by simp)
        cases m with
        | none => exact hr.imp_left fun hr => ⟨hr, rfl⟩
        | some mv =>
          simp only [newArg, omin]
          split
          · exact hr.imp_left fun hr => ⟨hr, by omega⟩
          · exact ((a.parked hf).2.2 hrk).imp_left fun ⟨a, b⟩ => ⟨a, by omega⟩
      open_actS h <;>
        exact invW2_S_to ha h2 hq (mov rfl) (a.move (fun hf => ⟨(a.parked hf).1, hwit hf⟩) a.consuming id)
  case sHead2 k i L m =>
    cases h
    exact invW2_S_to ha h2 hq (mov rfl) (a.move (fun hf => ⟨(a.parked hf).1, (a.parked hf).2.2⟩) a.consuming id)
  case sExit k h0 i L m =>
    simp only [actS, stepSExit, LeftRightB.step] at h
    cases h
    by_cases hrk : rk k = true
    · -- the re-check is over: park only if the witness cell is still a lap behind, else de-arm
      rcases afterScan_rk (cap := s.cap) (h := h0) (L := L) (m := m) hrk with ⟨x, mv, rfl, hfull, e⟩ | ⟨d, e⟩ <;>
        revert mov <;> rw [e] <;> intro mov
      · have ⟨e1, _, _⟩ := (hs.sf t _ hq).2 mv rfl
        have e1 : h0 = s.head := by cases k <;> first | exact e1 rfl | cases hrk
        refine invW2_S_to ha h2 hq (mov rfl) (a.move (fun hf => ⟨rfl, ?_⟩) (fun _ => rfl) (fun _ => hrk))
        -- unchanged since it was loaded, and the head is the one just loaded
        refine ((a.parked hf).2.2 hrk).imp_left fun ⟨w1, w2⟩ => ⟨w1, ?_⟩
        have := hs.g.cap_pos
        show s.cur s.argm + s.cap ≤ s.head
        rw [show s.core.cap = s.cap from rfl] at this; omega
      · exact invW2_S_to ha h2 hq (mov rfl) (a.move (fun _ => ⟨rfl, trivial⟩) (fun _ => rfl))
    · have hrk : rk k = false := by simpa using hrk
      have hf0 : s.flag = 0 := flag0_of_cold ha h2 hq (show armed2 (.sExit k h0 i L m) = false from hrk)
      exact invW2_S_idle ha h2 hq (mov rfl) hf0 (afterScan_cold hrk hs.g.cap_pos)
  case aStore x =>
    cases h
    exact invW2_S_to ha h2 hq (mov rfl) ⟨fun _ => ⟨rfl, rfl, trivial⟩, nofun, fun _ => nofun, Nat.zero_le _, nofun⟩
  case aFence x =>
    cases h
    refine invW2_S_to ha h2 hq (mov rfl) (a.move (fun _ => ⟨?_, trivial⟩) (fun _ => ?_) (fun _ => rfl))
    · simp only [armed1, armed0]; split <;> rfl
    · simp only [armed2, armed1, armed0]; split <;> rfl
  case dCas d =>
    simp only [actS, stepDCas] at h
    split at h
    · cases h; exact invW2_S_idle ha h2 hq (mov rfl) rfl ((quiet_dkCont d).cold _)
    · rename_i hf1
      split at h <;> cases h
      · cases d <;> exact invW2_S_to ha h2 hq (mov rfl) (a.move (fun hf => absurd hf hf1) (fun _ => rfl))
      · exact invW2_S_idle ha h2 hq (mov rfl) (by have := ha.flag2; show s.flag = 0; omega) ((quiet_dkCont d).cold _)
  case dSpin d | pHead x | pSpin x =>
    cases h
    exact invW2_S_to ha h2 hq (mov rfl) (a.move (fun _ => ⟨rfl, trivial⟩) (fun _ => rfl))
  case dLoad x =>
    simp only [actS, stepDLoad] at h
    split at h <;> cases h
    · rename_i h0
      exact invW2_S_idle ha h2 hq (mov rfl) h0 ((quiet_retryPC x).cold _)
    · exact invW2_S_to ha h2 hq (mov rfl) (a.move (fun hf => nomatch (a.parked hf).1) (fun _ => rfl))
  case dSpin2 x =>
    cases h
    exact invW2_S_to ha h2 hq (mov rfl) (a.move (fun hf => nomatch (a.parked hf).1) (fun _ => rfl))
  case pPark x =>
    open_actS h
    exact invW2_park ha h2 hq (mov rfl) rfl rfl
  case pLoad x =>
    simp only [actS, stepPLoad] at h
    split at h
    · cases h
      exact invW2_S_to ha h2 hq (mov rfl) (a.move (fun _ => ⟨rfl, trivial⟩) (fun _ => rfl))
    · rename_i hf1
      split at h <;> cases h
      · exact invW2_S_to ha h2 hq (mov rfl) (a.move (fun hf => absurd hf hf1) (fun _ => rfl))
      · exact invW2_S_idle ha h2 hq (mov rfl) (by have := ha.flag2; show s.flag = 0; omega) ((quiet_retryPC x).cold _)
  case pCas x =>
    simp only [actS, stepPCas] at h
    split at h <;> cases h
    · exact invW2_S_idle ha h2 hq (mov rfl) rfl ((quiet_retryPC x).cold _)
    · rename_i hf1
      exact invW2_S_to ha h2 hq (mov rfl) (a.move (fun hf => absurd hf hf1) (fun _ => rfl))
  -- the other steps start outside the armed region, keep the flag, and keep or finish the write in progress
  all_goals open_actS h <;> exact invW2_S_cold ha h2 hq (mov rfl)

/-- `hth`: a thread arriving in CONSUMING holds the producer's handle -/
theorem invW2_other {s s' : State} {t : Nat} {p' : PC} (h2 : InvW2 s) (hpc : s'.pc = upd s.pc t p')
    (hns : ∀ q, p' ≠ .snd q) (hso : s'.sOwner = s.sOwner) (h0 : s.flag = 0 → s'.flag = 0)
    (hth : ∀ r k th, p' = .rcv r (.wpIdle k th) → ∀ p q, s.pc p = .snd q → th = some p)
    (hat : ∀ p q, s.pc p = .snd q → p ≠ t → SenderAt s p q → SenderAt s' p q) : InvW2 s' := by
  have same : ∀ {u q'}, s'.pc u = .snd q' → u ≠ t ∧ s.pc u = .snd q' := fun h =>
    (pc_upd (hpc ▸ h)).resolve_left fun e => hns _ e.2
  refine .of_at (fun u q' h => hat u q' (same h).2 (same h).1 (h2.at (same h).2)) (fun h => h0 (h2.idle0 (hso ▸ h)))
    (fun u r k th p q' hu hpq => ?_)
  rcases pc_upd (hpc ▸ hu) with ⟨_, e⟩ | ⟨_, hu⟩
  · exact hth r k th e p q' (same hpq).2
  · exact h2.idle_th u r k th p q' hu (same hpq).2

theorem SenderAt.keep {s s' : State} {p : Nat} {q : SPC} (a : SenderAt s p q) (hcap : s'.cap = s.cap)
    (hflag : s'.flag = s.flag) (hpth : s'.pthread = s.pthread) (htok : s.token p = true → s'.token p = true)
    (hupk : ∀ u, (u, p) ∈ s.upk → (u, p) ∈ s'.upk ∨ s'.token p = true)
    (hwit : s.flag = 1 → witPC s q → witPC s' q) : SenderAt s' p q := by
  refine ⟨fun hf => ?_, fun hf => a.consuming (hflag ▸ hf), fun a0 hf => ?_, hcap ▸ a.kcap, a.shead⟩
  · rw [hflag] at hf; rw [hpth]; exact ⟨(a.parked hf).1, (a.parked hf).2.1, hwit hf (a.parked hf).2.2⟩
  · rcases a.handed a0 (hflag ▸ hf) with ht | ⟨v, hv⟩
    · exact Or.inl (htok ht)
    · exact (hupk v hv).symm.imp_right fun h => ⟨v, h⟩

theorem witPC_keep {s s' : State} {q : SPC} (h : witPC s q) (hcap : s'.cap = s.cap) (hhead : s'.head = s.head)
    (hk : s'.wq ≠ [] ∨ (s'.wq = s.wq ∧ (s.argm ∈ s.pub → s'.argm ∈ s'.pub ∧ s'.cur s'.argm = s.cur s.argm))) :
    witPC s' q := by
  have key : ∀ P : Nat → Prop, (s.argm ∈ s.pub ∧ P (s.cur s.argm)) ∨ s.wq ≠ [] →
      (s'.argm ∈ s'.pub ∧ P (s'.cur s'.argm)) ∨ s'.wq ≠ [] := by
    intro P h
    rcases hk with hk | ⟨e, hk⟩
    · exact Or.inr hk
    · rcases h with ⟨a, b⟩ | w
      · have ⟨a', b'⟩ := hk a; exact Or.inl ⟨a', b' ▸ b⟩
      · exact Or.inr (e ▸ w)
  cases q with
  | sScan k h0 i done todo m => cases m <;> simp only [witPC] at h ⊢; exact fun hk => key (· = _) (h hk)
  | sExit k h0 i L m => cases m <;> simp only [witPC] at h ⊢; exact fun hk => key (· = _) (h hk)
  | sHead2 k i L m => exact fun hk => key (· = m) (h hk)
  | pPark x => simp only [witPC, hcap, hhead] at h ⊢; exact key (· + s.cap ≤ s.head) h
  | _ => trivial

theorem witPC_pub {s s' : State} {q : SPC} (h : witPC s q) (hpub : ∀ x, x ∈ s.pub → x ∈ s'.pub := by exact fun _ a => a)
    (h1 : s'.argm = s.argm := by rfl) (h3 : s'.cur = s.cur := by rfl) (h4 : s'.wq = s.wq := by rfl)
    (h5 : s'.cap = s.cap := by rfl) (h6 : s'.head = s.head := by rfl) : witPC s' q :=
  witPC_keep h h5 h6 (Or.inr ⟨h4, fun a => by rw [h1, h3]; exact ⟨hpub _ a, rfl⟩⟩)

theorem invW2_R {s s' : State} {t r : Nat} {p' : PC} (h2 : InvW2 s) (m : MoveR s s' t r p')
    (hwit : ∀ q0, s.flag = 1 → witPC s q0 → witPC s' q0 := by exact fun _ _ h => witPC_pub h)
    (htok : ∀ u, u ≠ t → s.token u = true → s'.token u = true := by exact fun _ _ h => h)
    (hupk : ∀ u p, (u, p) ∈ s.upk → (u, p) ∈ s'.upk ∨ s'.token p = true := by exact fun _ _ h => Or.inl h)
    (hflag : s'.flag = s.flag := by rfl) (hpth : s'.pthread = s.pthread := by rfl)
    (hni : csmPC p' = false := by first | rfl | exact (wcls_eq.1 (QuietR.cls (by quietR_tac))).2.2) : InvW2 s' :=
  invW2_other h2 m.pc (fun _ => okR_not_snd m.ok) m.toFrameR.sOwner (hflag ▸ id) (fun _ _ _ e => by rw [e] at hni; cases hni)
    fun p q _ hne a => a.keep m.cap hflag hpth (htok p hne) (fun u => hupk u p) (hwit q)

theorem mirror_same {M : Nat → Prop} {C : PC → Prop} {pc : Nat → PC} {t : Nat} {p' : PC}
    (h : ∀ u, M u ↔ C (pc u)) (ht : C p' ↔ C (pc t)) : ∀ u, M u ↔ C (upd pc t p' u) :=
  mirror_upd h (fun _ _ => Iff.rfl) ((h t).trans ht.symm)

/-- `tails_writer.modify`: the thread enters the pre-test section where it publishes an unregistration; at every
other stage the ghost sets are untouched and what was published stays published -/
theorem wake_mMod {s s' : State} {t r : Nat} {k : MK} {p : LPC} (hl : LRI s) (hs : Safe s) (hw : InvW s)
    (hq : s.pc t = .rcv r (.mMod k p)) (h : stepMMod s t r k p = some s') : InvW1 s' ∧ InvW2 s' := by
  have hf := hs.rf t r _ hq
  have hst := hl.stage t
  simp only [hq, lrpc, lrpcR] at hst
  have hl2 : s.lr.live < 2 := hl.live2
  have hwr := rFact_isWr hf
  have mov {p' : PC} := actR_move (p := .mMod k p) h (p' := p')
  unfold stepMMod at h
  cases p <;> simp only [isWr] at hwr <;> (first | cases hwr | skip) <;> simp only [lrLabel, LeftRightB.step] at h
  case wLock o =>
    by_cases hwl : s.lr.wlock = none <;> simp only [hwl, ↓reduceIte] at h <;> cases h <;> cases k <;>
      exact ⟨invW1_frame hw.w1 hq rfl, invW2_R hw.w2 (mov rfl)⟩
  case wWait o l =>
    by_cases hz : s.lr.readers l = 0 <;> simp only [hz, ↓reduceIte] at h <;> cases h <;> cases k <;>
      exact ⟨invW1_frame hw.w1 hq rfl, invW2_R hw.w2 (mov rfl)⟩
  case wMut1 o l | wMut2 o l =>
    -- the copy `i` that is mutated is not the live one, so the published list is as before
    cases h
    simp only [LeftRightB.stageOK] at hst
    have hpub : ∀ i v, s.lr.live ≠ i → ∀ x, x ∈ s.pub → x ∈ upd s.lr.data i v s.lr.live :=
      fun i v hne x hx => (upd_ne hne v).symm ▸ hx
    cases k <;> exact ⟨invW1_frame hw.w1 hq rfl, invW2_R hw.w2 (mov rfl) (fun _ _ h => witPC_pub h (hpub _ _ (by omega)))⟩
  case wPub o l =>
    cases h
    simp only [LeftRightB.stageOK] at hst
    obtain ⟨hlv, hd⟩ := hst
    cases k with
    | clone n =>
      simp only [rFact, opOf] at hf
      have := hf.2.2.1 o rfl; subst this
      refine ⟨invW1_frame hw.w1 hq rfl, invW2_R hw.w2 (mov rfl) (fun _ _ h => witPC_pub h fun x hx => ?_)⟩
      show x ∈ s.lr.data (1 - l)
      rw [hd]; simp only [apL, List.mem_append]; left; rw [hlv]; exact hx
    | unreg =>
      exact ⟨invW1_wq_add hw.w1 hq rfl rfl,
        invW2_R hw.w2 (mov rfl) (fun q0 _ h => witPC_keep h rfl rfl (Or.inl (List.cons_ne_nil _ _)))⟩
  all_goals cases h <;> cases k <;> exact ⟨invW1_frame hw.w1 hq rfl, invW2_R hw.w2 (mov rfl)⟩

theorem wake1_actR {s s' : State} {t r : Nat} {p : RPC} (hl : LRI s) (hs : Safe s) (hw : InvW s)
    (hq : s.pc t = .rcv r p) (h : actR s t r p = some s') : InvW1 s' := by
  have h1 := hw.w1
  cases p
  case mMod k p => exact (wake_mMod hl hs hw hq h).1
  case mLock k =>
    open_actR h
    cases k <;> exact invW1_frame h1 hq rfl
  case rSt x c vs =>
    cases h
    exact invW1_wq_add h1 hq rfl rfl
  case wpLoad k =>
    open_actR h
    · exact invW1_frame h1 hq rfl
    · exact invW1_wq_del h1 hq rfl rfl
  case wpCas k =>
    open_actR h
    · -- PARKED → CONSUMING: this thread takes the handle
      rename_i hf1
      obtain ⟨a1, a2, a3, a4, a5, a6⟩ := h1
      have hnocsm : s.csm = none := by
        cases hc : s.csm with
        | none => rfl
        | some u => have := a6.2 (by rw [hc]; simp); rw [hf1] at this; cases this
      exact ⟨mirror_upd (C := fun p => preCasPC p = true) a1 (fun u hu => List.mem_erase_of_ne hu)
          (by simp [a2.not_mem_erase, preCasPC, preCas]),
        a2.erase t,
        fun u p => mirror_same (C := fun q => upkPC q = some p) (a3 · p) (by rw [hq]; rfl) u,
        a4,
        mirror_upd (C := fun p => csmPC p = true) a5 (fun u hu => by simp [hnocsm, Ne.symm hu]) (by simp [csmPC]),
        by simp⟩
    · exact invW1_wq_del h1 hq rfl rfl
  case wpIdle k th =>
    -- CONSUMING → IDLE: the flag is released; a wake of the thread taken is now pending
    have ⟨c1, c2, c3⟩ := wcls_eq.1 (quietR_wkDone 0 k).cls
    obtain ⟨a1, a2, a3, a4, a5, a6⟩ := h1
    have hcsm : s.csm = some t := (a5 t).2 (by rw [hq]; rfl)
    have hnot : ∀ p, (t, p) ∉ s.upk := fun p hm => by have := (a3 t p).1 hm; rw [hq] at this; cases this
    have csm' : ∀ p', csmPC p' = false → ∀ u, (none : Option Nat) = some u ↔ csmPC (upd s.pc t p' u) = true :=
      fun p' hp' => mirror_upd (C := fun p => csmPC p = true) a5 (fun u hu => by simp [hcsm, Ne.symm hu]) (by simp [hp'])
    open_actR h
    · rename_i p
      refine ⟨mirror_same (C := fun p => preCasPC p = true) a1 (by rw [hq]; rfl), a2, fun u p' => ?_,
        List.nodup_cons.2 ⟨hnot p, a4⟩, csm' _ rfl, by simp⟩
      revert u
      exact mirror_upd (C := fun q => upkPC q = some p') (a3 · p') (fun u hu => by simp [hu])
        (by simp [hnot p', upkPC, eq_comm])
    · exact ⟨mirror_same (C := fun p => preCasPC p = true) a1 (by rw [hq, c1]; rfl), a2,
        fun u p' => mirror_same (C := fun q => upkPC q = some p') (a3 · p') (by rw [hq, c2]; rfl) u,
        a4, csm' _ c3, by simp⟩
  case wpUnpark k th =>
    have ⟨c1, c2, c3⟩ := wcls_eq.1 (quietR_wkDone 0 k).cls
    obtain ⟨a1, a2, a3, a4, a5, a6⟩ := h1
    cases h
    refine ⟨mirror_same (C := fun p => preCasPC p = true) a1 (by rw [hq, c1]; rfl), a2, fun u p => ?_,
      a4.erase _, mirror_same (C := fun p => csmPC p = true) a5 (by rw [hq, c3]; rfl), a6⟩
    revert u
    refine mirror_upd (C := fun q => upkPC q = some p) (a3 · p)
      (fun u hu => List.mem_erase_of_ne (fun e => hu (Prod.mk.inj e).1)) ?_
    -- `(t, th)` was the only pending unpark of `t`
    rw [c2]
    refine ⟨fun hm => ?_, nofun⟩
    have := (a3 t p).1 (List.mem_of_mem_erase hm)
    rw [hq] at this; cases this
    exact absurd hm a4.not_mem_erase
  all_goals open_actR h <;> exact invW1_frame h1 hq rfl

theorem wake2_actR {s s' : State} {t r : Nat} {p : RPC} (hl : LRI s) (hs : Safe s) (hw : InvW s)
    (hq : s.pc t = .rcv r p) (h : actR s t r p = some s') : InvW2 s' := by
  have h2 := hw.w2
  have mov {p' : PC} := actR_move h (p' := p')
  cases p
  case mMod k p => exact (wake_mMod hl hs hw hq h).2
  case rSt x c vs =>
    cases h
    exact invW2_R h2 (mov rfl) (fun q0 _ h => witPC_keep h rfl rfl (Or.inl (List.cons_ne_nil _ _)))
  case kPark x =>
    open_actR h
    refine invW2_R h2 (mov rfl) (htok := fun u hut hu => ?_)
    show upd s.token t false u = true; simp only [upd_apply, if_neg hut]; exact hu
  case wpLoad k =>
    open_actR h
    · exact invW2_R h2 (mov rfl)
    · rename_i hf1
      exact invW2_R h2 (mov rfl) (fun q0 hf _ => absurd hf hf1)
  case wpCas k =>
    open_actR h
    · -- PARKED → CONSUMING: the producer stays where it is; the handle taken is its own
      rename_i hf1
      exact invW2_other h2 rfl (fun _ => nofun) rfl (fun h => by omega)
        (fun _ _ _ e p q hp => by cases e; exact (h2.parked p q hp hf1).2)
        fun p q _ _ a => ⟨nofun, fun _ => armed2_of_armed1 (a.parked hf1).1, fun _ => nofun, a.kcap, a.shead⟩
    · rename_i hf1
      exact invW2_R h2 (mov rfl) (fun q0 hf _ => absurd hf hf1)
  case wpIdle k th =>
    -- CONSUMING → IDLE: the producer, if it is armed, is now owed the unpark of the handle taken
    have gen : ∀ {p' : PC} {s1 : State}, MoveR s s1 t r p' → csmPC p' = false → s1.flag = 0 →
        (∀ p, th = some p → (t, p) ∈ s1.upk) → InvW2 s1 := fun m c3 e2 e5 =>
      invW2_other h2 m.pc (fun _ => okR_not_snd m.ok) m.toFrameR.sOwner (fun _ => e2) (fun _ _ _ e => by rw [e] at c3; cases c3)
        fun p q hp _ a => ⟨fun h => by omega, fun h => by omega,
          fun _ _ => Or.inr ⟨t, e5 p (h2.idle_th t r k th p q hq hp)⟩, m.cap ▸ a.kcap, a.shead⟩
    open_actR h
    · exact gen (mov rfl) rfl rfl (fun p' e => by cases e; exact List.mem_cons_self)
    · exact gen (mov rfl) (wcls_eq.1 (quietR_wkDone 0 k).cls).2.2 rfl nofun
  case wpUnpark k th =>
    cases h
    refine invW2_R h2 (mov rfl) (htok := fun u _ hu => ?_) (hupk := fun u p hm => ?_)
    · show upd s.token th true u = true; simp only [upd_apply]; split <;> simp [hu]
    · by_cases e : p = th
      · right; subst e; show upd s.token p true p = true; simp
      · left; exact List.mem_erase_of_ne (by intro hh; exact e (Prod.mk.inj hh).2) |>.2 hm
  case cCur =>
    cases h
    -- the fresh cell is not published: the witness cell keeps its cursor
    refine invW2_R h2 (mov rfl) fun q0 _ h => witPC_keep h rfl rfl (Or.inr ⟨rfl, fun hm => ⟨hm, ?_⟩⟩)
    have := hs.g.cells s.lr.live s.argm hm
    show upd s.cur s.nextCell (s.cur r) s.argm = s.cur s.argm
    simp only [upd_apply]; rw [if_neg]; exact Nat.ne_of_lt this
  all_goals open_actR h <;> exact invW2_R h2 (mov rfl)

end Fv.Chan.SpmcB
