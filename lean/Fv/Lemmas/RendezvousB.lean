import Fv.Chan.RendezvousB
/-! Rendezvous B-model: what every step preserves. `Thr s u p` is the table of what is known of agent `u` at control
state `p` about the one waiter record `p` refers to. A step of `t` writes `pc t`, its own record, the record it pops or
the records it disconnects, and nothing else (`Frame`); `InvR.of_frame` turns this into preservation of every clause about
the other agents, so a step has to establish only `Local s t s'`: the clauses about `t` itself. -/
namespace Fv.Chan.RendezvousB

@[simp] theorem upd_same {α} (f : Nat → α) (i : Nat) (a : α) : upd f i a i = a := by simp [upd]
theorem upd_apply {α} (f : Nat → α) (i j : Nat) (a : α) : upd f i a j = if j = i then a else f j := rfl
theorem bump_apply (w : Nat → Nat) (a j : Nat) : bump w a j = if j = a then w a + 1 else w j := rfl
theorem optL_mem (o : Option Nat) (v : Nat) : v ∈ optL o ↔ o = some v := by
  cases o <;> simp [optL, eq_comm]

def recOf : PC → Option Nat
  | .sLock _ r | .sWait _ r | .sPark _ r | .asNew _ r | .asLock _ r | .asPend _ r | .asRef _ r | .asFin _ r | .fdUnlS _ r
  | .rLock r | .rWait r | .rPark r | .toLock r | .toLoad r | .toCas r | .toUnl r | .toFin r
  | .arNew r | .arLock r | .arPend r | .arRef r | .arFin r | .fdUnlR r => some r
  | _ => none

/-- sender control states before the record is enqueued -/
def unregS : PC → Option Nat
  | .idle => none
  | .done _ => none
  | .wakeThen _ _ => none
  | .sLock _ r => some r
  | .sWait _ _ => none
  | .sPark _ _ => none
  | .tsLock _ => none
  | .rLock _ => none
  | .rWait _ => none
  | .rPark _ => none
  | .trLock => none
  | .toLock _ => none
  | .toLoad _ => none
  | .toCas _ => none
  | .toUnl _ => none
  | .toFin _ => none
  | .asNew _ r => some r
  | .asLock _ r => some r
  | .asPend _ _ => none
  | .asRef _ _ => none
  | .asFin _ _ => none
  | .fdUnlS _ _ => none
  | .arNew _ => none
  | .arLock _ => none
  | .arPend _ => none
  | .arRef _ => none
  | .arFin _ => none
  | .fdUnlR _ => none
  | .hCloneS => none
  | .hCloneR => none
  | .hCloseS => none
  | .hCloseR => none
  | .hWake _ => none

/-- receiver control states before the record is enqueued -/
def unregR : PC → Option Nat
  | .idle => none
  | .done _ => none
  | .wakeThen _ _ => none
  | .sLock _ _ => none
  | .sWait _ _ => none
  | .sPark _ _ => none
  | .tsLock _ => none
  | .rLock r => some r
  | .rWait _ => none
  | .rPark _ => none
  | .trLock => none
  | .toLock r => some r
  | .toLoad _ => none
  | .toCas _ => none
  | .toUnl _ => none
  | .toFin _ => none
  | .asNew _ _ => none
  | .asLock _ _ => none
  | .asPend _ _ => none
  | .asRef _ _ => none
  | .asFin _ _ => none
  | .fdUnlS _ _ => none
  | .arNew r => some r
  | .arLock r => some r
  | .arPend _ => none
  | .arRef _ => none
  | .arFin _ => none
  | .fdUnlR _ => none
  | .hCloneS => none
  | .hCloneR => none
  | .hCloseS => none
  | .hCloseR => none
  | .hWake _ => none

/-- a sender whose record has been enqueued (until it returns) -/
def sendReg : PC → Option Nat
  | .idle => none
  | .done _ => none
  | .wakeThen _ _ => none
  | .sLock _ _ => none
  | .sWait _ r => some r
  | .sPark _ r => some r
  | .tsLock _ => none
  | .rLock _ => none
  | .rWait _ => none
  | .rPark _ => none
  | .trLock => none
  | .toLock _ => none
  | .toLoad _ => none
  | .toCas _ => none
  | .toUnl _ => none
  | .toFin _ => none
  | .asNew _ _ => none
  | .asLock _ _ => none
  | .asPend _ r => some r
  | .asRef _ r => some r
  | .asFin _ r => some r
  | .fdUnlS _ r => some r
  | .arNew _ => none
  | .arLock _ => none
  | .arPend _ => none
  | .arRef _ => none
  | .arFin _ => none
  | .fdUnlR _ => none
  | .hCloneS => none
  | .hCloneR => none
  | .hCloseS => none
  | .hCloseR => none
  | .hWake _ => none

/-- the token of an enqueued sender -/
def sendTok : PC → Option Nat
  | .idle => none
  | .done _ => none
  | .wakeThen _ _ => none
  | .sLock _ _ => none
  | .sWait v _ => some v
  | .sPark v _ => some v
  | .tsLock _ => none
  | .rLock _ => none
  | .rWait _ => none
  | .rPark _ => none
  | .trLock => none
  | .toLock _ => none
  | .toLoad _ => none
  | .toCas _ => none
  | .toUnl _ => none
  | .toFin _ => none
  | .asNew _ _ => none
  | .asLock _ _ => none
  | .asPend v _ => some v
  | .asRef v _ => some v
  | .asFin v _ => some v
  | .fdUnlS v _ => some v
  | .arNew _ => none
  | .arLock _ => none
  | .arPend _ => none
  | .arRef _ => none
  | .arFin _ => none
  | .fdUnlR _ => none
  | .hCloneS => none
  | .hCloneR => none
  | .hCloseS => none
  | .hCloseR => none
  | .hWake _ => none

/-- the token of a sender that has not yet entered its lock section -/
def holdsFresh : PC → Option Nat
  | .idle => none
  | .done _ => none
  | .wakeThen _ _ => none
  | .sLock v _ => some v
  | .sWait _ _ => none
  | .sPark _ _ => none
  | .tsLock v => some v
  | .rLock _ => none
  | .rWait _ => none
  | .rPark _ => none
  | .trLock => none
  | .toLock _ => none
  | .toLoad _ => none
  | .toCas _ => none
  | .toUnl _ => none
  | .toFin _ => none
  | .asNew v _ => some v
  | .asLock v _ => some v
  | .asPend _ _ => none
  | .asRef _ _ => none
  | .asFin _ _ => none
  | .fdUnlS _ _ => none
  | .arNew _ => none
  | .arLock _ => none
  | .arPend _ => none
  | .arRef _ => none
  | .arFin _ => none
  | .fdUnlR _ => none
  | .hCloneS => none
  | .hCloneR => none
  | .hCloseS => none
  | .hCloseR => none
  | .hWake _ => none

/-- a receiver that is going to read its state byte and, if DONE, return its destination -/
def recvWait : PC → Option Nat
  | .idle => none
  | .done _ => none
  | .wakeThen _ _ => none
  | .sLock _ _ => none
  | .sWait _ _ => none
  | .sPark _ _ => none
  | .tsLock _ => none
  | .rLock _ => none
  | .rWait r => some r
  | .rPark r => some r
  | .trLock => none
  | .toLock _ => none
  | .toLoad r => some r
  | .toCas r => some r
  | .toUnl _ => none
  | .toFin r => some r
  | .asNew _ _ => none
  | .asLock _ _ => none
  | .asPend _ _ => none
  | .asRef _ _ => none
  | .asFin _ _ => none
  | .fdUnlS _ _ => none
  | .arNew _ => none
  | .arLock _ => none
  | .arPend r => some r
  | .arRef r => some r
  | .arFin r => some r
  | .fdUnlR _ => none
  | .hCloneS => none
  | .hCloneR => none
  | .hCloseS => none
  | .hCloseR => none
  | .hWake _ => none

/-- blocked / Pending control states -/
def waitish : PC → Option Nat
  | .idle => none
  | .done _ => none
  | .wakeThen _ _ => none
  | .sLock _ _ => none
  | .sWait _ _ => none
  | .sPark _ r => some r
  | .tsLock _ => none
  | .rLock _ => none
  | .rWait _ => none
  | .rPark r => some r
  | .trLock => none
  | .toLock _ => none
  | .toLoad _ => none
  | .toCas _ => none
  | .toUnl _ => none
  | .toFin _ => none
  | .asNew _ _ => none
  | .asLock _ _ => none
  | .asPend _ r => some r
  | .asRef _ _ => none
  | .asFin _ _ => none
  | .fdUnlS _ _ => none
  | .arNew _ => none
  | .arLock _ => none
  | .arPend r => some r
  | .arRef _ => none
  | .arFin _ => none
  | .fdUnlR _ => none
  | .hCloneS => none
  | .hCloneR => none
  | .hCloseS => none
  | .hCloseR => none
  | .hWake _ => none

/-- the agent a `wakeThen` / `hWake` control state still has to wake -/
def owes : PC → List Nat
  | .idle => []
  | .done _ => []
  | .wakeThen a _ => [a]
  | .sLock _ _ => []
  | .sWait _ _ => []
  | .sPark _ _ => []
  | .tsLock _ => []
  | .rLock _ => []
  | .rWait _ => []
  | .rPark _ => []
  | .trLock => []
  | .toLock _ => []
  | .toLoad _ => []
  | .toCas _ => []
  | .toUnl _ => []
  | .toFin _ => []
  | .asNew _ _ => []
  | .asLock _ _ => []
  | .asPend _ _ => []
  | .asRef _ _ => []
  | .asFin _ _ => []
  | .fdUnlS _ _ => []
  | .arNew _ => []
  | .arLock _ => []
  | .arPend _ => []
  | .arRef _ => []
  | .arFin _ => []
  | .fdUnlR _ => []
  | .hCloneS => []
  | .hCloneR => []
  | .hCloseS => []
  | .hCloseR => []
  | .hWake ws => ws

/-- receiver control states during which its record may still be linked in the receiver store -/
def recvIn : PC → Option Nat
  | .rWait r | .rPark r | .toLoad r | .toCas r | .toUnl r | .arPend r | .arRef r | .fdUnlR r => some r
  | _ => none

/-- the results a matched (fulfilling) operation returns after its wake -/
def okRes : Res → Bool
  | .sendOk _ | .recvOk _ => true
  | _ => false

theorem sendReg_recOf {p : PC} {r : Nat} (h : sendReg p = some r) : recOf p = some r := by
  cases p <;> simp_all [sendReg, recOf]
theorem recvIn_recOf {p : PC} {r : Nat} (h : recvIn p = some r) : recOf p = some r := by
  cases p <;> simp_all [recvIn, recOf]
theorem recvWait_recOf {p : PC} {r : Nat} (h : recvWait p = some r) : recOf p = some r := by
  cases p <;> simp_all [recvWait, recOf]
theorem sendReg_tok {p : PC} {r : Nat} (h : sendReg p = some r) : ∃ v, sendTok p = some v := by
  cases p <;> simp_all [sendReg, sendTok]
theorem sendReg_not_recvWait {p : PC} {r : Nat} (h : sendReg p = some r) : recvWait p = none := by
  cases p <;> simp_all [sendReg, recvWait]
theorem unregS_not_recvWait {p : PC} {r : Nat} (h : unregS p = some r) : recvWait p = none := by
  cases p <;> simp_all [unregS, recvWait]
theorem unregR_not_recvWait {p : PC} {r : Nat} (h : unregR p = some r) : recvWait p = none := by
  cases p <;> simp_all [unregR, recvWait]

def Own (s : State) (u r : Nat) : Prop := s.owner r = u ∧ r < s.nextRec

def Woken (s : State) (u r : Nat) : Prop := s.st r ≠ .waiting → s.wakes u = 0 → u ∈ owes (s.pc (s.wakeBy r))

/-- an enqueued sender: its slot holds its own token until a receiver takes it and stores DONE -/
def SReg (s : State) (u v r : Nat) : Prop :=
  Own s u r ∧ (s.slot r = none ∨ s.slot r = some v) ∧ (s.st r = .done → v ∈ s.handed)

def RReg (s : State) (u r : Nat) : Prop :=
  Own s u r ∧ s.st r ≠ .cancelled ∧ (s.st r = .waiting → r ∈ s.rq) ∧ (s.st r = .done → s.slot r ≠ none)

def Thr (s : State) (u : Nat) : PC → Prop
  | .done res => res ≠ .panicked ∧ ∀ v, res = .sendOk v → v ∈ s.handed
  | .wakeThen _ res => okRes res = true ∧ ∀ v, res = .sendOk v → v ∈ s.handed
  | .sLock _ r | .asNew _ r | .asLock _ r => Own s u r ∧ r ∉ s.sq ∧ s.st r = .waiting
  | .sWait v r | .asRef v r => SReg s u v r ∧ s.st r ≠ .cancelled
  | .sPark v r | .asPend v r => SReg s u v r ∧ s.st r ≠ .cancelled ∧ Woken s u r
  | .asFin v r => SReg s u v r ∧ s.st r ≠ .cancelled ∧ r ∉ s.sq
  | .fdUnlS v r => SReg s u v r
  | .rLock r | .toLock r | .arNew r | .arLock r => Own s u r ∧ r ∉ s.rq ∧ s.st r = .waiting
  | .rWait r | .toLoad r | .toCas r | .arRef r => RReg s u r
  | .rPark r | .arPend r => RReg s u r ∧ Woken s u r
  | .toUnl r | .fdUnlR r => Own s u r ∧ s.st r ≠ .waiting
  | .toFin r | .arFin r => RReg s u r ∧ r ∉ s.rq ∧ s.st r ≠ .waiting
  | _ => True

/-- of a record in the sender store; `p` is the control state of its owner -/
def LinkS (s : State) (r : Nat) (p : PC) : Prop :=
  s.slot r ≠ none ∧ (s.st r = .waiting ∨ s.st r = .cancelled) ∧ sendReg p = some r

/-- a record in the receiver store; CANCELLED only between its owner's cancel CAS and the unlink under the lock -/
def LinkR (s : State) (r : Nat) (p : PC) : Prop :=
  (s.st r = .waiting ∨ s.st r = .cancelled) ∧ recvIn p = some r

/-- R1 of DESIGN A.4, and a side whose last handle is gone has no waiters left -/
def Glob (s : State) : Prop :=
  s.sq.Nodup ∧ s.rq.Nodup ∧ (s.sq = [] ∨ s.rq = []) ∧ (s.senders = 0 → s.rq = []) ∧ (s.receivers = 0 → s.sq = [])

structure InvR (s : State) : Prop where
  thr : ∀ u, Thr s u (s.pc u)
  sq : ∀ r, r ∈ s.sq → LinkS s r (s.pc (s.owner r))
  rq : ∀ r, r ∈ s.rq → LinkR s r (s.pc (s.owner r))
  glob : Glob s

theorem invR_init : InvR init := by
  constructor <;> simp [init, Thr, Glob]

theorem Thr.own {s u p r} (h : Thr s u p) (hr : recOf p = some r) : Own s u r := by
  cases p <;> simp only [recOf, reduceCtorEq, Option.some.injEq] at hr <;> subst hr <;>
    simp only [Thr, SReg, RReg] at h <;> grind

theorem Thr.of_sendReg {s u p r v} (h : Thr s u p) (hr : sendReg p = some r) (hv : sendTok p = some v) : SReg s u v r := by
  cases p <;> simp only [sendReg, sendTok, reduceCtorEq, Option.some.injEq] at hr hv <;> subst hr hv <;>
    simp only [Thr] at h <;> grind

theorem Thr.of_recvWait {s u p r} (h : Thr s u p) (hr : recvWait p = some r) : RReg s u r := by
  cases p <;> simp only [recvWait, reduceCtorEq, Option.some.injEq] at hr <;> subst hr <;> simp only [Thr] at h <;> grind

theorem Thr.of_waitish {s u p r} (h : Thr s u p) (hr : waitish p = some r) : Woken s u r := by
  cases p <;> simp only [waitish, reduceCtorEq, Option.some.injEq] at hr <;> subst hr <;> simp only [Thr] at h <;> grind

theorem Thr.of_recvIn {s u p r} (h : Thr s u p) (hr : recvIn p = some r) :
    recvWait p = some r ∧ s.st r ≠ .cancelled ∨ (p = .toUnl r ∨ p = .fdUnlR r) ∧ s.st r ≠ .waiting := by
  cases p <;> simp only [recvIn, reduceCtorEq, Option.some.injEq] at hr <;> subst hr <;>
    simp only [Thr, RReg, recvWait] at h ⊢ <;> grind

theorem Thr.congr {s s' : State} {u : Nat} {p : PC} (h : Thr s u p)
    (hv : ∀ r, recOf p = some r → s'.st r = s.st r ∧ s'.slot r = s.slot r ∧ s'.owner r = s.owner r ∧
      (r ∈ s'.sq ↔ r ∈ s.sq) ∧ (r ∈ s'.rq ↔ r ∈ s.rq) ∧ (Woken s u r → Woken s' u r))
    (hn : s.nextRec ≤ s'.nextRec) (hh : ∀ v, v ∈ s.handed → v ∈ s'.handed) : Thr s' u p := by
  cases p <;>
    simp only [Thr, SReg, RReg, Own, recOf, Option.some.injEq, forall_eq', reduceCtorEq, false_imp_iff, implies_true] at * <;>
    grind

theorem Thr.hitR {s s' : State} {u r : Nat} {p : PC} (h : Thr s u p) (hp : recvIn p = some r)
    (ho : s'.owner r = s.owner r) (hn : s.nextRec ≤ s'.nextRec)
    (hst : s'.st r = .done ∧ s'.slot r ≠ none ∨ s'.st r = .disconnected) (hw : Woken s' u r) : Thr s' u p := by
  cases p <;> simp only [recvIn, Option.some.injEq, reduceCtorEq] at hp <;> subst hp <;>
    simp only [Thr, RReg, Own] at * <;> grind

theorem Thr.hitS {s s' : State} {u r : Nat} {p : PC} (h : Thr s u p) (hp : sendReg p = some r) (hm : r ∈ s.sq)
    (ho : s'.owner r = s.owner r) (hn : s.nextRec ≤ s'.nextRec)
    (hst : s'.st r = .done ∧ s'.slot r = none ∧ (∀ v, s.slot r = some v → v ∈ s'.handed) ∨
      s'.st r = .disconnected ∧ s'.slot r = s.slot r)
    (hsl : s.slot r ≠ none) (hw : Woken s' u r) : Thr s' u p := by
  cases p <;> simp only [sendReg, Option.some.injEq, reduceCtorEq] at hp <;> subst hp <;>
    simp only [Thr, SReg, Own] at * <;> grind

/-- the receiver records of other agents that a step of `t` writes: the one a sender's lock section pops
(`fulfill_receiver`), or those the last sender disconnects -/
def HitR (s : State) (t r : Nat) : Prop :=
  match s.pc t with
  | .sLock _ _ | .tsLock _ | .asLock _ _ => s.receivers ≠ 0 ∧ s.rq.head? = some r
  | .hCloseS => s.senders = 1 ∧ r ∈ s.rq
  | _ => False

def HitS (s : State) (t r : Nat) : Prop :=
  match s.pc t with
  | .rLock _ | .trLock | .toLock _ | .arLock _ => s.sq.head? = some r
  | .hCloseR => s.receivers = 1 ∧ r ∈ s.sq
  | _ => False

theorem HitR.mem {s t r} (h : HitR s t r) : r ∈ s.rq := by
  unfold HitR at h; split at h <;> first | exact List.mem_of_mem_head? h.2 | exact h.2 | exact h.elim
theorem HitS.mem {s t r} (h : HitS s t r) : r ∈ s.sq := by
  unfold HitS at h; split at h <;> first | exact List.mem_of_mem_head? h | exact h.2 | exact h.elim

/-- What a step of agent `t` leaves alone, and what it does to the records of others: a record it pops or disconnects
leaves its store, is DONE or DISCONNECTED, and `t` owes its owner the wake (`s.slot r = none` is the branch in which
`takeFrom` panics). -/
def Frame (s : State) (t : Nat) (s' : State) : Prop :=
  (∀ u, u ≠ t → s'.pc u = s.pc u) ∧
  s.nextRec ≤ s'.nextRec ∧
  (∀ v, v ∈ s.handed → v ∈ s'.handed) ∧
  (∀ v, v ∈ s.recvd → v ∈ s'.recvd) ∧
  (∀ u, u ≠ t → s.wakes u ≤ s'.wakes u) ∧
  (∀ a, a ∈ owes (s.pc t) → a ∈ owes (s'.pc t) ∨ s.wakes a < s'.wakes a) ∧
  (∀ r, r ∈ s'.sq → r ∈ s.sq ∨ recOf (s.pc t) = some r) ∧
  (∀ r, r ∈ s'.rq → r ∈ s.rq ∨ recOf (s.pc t) = some r) ∧
  (∀ r, r < s.nextRec → recOf (s.pc t) ≠ some r → ¬ HitR s t r → ¬ HitS s t r →
    s'.st r = s.st r ∧ s'.slot r = s.slot r ∧ s'.owner r = s.owner r ∧ s'.wakeBy r = s.wakeBy r ∧
    (r ∈ s'.sq ↔ r ∈ s.sq) ∧ (r ∈ s'.rq ↔ r ∈ s.rq)) ∧
  (∀ r, HitR s t r → (s.rq.Nodup → r ∉ s'.rq) ∧ s'.owner r = s.owner r ∧ s'.wakeBy r = t ∧ s.owner r ∈ owes (s'.pc t) ∧
    (s'.st r = .done ∧ s'.slot r ≠ none ∨ s'.st r = .disconnected)) ∧
  (∀ r, HitS s t r → s.slot r = none ∨
    (s.sq.Nodup → r ∉ s'.sq) ∧ s'.owner r = s.owner r ∧ s'.wakeBy r = t ∧ s.owner r ∈ owes (s'.pc t) ∧
    (s'.st r = .done ∧ s'.slot r = none ∧ (∀ v, s.slot r = some v → v ∈ s'.handed) ∨
      s'.st r = .disconnected ∧ s'.slot r = s.slot r))

def Local (s : State) (t : Nat) (s' : State) : Prop :=
  Thr s' t (s'.pc t) ∧
  (∀ r, recOf (s.pc t) = some r → r ∈ s'.sq → s'.owner r = t ∧ LinkS s' r (s'.pc t)) ∧
  (∀ r, recOf (s.pc t) = some r → r ∈ s'.rq → s'.owner r = t ∧ LinkR s' r (s'.pc t)) ∧
  Glob s'

/-- Records are told apart by their owners: the record of another agent `u` is not `t`'s own, so it is popped,
disconnected (`Thr.hitR`, `Thr.hitS`) or untouched (`Thr.congr`); a record other than `t`'s own that is still linked has
not been popped or disconnected, so it is untouched and so is its owner's control state. -/
theorem InvR.of_frame {s s' : State} {t : Nat} (hi : InvR s) (hf : Frame s t s') (hl : Local s t s') : InvR s' := by
  obtain ⟨fpc, fnext, fhanded, -, fwakes, fowed, fsq, frq, fother, fhitR, fhitS⟩ := hf
  obtain ⟨lthr, lsq, lrq, lglob⟩ := hl
  obtain ⟨nd_sq, nd_rq, r1, -, -⟩ := hi.glob
  have hown : ∀ u r, u ≠ t → recOf (s.pc u) = some r → r < s.nextRec ∧ s.owner r = u ∧ recOf (s.pc t) ≠ some r := by
    intro u r hu hr
    have h1 := (hi.thr u).own hr
    exact ⟨h1.2, h1.1, fun h => hu (h1.1.symm.trans ((hi.thr t).own h).1)⟩
  -- a wake owed by `t` is still owed or has been issued; one owed by somebody else is not affected
  have hwoken : ∀ u r, u ≠ t → s'.wakeBy r = s.wakeBy r → s'.st r = s.st r → Woken s u r → Woken s' u r := by
    intro u r hu hb hst hw h1 h2
    have h3 := fwakes u hu
    have h4 := hw (hst ▸ h1) (by omega)
    rw [hb]
    by_cases hbt : s.wakeBy r = t
    · rw [hbt] at h4 ⊢
      rcases fowed u h4 with h5 | h5
      · exact h5
      · omega
    · rw [fpc _ hbt]; exact h4
  refine ⟨fun u => ?_, fun r hr => ?_, fun r hr => ?_, lglob⟩
  · by_cases hu : u = t
    · subst hu; exact lthr
    rw [fpc u hu]
    have h0 := hi.thr u
    by_cases hR : ∃ r, recOf (s.pc u) = some r ∧ HitR s t r
    · obtain ⟨r, hr, hR⟩ := hR
      obtain ⟨h1, h2, h3⟩ := hown u r hu hr
      obtain ⟨-, g1, g2, g3, g4⟩ := fhitR r hR
      have h4 := (hi.rq r hR.mem).2
      rw [h2] at h4 g3
      exact h0.hitR h4 g1 fnext g4 (fun _ _ => by rw [g2]; exact g3)
    by_cases hS : ∃ r, recOf (s.pc u) = some r ∧ HitS s t r
    · obtain ⟨r, hr, hS⟩ := hS
      obtain ⟨h1, h2, h3⟩ := hown u r hu hr
      obtain ⟨h4, -, h5⟩ := hi.sq r hS.mem
      rcases fhitS r hS with g | ⟨-, g1, g2, g3, g4⟩
      · exact absurd g h4
      rw [h2] at h5 g3
      exact h0.hitS h5 hS.mem g1 fnext g4 h4 (fun _ _ => by rw [g2]; exact g3)
    refine h0.congr (fun r hr => ?_) fnext fhanded
    obtain ⟨h1, h2, h3⟩ := hown u r hu hr
    obtain ⟨g1, g2, g3, g4, g5, g6⟩ := fother r h1 h3 (fun h => hR ⟨r, hr, h⟩) (fun h => hS ⟨r, hr, h⟩)
    exact ⟨g1, g2, g3, g5, g6, hwoken u r hu g4 g1⟩
  · rcases fsq r hr with h | h
    · by_cases ht : recOf (s.pc t) = some r
      · obtain ⟨e, h⟩ := lsq r ht hr; exact e ▸ h
      obtain ⟨a, b, c⟩ := hi.sq r h
      have hw : s.owner r ≠ t := fun e => ht (e ▸ sendReg_recOf c)
      have nS : ¬ HitS s t r := fun hS => by
        rcases fhitS r hS with g | ⟨g, -⟩
        · exact a g
        · exact g nd_sq hr
      have nR : ¬ HitR s t r := fun hR => by
        have := hR.mem; rcases r1 with e | e <;> simp [e] at h this
      obtain ⟨g1, g2, g3, -, -, -⟩ := fother r ((hi.thr _).own (sendReg_recOf c)).2 ht nR nS
      exact ⟨g2 ▸ a, g1 ▸ b, by rw [g3, fpc _ hw]; exact c⟩
    · obtain ⟨e, h⟩ := lsq r h hr; exact e ▸ h
  · rcases frq r hr with h | h
    · by_cases ht : recOf (s.pc t) = some r
      · obtain ⟨e, h⟩ := lrq r ht hr; exact e ▸ h
      obtain ⟨b, c⟩ := hi.rq r h
      have hw : s.owner r ≠ t := fun e => ht (e ▸ recvIn_recOf c)
      have nR : ¬ HitR s t r := fun hR => (fhitR r hR).1 nd_rq hr
      have nS : ¬ HitS s t r := fun hS => by
        have := hS.mem; rcases r1 with e | e <;> simp [e] at h this
      obtain ⟨g1, -, g3, -, -, -⟩ := fother r ((hi.thr _).own (recvIn_recOf c)).2 ht nR nS
      exact ⟨g1 ▸ b, by rw [g3, fpc _ hw]; exact c⟩
    · obtain ⟨e, h⟩ := lrq r h hr; exact e ▸ h

/-- `step_cases h hp`: given `hp : s.pc t = <constructor>`, unfold `h : step s t l = some s'` (or `stepCall …`) and split
it into its branch-free cases, the successor state substituted for `s'`. -/
syntax "step_cases " ident ident : tactic
macro_rules
  | `(tactic| step_cases $h $hp) => `(tactic| (
      simp only [step, stepCall, stepAdv, stepPoll, stepDropFut, stepSpurious, $hp:ident, PC.atRest, stepWakeThen, stepSLock,
        stepSWait, stepSPark, stepTsLock, stepRLock, stepRWait, stepRPark, stepTrLock, stepToLock, stepToLoad, stepToCas,
        stepToUnl, stepToFin, stepAsLock, stepAsRef, stepAsFin, stepFdUnlS, stepArLock, stepArRef, stepArFin, stepFdUnlR,
        stepCloseS, stepCloseR, stepHWake, giveTo, takeFrom, finishRecv, reduceCtorEq, Bool.false_eq_true, if_false, if_true]
        at $h:ident <;>
      (repeat' split at $h:ident) <;> cases $h:ident))

end Fv.Chan.RendezvousB
