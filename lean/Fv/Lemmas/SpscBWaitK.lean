import Fv.Lemmas.SpscBWait
import Fv.Lemmas.SpscBRingStep
/-! The Dekker-style handshake invariant `WK` (register; fence; re-check ‖ publish; fence; read gate):
while a registered waiter is past its re-check and its slot is still armed, a notifier that makes
the waiter's condition true is inside a section that ends in taking the slot. -/
namespace Fv.Chan.SpscB

/-- has published and will read the other side's gate (possibly after its own `unregister`), or has read it non-zero
and is about to lock the other side's slot -/
def owesNf (k : K) : Mic → Prop
  | .nfFence | .nfLdGate => True
  | .wkLock => k ≠ .cl ∧ k ≠ .dr
  | .urLock | .urStGate | .urUnlock => k = .sOk ∨ k = .rOk
  | _ => False

/-- closing / dropping its handle: `dropped` is set and the wake of the other side is still ahead -/
def dropSec (k : K) (m : Mic) : Prop := (k = .cl ∨ k = .dr) ∧ (m = .subCount ∨ m = .wkLock)

/-- what the ring must show for a waiter of role `q` to go on: space for the sender, an item for the receiver -/
def avail (s : State) : Role → Prop
  | .P => s.tail - s.head < s.cap
  | .C => s.head < s.tail
def goneFor (s : State) : Role → Prop
  | .P => s.dropped .C = true
  | .C => s.count .P = 0
def loopK : Role → K
  | .P => .sL
  | .C => .rL
/-- positions of the loop iteration after its last look at the ring -/
def pastAvail : Role → Mic → Prop
  | .P, m => m = .park
  | .C, m => m = .ldCount ∨ m = .park
/-- … after its last look at the other side's `dropped` flag / count -/
def pastGone : Role → Mic → Prop
  | .P, m => m = .pushLdTail ∨ m = .pushLdHead ∨ m = .park
  | .C, m => m = .park

def WK1 (s : State) (q : Role) : Prop :=
  (s.loc q).k = loopK q → (s.loc q).reg = true → s.slot q ≠ none →
    (pastAvail q (s.loc q).m → avail s q → owesNf (s.loc (other q)).k (s.loc (other q)).m) ∧
    (pastGone q (s.loc q).m → goneFor s q → dropSec (s.loc (other q)).k (s.loc (other q)).m)

def WK (s : State) : Prop := ∀ q, WK1 s q

theorem wk_iff {s : State} : WK s ↔
    ((s.loc .P).k = .sL → (s.loc .P).reg = true → s.slot .P ≠ none →
      ((s.loc .P).m = .park → s.tail - s.head < s.cap → owesNf (s.loc .C).k (s.loc .C).m) ∧
      ((s.loc .P).m = .pushLdTail ∨ (s.loc .P).m = .pushLdHead ∨ (s.loc .P).m = .park → s.dropped .C = true →
        dropSec (s.loc .C).k (s.loc .C).m)) ∧
    ((s.loc .C).k = .rL → (s.loc .C).reg = true → s.slot .C ≠ none →
      ((s.loc .C).m = .ldCount ∨ (s.loc .C).m = .park → s.head < s.tail → owesNf (s.loc .P).k (s.loc .P).m) ∧
      ((s.loc .C).m = .park → s.count .P = 0 → dropSec (s.loc .P).k (s.loc .P).m)) := by
  rw [WK, forall_role .P]; rfl

theorem wk_init (cap : Nat) (pp pc : List Op) : WK (init cap pp pc) := by
  simp [wk_iff, init]

/-- none of the positions `WK` starts from is entered, none of the sections it ends in is left -/
def KQuiet (l l' : Loc) : Prop :=
  (l'.k = .sL → l'.reg = true → l'.m = .park → l.k = .sL ∧ l.reg = true ∧ l.m = .park) ∧
  (l'.k = .sL → l'.reg = true → l'.m = .pushLdTail ∨ l'.m = .pushLdHead ∨ l'.m = .park →
    l.k = .sL ∧ l.reg = true ∧ (l.m = .pushLdTail ∨ l.m = .pushLdHead ∨ l.m = .park)) ∧
  (l'.k = .rL → l'.reg = true → l'.m = .ldCount ∨ l'.m = .park →
    l.k = .rL ∧ l.reg = true ∧ (l.m = .ldCount ∨ l.m = .park)) ∧
  (l'.k = .rL → l'.reg = true → l'.m = .park → l.k = .rL ∧ l.reg = true ∧ l.m = .park) ∧
  (owesNf l.k l.m → owesNf l'.k l'.m) ∧ (dropSec l.k l.m → dropSec l'.k l'.m)

def wkOf (s : State) := (s.tail, s.head, s.cap, s.slot, s.dropped, s.count)

variable {s s' : State} {r : Role}

theorem WK.quiet (r : Role) (hk : WK s) (hq : KQuiet (s.loc r) (s'.loc r))
    (ho : s'.loc (other r) = s.loc (other r)) (hs : wkOf s' = wkOf s) : WK s' := by
  simp only [wkOf, Prod.mk.injEq] at hs
  obtain ⟨e1, e2, e3, e4, e5, e6⟩ := hs
  simp only [KQuiet] at hq
  simp only [wk_iff, e1, e2, e3, e4, e5, e6] at hk ⊢
  cases r <;> (
    simp only [other_P, other_C] at ho
    rw [ho]
    generalize s'.loc _ = l' at *
    grind)

attribute [local grind] owesNf dropSec okAt inNotify isRet afterPush afterPop waitStep

theorem wk_facts (hc : CInv s) (hr : RInv s) (hw : W s) (q : Role) :
    okAt (s.loc q).k (s.loc q).m ∧
    (s.gone q = true → (s.loc q).k = .drn ∨ (s.loc q).m = .idle ∨ isRet (s.loc q).m = true) ∧
    ((s.loc q).k = .drn → s.gone q = true ∧ s.gone (other q) = true ∧ (s.loc (other q)).k ≠ .drn) ∧
    ((s.loc q).m = .pushLdHead → (s.loc q).t = s.tail) ∧ ((s.loc q).m = .popLdTail → (s.loc q).h = s.head) ∧
    (s.slot q ≠ none → s.gate q = 1 ∨ (s.loc q).m = .rgStGate) ∧ ((s.loc q).m = .park → (s.loc q).reg = true) ∧
    ((s.loc q).m = .stDropped ∨ (s.loc q).m = .subCount → s.count q = 1 ∧ s.closed q = true) :=
  ⟨hc.ok q, hc.goneQuiet q, hc.drnOther q, (hr.th q).1, (hr.th q).2.2.1, hw.gate_of_slot q, hw.reg_of_park q,
    hw.last_count q⟩

/-- Every step is quiet for `WK` but those named here, at which the handshake argument is made. -/
theorem wk_step (hc : CInv s) (hr : RInv s) (hw : W s) (hk : WK s) (h : Act s r (s.loc r) s') : WK s' := by
  have ok := hc.ok r
  obtain ⟨lw1, lw2⟩ := hw.lw r
  cases h with
  | quiet hq =>
    cases hq with
    -- the waiter's last look at the other side (it is still there), and the notifier's read of the gate: 0 means the
    -- slot is not armed
    | ldDroppedGo | ldCountWait | nfLdGateZero =>
      have fP := wk_facts hc hr hw .P
      have fC := wk_facts hc hr hw .C
      simp only [wk_iff] at hk ⊢
      cases r <;> (simp only [setLoc, upd_apply, reduceCtorEq, ↓reduceIte]; grind (splits := 20))
    | _ => exact hk.quiet r (by simp only [setLoc, upd_same, KQuiet]; grind (splits := 20)) (upd_other ..) rfl
  | ring hg =>
    cases hg with
    -- the waiter's last look at the ring (full / empty by the true index), and the publications, after which the
    -- publisher is in `notify_*`
    | pushLdHeadFull | popLdTailEmpty | pushStTail | popStHeadDrain | popStHead =>
      have fP := wk_facts hc hr hw .P
      have fC := wk_facts hc hr hw .C
      simp only [wk_iff] at hk ⊢
      cases r <;> (simp only [upd_apply, reduceCtorEq, ↓reduceIte]; grind (splits := 20))
    | _ => exact hk.quiet r (by simp only [setLoc, upd_same, KQuiet]; grind (splits := 20)) (upd_other ..) rfl
  -- a lock step arms or empties a slot: `register` leaves the waiter before its re-check, `wake_one` takes the slot
  | wkLockTake | wkLockNone | rgLock | urLock
  -- `dropped` is published and the count given up inside `dropSec`
  | stDropped | subCountLast =>
    have fP := wk_facts hc hr hw .P
    have fC := wk_facts hc hr hw .C
    simp only [wk_iff] at hk ⊢
    cases r <;> (simp only [upd_apply, reduceCtorEq, ↓reduceIte]; grind (splits := 20))
  -- at `subCount` the count is 1: it is never given up without the wake
  | subCountMore hm hne => exact absurd (hw.last_count r (.inr hm)).1 hne
  | wkUnlockNone _ _ _ hl | wkUnpark _ hl | swapClosedDone _ _ hl =>
    cases hl <;>
      exact hk.quiet r (by simp only [setLoc, upd_same, KQuiet]; grind (splits := 20)) (upd_other ..) rfl
  | _ => exact hk.quiet r (by simp only [setLoc, upd_same, KQuiet]; grind (splits := 20)) (upd_other ..) rfl

structure AllInv (s : State) : Prop where
  c : CInv s
  r : RInv s
  w : W s
  k : WK s

theorem reach_all {cap : Nat} {pp pc : List Op} (hcap : 0 < cap) (h : Reach cap pp pc s) : AllInv s := by
  induction h with
  | init => exact ⟨cinv_init _ _ _, rinv_init _ _ _ hcap, w_init _ _ _, wk_init _ _ _⟩
  | step _ hs ih =>
    obtain ⟨hc, hr, hw, hk⟩ := ih
    have ha := step_act (hc.ok _) hs
    exact ⟨cinv_step hc ha, rinv_step hc hr ha, w_step hc hw ha, wk_step hc hr hw hk ha⟩

theorem reach_rinv {cap : Nat} {pp pc : List Op} (hcap : 0 < cap) (h : Reach cap pp pc s) : RInv s :=
  (reach_all hcap h).r

end Fv.Chan.SpscB
