import Fv.Lemmas.TopicRoute
/-! Invariants of model B (send at mailbox-lock granularity) under every schedule: `BI` (order, at most once, only
mailboxes of the snapshot) and, for schedules that never call `subscribe` on a closed handle, `BW` (what enters a
mailbox was published while its receiver was subscribed, in the contract's sense, at the snapshot instant). -/
namespace Fv.Chan.TopicB
open Fv.Chan.Topic

def snapshotAt (pubs : List BPub) (i : Nat) : List Nat :=
  match pubs[i]? with
  | some p => p.snapshot
  | none => []

def subscribedAt (pubs : List BPub) (i m : Nat) : Bool :=
  match pubs[i]? with
  | some p => p.subscribed m
  | none => false

structure FlightOk (b : BSt) (f : Flight) : Prop where
  lt : f.pid < b.pubs.length
  tid : tidAt b.pubs f.pid = f.tid
  msg : msgAtB b.pubs f.pid = (f.t, f.v)
  nodup : f.rem.Nodup
  fresh : ∀ m, f.pid ∈ b.acc m → m ∉ f.rem
  sub : ∀ m, m ∈ f.rem → m ∈ snapshotAt b.pubs f.pid
  latest : ∀ i, i < b.pubs.length → tidAt b.pubs i = f.tid → i ≤ f.pid

structure BI (b : BSt) : Prop where
  nd : b.q.regs.Nodup
  hist : ∀ m, b.got m ++ bufOf b.q m = (b.acc m).map (msgAtB b.pubs)
  bnd : ∀ m i, i ∈ b.acc m → i < b.pubs.length
  fl : ∀ f, f ∈ b.flights → FlightOk b f
  tids : b.flights.Pairwise (fun f g => f.tid ≠ g.tid)
  order : ∀ m, (b.acc m).Pairwise (fun i j => tidAt b.pubs i = tidAt b.pubs j → i < j)
  once : ∀ m, (b.acc m).Nodup
  window : ∀ m i, i ∈ b.acc m → m ∈ snapshotAt b.pubs i

theorem BI_binit (cap : Nat) (k : Kind) : BI (binit cap k) := by
  refine ⟨by simp [binit, init], fun m => ?_, by simp [binit], by simp [binit], by simp [binit], by simp [binit],
    by simp [binit], by simp [binit]⟩
  cases m <;> simp [binit, init, bufOf]

theorem FlightOk.congr {b b' : BSt} {f : Flight} (h : FlightOk b f) (hp : b'.pubs = b.pubs) (ha : b'.acc = b.acc) :
    FlightOk b' f :=
  ⟨hp ▸ h.lt, hp ▸ h.tid, hp ▸ h.msg, h.nodup, ha ▸ h.fresh, hp ▸ h.sub, hp ▸ h.latest⟩

/-- `BI` reads the channel state only through `regs.Nodup` and `got ++ buffer` -/
theorem BI.congr {b b' : BSt} (hb : BI b) (hf : b'.flights = b.flights) (hp : b'.pubs = b.pubs) (ha : b'.acc = b.acc)
    (hnd : b'.q.regs.Nodup) (hh : ∀ m, b'.got m ++ bufOf b'.q m = b.got m ++ bufOf b.q m) : BI b' :=
  ⟨hnd, fun m => by rw [hh, hp, ha]; exact hb.hist m, fun m i hi => hp ▸ hb.bnd m i (ha ▸ hi),
    fun f hf' => (hb.fl f (hf ▸ hf')).congr hp ha, hf ▸ hb.tids, fun m => by rw [hp, ha]; exact hb.order m,
    fun m => ha ▸ hb.once m, fun m i hi => hp ▸ hb.window m i (ha ▸ hi)⟩

theorem flightOf_some {fs : List Flight} {tid : Nat} {f : Flight} (h : flightOf fs tid = some f) :
    f ∈ fs ∧ f.tid = tid :=
  ⟨List.mem_of_find?_eq_some h, by simpa using List.find?_some h⟩

theorem flightOf_none {fs : List Flight} {tid : Nat} (h : flightOf fs tid = none) : ∀ f, f ∈ fs → f.tid ≠ tid :=
  fun f hf => by simpa using List.find?_eq_none.1 h f hf

theorem flightOf_map (fs : List Flight) (tid : Nat) (φ : Flight → Flight) (h : ∀ g, (φ g).tid = g.tid) :
    flightOf (fs.map φ) tid = (flightOf fs tid).map φ := by
  unfold flightOf
  rw [List.find?_map]
  congr 2
  funext g; simp [h]

/-- refusals: the thread is inside a send, the handle is invalid or closed, no receiver is left -/
theorem bbegin_cases (b : BSt) (tid h : Nat) (t : Topic) (v : Val) :
    bbegin b tid h t v = b ∨
    ∃ x, flightOf b.flights tid = none ∧ txLive b.q h = some x ∧ bbegin b tid h t v =
      { b with flights := b.flights ++ [{ tid := tid, pid := b.pubs.length, t := t, v := v, rem := subsOf b.q t }],
               pubs := b.pubs ++ [{ tid := tid, t := t, v := v, snapshot := subsOf b.q t,
                                    subscribed := fun r => subscribedTo b.q r t }] } := by
  unfold bbegin
  split
  · exact .inl rfl
  · split
    · exact .inl rfl
    · split
      · exact .inl rfl
      · exact .inr ⟨_, ‹_›, ‹_›, rfl⟩

theorem bdeliver_cases (b : BSt) (tid : Nat) :
    (bdeliver b tid = b ∧ (flightOf b.flights tid = none ∨
      ∃ f m rest, flightOf b.flights tid = some f ∧ f.rem = m :: rest ∧ b.held.contains m = true)) ∨
    (∃ f, flightOf b.flights tid = some f ∧ f.rem = [] ∧
      bdeliver b tid = { b with flights := b.flights.filter (fun g => g.tid != tid) }) ∨
    ∃ f m rest, flightOf b.flights tid = some f ∧ f.rem = m :: rest ∧ b.held.contains m = false ∧ bdeliver b tid =
      { b with q := visitQ b.q m (f.t, f.v),
               flights := b.flights.map (fun g => if g.tid == tid then { g with rem := rest } else g),
               acc := bumpAcc b.acc m f.pid (grewAt b.q (visitQ b.q m (f.t, f.v)) m) } := by
  unfold bdeliver
  split
  · exact .inl ⟨rfl, .inl ‹_›⟩
  · split
    · exact .inr (.inl ⟨_, ‹_›, ‹_›, rfl⟩)
    · split
      · exact .inl ⟨rfl, .inr ⟨_, _, _, ‹_›, ‹_›, ‹_›⟩⟩
      · exact .inr (.inr ⟨_, _, _, ‹_›, ‹_›, Bool.eq_false_iff.2 ‹_›, rfl⟩)

structure AgreeAt (pubs pubs' : List BPub) (i : Nat) : Prop where
  tid : tidAt pubs' i = tidAt pubs i
  msg : msgAtB pubs' i = msgAtB pubs i
  snapshot : snapshotAt pubs' i = snapshotAt pubs i
  subscribed : ∀ m, subscribedAt pubs' i m = subscribedAt pubs i m

theorem lookup_snoc (pubs : List BPub) (p : BPub) {i : Nat} (h : i < pubs.length) : AgreeAt pubs (pubs ++ [p]) i := by
  constructor <;> simp only [tidAt, msgAtB, snapshotAt, subscribedAt, List.getElem?_append_left h, implies_true]

theorem tidAt_append_last (pubs : List BPub) (p : BPub) : tidAt (pubs ++ [p]) pubs.length = p.tid := by
  simp [tidAt]

theorem BI_bapi (b : BSt) (op : Op) (hb : BI b) : BI (bapi b op) := by
  unfold bapi
  split
  · exact hb
  · rename_i hs
    refine hb.congr rfl rfl rfl (step_regs_nodup b.q op hb.nd) fun m => ?_
    rcases step_buf b.q op with ⟨h, t, v, rfl, _⟩ | ⟨_, hk⟩
    · exact absurd rfl hs
    · exact hk b.got m

theorem BI_bbegin (b : BSt) (tid h : Nat) (t : Topic) (v : Val) (hb : BI b) : BI (bbegin b tid h t v) := by
  rcases bbegin_cases b tid h t v with e | ⟨x, hfo, htx, e⟩ <;> rw [e]
  · exact hb
  · have hfresh := flightOf_none hfo
    refine ⟨hb.nd, fun m => ?_, fun m i hi => ?_, fun f hf => ?_, ?_, fun m => ?_, hb.once, fun m i hi => ?_⟩
    · simp only []
      rw [hb.hist m]
      exact List.map_congr_left fun i hi => (lookup_snoc _ _ (hb.bnd m i hi)).msg.symm
    · have := hb.bnd m i hi
      simp only [List.length_append, List.length_singleton]; omega
    · rcases List.mem_append.1 hf with hf | hf
      · -- a flight of another thread: its publish is still that thread's latest
        have ok := hb.fl f hf
        obtain e := lookup_snoc b.pubs _ ok.lt
        refine ⟨by simp only [List.length_append, List.length_singleton]; have := ok.lt; omega,
          e.tid.trans ok.tid, e.msg.trans ok.msg, ok.nodup, ok.fresh, fun m hm => e.snapshot ▸ ok.sub m hm, fun i hi hti => ?_⟩
        simp only [List.length_append, List.length_singleton] at hi
        by_cases hlt : i < b.pubs.length
        · rw [(lookup_snoc _ _ hlt).tid] at hti; exact ok.latest i hlt hti
        · have : i = b.pubs.length := by omega
          subst this
          rw [tidAt_append_last] at hti
          exact absurd hti.symm (hfresh f hf)
      · -- the new flight: the newest publish of all
        rw [List.mem_singleton.1 hf]
        refine ⟨by simp, by simp [tidAt], by simp [msgAtB], nodup_subsOf b.q t hb.nd,
          fun m hm => absurd (hb.bnd m _ hm) (Nat.lt_irrefl _), fun m hm => by simpa [snapshotAt] using hm,
          fun i hi _ => ?_⟩
        simp only [List.length_append, List.length_singleton] at hi
        simp only []; omega
    · exact List.pairwise_append.2 ⟨hb.tids, by simp, fun f hf g hg => List.mem_singleton.1 hg ▸ hfresh f hf⟩
    · refine (hb.order m).imp_of_mem fun {i j} hi hj hij => ?_
      rw [(lookup_snoc _ _ (hb.bnd m i hi)).tid, (lookup_snoc _ _ (hb.bnd m j hj)).tid]
      exact hij
    · rw [(lookup_snoc _ _ (hb.bnd m i hi)).snapshot]; exact hb.window m i hi

theorem tid_inj {fs : List Flight} (hp : fs.Pairwise (fun f g => f.tid ≠ g.tid)) {f g : Flight}
    (hf : f ∈ fs) (hg : g ∈ fs) (h : f.tid = g.tid) : f = g :=
  Fv.eq_of_nodup_map (·.tid) (List.pairwise_map.2 hp) hf hg h

theorem bufOf_visit (q : St) (m : Nat) (msg : Msg) (x : Nat) :
    bufOf (visitQ q m msg) x =
      match q.rxs[x]? with
      | some y => if x = m ∧ y.live = true ∧ y.buf.length < y.cap then y.buf ++ [msg] else y.buf
      | none => [] := by
  have := bufL_deliverTo msg q.rxs [m] (by simp) x
  simp only [deliverTo, List.mem_singleton] at this
  exact this

theorem visit_move (q : St) (m : Nat) (msg : Msg) : Move (.send 0 msg.1 msg.2) q (visitQ q m msg) :=
  .rx q m _ (RxFrame.deliver rfl msg)

theorem visit_cases (q : St) (m : Nat) (msg : Msg) :
    (∀ x, x ≠ m → bufOf (visitQ q m msg) x = bufOf q x) ∧
    ((grewAt q (visitQ q m msg) m = true ∧ bufOf (visitQ q m msg) m = bufOf q m ++ [msg] ∧ isLive q.rxs m = true) ∨
      (grewAt q (visitQ q m msg) m = false ∧ bufOf (visitQ q m msg) m = bufOf q m)) := by
  have hv := bufOf_visit q m msg
  refine ⟨fun x hx => ?_, ?_⟩
  · rw [hv x]; unfold bufOf; cases q.rxs[x]? <;> simp [hx]
  · unfold grewAt; rw [hv m]; unfold bufOf isLive
    cases q.rxs[m]? with
    | none => simp
    | some y => by_cases h : y.live = true ∧ y.buf.length < y.cap <;> simp [h]

theorem bumpAcc_false (acc : Nat → List Nat) (m pid : Nat) : bumpAcc acc m pid false = acc := by
  funext x; simp [bumpAcc]

theorem bumpAcc_true (acc : Nat → List Nat) (m pid x : Nat) :
    bumpAcc acc m pid true x = if x = m then acc x ++ [pid] else acc x := by
  simp [bumpAcc]

theorem mem_bumpAcc {acc : Nat → List Nat} {m pid x i : Nat} (hi : i ∈ bumpAcc acc m pid true x) :
    i ∈ acc x ∨ (x = m ∧ i = pid) := by
  rw [bumpAcc_true] at hi
  split at hi
  · rcases List.mem_append.1 hi with hi | hi
    · exact .inl hi
    · exact .inr ⟨‹_›, List.mem_singleton.1 hi⟩
  · exact .inl hi

theorem BI.consume {b : BSt} (hb : BI b) {f : Flight} {tid m : Nat} {rest : List Nat} (hf : f ∈ b.flights)
    (hft : f.tid = tid) (hrem : f.rem = m :: rest) :
    BI { b with flights := b.flights.map (fun g => if g.tid == tid then { g with rem := rest } else g) } := by
  refine { hb with fl := fun g hg => ?_, tids := ?_ }
  · obtain ⟨g0, hg0, rfl⟩ := List.mem_map.1 hg
    have ok := hb.fl g0 hg0
    split
    · rename_i hgt
      have : g0 = f := tid_inj hb.tids hg0 hf (by rw [hft]; simpa using hgt)
      subst this
      exact { ok with
        nodup := (List.nodup_cons.1 (hrem ▸ ok.nodup)).2
        fresh := fun x hx hc => ok.fresh x hx (hrem ▸ List.mem_cons_of_mem _ hc)
        sub := fun x hx => ok.sub x (hrem ▸ List.mem_cons_of_mem _ hx) }
    · exact ok.congr rfl rfl
  · exact List.pairwise_map.2 (hb.tids.imp fun {g1 g2} h12 => by split <;> split <;> exact h12)

/-- the flight's publish id joins the mailbox's list: new there, and larger than any id of the same thread -/
theorem BI.accept {b : BSt} (hb : BI b) {f : Flight} {m : Nat} (hf : f ∈ b.flights) (hm : m ∉ f.rem)
    (hnew : f.pid ∉ b.acc m) (hwin : m ∈ snapshotAt b.pubs f.pid) {q' : St} (hnd : q'.regs.Nodup)
    (hbm : bufOf q' m = bufOf b.q m ++ [(f.t, f.v)]) (hoth : ∀ x, x ≠ m → bufOf q' x = bufOf b.q x) :
    BI { b with q := q', acc := bumpAcc b.acc m f.pid true } := by
  have okf := hb.fl f hf
  refine ⟨hnd, fun x => ?_, fun x i hi => ?_, fun g hg => ?_, hb.tids, fun x => ?_, fun x => ?_, fun x i hi => ?_⟩
  · simp only [bumpAcc_true]
    by_cases hx : x = m
    · subst hx; rw [if_pos rfl, hbm, List.map_append, ← hb.hist x]; simp [okf.msg]
    · rw [if_neg hx, hoth x hx]; exact hb.hist x
  · rcases mem_bumpAcc hi with hi | ⟨_, rfl⟩
    · exact hb.bnd x i hi
    · exact okf.lt
  · have ok := hb.fl g hg
    refine { ok with fresh := fun x hx => ?_ }
    rcases mem_bumpAcc hx with hx | ⟨rfl, hp⟩
    · exact ok.fresh x hx
    · -- the same publish id: the same thread, hence the same flight
      have : g = f := tid_inj hb.tids hg hf (by rw [← ok.tid, hp, okf.tid])
      exact this ▸ hm
  · simp only [bumpAcc_true]
    split
    · refine List.pairwise_append.2 ⟨hb.order x, by simp, fun i hi j hj hij => ?_⟩
      rw [List.mem_singleton.1 hj] at hij ⊢
      have h1 := okf.latest i (hb.bnd x i hi) (by rw [hij, okf.tid])
      have h2 : i ≠ f.pid := fun hc => hnew (by rw [← hc, ← ‹x = m›]; exact hi)
      omega
    · exact hb.order x
  · simp only [bumpAcc_true]
    split
    · exact Fv.nodup_snoc.2 ⟨hb.once x, ‹x = m› ▸ hnew⟩
    · exact hb.once x
  · rcases mem_bumpAcc hi with hi | ⟨rfl, rfl⟩
    · exact hb.window x i hi
    · exact hwin

theorem BI_bdeliver (b : BSt) (tid : Nat) (hb : BI b) : BI (bdeliver b tid) := by
  rcases bdeliver_cases b tid with ⟨e, _⟩ | ⟨f, hfo, _, e⟩ | ⟨f, m, rest, hfo, hrem, _, e⟩ <;> rw [e]
  · exact hb
  · exact { hb with
      fl := fun g hg => (hb.fl g (List.mem_filter.1 hg).1).congr rfl rfl
      tids := hb.tids.sublist List.filter_sublist }
  · obtain ⟨hfm, hft⟩ := flightOf_some hfo
    have okf := hb.fl f hfm
    have hmrem : m ∈ f.rem := hrem ▸ List.mem_cons_self
    have h1 := hb.consume hfm hft hrem
    obtain ⟨hoth, ⟨hg, hbm, _⟩ | ⟨hg, hbm⟩⟩ := visit_cases b.q m (f.t, f.v) <;> rw [hg]
    · exact h1.accept (f := { f with rem := rest }) (List.mem_map.2 ⟨f, hfm, by simp [hft]⟩)
        (List.nodup_cons.1 (hrem ▸ okf.nodup)).1 (fun hc => okf.fresh m hc hmrem) (okf.sub m hmrem) hb.nd hbm hoth
    · refine h1.congr rfl rfl (bumpAcc_false ..) hb.nd fun x => ?_
      by_cases hx : x = m
      · subst hx; rw [hbm]
      · rw [hoth x hx]

theorem bpark_eq (b : BSt) (r : Nat) (holding : Bool) :
    ∃ p h, bpark b r holding = { b with parked := p, held := h } := by
  unfold bpark; split
  · exact ⟨_, _, rfl⟩
  · split <;> exact ⟨_, _, rfl⟩

theorem BI_bstep (b : BSt) (o : BOp) (hb : BI b) : BI (bstep b o) := by
  cases o with
  | api op => exact BI_bapi b op hb
  | begin tid h t v => exact BI_bbegin b tid h t v hb
  | deliver tid => exact BI_bdeliver b tid hb
  | wake r => exact hb.congr rfl rfl rfl hb.nd fun _ => rfl
  | park r | parkHolding r =>
    obtain ⟨_, _, e⟩ := bpark_eq b r _
    rw [bstep, e]; exact hb.congr rfl rfl rfl hb.nd fun _ => rfl

theorem BI_brun (b : BSt) (os : List BOp) (hb : BI b) : BI (brun b os) := by
  induction os generalizing b with
  | nil => exact hb
  | cons o os ih => exact ih _ (BI_bstep b o hb)

structure BW (b : BSt) : Prop where
  bi : BI b
  ri : RI True b.q
  rem : ∀ f, f ∈ b.flights → ∀ m, m ∈ f.rem →
        m < b.q.rxs.length ∧ (isLive b.q.rxs m = true → subscribedAt b.pubs f.pid m = true)
  acc : ∀ m i, i ∈ b.acc m → subscribedAt b.pubs i m = true

theorem BW_binit (cap : Nat) (k : Kind) : BW (binit cap k) :=
  ⟨BI_binit cap k, RI_init cap k True, by simp [binit], by simp [binit]⟩

/-- receivers are not resurrected -/
theorem BW.rem_move {b : BSt} (hb : BW b) {op : Op} {q' : St} (h : Move op b.q q') {f : Flight} (hf : f ∈ b.flights)
    {m : Nat} (hm : m ∈ f.rem) :
    m < q'.rxs.length ∧ (isLive q'.rxs m = true → subscribedAt b.pubs f.pid m = true) := by
  obtain ⟨h1, h2⟩ := hb.rem f hf m hm
  refine ⟨Nat.lt_of_lt_of_le h1 h.length_le, fun hl => h2 ?_⟩
  obtain ⟨y, hy, hyl⟩ := (isLive_true_iff _ _).1 hl
  obtain ⟨x, hfr, hx | ⟨hn, _⟩⟩ := h.get hy
  · exact (isLive_true_iff _ _).2 ⟨x, hx, hfr.live hyl⟩
  · exact absurd (List.getElem?_eq_none_iff.1 hn) (Nat.not_le.2 h1)

theorem BW_bapi (b : BSt) (op : Op) (hop : OkSub b.q op) (hb : BW b) : BW (bapi b op) := by
  have hbi := BI_bapi b op hb.bi
  unfold bapi at hbi ⊢
  split
  · exact hb
  · rw [if_neg ‹_›] at hbi
    exact ⟨hbi, RI_step b.q op (fun _ => hop) hb.ri, fun f hf m hm => hb.rem_move (step_move b.q op) hf hm, hb.acc⟩

theorem BW_bbegin (b : BSt) (tid h : Nat) (t : Topic) (v : Val) (hb : BW b) : BW (bbegin b tid h t v) := by
  have hbi := BI_bbegin b tid h t v hb.bi
  rcases bbegin_cases b tid h t v with e | ⟨x, _, htx, e⟩ <;> rw [e] at hbi ⊢
  · exact hb
  · refine ⟨hbi, hb.ri, fun f hf m hm => ?_, fun m i hi => ?_⟩
    · rcases List.mem_append.1 hf with hf | hf
      · rw [(lookup_snoc _ _ (hb.bi.fl f hf).lt).subscribed]; exact hb.rem f hf m hm
      · -- the snapshot is the topic's list: its live members are subscribed
        rw [List.mem_singleton.1 hf] at hm ⊢
        have hreg : (t, m) ∈ b.q.regs := (mem_subsOf b.q t m).1 hm
        refine ⟨(hb.ri (dispAlive_of_txLive htx)).routed.inRange t m hreg, fun hl => ?_⟩
        simpa [subscribedAt] using (routed_iff b.q hb.ri (dispAlive_of_txLive htx) t m).1 ⟨hreg, hl⟩
    · rw [(lookup_snoc _ _ (hb.bi.bnd m i hi)).subscribed]; exact hb.acc m i hi

theorem BW_bdeliver (b : BSt) (tid : Nat) (hb : BW b) : BW (bdeliver b tid) := by
  have hbi := BI_bdeliver b tid hb.bi
  rcases bdeliver_cases b tid with ⟨e, _⟩ | ⟨f, _, _, e⟩ | ⟨f, m, rest, hfo, hrem, _, e⟩ <;> rw [e] at hbi ⊢
  · exact hb
  · exact ⟨hbi, hb.ri, fun g hg => hb.rem g (List.mem_filter.1 hg).1, hb.acc⟩
  · obtain ⟨hfm, hft⟩ := flightOf_some hfo
    have hmrem : m ∈ f.rem := hrem ▸ List.mem_cons_self
    have hmove := visit_move b.q m (f.t, f.v)
    refine ⟨hbi, fun hd => RI_move hmove rfl (hb.ri hd), fun g hg x hx => ?_, fun x i hi => ?_⟩
    · obtain ⟨g0, hg0, rfl⟩ := List.mem_map.1 hg
      by_cases hgt : (g0.tid == tid) = true
      · have : g0 = f := tid_inj hb.bi.tids hg0 hfm (by rw [hft]; simpa using hgt)
        subst this
        simp only [hgt, if_true] at hx ⊢
        exact hb.rem_move hmove hg0 (hrem ▸ List.mem_cons_of_mem _ hx)
      · simp only [hgt] at hx ⊢
        exact hb.rem_move hmove hg0 hx
    · -- a mailbox that takes the message has a live receiver
      change i ∈ bumpAcc b.acc m f.pid (grewAt b.q (visitQ b.q m (f.t, f.v)) m) x at hi
      obtain ⟨_, ⟨hg, _, hl⟩ | ⟨hg, _⟩⟩ := visit_cases b.q m (f.t, f.v) <;> rw [hg] at hi
      · rcases mem_bumpAcc hi with hi | ⟨rfl, rfl⟩
        · exact hb.acc x i hi
        · exact (hb.rem f hfm x hmrem).2 hl
      · rw [bumpAcc_false] at hi; exact hb.acc x i hi

def OkSubsB : BSt → List BOp → Prop
  | _, [] => True
  | b, o :: os => (∀ op, o = .api op → OkSub b.q op) ∧ OkSubsB (bstep b o) os

theorem BW_bstep (b : BSt) (o : BOp) (ho : ∀ op, o = .api op → OkSub b.q op) (hb : BW b) : BW (bstep b o) := by
  have same : ∀ b' : BSt, b'.q = b.q → b'.flights = b.flights → b'.pubs = b.pubs → b'.acc = b.acc → b'.got = b.got →
      BW b' := fun b' h1 h2 h3 h4 h5 =>
    ⟨hb.bi.congr h2 h3 h4 (h1 ▸ hb.bi.nd) fun m => by rw [h1, h5], h1 ▸ hb.ri,
      fun f hf m hm => by rw [h1, h3]; exact hb.rem f (h2 ▸ hf) m hm, fun m i hi => by rw [h3]; exact hb.acc m i (h4 ▸ hi)⟩
  cases o with
  | api op => exact BW_bapi b op (ho op rfl) hb
  | begin tid h t v => exact BW_bbegin b tid h t v hb
  | deliver tid => exact BW_bdeliver b tid hb
  | wake r => exact same _ rfl rfl rfl rfl rfl
  | park r | parkHolding r =>
    obtain ⟨_, _, e⟩ := bpark_eq b r _
    rw [bstep, e]; exact same _ rfl rfl rfl rfl rfl

theorem BW_brun (b : BSt) (os : List BOp) (ho : OkSubsB b os) (hb : BW b) : BW (brun b os) := by
  induction os generalizing b with
  | nil => exact hb
  | cons o os ih => exact ih _ ho.2 (BW_bstep b o ho.1 hb)

end Fv.Chan.TopicB
