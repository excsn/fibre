import Fv.Lemmas.SpmcBSafeDefs
/-! The safety invariant of `Fv.Chan.SpmcB` is kept by every step, so holds in every reachable state. -/
namespace Fv.Chan.SpmcB
open Fv.Chan.LeftRightB (upd upd_apply upd_same upd_ne upd_self)

def inWr : SPC → Bool
  | .wSeqLd _ _ _ _ => true
  | .wVal _ _ _ _ _ => true
  | .wSeqSt _ _ _ _ => true
  | .wHeadSt _ _ _ => true
  | _ => false

/-- control states that only a send passes through: the handle is not closed -/
def sendQ : SPC → Bool
  | .sFlag _ => false
  | .sHead _ => false
  | .sEnter _ _ _ => false
  | .sScan _ _ _ _ _ _ => false
  | .sHead2 _ _ _ _ => false
  | .sExit _ _ _ _ _ => false
  | .cFlag _ => false
  | .cStore => false
  | .cLock _ => false
  | .cWake _ _ => false
  | .cUnlock _ => false
  | _ => true

theorem idle_of_sFact {c : Core} {q : SPC} (h : sFact c q) (hw : inWr q = false) : idleLike c := by
  cases q <;> simp only [sFact, inWr] at h hw <;> first | exact h | exact h.1 | exact h.1.1 | cases hw

theorem open_of_sFact {c : Core} {q : SPC} (h : sFact c q) (hw : sendQ q = true) : c.sclosed = false := by
  cases q <;> simp only [sFact, sendQ] at h hw <;> first | exact h.2 | exact h.2.1 | exact h.1.opn | exact h.2.2.2 | cases hw

theorem idle_or_writing {s : State} (ha : InvA s) (hs : Safe s) :
    (s.head = s.sent.length ∧ s.dirty = false) ∨ ∃ p q, s.pc p = .snd q ∧ inWr q = true := by
  cases ho : s.sOwner with
  | none => exact Or.inl (hs.idle ho)
  | some w =>
    obtain ⟨q, hq⟩ := ha.of_sOwner ho
    by_cases hw : inWr q = true
    · exact Or.inr ⟨w, q, hq, hw⟩
    · exact Or.inl (idle_of_sFact (hs.sf w q hq) (by simpa using hw))

/-- a control state whose fact is only "no write in progress, handle open"; `PlainC`: on the close path, where the
handle may be closed -/
def PlainPC (p : PC) : Prop := ∀ c q', p = .snd q' → idleLike c → c.sclosed = false → sFact c q'

def PlainC (p : PC) : Prop := ∀ c q', p = .snd q' → idleLike c → sFact c q'

theorem plainC_ret (res : Res) : PlainC (.ret res) := by intro c q' e; cases e

theorem Quiet.plain {p : PC} (h : Quiet p) : PlainPC p := by
  intro c q' e hi hc
  rcases h with ⟨res, rfl⟩ | ⟨q, rfl, hq⟩ <;> cases e
  cases q' <;> first | (simp only [sFact]; first | exact ⟨hi, hc⟩ | exact ⟨hi, fun _ => hc⟩) | cases hq

theorem safe_S_same {s s' : State} {t : Nat} {q : SPC} {p : PC} (ha : InvA s) (hs : Safe s) (hpc : s.pc t = .snd q)
    (m : MoveS s s' t p) (hcore : s'.core = s.core)
    (hw : inWr q = false) (hnew : ∀ q', p = .snd q' → sFact s.core q') : Safe s' := by
  have hi := idle_of_sFact (hs.sf t q hpc) hw
  exact safe_S ha hs hpc m (hcore ▸ hs.g) (fun q' e => hcore ▸ hnew q' e) (fun _ _ => hcore ▸ hi)
    (fun _ _ _ h => hcore ▸ h)

theorem safe_S_plain {s s' : State} {t : Nat} {q : SPC} {p : PC} (ha : InvA s) (hs : Safe s) (hpc : s.pc t = .snd q)
    (m : MoveS s s' t p) (hcl : s.core.sclosed = false)
    (hpl : PlainPC p := by
      first
      | exact Quiet.plain (by quiet_tac)
      | (intro c q' e hi hc; cases e; simp only [sFact]; first | exact ⟨hi, hc⟩ | exact ⟨hi, fun _ => hc⟩ | exact hi))
    (hcore : s'.core = s.core := by rfl) (hw : inWr q = false := by rfl) : Safe s' :=
  safe_S_same ha hs hpc m hcore hw
    (fun q' e => hpl _ q' e (idle_of_sFact (hs.sf t q hpc) hw) hcl)

theorem safe_S_plainC {s s' : State} {t : Nat} {q : SPC} {p : PC} (ha : InvA s) (hs : Safe s) (hpc : s.pc t = .snd q)
    (m : MoveS s s' t p)
    (hpl : PlainC p := by
      first | apply plainC_ret | (intro c q' e hi; cases e; simp only [sFact]; exact hi))
    (hcore : s'.core = s.core := by rfl) (hw : inWr q = false := by rfl) : Safe s' :=
  safe_S_same ha hs hpc m hcore hw (fun q' e => hpl _ q' e (idle_of_sFact (hs.sf t q hpc) hw))

theorem rFact_S_same {s s' : State} (fr : FrameS s s') (hdata : s'.lr.data = s.lr.data) (hsent : s'.sent = s.sent)
    (hhead : s'.head = s.head) (hpd : s'.pdropped = s.pdropped) : ∀ u r q, rFact s.core u r q → rFact s'.core u r q :=
  rFact_S_of fr hdata ⟨[], by rw [hsent, List.append_nil]⟩ (Nat.le_of_eq hhead.symm) (fun h => ⟨hpd ▸ h, hhead⟩)

theorem safe_S_to {s s' : State} {t : Nat} {q q' : SPC} (ha : InvA s) (hs : Safe s) (hpc : s.pc t = .snd q)
    (m : MoveS s s' t (.snd q')) (hnew : sFact s.core q') (hcore : s'.core = s.core := by rfl) : Safe s' :=
  safe_S ha hs hpc m (hcore ▸ hs.g) (fun _ e => by cases e; exact hcore ▸ hnew)
    (fun _ e => by cases e) (fun _ _ _ h => hcore ▸ h)

theorem safe_R_same {s s' : State} {t r : Nat} {q : RPC} {p : PC} (ha : InvA s) (hs : Safe s) (hpc : s.pc t = .rcv r q)
    (m : MoveR s s' t r p) (hcore : s'.core = s.core)
    (hnew : ∀ q', p = .rcv r q' → rFact s.core t r q') : Safe s' := by
  refine safe_R ha hs hpc m (hcore ▸ hs.g) (fun q' e => hcore ▸ hnew q' e) (fun _ h => hcore ▸ h)
    (fun _ _ _ _ _ h => hcore ▸ h) (fun h => hcore ▸ h) (fun n hn => Or.inl ?_)
  rwa [show s'.resv = s.resv from congrArg Core.resv hcore] at hn

/-- targets whose fact is only that the handle is open; `PlainR0`: nothing about the handle -/
def PlainRB (r : Nat) (p : PC) : Prop := ∀ c t q', p = .rcv r q' → rBase c r → rFact c t r q'
def PlainR0 (r : Nat) (p : PC) : Prop := ∀ c t q', p = .rcv r q' → (r < c.nextCell ∧ c.resv r = none) → rFact c t r q'

theorem plainR0_ret (r : Nat) (res : Res) : PlainR0 r (.ret res) := by intro c t q' e; cases e

theorem QuietR.plain {r : Nat} {p : PC} (h : QuietR r p) : PlainRB r p := by
  intro c t q' e hb
  rcases h with ⟨res, rfl⟩ | ⟨q, rfl, hq⟩ <;> cases e
  cases q' <;> first | (simp only [rFact]; exact hb) | cases hq
theorem plainR0_wkDone (r k) : PlainR0 r (wkDone k) := by unfold wkDone; split <;> apply plainR0_ret

theorem safe_R_B {s s' : State} {t r : Nat} {q : RPC} {p : PC} (ha : InvA s) (hs : Safe s) (hpc : s.pc t = .rcv r q)
    (m : MoveR s s' t r p) (hb : rBase s.core r)
    (hpl : PlainRB r p := by
      first
      | exact QuietR.plain (by quietR_tac)
      | (intro c t q' e hb; cases e; simp only [rFact]; exact hb))
    (hcore : s'.core = s.core := by rfl) : Safe s' :=
  safe_R_same ha hs hpc m hcore (fun q' e => hpl _ _ q' e hb)

theorem safe_R_0 {s s' : State} {t r : Nat} {q : RPC} {p : PC} (ha : InvA s) (hs : Safe s) (hpc : s.pc t = .rcv r q)
    (m : MoveR s s' t r p)
    (hpl : PlainR0 r p := by
      first
      | apply plainR0_ret
      | apply plainR0_wkDone
      | (intro c t q' e hb; cases e; simp only [rFact]; exact hb))
    (hcore : s'.core = s.core := by rfl) : Safe s' :=
  safe_R_same ha hs hpc m hcore (fun q' e => hpl _ _ q' e (rFact_base (hs.rf t r q hpc)))

theorem read_ok {s : State} (hl : LRI s) (hs : Safe s) {r : Nat} (hb : rBase s.core r) {i : Nat}
    (hi : s.core.cur r ≤ i) (hlt : i < s.core.sent.length) :
    s.core.val (i % s.core.cap) = s.core.sent.getD i 0 := by
  have hmem := hs.g.mem_pub hl.live2 hb
  have h1 := hs.g.lim_pub r hmem
  have h2 := hs.g.n_le_lim
  refine hs.g.b2v i hlt (by omega) ?_
  intro e
  cases hd : s.core.dirty
  · rfl
  · have := hs.g.dirty_lim hd; omega

theorem read_seg {s : State} (hl : LRI s) (hs : Safe s) {r : Nat} (hb : rBase s.core r) {c k : Nat}
    (hc : c = s.core.cur r) (hle : c + k ≤ s.core.sent.length) :
    (List.range k).map (fun i => s.val ((c + i) % s.cap)) = (s.core.sent.drop c).take k :=
  map_range_eq_take_drop (d := 0) hle fun i _ => read_ok hl hs hb (i := c + i) (by omega) (by omega)

theorem safe_R_to {s s' : State} {t r : Nat} {q q' : RPC} (ha : InvA s) (hs : Safe s) (hpc : s.pc t = .rcv r q)
    (m : MoveR s s' t r (.rcv r q')) (hnew : rFact s.core t r q') (hcore : s'.core = s.core := by rfl) : Safe s' :=
  safe_R_same ha hs hpc m hcore (fun _ e => by cases e; exact hnew)

/-- frame rule for a receiver step that, in the core, changes only entries of the cells in `ex` (`r` itself or a
cell reserved by `t`) or of cells it allocates; the defaults are those of a step that touches `r` alone -/
theorem safe_R_cell {s s' : State} {t r : Nat} {q : RPC} {p : PC} (ha : InvA s) (hs : Safe s) (hpc : s.pc t = .rcv r q)
    (m : MoveR s s' t r p) (hg : GFact s'.core) (hnew : ∀ q', p = .rcv r q' → rFact s'.core t r q')
    (hn : s.nextCell ≤ s'.nextCell := by exact Nat.le_refl _)
    (hcur : ∀ x, x < s.nextCell → s.cur x ≤ s'.cur x := by exact fun _ _ => Nat.le_refl _)
    (ex : Nat → Prop := (· = r)) (hex : ∀ x, ex x → x = r ∨ s.resv x = some t := by exact fun _ e => Or.inl e)
    (hmaps : ∀ x, ¬ ex x → x < s.nextCell → AgreeAt s.core s'.core x := by
      exact fun _ _ _ => ⟨rfl, rfl, rfl, rfl, rfl⟩)
    (hdata : ∀ i x, ¬ ex x → x ∈ s.lr.data i → x ∈ s'.lr.data i := by exact fun _ _ _ h => h)
    (hrv : ∀ n, s'.resv n ≠ none → s.resv n ≠ none ∨ s.rOwner n = none := by exact fun n hn => Or.inl hn) :
    Safe s' := by
  have hb := rFact_base (hs.rf t r q hpc)
  have fr := m.toFrameR
  refine safe_R ha hs hpc m hg hnew
    (fun _ => sFact_mono_R (c := s.core) (c' := s'.core) fr.cap fr.head fr.sent fr.dirty fr.lim fr.seq fr.val fr.sclosed hn hcur) ?_
    (fun h => show s'.head = s'.sent.length ∧ s'.dirty = false by rw [fr.head, fr.sent, fr.dirty]; exact h) hrv
  intro u r' q' hut hne hq
  refine rFact_ext (c := s.core) (c' := s'.core) ex hs.g hn hmaps fr.sent fr.head fr.pdropped hdata ?_ ?_ hq
  · intro e; rcases hex r' e with e | e
    · exact hne e
    · have := (rFact_base hq).2; rw [show s.core.resv r' = s.resv r' from rfl, e] at this; cases this
  · intro n hn e; rcases hex n e with e | e
    · subst e; rw [hn] at hb; cases hb.2
    · exact hut (Option.some.inj (hn.symm.trans e))

theorem safe_sEnter {s s' : State} {t : Nat} {k : ScanK} {h0 : Nat} {p : LPC} (ha : InvA s) (hs : Safe s)
    (hpc : s.pc t = .snd (.sEnter k h0 p)) (h : stepSEnter s t k h0 p = some s') : Safe s' := by
  have mov {p' : PC} := actS_move (p := .sEnter k h0 p) h (p' := p')
  have hf := hs.sf t _ hpc
  obtain ⟨sc, f3, f4⟩ := hf
  unfold stepSEnter at h
  cases p <;> simp only [isRd] at f4 <;> (first | cases f4 | skip) <;> simp only [lrLabel, LeftRightB.step] at h
  case rChk i =>
    by_cases hl : s.lr.live = i <;> simp only [hl, ↓reduceIte] at h <;> cases h
    · -- the guard is obtained
      refine safe_S ha hs hpc (mov rfl) hs.g ?_ ?_ (fun _ _ _ h => h)
      · intro q' e
        unfold commitPC at e
        repeat' split at e
        all_goals (cases e; show sFact s.core _; dsimp only [sFact])
        · exact ⟨sc, fun _ hv => by simp at hv⟩
        · exact ⟨sc, fun _ hv => by simp at hv⟩
        · exact ⟨sc, f3, fun _ hr => by simp at hr, fun _ hv => by simp at hv, fun _ => rfl⟩
      · intro res e
        unfold commitPC at e
        repeat' split at e
        all_goals cases e
    · exact safe_S_to ha hs hpc (mov rfl) ⟨sc, f3, rfl⟩
  all_goals cases h; exact safe_S_to ha hs hpc (mov rfl) ⟨sc, f3, rfl⟩

theorem safe_sScan {s s' : State} {t : Nat} {k : ScanK} {h0 i : Nat} {done todo : List Nat} {m : Option Nat}
    (ha : InvA s) (hl : LRI s) (hs : Safe s)
    (hpc : s.pc t = .snd (.sScan k h0 i done todo m)) (h : stepSScan s t k h0 i done todo m = some s') : Safe s' := by
  have mov {p' : PC} := actS_move (p := .sScan k h0 i done todo m) h (p' := p')
  have hf := hs.sf t _ hpc
  obtain ⟨sc, f3, f4, f5, f6⟩ := hf
  have hst := hl.stage t
  simp only [hpc, lrpc, lrpcS, LeftRightB.stageOK] at hst
  obtain ⟨hi2, hdata⟩ := hst
  unfold stepSScan at h
  cases todo with
  | nil => cases h
  | cons r rest =>
    have hr : r < s.core.nextCell := hs.g.cells i r (by show r ∈ s.lr.data i; rw [hdata]; simp)
    have hleN : omin m (s.cur r) ≤ s.core.sent.length := by
      have := omin_le_right m (s.cur r); have := hs.g.cur_le r
      have e : s.cur r = s.core.cur r := rfl
      omega
    cases rest with
    | nil =>
      -- last cursor of the snapshot: the minimum bounds every published cursor and raises the credit
      simp only [] at h
      have hlb := lb_all hl hs hpc
      have hg' := gfact_lim hs.g hlb
      split at h <;> cases h <;>
        refine safe_S ha hs hpc (mov rfl) hg' (fun q' e => ?_) (fun _ e => by cases e)
          (rFact_S_same (mov rfl).toFrameS rfl rfl rfl rfl) <;>
        cases e <;>
        show sFact { s.core with lim := max s.core.lim (omin m (s.cur r) + s.core.cap) } _ <;>
        simp only [sFact]
      · exact ⟨⟨sc.idle, sc.opn⟩, by omega, hleN⟩
      · rename_i hha
        refine ⟨⟨sc.idle, sc.opn⟩, ?_⟩
        intro v hv; cases hv
        exact ⟨fun hk => f3 hk (Bool.eq_false_iff.2 hha), by omega, hleN⟩
    | cons r2 rest2 =>
      simp only [] at h
      cases h
      refine safe_S_to ha hs hpc (mov rfl) ⟨sc, f3, ?_, ?_, fun hv => by cases hv⟩
      · intro x hx; rcases List.mem_append.1 hx with hx | hx
        · exact f4 x hx
        · simp at hx; subst hx; exact hr
      · intro v hv; cases hv
        exact ⟨omin_lb (fun v hv => (f5 v hv).1) f6, hleN⟩

theorem safe_sExit {s s' : State} {t : Nat} {k : ScanK} {h0 i : Nat} {L : List Nat} {m : Option Nat}
    (ha : InvA s) (hs : Safe s)
    (hpc : s.pc t = .snd (.sExit k h0 i L m)) (h : stepSExit s t k h0 i L m = some s') : Safe s' := by
  have mov {p' : PC} := actS_move (p := .sExit k h0 i L m) h (p' := p')
  have hf := hs.sf t _ hpc
  obtain ⟨sc, f3⟩ := hf
  have f1 := sc.idle
  unfold stepSExit at h
  simp only [LeftRightB.step] at h
  cases h
  refine safe_S ha hs hpc (mov rfl) hs.g ?_ ?_ (fun _ _ _ h => h)
  · intro q' e
    show sFact s.core q'
    unfold afterScan at e
    split at e
    all_goals (try split at e)
    all_goals (try split at e)
    all_goals (cases e <;> simp only [sFact])
    all_goals first | exact ⟨f1, sc.opn rfl⟩ | skip
    · rename_i x mv hlt
      have ⟨a, b, _⟩ := f3 mv rfl
      have a := a rfl
      exact ⟨⟨a.symm, by have := f1.1; omega, by omega,
        by show h0 + 1 ≤ s.core.lim; have : s.cap = s.core.cap := rfl; omega, sc.opn rfl⟩, f1.2⟩
    · rename_i x mv hk
      have ⟨a, b, _⟩ := f3 mv rfl
      have a := a rfl
      refine ⟨f1, sc.opn rfl, by omega, ?_⟩
      unfold spaceK at *
      have : s.cap = s.core.cap := rfl
      omega
  · intro res e
    exact f1

theorem safe_actS {s s' : State} {t : Nat} {p : SPC} (ha : InvA s) (hl : LRI s) (hs : Safe s)
    (hpc : s.pc t = .snd p) (h : actS s t p = some s') : Safe s' := by
  have mov {p' : PC} := actS_move h (p' := p')
  have hf := hs.sf t _ hpc
  cases p
  case sEnter k h0 p => exact safe_sEnter ha hs hpc h
  case sScan k h0 i done todo m => exact safe_sScan ha hl hs hpc h
  case sExit k h0 i L m => exact safe_sExit ha hs hpc h
  case sFlag x =>
    simp only [actS, stepSFlag] at h
    split at h <;> cases h
    · exact safe_S_plainC ha hs hpc (mov rfl)
    · rename_i hc
      exact safe_S_plain ha hs hpc (mov rfl) (by show s.sclosed = false; simpa using hc)
  case sHead k =>
    cases h
    exact safe_S_to ha hs hpc (mov rfl) ⟨hf, fun _ _ => rfl, rfl⟩
  case sHead2 k i L m =>
    cases h
    exact safe_S_to ha hs hpc (mov rfl) ⟨hf.1, fun v hv => by cases hv; exact ⟨fun _ => rfl, hf.2⟩⟩
  case bHead x k =>
    cases h; simp only [sFact] at hf
    obtain ⟨f1, f2, f3, f4⟩ := hf
    have e1 : s.head = s.core.head := rfl
    exact safe_S_to ha hs hpc (mov rfl) ⟨⟨rfl, by have := f1.1; omega, f3, by rw [e1]; exact f4, f2⟩, f1.2⟩
  case wSeqLd x h0 j k =>
    cases h
    exact safe_S_to ha hs hpc (mov rfl) ⟨hf.1, hf.2, rfl⟩
  case aFence x =>
    cases h; simp only [sFact] at hf
    refine safe_S_to ha hs hpc (mov rfl) ⟨⟨hf.1, fun _ => hf.2⟩, ?_, rfl⟩
    split <;> exact fun _ => nofun
  case wVal x h0 j k q =>
    cases h
    obtain ⟨w, f5, f6⟩ := hf
    have hN := w.len
    have hg' := gfact_wVal (v := x.items.getD j 0) hs.g (by have := w.lt; have := w.lim; omega)
    rw [hN] at hg'
    refine safe_S ha hs hpc (mov rfl) hg' ?_ (fun _ e => by cases e) (rFact_S_same (mov rfl).toFrameS rfl rfl rfl rfl)
    intro q' e; cases e
    show sFact { s.core with val := upd s.core.val ((h0 + j) % s.core.cap) (x.items.getD j 0), dirty := true } _
    dsimp only [sFact]
    exact ⟨⟨w.head, hN, w.lt, w.lim, w.opn⟩, rfl, by simp⟩
  case wSeqSt x h0 j k =>
    obtain ⟨w, f5, f6⟩ := hf
    have hN := w.len
    have hg' := gfact_wSeqSt (v := x.items.getD j 0) hs.g f5 (by rw [hN]; exact f6)
    rw [hN] at hg'
    open_actS h <;>
      refine safe_S ha hs hpc (mov rfl) hg' ?_ (fun _ e => by cases e)
        (rFact_S_of (mov rfl).toFrameS rfl ⟨[x.items.getD j 0], rfl⟩ (Nat.le_refl _) (fun h => ⟨h, rfl⟩)) <;>
      intro q' e <;> cases e <;>
      show sFact { s.core with seq := upd s.core.seq ((h0 + j) % s.core.cap) (2 * (h0 + j) + 1), sent := s.core.sent ++ [x.items.getD j 0], dirty := false } _ <;>
      dsimp only [sFact] <;> simp only [write_iff, List.length_append, List.length_singleton]
    · exact ⟨⟨w.head, by omega, by omega, w.lim, w.opn⟩, trivial⟩
    · exact ⟨w.head, by have := w.lt; omega, trivial, w.opn⟩
  case wHeadSt x h0 k =>
    cases h; simp only [sFact] at hf
    obtain ⟨f1, f2, f3, f4⟩ := hf
    have hg' := gfact_head (h := h0 + k) hs.g (by omega)
    refine safe_S ha hs hpc (mov rfl) hg' ?_ (fun _ e => by cases e)
      (rFact_S_of (mov rfl).toFrameS rfl ⟨[], (List.append_nil _).symm⟩ (by show s.core.head ≤ h0 + k; omega) (fun h => by have := hs.g.pd_closed h; rw [f4] at this; cases this))
    intro q' e; cases e
    show sFact { s.core with head := h0 + k } _
    dsimp only [sFact]
    exact ⟨⟨f2.symm, f3⟩, f4⟩
  case cFlag d =>
    open_actS h
    · exact safe_S_plainC ha hs hpc (mov rfl)
    · exact safe_S_plainC ha hs hpc (mov rfl)
    · have hi : idleLike s.core := hf
      refine safe_S ha hs hpc (mov rfl) (gfact_sclosed hs.g) ?_ (fun _ e => by cases e)
        (rFact_S_same (mov rfl).toFrameS rfl rfl rfl rfl)
      intro q' e; cases e
      show sFact { s.core with sclosed := true } _
      dsimp only [sFact]; exact ⟨hi, rfl⟩
  case cStore =>
    cases h; simp only [sFact] at hf
    refine safe_S ha hs hpc (mov rfl) (gfact_pdropped hs.g hf.2) ?_ (fun _ e => by cases e)
      (rFact_S_of (mov rfl).toFrameS rfl ⟨[], (List.append_nil _).symm⟩ (Nat.le_refl _) (fun _ => ⟨rfl, rfl⟩))
    intro q' e; cases e
    show sFact { s.core with pdropped := true } _
    dsimp only [sFact]; exact hf.1
  case cLock j | cWake j ws | cUnlock j =>
    open_actS h <;> exact safe_S_plainC ha hs hpc (mov rfl)
  -- the other steps leave the core alone and move to a `PlainPC` control state
  all_goals
    open_actS h <;>
      exact safe_S_plain ha hs hpc (mov rfl) (open_of_sFact hf rfl)

theorem data_mono_mut {c : Core} {data : Nat → List Nat} {i t r : Nat} {k : MK} {o : LOp} (ho : ModOp c t r k o) :
    ∀ j x, ¬ (x = r) → x ∈ data j → x ∈ upd data i (apL o (data i)) j := by
  intro j x hx hm
  simp only [upd_apply]
  split
  · rename_i e; subst e
    rcases ho with ⟨n, _, _⟩ | _
    · simp only [apL, List.mem_append]; exact Or.inl hm
    · simp only [apL, List.mem_filter]; exact ⟨hm, by simpa using hx⟩
  · exact hm

theorem rFact_mMod_move {c : Core} {t r : Nat} {k : MK} {p p' : LPC} (hf : rFact c t r (.mMod k p))
    (hop : opOf p' = opOf p) (hpush : ∀ n, pushedAt c n p → pushedAt c n p') (hw : isWr p' = true) :
    rFact c t r (.mMod k p') := by
  cases k <;> simp only [rFact, hop] at hf ⊢
  · exact ⟨hf.1, hf.2.1, hf.2.2.1, hpush _ hf.2.2.2.1, hw⟩
  · exact ⟨hf.1, hf.2.1, hf.2.2.1, hf.2.2.2.1, hw⟩

theorem safe_mMod {s s' : State} {t r : Nat} {k : MK} {p : LPC} (ha : InvA s) (hl : LRI s) (hs : Safe s)
    (hpc : s.pc t = .rcv r (.mMod k p)) (h : stepMMod s t r k p = some s') : Safe s' := by
  have mov {p' : PC} := actR_move (p := .mMod k p) h (p' := p')
  have hf := hs.rf t r _ hpc
  have hst := hl.stage t
  simp only [hpc, lrpc, lrpcR] at hst
  have hl2 : s.lr.live < 2 := hl.live2
  have hwr := rFact_isWr hf
  -- a mutation of the unpublished copy `i`
  have mutd : ∀ (i : Nat) (o : LOp) (p' : LPC) (s1 : State), opOf p = some o → i ≠ s.lr.live →
      MoveR s s1 t r (.rcv r (.mMod k p')) → s1.core = { s.core with data := upd s.core.data i (apL o (s.core.data i)) } →
      rFact s1.core t r (.mMod k p') → Safe s1 := by
    intro i o p' s1 ho hne m1 e3 hnew
    have hop := rFact_modOp hf ho
    have hd : s1.lr.data = upd s.lr.data i (apL o (s.lr.data i)) := congrArg Core.data e3
    refine safe_R_cell ha hs hpc m1
      (e3 ▸ gfact_mut hs.g hne hop) (fun q' e => by cases e; exact hnew)
      (hn := Nat.le_of_eq (congrArg Core.nextCell e3).symm)
      (hcur := fun x _ => Nat.le_of_eq (congrFun (congrArg Core.cur e3) x).symm)
      (hmaps := fun _ _ _ => by rw [e3]; exact ⟨rfl, rfl, rfl, rfl, rfl⟩)
      (hdata := fun j x hx hm => hd ▸ data_mono_mut hop j x hx hm)
      (hrv := fun n hn => Or.inl (by rwa [show s1.resv = s.resv from congrArg Core.resv e3] at hn))
  unfold stepMMod at h
  cases p <;> simp only [isWr] at hwr <;> (first | cases hwr | skip) <;> simp only [lrLabel, LeftRightB.step] at h
  case wLock o =>
    by_cases hw : s.lr.wlock = none <;> simp only [hw, ↓reduceIte] at h <;> cases h
    exact safe_R_to ha hs hpc (mov rfl) (rFact_mMod_move hf rfl (fun _ h => h) rfl)
  case wLoad o =>
    cases h
    exact safe_R_to ha hs hpc (mov rfl) (rFact_mMod_move hf rfl (fun _ h => h) rfl)
  case wWait o l =>
    by_cases hz : s.lr.readers l = 0 <;> simp only [hz, ↓reduceIte] at h <;> cases h <;>
      exact safe_R_to ha hs hpc (mov rfl) (rFact_mMod_move hf rfl (fun _ h => h) rfl)
  case wSpin o l =>
    cases h
    exact safe_R_to ha hs hpc (mov rfl) (rFact_mMod_move hf rfl (fun _ h => h) rfl)
  case wMut1 o l =>
    cases h
    simp only [LeftRightB.stageOK] at hst
    refine mutd (1 - l) o _ _ rfl (by omega) (mov rfl) rfl ?_
    show rFact { s.core with data := upd s.core.data (1 - l) (apL o (s.core.data (1 - l))) } t r _
    cases k with
    | clone n =>
      simp only [rFact, cloneFact_iff, opOf, pushedAt, isWr] at hf ⊢
      have := hf.2.2.1 o rfl; subst this
      refine ⟨hf.1, hf.2.1, hf.2.2.1, ?_, trivial⟩
      simp only [upd_same, apL, List.mem_append, List.mem_singleton, or_true]
    | unreg => simp only [rFact, opOf, isWr] at hf ⊢; exact hf
  case wMut2 o l =>
    cases h
    simp only [LeftRightB.stageOK] at hst
    obtain ⟨hlv, hl2', hd⟩ := hst
    refine mutd l o _ _ rfl (by omega) (mov rfl) rfl ?_
    show rFact { s.core with data := upd s.core.data l (apL o (s.core.data l)) } t r _
    cases k with
    | clone n =>
      simp only [rFact, cloneFact_iff, opOf, pushedAt, isWr] at hf ⊢
      have := hf.2.2.1 o rfl; subst this
      refine ⟨hf.1, hf.2.1, fun _ ho => by simp at ho, ?_, trivial⟩
      have hin := hf.2.2.2.1
      have : l = 0 ∨ l = 1 := by omega
      rcases this with rfl | rfl
      · exact ⟨by simp only [upd_same, apL, List.mem_append, List.mem_singleton, or_true],
          by simp only [upd_apply]; simpa using hin⟩
      · exact ⟨by simp only [upd_apply]; simpa using hin,
          by simp only [upd_same, apL, List.mem_append, List.mem_singleton, or_true]⟩
    | unreg => simp only [rFact, opOf, isWr] at hf ⊢; exact ⟨hf.1, hf.2.1, hf.2.2.1, fun _ ho => by simp at ho, trivial⟩
  case wPub o l =>
    cases h
    simp only [LeftRightB.stageOK] at hst
    obtain ⟨hlv, hd⟩ := hst
    refine safe_R_cell ha hs hpc (mov rfl) (gfact_pub hs.g hlv (by omega) hd (rFact_modOp hf rfl)) ?_
    intro q' e; cases e
    show rFact { s.core with live := 1 - l } t r _
    cases k <;> simp only [rFact, cloneFact_iff, opOf, pushedAt, isWr] at hf ⊢ <;> exact hf
  case wUnlock =>
    cases h
    refine safe_R_to ha hs hpc (mov rfl) ?_
    cases k with
    | clone n => simp only [rFact, pushedAt] at hf ⊢; exact ⟨hf.1, hf.2.1, hf.2.2.2.1.1, hf.2.2.2.1.2⟩
    | unreg => simp only [rFact] at hf ⊢; exact ⟨hf.1, hf.2.1, hf.2.2.1⟩

theorem safe_actR {s s' : State} {t r : Nat} {p : RPC} (ha : InvA s) (hl : LRI s) (hs : Safe s)
    (hpc : s.pc t = .rcv r p) (h : actR s t r p = some s') : Safe s' := by
  have mov {p' : PC} := actR_move h (p' := p')
  have hf := hs.rf t r p hpc
  have hcap := hs.g.cap_pos
  cases p <;> simp only [actR] at h
  case rFlag x =>
    unfold stepRFlag at h
    split at h <;> cases h
    · exact safe_R_0 ha hs hpc (mov rfl)
    · rename_i hc
      simp only [rFact] at hf
      have hc' : s.core.rclosed r = false := by show s.rclosed r = false; simpa using hc
      exact safe_R_B ha hs hpc (mov rfl) ⟨hf.1, hf.2, hc'⟩
  case rCur x | gCur x =>
    simp only [rFact] at hf
    open_actR h <;> exact safe_R_to ha hs hpc (mov rfl) ⟨hf, rfl⟩
  case rSeq x c =>
    simp only [rFact] at hf; unfold stepRSeq at h
    split at h <;> cases h
    · rename_i hseq
      have hlt : c < s.core.sent.length := (hs.g.b2r (c % s.core.cap) c (Nat.mod_lt _ hcap) hseq).1
      exact safe_R_to ha hs hpc (mov rfl) ⟨hf.1, hf.2, hlt⟩
    · exact safe_R_to ha hs hpc (mov rfl) hf
  case rVal x c =>
    cases h; simp only [rFact] at hf
    obtain ⟨hb, hc, hlt⟩ := hf
    exact safe_R_to ha hs hpc (mov rfl) ⟨hb, hc, hlt, read_seg (k := 1) hl hs hb hc hlt⟩
  case rSt x c vs =>
    cases h; simp only [rFact] at hf
    obtain ⟨hb, hc, hle, hvs⟩ := hf
    refine safe_R_cell ha hs hpc (mov rfl) (gfact_rSt hs.g hc hle hvs) ?_ (hcur := ?_) (hmaps := ?_)
    · intro q' e; cases e
      show rFact { s.core with cur := upd s.core.cur r (c + vs.length), got := upd s.core.got r (s.core.got r ++ vs) } t r _
      simp only [rFact]; exact ⟨hb.1, hb.2.1⟩
    · intro y _; show s.cur y ≤ upd s.cur r (c + vs.length) y
      simp only [upd_apply]; split
      · rename_i e; subst e; have : c = s.cur y := hc; omega
      · exact Nat.le_refl _
    · exact fun y hy _ => ⟨upd_ne hy _, rfl, upd_ne hy _, rfl, rfl⟩
  case rDrop x c | bDrop x c =>
    simp only [rFact] at hf
    open_actR h
    · rename_i hp
      exact safe_R_to ha hs hpc (mov rfl) ⟨hf.1, hf.2, hp⟩
    · exact safe_R_B ha hs hpc (mov rfl) hf.1
  case rHead x c =>
    simp only [rFact] at hf; unfold stepRHead at h
    split at h <;> cases h
    · exact safe_R_0 ha hs hpc (mov rfl)
    · exact safe_R_B ha hs hpc (mov rfl) hf.1
  case bHd x c =>
    simp only [rFact] at hf; unfold stepBHd at h
    split at h <;> cases h
    · exact safe_R_to ha hs hpc (mov rfl) hf
    · have h1 : c + min (s.head - c) (x.max.getD 1) ≤ s.core.head := by show _ ≤ s.head; omega
      exact safe_R_to ha hs hpc (mov rfl) ⟨hf.1, hf.2, h1⟩
  case bHd2 x c =>
    simp only [rFact] at hf; unfold stepBHd2 at h
    split at h <;> cases h
    · exact safe_R_0 ha hs hpc (mov rfl)
    · have h1 : c + min (s.head - c) (x.max.getD 1) ≤ s.core.head := by show _ ≤ s.head; omega
      exact safe_R_to ha hs hpc (mov rfl) ⟨hf.1, hf.2.1, h1⟩
  case bVals x c k =>
    cases h; simp only [rFact] at hf
    obtain ⟨hb, hc, hle⟩ := hf
    have hk : c + k ≤ s.core.sent.length := Nat.le_trans hle hs.g.head_le
    refine safe_R_to ha hs hpc (mov rfl) ⟨hb, hc, ?_, ?_⟩ <;> simp only [List.length_map, List.length_range]
    · exact hk
    · exact read_seg hl hs hb hc hk
  case gLock x c | eLock x c =>
    simp only [rFact] at hf
    open_actR h
    exact safe_R_to ha hs hpc (mov rfl) hf
  case gUnlock x c => cases h; simp only [rFact] at hf; exact safe_R_B ha hs hpc (mov rfl) hf.1
  case eDrop x =>
    simp only [rFact] at hf; unfold stepEDrop at h
    split at h <;> cases h
    · rename_i hp
      exact safe_R_to ha hs hpc (mov rfl) ⟨hf, hp⟩
    · exact safe_R_B ha hs hpc (mov rfl) hf
  case eHead x =>
    cases h; simp only [rFact] at hf
    exact safe_R_to ha hs hpc (mov rfl) ⟨hf.1, hf.2, rfl⟩
  case eCur x h0 =>
    simp only [rFact] at hf; unfold stepECur at h
    (repeat' split at h) <;> cases h
    · rename_i hge _ _
      have h1 : s.core.head ≤ s.cur r := by rw [← hf.2.2]; exact hge
      exact safe_R_to ha hs hpc (mov rfl) ⟨hf.1, rfl, hf.2.1, h1⟩
    · exact safe_R_0 ha hs hpc (mov rfl)
    · exact safe_R_B ha hs hpc (mov rfl) hf.1
  case kPark x | kCur x =>
    simp only [rFact] at hf
    open_actR h
    exact safe_R_B ha hs hpc (mov rfl) hf
  case cCur =>
    cases h; simp only [rFact] at hf
    obtain ⟨hb1, hb2, hb3⟩ := hf
    have hb1' : r < s.nextCell := hb1
    have hne : ∀ y, y < s.nextCell → y ≠ s.nextCell := fun y hy => Nat.ne_of_lt hy
    refine safe_R_cell ha hs hpc (mov rfl) (gfact_cCur hs.g (t := t) (r := r)) ?_ (hn := Nat.le_succ _) (hcur := ?_)
      (hmaps := ?_) (hrv := ?_)
    · intro q' e; cases e
      show rFact { s.core with nextCell := s.core.nextCell + 1, cur := upd s.core.cur s.core.nextCell (s.core.cur r), c0 := upd s.core.c0 s.core.nextCell (s.core.cur r), rclosed := upd s.core.rclosed s.core.nextCell false, got := upd s.core.got s.core.nextCell [], resv := upd s.core.resv s.core.nextCell (some t) } t r _
      simp only [rFact, rBase, cloneFact_iff, upd_apply, show s.core.nextCell = s.nextCell from rfl, if_neg (hne r hb1'), if_true]
      exact ⟨⟨by omega, hb2, hb3⟩, (hne r hb1').symm, trivial, trivial, trivial, trivial, trivial⟩
    · exact fun y hy => Nat.le_of_eq (upd_ne (hne y hy) _).symm
    · exact fun y _ hy => ⟨upd_ne (hne y hy) _, upd_ne (hne y hy) _, upd_ne (hne y hy) _, upd_ne (hne y hy) _,
        upd_ne (hne y hy) _⟩
    · intro n hn
      by_cases e : n = s.nextCell
      · -- the fresh cell has no owner: an owner would be inside an operation on a cell that does not exist yet
        subst e
        right
        cases ho : s.rOwner s.nextCell with
        | none => rfl
        | some u =>
          obtain ⟨q2, hq⟩ := ha.of_rOwner ho
          exact absurd (rFact_base (hs.rf u _ q2 hq)).1 (Nat.lt_irrefl _)
      · left
        rwa [show (stepCCur s t r).resv n = s.resv n from upd_ne e _] at hn
  case mLock k =>
    unfold stepMLock at h; split at h
    · cases h
      cases k with
      | clone n =>
        simp only [rFact] at hf
        exact safe_R_to ha hs hpc (mov rfl) ⟨hf.1, hf.2, fun o ho => by cases ho; rfl, trivial, rfl⟩
      | unreg =>
        simp only [rFact] at hf
        exact safe_R_to ha hs hpc (mov rfl) ⟨hf.1, hf.2.1, hf.2.2, fun o ho => by cases ho; rfl, rfl⟩
    · cases h
  case mMod k p => exact safe_mMod ha hl hs hpc h
  case mUnlock k =>
    cases h
    cases k with
    | clone n =>
      simp only [rFact, rBase, cloneFact_iff] at hf
      obtain ⟨⟨hb1, hb2, hb3⟩, ⟨c1, c2, c3, c4, c5, c6⟩, hm0, hm1⟩ := hf
      refine safe_R_cell ha hs hpc (mov rfl) (gfact_born hs.g c2 ⟨hm0, hm1⟩) (fun q' e => by cases e)
        (ex := fun y => y = r ∨ y = n) (hex := fun y e => e.imp_right fun e => by rw [e]; exact c2) (hmaps := ?_)
        (hrv := ?_)
      · exact fun y hy _ => ⟨rfl, rfl, rfl, rfl, upd_ne (fun e => hy (Or.inr e)) _⟩
      · intro n' hn'
        left
        by_cases e : n' = n
        · subst e; exact absurd (show upd s.resv n' none n' = none by simp) hn'
        · rwa [show (stepMUnlock s t r (.clone n)).resv n' = s.resv n' from upd_ne e _] at hn'
    | unreg => exact safe_R_0 ha hs hpc (mov rfl)
  case xFlag d =>
    simp only [rFact] at hf
    open_actR h
    · exact safe_R_0 ha hs hpc (mov rfl)
    · exact safe_R_0 ha hs hpc (mov rfl)
    · refine safe_R_cell ha hs hpc (mov rfl) (gfact_close (r := r) hs.g) ?_ (hmaps := ?_)
      · intro q' e; cases e
        show rFact { s.core with rclosed := upd s.core.rclosed r true } t r _
        simp only [rFact, upd_same]; exact ⟨hf.1, hf.2, trivial⟩
      · exact fun y hy _ => ⟨rfl, rfl, rfl, upd_ne hy _, rfl⟩
  -- the other steps need nothing about the handle
  all_goals open_actR h <;> exact safe_R_0 ha hs hpc (mov rfl)

theorem safe_act {s s' : State} {t : Nat} (ha : InvA s) (hl : LRI s) (hs : Safe s) (h : act s t = some s') : Safe s' := by
  rcases act_cases h with ⟨p, hpc, h⟩ | ⟨r, p, hpc, h⟩
  · exact safe_actS ha hl hs hpc h
  · exact safe_actR ha hl hs hpc h

theorem safe_free {s s' : State} {t : Nat} {p : PC} (hs : Safe s) (hfree : isFree (s.pc t) = true)
    (hpc' : s'.pc = upd s.pc t p) (hg : GFact s'.core)
    (hsf : ∀ q, sFact s.core q → sFact s'.core q)
    (hrf : ∀ u r q, rFact s.core u r q → rFact s'.core u r q)
    (hnewS : ∀ q, p = .snd q → sFact s'.core q) (hnewR : ∀ r q, p = .rcv r q → rFact s'.core t r q)
    (hidle : s'.sOwner = none → idleLike s'.core)
    (hrv : ∀ n, s'.resv n ≠ none → s'.rOwner n = none) : Safe s' := by
  refine ⟨hg, ?_, ?_, hidle, hrv⟩
  · intro u q h
    rw [hpc'] at h
    rcases pc_upd h with ⟨_, e⟩ | ⟨_, h⟩
    · exact hnewS q e
    · exact hsf q (hs.sf u q h)
  · intro u r q h
    rw [hpc'] at h
    rcases pc_upd h with ⟨rfl, e⟩ | ⟨_, h⟩
    · exact hnewR r q e
    · exact hrf u r q (hs.rf u r q h)

theorem resv_none_of_alive {c : Core} (hg : GFact c) {r : Nat} (h : c.rAlive r = true) : c.resv r = none := by
  cases hr : c.resv r with
  | none => rfl
  | some u => have := (hg.resv_lt r u hr).2; rw [h] at this; cases this

theorem gfact_alive {c : Core} (hg : GFact c) {al : Nat → Bool} (h : ∀ x, al x = true → c.rAlive x = true) :
    GFact { c with rAlive := al } := by
  refine { hg with alive_lt := fun x hx => hg.alive_lt x (h x hx), resv_lt := fun n u hn => ?_ }
  have := hg.resv_lt n u hn
  refine ⟨this.1, ?_⟩
  show al n = false
  cases ha : al n
  · rfl
  · rw [h n ha] at this; cases this.2

theorem sFact_entry {c : Core} {q : SPC} (h : entryS q = true) (hi : idleLike c) : sFact c q := by
  unfold entryS at h
  split at h
  · exact hi
  · exact hi
  · exact ⟨hi, fun e => Bool.noConfusion e⟩
  · exact ⟨⟨hi, fun e => Bool.noConfusion e⟩, nofun, rfl⟩
  · cases h

theorem rFact_entry {c : Core} {t r : Nat} {q : RPC} (h : entryR q = true) (hb : r < c.nextCell ∧ c.resv r = none)
    (hcl : q = .cCur → c.rclosed r = false) : rFact c t r q := by
  cases q <;> first | exact hb | exact ⟨hb.1, hb.2, hcl rfl⟩ | cases h

theorem safe_call {s s' : State} {t : Nat} {op : Op} (hs : Safe s)
    (h : stepCall s t op = some s') (hnt : s'.taint = false) : Safe s' := by
  obtain ⟨hfree, e⟩ := call_eff h
  have ret : ∀ {res : Res} {s1 : State}, s1.pc = upd s.pc t (.ret res) → s1.sOwner = s.sOwner →
      s1.rOwner = s.rOwner → s1.resv = s.resv → s1.core = s.core → Safe s1 := by
    intro res s1 e1 e2 e3 e4 e5
    exact safe_free hs hfree e1 (e5 ▸ hs.g) (fun q h => e5 ▸ h) (fun u r q h => e5 ▸ h) (fun q e => by cases e)
      (fun r q e => by cases e) (fun e => e5 ▸ hs.idle (e2 ▸ e)) (fun n hn => by rw [e4] at hn; rw [e3]; exact hs.resvFree n hn)
  cases e with
  | sender q a hf hq =>
    simp only [sFreeH, Bool.and_eq_true, Option.isNone_iff_eq_none] at hf
    exact safe_free hs hfree rfl hs.g (fun _ h => h) (fun _ _ _ h => h)
      (fun q' e => by cases e; exact sFact_entry hq (hs.idle hf.2)) (fun _ _ e => by cases e) nofun hs.resvFree
  | receiver r q al tn hf hq hal htn =>
    simp only [rFreeH, Bool.and_eq_true, Option.isNone_iff_eq_none] at hf
    have hlt := hs.g.alive_lt r hf.1
    have hrn := resv_none_of_alive hs.g (r := r) hf.1
    -- `rAlive` is read by no thread's facts
    refine safe_free hs hfree rfl (gfact_alive hs.g hal)
      (fun q h => sFact_mono_R (c := s.core) (c' := { s.core with rAlive := al }) rfl rfl rfl rfl rfl rfl rfl rfl
        (Nat.le_refl _) (fun _ _ => Nat.le_refl _) h)
      (fun u r' q h => rFact_mono_S (c := s.core) (c' := { s.core with rAlive := al }) rfl rfl rfl rfl rfl rfl rfl
        ⟨[], (List.append_nil _).symm⟩ (Nat.le_refl _) (fun h => ⟨h, rfl⟩) h)
      (fun q e => by cases e) (fun r' q' e => by cases e; exact rFact_entry hq ⟨hlt, hrn⟩ (htn hnt).2)
      (fun e => hs.idle e) ?_
    intro n hn
    show upd s.rOwner r (some t) n = none
    simp only [upd_apply]; split
    · rename_i e; subst e; exact absurd hrn hn
    · exact hs.resvFree n hn
  | ret res => exact ret rfl rfl rfl rfl rfl
  | convS _ =>
    have hcl : s.sclosed = false := (Bool.or_eq_false_iff.1 hnt).2
    exact ret rfl rfl rfl rfl (by simp only [State.core, ← hcl])
  | convR r _ =>
    have hcl : s.rclosed r = false := (Bool.or_eq_false_iff.1 hnt).2
    exact ret rfl rfl rfl rfl (by simp only [State.core, ← hcl, upd_self])

theorem safe_spurious {s s' : State} {t : Nat} (ha : InvA s) (hs : Safe s) (h : stepSpurious s t = some s') : Safe s' := by
  rcases spurious_cases h with ⟨x, hpc, rfl, m⟩ | ⟨r, x, hpc, rfl, m⟩
  · exact safe_S_plain ha hs hpc m (open_of_sFact (hs.sf _ _ hpc) rfl) (quiet_afterPark x).plain
  · exact safe_R_B ha hs hpc m (hs.rf t r _ hpc) (quietR_afterRPark r x).plain

theorem safe_teardown {s s' : State} (hs : Safe s) (h : stepTeardown s = some s') : Safe s' := by
  cases (teardown_eff h).1
  exact ⟨hs.g, hs.sf, hs.rf, hs.idle, hs.resvFree⟩

theorem safe_init {cap : Nat} (hc : 0 < cap) : Safe (init cap) := by
  refine ⟨?_, ?_, ?_, ?_, ?_⟩
  · constructor <;> simp [init, State.core, Core.pub, hc]
    · intro j i hj h; omega
  · intro t q h; simp [init] at h
  · intro t r q h; simp [init] at h
  · intro _; simp [init, idleLike, State.core]
  · intro n hn; simp [init] at hn

theorem taint_mono {s s' : State} {t : Nat} {l : Label} (h : step s t l = some s') (hnt : s'.taint = false) :
    s.taint = false := by
  cases l <;> simp only [step] at h
  · cases (call_eff h).2 with
    | receiver r q al tn _ _ _ htn => exact (htn hnt).1
    | convS _ | convR r _ => exact (Bool.or_eq_false_iff.1 hnt).1
    | sender q a _ _ | ret res => exact hnt
  · rcases act_cases h with ⟨p, _, h⟩ | ⟨r, p, _, h⟩
    · exact (actS_frame h).elim fun _ m => m.taint ▸ hnt
    · exact (actR_frame h).elim fun _ m => m.taint ▸ hnt
  · unfold stepSpurious at h
    split at h <;> cases h <;> exact hnt
  · cases (teardown_eff h).1; exact hnt

theorem safe_step {s s' : State} {t : Nat} {l : Label} (ha : InvA s) (hl : LRI s) (hs : Safe s)
    (h : step s t l = some s') (hnt : s'.taint = false) : Safe s' := by
  cases l <;> simp only [step] at h
  · exact safe_call hs h hnt
  · exact safe_act ha hl hs h
  · exact safe_spurious ha hs h
  · exact safe_teardown hs h

theorem safe_reach {cap : Nat} (hc : 0 < cap) {s : State} (h : Reach cap s) (hnt : s.taint = false) : Safe s := by
  induction h with
  | init => exact safe_init hc
  | step hr hs ih =>
    have h0 := taint_mono hs hnt
    exact safe_step (invA_reach hr) (lri_reach hr) (ih h0) hs hnt

end Fv.Chan.SpmcB
