import Fv.Lemmas.Mpsc3BSim
/-! Chunk-table invariants of the `Mpsc3B` model at ticket level: a non-empty slot at or after the consumer
position, and a ticket about to be written, live in a chunk that is RESIDENT in the table (`tblId (cid % n) = cid`);
an entry is re-labelled only after the consumer retired the old chunk. -/
namespace Fv.Chan.Mpsc3B

structure TInv (c : Cfg) (s : State) : Prop where
  retLe : s.retired ≤ s.hCid
  resident : ∀ tk, s.hPos ≤ tk → s.slot tk ≠ .empty → s.tblId ((tk / c.chunkCap) % c.nChunks) = tk / c.chunkCap
  writer : ∀ t, (s.th t).pc = .wSt → s.tblId (((s.th t).tk / c.chunkCap) % c.nChunks) = (s.th t).tk / c.chunkCap
  caser : ∀ t, (s.th t).pc = .eCas → (s.th t).cur + 1 ≤ s.retired

theorem tinv_init (c : Cfg) (p : Tid → List Op) : TInv c (init c p) := by
  constructor <;> simp [init]

theorem chunk_not_retired {c : Cfg} {s : State} (hc : 0 < c.chunkCap) (hi : CInv c (absC s)) (ht : TInv c s)
    {tk : Nat} (h : s.hPos ≤ tk) : ¬ (tk / c.chunkCap + 1 ≤ s.retired) := by
  intro hr
  have h1 := ht.retLe
  have h2 : s.hPos = s.hCid * c.chunkCap + s.hIdx := hi.posEq
  have h3 : tk < c.chunkCap * (tk / c.chunkCap + 1) := Nat.lt_mul_div_succ tk hc
  have h4 : c.chunkCap * (tk / c.chunkCap + 1) ≤ c.chunkCap * s.hCid := Nat.mul_le_mul_left _ (by omega)
  rw [Nat.mul_comm c.chunkCap s.hCid] at h4
  omega

/-- `ow`, `oc`: the step does not take away what the other threads' clauses rest on -/
theorem TInv.step {c : Cfg} {s s' : State} {t : Tid} {x' : Th} (ht : TInv c s) (hth : s'.th = upd s.th t x')
    (h1 : s'.retired ≤ s'.hCid)
    (h2 : ∀ tk, s'.hPos ≤ tk → s'.slot tk ≠ .empty → s'.tblId ((tk / c.chunkCap) % c.nChunks) = tk / c.chunkCap)
    (hw : x'.pc = .wSt → s'.tblId ((x'.tk / c.chunkCap) % c.nChunks) = x'.tk / c.chunkCap)
    (hc : x'.pc = .eCas → x'.cur + 1 ≤ s'.retired)
    (ow : ∀ u, u ≠ t → (s.th u).pc = .wSt →
      s'.tblId (((s.th u).tk / c.chunkCap) % c.nChunks) = s.tblId (((s.th u).tk / c.chunkCap) % c.nChunks))
    (oc : s.retired ≤ s'.retired) : TInv c s' := by
  refine ⟨h1, h2, ?_, ?_⟩ <;> rw [hth]
  · exact forall_upd (P := fun _ (y : Th) => y.pc = .wSt → s'.tblId ((y.tk / c.chunkCap) % c.nChunks) = y.tk / c.chunkCap)
      hw (fun u hu h => (ow u hu h).trans (ht.writer u h))
  · exact forall_upd (P := fun _ (y : Th) => y.pc = .eCas → y.cur + 1 ≤ s'.retired) hc
      (fun u _ h => Nat.le_trans (ht.caser u h) oc)

theorem tinv_frame {c : Cfg} {l p s s' t x'} (ht : TInv c s) (hs : StepSum l p s s' t x') (hc : tblStep p = false) :
    TInv c s' := by
  have e := hs.tbl.eq hc
  simp only [tblOf, Prod.mk.injEq] at e
  obtain ⟨e1, e2, e3, e5, e6⟩ := e
  have hq : ¬ (x'.pc = .wSt ∨ x'.pc = .eCas) := fun h => by
    rw [(flow_spec hs.loc.flow).toTbl h] at hc; cases hc
  exact ht.step hs.th (by rw [e2, e3]; exact ht.retLe) (by rw [e5, e6, e1]; exact ht.resident)
    (fun h => (hq (.inl h)).elim) (fun h => (hq (.inr h)).elim) (fun _ _ _ => by rw [e1]) (by rw [e2]; exact Nat.le_refl _)

section Steps
variable {c : Cfg} {s s' : State} {t : Tid} {a : Act}

theorem tinv_eId (ht : TInv c s) (h : nxEId c s t = some (a, s')) : TInv c s' := by
  simp only [nxEId, Option.some.injEq, Prod.mk.injEq] at h
  obtain ⟨-, rfl⟩ := h
  refine ht.step rfl ht.retLe ht.resident ?_ ?_ (fun _ _ _ => rfl) (Nat.le_refl _) <;> split <;> intro e
  · exact ‹s.tblId _ = _›
  · cases e
  · cases e
  · cases e

theorem tinv_eRet (ht : TInv c s) (h : nxERet c s t = some (a, s')) : TInv c s' := by
  simp only [nxERet, Option.some.injEq, Prod.mk.injEq] at h
  obtain ⟨-, rfl⟩ := h
  refine ht.step rfl ht.retLe ht.resident ?_ ?_ (fun _ _ _ => rfl) (Nat.le_refl _) <;> split <;> intro e
  · cases e
  · cases e
  · cases e
  · exact Nat.le_of_not_lt ‹_›

theorem tinv_eCas (hc : 0 < c.chunkCap) (hi : CInv c (absC s)) (ht : TInv c s)
    (hpc : (s.th t).pc = .eCas) (h : nxECas c s t = some (a, s')) : TInv c s' := by
  have hret := ht.caser t hpc
  simp only [nxECas] at h
  split at h <;> simp only [Option.some.injEq, Prod.mk.injEq] at h <;> obtain ⟨-, rfl⟩ := h
  · -- the CAS succeeds: entry `e` is re-labelled from `cur` (retired) to our chunk id;
    -- no ticket at or after the consumer position lives in the old chunk of this entry
    rename_i hcur
    have key : ∀ tk, s.hPos ≤ tk → (tk / c.chunkCap) % c.nChunks = ((s.th t).tk / c.chunkCap) % c.nChunks →
        s.tblId ((tk / c.chunkCap) % c.nChunks) ≠ tk / c.chunkCap := by
      intro tk h1 h2 h3
      rw [h2, hcur] at h3
      exact chunk_not_retired hc hi ht h1 (by omega)
    refine ht.step rfl ht.retLe ?_ (fun _ => upd_same ..) nofun ?_ (Nat.le_refl _)
    · intro tk h1 h2
      have := ht.resident tk h1 h2
      exact (upd_other _ _ _ _ fun e => key tk h1 e this).trans this
    · intro u _ hu
      have hr := (hi.claimRange u _ _ (show claimOf (s.th u) = some ⟨(s.th u).tk, some (s.th u).okc⟩ by
        simp only [claimOf, hu])).1
      exact upd_other _ _ _ _ fun e => key _ hr e (ht.writer u hu)
  · exact ht.step rfl ht.retLe ht.resident nofun nofun (fun _ _ _ => rfl) (Nat.le_refl _)

theorem tinv_wSt (ht : TInv c s) (hpc : (s.th t).pc = .wSt) (h : nxWSt c s t = some (a, s')) : TInv c s' := by
  have hw := ht.writer t hpc
  simp only [nxWSt] at h
  split at h <;> simp only [Option.some.injEq, Prod.mk.injEq] at h <;> obtain ⟨-, rfl⟩ := h
  all_goals
    refine ht.step rfl ht.retLe (fun tk h1 h2 => ?_) nofun nofun (fun _ _ _ => rfl) (Nat.le_refl _)
    by_cases e : tk = (s.th t).tk
    · rw [e]; exact hw
    · exact ht.resident tk h1 (by simpa only [upd_other _ _ _ _ e] using h2)

theorem tinv_dRetire (ht : TInv c s) (h : nxDRetire c s t = some (a, s')) : TInv c s' := by
  simp only [nxDRetire, Option.some.injEq, Prod.mk.injEq] at h
  obtain ⟨-, rfl⟩ := h
  exact ht.step rfl (Nat.le_refl _) ht.resident nofun nofun (fun _ _ _ => rfl) (Nat.le_succ_of_le ht.retLe)

theorem tinv_dEmpty (ht : TInv c s) (h : nxDEmpty c s t = some (a, s')) : TInv c s' := by
  simp only [nxDEmpty, Option.some.injEq, Prod.mk.injEq] at h
  obtain ⟨-, rfl⟩ := h
  refine ht.step rfl ht.retLe (fun tk h1 h2 => ?_) ?_ ?_ (fun _ _ _ => rfl) (Nat.le_refl _)
  · by_cases e : tk = s.hCid * c.chunkCap + s.hIdx
    · simp only [e, upd_same] at h2; exact absurd rfl h2
    · exact ht.resident tk (Nat.le_of_succ_le h1) (by simpa only [upd_other _ _ _ _ e] using h2)
  all_goals (repeat' split) <;> exact nofun

end Steps

theorem tinv_step {c s t l s'} (hc : 0 < c.chunkCap) (hi : CInv c (absC s)) (ht : TInv c s)
    (h : step c s t l = some s') : TInv c s' := by
  obtain ⟨⟨a, s1⟩, hA, rfl⟩ := Option.map_eq_some_iff.1 h
  obtain ⟨x', hs⟩ := step_sum rfl hA
  generalize hp : (s.th t).pc = p at hs
  by_cases hg : tblStep p = false
  · exact tinv_frame ht hs hg
  have hl : l = .act := by
    cases l <;> first | rfl | exact absurd (Bool.or_eq_false_iff.1 (Bool.or_eq_false_iff.1 hs.env).1).2 hg
  subst hl
  simp only [stepA, next, hp] at hA
  cases p <;> first | exact absurd rfl hg | skip
  case eId => exact tinv_eId ht hA
  case eRet => exact tinv_eRet ht hA
  case eCas => exact tinv_eCas hc hi ht hp hA
  case wSt => exact tinv_wSt ht hp hA
  case dRetire => exact tinv_dRetire ht hA
  case dEmpty => exact tinv_dEmpty ht hA

theorem tinv_reach {c p s} (hc : 0 < c.chunkCap) (h : Reach c p s) : TInv c s :=
  reach_inv (tinv_init c p) (fun hr => tinv_step hc (cinv_reach hr)) h

end Fv.Chan.Mpsc3B
