import Fv.Lemmas.OneshotBTr
/-!
Invariants of the step-level oneshot model: control, handles, teardown and the receiver's flag (`J1 J2 J2b J3`),
writer, taker and slot, dead arms, token accounting and send history (`I2 I3 I3b I4 I4b`), decrement bookkeeping and
`sender_count` (`C5`, `Cnt`), where `Disconnected` comes from (`D6`), the quiet call (`E7`), the wake invariant (`W8`).

For `W8`: the waker is "armed" when the poll that registered it has answered Pending (`armed`: set by the second
`try_recv` of a poll answering Empty, cleared by `register` and `wake`). A wake is in flight when some handle is at
`wake`, at `wkUnpark t`, in the tail of `decrement_senders` that ends in `wake` (`inPW`), or is the `closer` (took
`sender_count` to 0, has not yet tried EMPTY→CLOSED). NOT covered, and false on the code (finding F18): state = TAKEN ∧
`sender_count` = 0 ⇒ wake in flight; `decrement_senders` skips the wake when it finds TAKEN.
-/
namespace Fv.Chan.OneshotB

@[simp] theorem upd_same {α} (f : Ag → α) (a : Ag) (x : α) : upd f a x a = x := by simp [upd]
theorem upd_ne {α} {f : Ag → α} {a b : Ag} {x : α} (h : b ≠ a) : upd f a x b = f b := by simp [upd, h]
theorem upd_apply {α} (f : Ag → α) (a q : Ag) (x : α) : upd f a x q = if q = a then x else f q := rfl
theorem updN_apply {α} (f : Nat → α) (i j : Nat) (x : α) : updN f i x j = if j = i then x else f j := rfl

/-- between the successful CAS EMPTY→WRITING and the swap to SENT / the backtrack -/
def inW (m : Mic) : Prop := m = .sLdRdrop2 ∨ m = .sStEmpty ∨ m = .sLock ∨ m = .sSwapSent

/-- between a successful CAS SENT→TAKEN and the `guard.take()` -/
def inT (m : Mic) : Prop := m = .xLock ∨ m = .tLock

def inBody (m : Mic) : Prop :=
  m = .sLdOwn ∨ m = .sLdRdrop ∨ m = .sLdState ∨ m = .sCasEW ∨ m = .sLdRdrop2 ∨ m = .sStEmpty ∨ m = .sLock ∨ m = .sSwapSent

/-- the receiver is inside `try_recv` / `poll`, past the check of its own `closed` flag -/
def inRecvBody (m : Mic) : Prop :=
  m = .tLdState ∨ m = .tCasST ∨ m = .tLock ∨ m = .tStClosed ∨ m = .tUnlock ∨ m = .tLdState2 ∨ m = .tLdCount2 ∨
  m = .tLdCount ∨ m = .tCasEC ∨ m = .pLdState ∨ m = .pLdCountA ∨ m = .pLdCountB ∨ m = .pCasEC ∨ m = .pReg ∨ m = .park

def rOnly (m : Mic) : Prop :=
  inRecvBody m ∨ m = .ciStRdrop ∨ m = .ciCasEC ∨ m = .ciCasST ∨ m = .rLdOwn ∨ m = .icLdState ∨ m = .icLdCount

/-- where a handle that has released its reference can be -/
def isEnd (m : Mic) : Prop := m = .idle ∨ m = .fLdState ∨ ∃ r, m = .ret r

theorem allGone_iff (g : Ag → Bool) (n : Nat) :
    allGone g n = true ↔ g .R = true ∧ ∀ i, i < n → g (.S i) = true := by
  simp [allGone, List.all_eq_true, List.mem_range]

def isErrOf (r : Res) (v : Nat) : Prop := r = .closedV v ∨ r = .sentV v

def cntF (d : Nat → Bool) : Nat → Nat
  | 0 => 0
  | n + 1 => cntF d n + (if d n then 0 else 1)

/-- the tail of `decrement_senders` that ends in `receiver_waker.wake()` once the state is CLOSED -/
def inPW (m : Mic) : Prop := m = .wake ∨ m = .dcLdState ∨ m = .dcLdState3 ∨ m = .dcLdState4

theorem cntF_updN_ge (d : Nat → Bool) (x : Bool) : ∀ n i, n ≤ i → cntF (updN d i x) n = cntF d n := by
  intro n
  induction n with
  | zero => intros; rfl
  | succ n ih =>
    intro i hi
    have : n ≠ i := by omega
    simp [cntF, ih i (by omega), updN_apply, this]

theorem cntF_set (d : Nat → Bool) : ∀ n i, i < n → d i = false → cntF (updN d i true) n + 1 = cntF d n := by
  intro n
  induction n with
  | zero => intro i hi; omega
  | succ n ih =>
    intro i hi hd
    by_cases h : i = n
    · subst h
      simp [cntF, cntF_updN_ge, updN_apply, hd]
    · have hne : n ≠ i := fun e => h e.symm
      have := ih i (by omega) hd
      simp only [cntF, updN_apply, hne, if_false]
      omega

theorem cntF_pos (d : Nat → Bool) (n i : Nat) (hi : i < n) (hd : d i = false) : 1 ≤ cntF d n := by
  have := cntF_set d n i hi hd
  omega

theorem cntF_zero (d : Nat → Bool) (n : Nat) (h : cntF d n = 0) : ∀ i, i < n → d i = true := by
  intro i hi
  cases hd : d i with
  | true => rfl
  | false => have := cntF_pos d n i hi hd; omega

/-! Every invariant `X` is split by what it reads: `X.G` the clauses about shared words and ghost history, `X.At … b l`
those about one handle `b` at control state `l`; clauses relating two handles stay fields of `X`. The parameters are
exactly the components read, so that a step that does not write them preserves the part by `exact`. -/

structure J1.At (b : Ag) (l : Loc) : Prop where
  kSend : l.k = .send → b.isS = true
  bodyK : inBody l.m → l.k = .send

structure J1 (s : State) : Prop where
  each : ∀ b, J1.At b (s.loc b)

structure J2.G (nextH : Nat) (prog : Ag → List Op) (gone : Ag → Bool) : Prop where
  freshP : ∀ i, nextH ≤ i → prog (.S i) = []
  freshG : ∀ i, nextH ≤ i → gone (.S i) = false

structure J2.At (nextH : Nat) (gone : Ag → Bool) (b : Ag) (l : Loc) : Prop where
  freshM : b.isS = true → nextH ≤ b.idx → l.m = .idle
  goneM : gone b = true → isEnd l.m

structure J2 (s : State) : Prop where
  g : J2.G s.nextH s.prog s.gone
  each : ∀ b, J2.At s.nextH s.gone b (s.loc b)

/-- `OneShotShared::drop` runs once, after the last `Arc` release -/
structure J2b.G (freed : Bool) (nextH : Nat) (gone : Ag → Bool) : Prop where
  freedG : freed = true → allGone gone nextH = true

structure J2b.At (freed : Bool) (nextH : Nat) (gone : Ag → Bool) (l : Loc) : Prop where
  finG : l.m = .fLdState → allGone gone nextH = true
  freedF : freed = true → l.m ≠ .fLdState

structure J2b (s : State) : Prop where
  g : J2b.G s.freed s.nextH s.gone
  each : ∀ b, J2b.At s.freed s.nextH s.gone (s.loc b)
  finU : ∀ a b, (s.loc a).m = .fLdState → (s.loc b).m = .fLdState → a = b

structure J3.At (closedR rdrop : Bool) (b : Ag) (l : Loc) : Prop where
  ciCl : l.m = .ciStRdrop → closedR = true
  dcST : l.m = .dcCasST → rdrop = true
  recvOpen : b = .R → inRecvBody l.m → closedR = false

structure J3.G (closedR rdrop : Bool) : Prop where
  rdropCl : rdrop = true → closedR = true

structure J3 (s : State) : Prop where
  g : J3.G (s.closed .R) s.rdrop
  each : ∀ b, J3.At (s.closed .R) s.rdrop b (s.loc b)

structure I2.At (writer : Option Nat) (b : Ag) (l : Loc) : Prop where
  wrS : inW l.m → writer = some b.idx
  wrU : b.isS = true → writer = some b.idx → inW l.m

structure I2.G (st : W) (writer : Option Nat) : Prop where
  stW : st = .writing ↔ writer ≠ none

structure I2 (s : State) : Prop where
  g : I2.G s.st s.writer
  each : ∀ b, I2.At s.writer b (s.loc b)

theorem I2.writerAt {s : State} (h : I2 s) : ∀ i, s.writer = some i → inW (s.loc (.S i)).m :=
  fun i hw => (h.each (.S i)).wrU rfl hw

structure I3.G (st : W) (taker : Option Ag) (slot : Option Nat) (freed : Bool) (writer : Option Nat) : Prop where
  tkSt : taker ≠ none → st = .taken
  tkSl : taker ≠ none → slot ≠ none
  slotS : st = .sent → slot ≠ none ∨ freed = true
  slotU : slot ≠ none → st = .sent ∨ taker ≠ none ∨ writer ≠ none
  freedSl : freed = true → slot = none

structure I3.At (taker : Option Ag) (slot : Option Nat) (b : Ag) (l : Loc) : Prop where
  tkS : inT l.m → taker = some b
  tkU : taker = some b → inT l.m
  swapSl : l.m = .sSwapSent → slot ≠ none
  wrSl : inW l.m → l.m ≠ .sSwapSent → slot = none

structure I3 (s : State) : Prop where
  g : I3.G s.st s.taker s.slot s.freed s.writer
  each : ∀ b, I3.At s.taker s.slot b (s.loc b)

theorem I3.takerAt {s : State} (h : I3 s) : ∀ b, s.taker = some b → inT (s.loc b).m :=
  fun b ht => (h.each b).tkU ht

/-- `try_recv`'s corrupt-state arms are dead code -/
structure I3b.At (st : W) (b : Ag) (l : Loc) : Prop where
  dead1 : l.m ≠ .tStClosed
  dead2 : l.m ≠ .tLdState2
  dead3 : l.m ≠ .tLdCount2
  casSent : b = .R → l.m = .tCasST → st = .sent

structure I3b (s : State) : Prop where
  each : ∀ b, I3b.At s.st b (s.loc b)

structure I4.G (st : W) (writer : Option Nat) (slot : Option Nat) (mover : Option Nat)
    (moved received dropped : List Nat) : Prop where
  acct : (moved = [] ∧ slot = none ∧ received = [] ∧ dropped = []) ∨
         ∃ v, moved = [v] ∧ ((slot = some v ∧ received = [] ∧ dropped = []) ∨
                             (slot = none ∧ received = [v] ∧ dropped = []) ∨
                             (slot = none ∧ received = [] ∧ dropped = [v]))
  movedE : moved = [] ↔ mover = none
  movedSt : moved ≠ [] → st = .sent ∨ st = .taken ∨ writer ≠ none

structure I4.At (moved : List Nat) (l : Loc) : Prop where
  wrMv : inW l.m → l.m ≠ .sSwapSent → moved = []

structure I4 (s : State) : Prop where
  g : I4.G s.st s.writer s.slot s.mover s.moved s.received s.dropped
  each : ∀ b, I4.At s.moved (s.loc b)

structure I4b.G (mover : Option Nat) (moved : List Nat) (sval : Nat → Option Nat) (sres : Nat → Option Res) : Prop where
  movedV : ∀ i, mover = some i → ∃ v, sval i = some v ∧ moved = [v]
  resErr : ∀ i r, sres i = some r → r = .ok ∨ ∃ v, sval i = some v ∧ isErrOf r v
  resOk : ∀ i, sres i = some .ok → mover = some i

structure I4b.At (mover : Option Nat) (sval : Nat → Option Nat) (sres : Nat → Option Res) (b : Ag) (l : Loc) : Prop where
  swapMv : l.m = .sSwapSent → mover = some b.idx
  inSend : l.k = .send → sval b.idx = some l.v
  bodyRes : inBody l.m → sres b.idx = none
  moverRes : b.isS = true → mover = some b.idx → sres b.idx = some .ok ∨ l.m = .sSwapSent

structure I4b (s : State) : Prop where
  g : I4b.G s.mover s.moved s.sval s.sres
  each : ∀ b, I4b.At s.mover s.sval s.sres b (s.loc b)

theorem I4b.mover_res {s : State} (h : I4b s) {i : Nat} (hm : s.mover = some i) :
    s.sres i = some .ok ∨ (s.sres i = none ∧ (s.loc (.S i)).m = .sSwapSent) :=
  ((h.each (.S i)).moverRes rfl hm).imp id fun h1 => ⟨(h.each (.S i)).bodyRes (by simp [inBody, h1]), h1⟩

structure C5.G (nextH : Nat) (dec : Nat → Bool) (closed : Ag → Bool) : Prop where
  freshD : ∀ i, nextH ≤ i → dec i = false
  decCl : ∀ i, dec i = true → closed (.S i) = true

structure C5.At (dec : Nat → Bool) (closed : Ag → Bool) (closer : Option Nat) (b : Ag) (l : Loc) : Prop where
  fsubDec : l.m = .dcFsub → b.isS = true ∧ dec b.idx = false ∧ closed b = true
  pbS : l.m = .clFadd → b.isS = true
  bodyDec : inBody l.m → l.m ≠ .sLdOwn → dec b.idx = false
  closerAt : b.isS = true → closer = some b.idx → l.m = .dcCasEC

structure C5 (s : State) : Prop where
  g : C5.G s.nextH s.dec s.closed
  each : ∀ b, C5.At s.dec s.closed s.closer b (s.loc b)

/-- `sender_count` is the number of sender handles that have not yet decremented it -/
structure Cnt.G (st : W) (scount : Nat) (dec : Nat → Bool) (nextH : Nat) (closer : Option Nat) : Prop where
  cntEq : scount = cntF dec nextH
  c3 : st = .empty → scount = 0 → closer ≠ none

structure Cnt (s : State) : Prop where
  g : Cnt.G s.st s.scount s.dec s.nextH s.closer

/-- since fix a886a91 a failed CAS EMPTY→CLOSED that finds SENT / WRITING makes the receiver look again, so
`Disconnected` is only answered from a closed receiver handle or from state CLOSED / TAKEN -/
structure D6.G (st : W) (closedR rdrop rClosedIt : Bool) (taker : Option Ag) (resR : List Res) : Prop where
  dDr : Res.disc ∈ resR → closedR = true ∨ st = .closed ∨ st = .taken
  rciSt : rClosedIt = true → st = .closed
  tkRd : ∀ b, taker = some b → b = .R ∨ rdrop = true

structure D6.At (st : W) (closedR : Bool) (resR : List Res) (b : Ag) (l : Loc) : Prop where
  dA : b = .R → l.m = .pLdCountA → st = .taken ∨ st = .closed
  dU : b = .R → l.m = .tUnlock → ∃ v, l.res = .okV v
  dDm : b = .R → l.m = .ret .disc → closedR = true ∨ st = .closed ∨ st = .taken
  dN : b = .R → Res.disc ∈ resR → l.m ≠ .tCasST ∧ l.m ≠ .tLock
  ciR : b = .R → (l.m = .ciStRdrop ∨ l.m = .ciCasEC ∨ l.m = .ciCasST ∨ l.m = .xLock ∨ l.m = .xUnlock) → closedR = true

structure D6 (s : State) : Prop where
  g : D6.G s.st (s.closed .R) s.rdrop s.rClosedIt s.taker (s.results .R)
  each : ∀ b, D6.At s.st (s.closed .R) (s.results .R) b (s.loc b)

/-- a receive called when nothing was sent and nothing can be (`reopened = false`: no closed handle was cloned) -/
structure E7.At (st : W) (scount : Nat) (reopened : Bool) (b : Ag) (l : Loc) : Prop where
  qInv : b = .R → reopened = false → l.q = true → st = .closed ∨ (scount = 0 ∧ st = .empty)
  qMic : b = .R → reopened = false → l.q = true →
    l.m = .rLdOwn ∨ l.m = .tLdState ∨ l.m = .tLdCount ∨ l.m = .tCasEC ∨ l.m = .ret .disc
  qCnt : b = .R → reopened = false → l.q = true → (l.m = .tLdCount ∨ l.m = .tCasEC) → scount = 0

structure E7 (s : State) : Prop where
  each : ∀ b, E7.At s.st s.scount s.reopened b (s.loc b)

structure W8.At (waker : Option Wk) (armed rClosedIt : Bool) (b : Ag) (l : Loc) : Prop where
  w1a : b = .R → l.m = .park → waker ≠ none → armed = true
  pns : b = .R → (l.m = .park ∨ (2 ≤ l.stage ∧ l.m = .tLdCount)) → rClosedIt = false

def W8.W1 (s : State) : Prop :=
  ∀ t, (s.loc .R).k = .recv t → (2 ≤ (s.loc .R).stage ∨ (s.loc .R).m = .park) →
    s.tok t = true ∨ s.waker = some (.task t) ∨ ∃ b, (s.loc b).m = .wkUnpark t

/-- armed, or about to be: the poll is between the state load (EMPTY) and the `sender_count` load of its second try -/
def W8.C2 (G : State → Prop) (P : Mic → Prop) (s : State) : Prop :=
  s.waker ≠ none → (s.armed = true ∨ (2 ≤ (s.loc .R).stage ∧ (s.loc .R).m = .tLdCount)) → G s → ∃ b, P (s.loc b).m

def W8.C2s : State → Prop := W8.C2 (·.st = .sent) (· = .wake)

def W8.C2c : State → Prop := W8.C2 (fun s => s.closed .R = false ∧ s.st = .closed ∧ s.rClosedIt = false) inPW

structure W8 (s : State) : Prop where
  each : ∀ b, W8.At s.waker s.armed s.rClosedIt b (s.loc b)
  w1 : W8.W1 s
  c2s : W8.C2s s
  c2c : W8.C2c s

structure AInv (s : State) : Prop where
  j1 : J1 s
  j2 : J2 s
  j2b : J2b s
  j3 : J3 s
  i2 : I2 s
  i3 : I3 s
  i3b : I3b s
  i4 : I4 s
  i4b : I4b s
  c5 : C5 s
  cnt : Cnt s
  d6 : D6 s
  w8 : W8 s
  e7 : E7 s

attribute [grind cases] Ag J1 J1.At J2 J2.G J2.At J2b J2b.G J2b.At J3 J3.G J3.At I2 I2.G I2.At I3 I3.G I3.At I3b I3b.At
  I4 I4.G I4.At I4b I4b.G I4b.At C5 C5.G C5.At Cnt Cnt.G D6 D6.G D6.At E7 E7.At W8 W8.At
attribute [grind ←] J1.At.mk J2.G.mk J2.At.mk J2b.G.mk J2b.At.mk J3.G.mk J3.At.mk I2.G.mk I2.At.mk I3.G.mk I3.At.mk
  I3b.At.mk I4.G.mk I4.At.mk I4b.G.mk I4b.At.mk C5.G.mk C5.At.mk Cnt.G.mk D6.G.mk D6.At.mk E7.At.mk W8.At.mk

theorem ainv_init (progS : Nat → List Op) (progR : List Op) : AInv (init progS progR) := by
  have hP : ∀ i, 1 ≤ i → (init progS progR).prog (.S i) = [] := by
    intro i hi
    cases i with
    | zero => omega
    | succ n => rfl
  constructor <;> constructor <;> (try intro b) <;> (try constructor) <;>
    simp [init, inBody, isEnd, inRecvBody, inW, inT, cntF]
  exact hP

theorem J2.lt_nextH {s : State} (h : J2 s) {a : Ag} (hS : a.isS = true) (hm : (s.loc a).m ≠ .idle) : a.idx < s.nextH :=
  Nat.lt_of_not_le fun hle => hm ((h.each a).freshM hS hle)

theorem live_counts {s : State} (hJ2 : J2 s) (hc : Cnt s) (a : Ag) (hS : a.isS = true) (hm : (s.loc a).m ≠ .idle)
    (hd : s.dec a.idx = false) : 1 ≤ s.scount := by
  rw [hc.g.cntEq]; exact cntF_pos _ _ _ (hJ2.lt_nextH hS hm) hd

/-- a sender in the body of `send` has not decremented -/
theorem writer_counts {s : State} (hJ2 : J2 s) (hI2 : I2 s) (hC5 : C5 s) (hc : Cnt s) :
    ∀ i, s.writer = some i → 1 ≤ s.scount := by
  intro i hi
  have hw := hI2.writerAt i hi
  simp only [inW] at hw
  exact live_counts hJ2 hc (.S i) rfl (by grind) ((hC5.each (.S i)).bodyDec (by simp only [inBody]; grind) (by grind))

theorem clone_counts {s : State} {a : Ag} (hJ2 : J2 s) (hC5 : C5 s) (hc : Cnt s) (hm : (s.loc a).m = .clFadd) :
    a.isS = true ∧ (s.dec a.idx = false → 1 ≤ s.scount) :=
  have h := (hC5.each a).pbS hm
  ⟨h, live_counts hJ2 hc a h (by rw [hm]; simp)⟩

theorem fsub_cnt {s : State} {a : Ag} (hJ2 : J2 s) (hC5 : C5 s) (hm : (s.loc a).m = .dcFsub) :
    cntF (updN s.dec a.idx true) s.nextH + 1 = cntF s.dec s.nextH :=
  have ⟨hS, hd, _⟩ := (hC5.each a).fsubDec hm
  cntF_set _ _ _ (hJ2.lt_nextH hS (by simp [hm])) hd

theorem clone_cnt {s : State} (hC5 : C5 s) : cntF s.dec (s.nextH + 1) = cntF s.dec s.nextH + 1 := by
  simp [cntF, hC5.g.freshD s.nextH (Nat.le_refl _)]

theorem count_zero_all_dec {s : State} (hc : Cnt s) : s.scount = 0 → ∀ i, i < s.nextH → s.dec i = true := by
  intro h0
  exact cntF_zero _ _ (by rw [← hc.g.cntEq]; exact h0)

attribute [grind] Ag.isS Ag.idx inW inT inBody inRecvBody inPW isEnd isErrOf quiet setLoc sendDone tryEnd
attribute [grind =] updN_apply upd_apply allGone_iff

theorem each_upd {P : Ag → Loc → Prop} {f : Ag → Loc} {a : Ag} {l : Loc} (ha : P a l) (ho : ∀ b, b ≠ a → P b (f b)) :
    ∀ b, P b (upd f a l b) := by
  intro b
  unfold upd; split
  · subst b; exact ha
  · exact ho b ‹_›

theorem exists_upd {P : Loc → Prop} {f : Ag → Loc} {a : Ag} {l : Loc} (h : ∃ b, P (f b)) (ha : P (f a) → P l) :
    ∃ b, P (upd f a l b) := by
  obtain ⟨b, hb⟩ := h
  by_cases e : b = a
  · exact ⟨a, by rw [upd_same]; exact ha (e ▸ hb)⟩
  · exact ⟨b, by rw [upd_ne e]; exact hb⟩

end Fv.Chan.OneshotB
