import Fv.Lemmas.Mpmc2BWakeUpd
/-! Every step of the mpmc v2 B-model preserves `Inv`. -/
namespace Fv.Chan.Mpmc2B

attribute [local simp] recOf regAtR regAtS wokenRecv wokenSend wl blockR liveFutR RowK RowB Own Woken Owed

variable {b : Prop} {s : State} {t v r : Nat}

set_option hygiene false in
/-- `Inv.move` from `h1 : Inv b _`, a state that differs from `s` in channel data only: the rows of the new control state
from those of `t` in `h : Inv b s` read at `hpc : s.pc t = _`, what the branch tested and the fact `e`, which may use
`hb : b`. `h`, `hpc`, `hb` are the caller's names: no hygiene. -/
macro "mv " h1:term:max " using " e:term : tactic =>
  `(tactic| exact Inv.move $h1 (by have hk := h.rowK t; rw [hpc] at hk; simp_all) (by simp [hpc]) (by simp [hpc])
      (by simp) (fun hb => by
      have := $e
      have hr := h.rowB hb t; rw [hpc] at hr; simp only [RowB] at hr
      exact ⟨by simp_all, by constructor <;> simp [*]⟩))
macro "mv " h:term:max : tactic => `(tactic| mv $h using trivial)

theorem Inv.asg_erase (h : Inv b s) (hb : b) (r : Nat) : r ∉ s.asg.erase r := by
  simp [List.Nodup.mem_erase_iff (h.links.nd_asg hb)]
theorem Inv.ar_erase (h : Inv b s) (hb : b) (r : Nat) : r ∉ s.ar.erase r := by
  simp [List.Nodup.mem_erase_iff (h.links.nd_ar hb)]

theorem Inv.fut_out (h : Inv b s) (hb : b) (hpc : s.pc t = .arTry r ∨ s.pc t = .arReg r) :
    r ∉ s.ar.erase r ∧ r ∉ s.wsr :=
  ⟨h.ar_erase hb r, by have := h.rowB hb t; rcases hpc with hpc | hpc <;> rw [hpc] at this <;> exact this.1⟩

/-- `try_send_core`, by `try_send` (`g = s.asg`) or by a sender woken for a slot that re-enters and leaves `asg` (loop head
of `send`, poll of a `SendFuture`) -/
theorem inv_sendCore {p' : PC} {x : Res} {g d e e' : List Nat} (h : Inv b s)
    (hp : s.pc t = .tsTry v ∧ p' = .done (.sendFull v) ∧ g = s.asg ∨
          (s.pc t = .sTry v r ∧ p' = .sReg v r ∨ s.pc t = .asTry v r ∧ p' = .asReg v r) ∧ g = s.asg.erase r) :
    Inv b (if s.receivers = 0 then { s with asg := g, dropped := d, returned := e, pc := upd s.pc t (.done x) }
      else match sendCore { s with asg := g } v with
        | some s1 => { s1 with pc := upd s1.pc t (.done (.sendOk v)) }
        | none => { s with asg := g, returned := e', pc := upd s.pc t p' }) := by
  have hg := hp.imp (·.2.2) And.right
  -- `h.asg_erase`: a woken sender is in `asg` no more (the duty of `try_send` is void: it was not in it)
  rcases hp with ⟨hpc, rfl, rfl⟩ | ⟨⟨hpc, rfl⟩ | ⟨hpc, rfl⟩, rfl⟩ <;> (
    split
    · mv (h.eraseAsg (.inr ‹_›) hg) using h.asg_erase hb r
    · split
      · rename_i s1 hs
        obtain ⟨-, ⟨r', hm, hw, rfl⟩ | ⟨r', hn, hm, hw, rfl⟩ | ⟨hn, hn', rfl⟩⟩ := sendCore_cases hs <;> clear hs
        · mv (h.wakeRecv (.inr hm) hw (.inr ⟨rfl, rfl⟩) hg) using h.asg_erase hb r
        · mv (h.wakeRecv (.inl hm) hw (.inl ⟨rfl, rfl, hn⟩) hg) using h.asg_erase hb r
        · mv (h.pushNone hn hn' hg) using h.asg_erase hb r
      · mv (h.eraseAsg (.inl (sendCore_none ‹_›)) hg) using h.asg_erase hb r)

theorem inv_sTry (h : Inv b s) (hpc : s.pc t = .sTry v r) : Inv b (stepSTry s t v r) :=
  inv_sendCore h (.inr ⟨.inl ⟨hpc, rfl⟩, rfl⟩)

theorem inv_sReg (h : Inv b s) (hpc : s.pc t = .sReg v r) : Inv b (stepSReg s t v r) := by
  unfold stepSReg
  split
  · mv h
  · split
    · mv h
    · exact h.regWss hpc (by omega) ‹_›

theorem inv_sWait (h : Inv b s) (hpc : s.pc t = .sWait v r) : Inv b (stepSWait s t v r) := by
  unfold stepSWait
  split <;> mv h

theorem inv_sPark {s' : State} (h : Inv b s) (hpc : s.pc t = .sPark v r) (hs : stepSPark s t v r = some s') :
    Inv b s' := by
  unfold stepSPark at hs
  split at hs <;> simp at hs
  subst hs; mv h

theorem inv_sUnl {c : Bool} (h : Inv b s) (hpc : s.pc t = .sUnl v r c) : Inv b (stepSUnl s t v r c) := by
  have h1 := h.unlink (t := t) (r := r) (by simp [hpc]) (h1 := .erase _ _)
  unfold stepSUnl
  split
  · rename_i hc; subst hc; mv h1 using trivial
  · mv h1

theorem inv_tsTry (h : Inv b s) (hpc : s.pc t = .tsTry v) : Inv b (stepTsTry s t v) :=
  inv_sendCore (r := 0) h (.inl ⟨hpc, rfl, rfl⟩)

theorem inv_rReg (h : Inv b s) (hpc : s.pc t = .rReg r) : Inv b (stepRReg s t r) := by
  unfold stepRReg
  split
  · mv h
  · split
    · mv h
    · exact h.regWsr hpc (by simpa using ‹¬ s.queue ≠ []›) ‹_›

theorem inv_rWait (h : Inv b s) (hpc : s.pc t = .rWait r) : Inv b (stepRWait s t r) := by
  unfold stepRWait
  split <;> mv h

theorem inv_rPark {s' : State} (h : Inv b s) (hpc : s.pc t = .rPark r) (hs : stepRPark s t r = some s') :
    Inv b s' := by
  unfold stepRPark at hs
  split at hs <;> simp at hs
  subst hs; mv h

theorem inv_rUnl (h : Inv b s) (hpc : s.pc t = .rUnl r) : Inv b (stepRUnl s t r) := by
  have h1 := h.unlink (t := t) (r := r) (by simp [hpc]) (h3 := .filter _ _)
  unfold stepRUnl; mv h1

/-- `try_recv_core`, by an agent that was not woken for it (`try_recv`, the first and the retry attempt of `recv_timeout`:
`g = s.ar`) or by a woken one that re-enters and leaves `ar` (loop head of `recv`, final attempt of `recv_timeout`) -/
theorem inv_recvCore {p' : PC} {g : List Nat} (h : Inv b s)
    (hp : (s.pc t = .trTry ∧ p' = .done .recvEmpty ∨ s.pc t = .toTry r ∧ p' = .toReg r ∨
            s.pc t = .toRetry r ∧ p' = .toCas r) ∧ g = s.ar ∨
          (s.pc t = .rTry r ∧ p' = .rReg r ∨ s.pc t = .toFin r ∧ p' = .done .panicked) ∧ g = s.ar.erase r) :
    Inv b (match recvCore { s with ar := g } with
      | some (v, s1) => { s1 with pc := upd s1.pc t (.done (.recvOk v)) }
      | none => if s.senders = 0 then { s with ar := g, pc := upd s.pc t (.done .recvDisc) }
                else { s with ar := g, pc := upd s.pc t p' }) := by
  have hg := hp.imp And.right And.right
  -- `h.ar_erase`: a woken agent is in `ar` no more (the duty of the three others is void: they were not in it)
  rcases hp with ⟨⟨hpc, rfl⟩ | ⟨hpc, rfl⟩ | ⟨hpc, rfl⟩, rfl⟩ | ⟨⟨hpc, rfl⟩ | ⟨hpc, rfl⟩, rfl⟩ <;> (
    split
    · rename_i v s1 hs
      obtain ⟨q, hq, ⟨r', hm, hw, rfl⟩ | ⟨r', hn, hm, hw, rfl⟩ | ⟨hn, hn', rfl⟩⟩ := recvCore_cases hs <;> clear hs
      · mv (h.wakeSend hq (.inr hm) hw (.inr ⟨rfl, rfl⟩) hg) using h.ar_erase hb r
      · mv (h.wakeSend hq (.inl hm) hw (.inl ⟨rfl, rfl⟩) hg) using h.ar_erase hb r
      · mv (h.popNone hq hn hn' hg) using h.ar_erase hb r
    · have h1 := h.eraseAr (recvCore_none ‹_›) hg
      split <;> mv h1 using h.ar_erase hb r)

theorem inv_trTry (h : Inv b s) (hpc : s.pc t = .trTry) : Inv b (stepTrTry s t) :=
  inv_recvCore (r := 0) h (.inl ⟨.inl ⟨hpc, rfl⟩, rfl⟩)

theorem inv_toTry (h : Inv b s) (hpc : s.pc t = .toTry r) : Inv b (stepToTry s t r) :=
  inv_recvCore h (.inl ⟨.inr (.inl ⟨hpc, rfl⟩), rfl⟩)

theorem inv_toRetry (h : Inv b s) (hpc : s.pc t = .toRetry r) : Inv b (stepToRetry s t r) :=
  inv_recvCore h (.inl ⟨.inr (.inr ⟨hpc, rfl⟩), rfl⟩)

theorem inv_rTry (h : Inv b s) (hpc : s.pc t = .rTry r) : Inv b (stepRTry s t r) :=
  inv_recvCore h (.inr ⟨.inl ⟨hpc, rfl⟩, rfl⟩)

theorem inv_toFin (h : Inv b s) (hpc : s.pc t = .toFin r) : Inv b (stepToFin s t r) :=
  inv_recvCore h (.inr ⟨.inr ⟨hpc, rfl⟩, rfl⟩)

theorem inv_toReg (h : Inv b s) (hpc : s.pc t = .toReg r) : Inv b (stepToReg s t r) := by
  unfold stepToReg
  split
  · mv h
  · split
    · mv h
    · exact h.regWsrTimed hpc (by simpa using ‹¬ s.queue ≠ []›) ‹_›

theorem inv_toCas (h : Inv b s) (hpc : s.pc t = .toCas r) : Inv b (stepToCas s t r) := by
  unfold stepToCas
  split
  · exact h.cancel ‹_› (.inl ⟨hpc, rfl⟩)
  all_goals mv h

theorem inv_toUnl (h : Inv b s) (hpc : s.pc t = .toUnl r) : Inv b (stepToUnl s t r) := by
  have h1 := h.unlink (t := t) (r := r) (by simp [hpc]) (h3 := .filter _ _)
  unfold stepToUnl; mv h1

theorem inv_asTry (h : Inv b s) (hpc : s.pc t = .asTry v r) : Inv b (stepAsTry s t v r) :=
  inv_sendCore h (.inr ⟨.inr ⟨hpc, rfl⟩, rfl⟩)

theorem inv_asReg (h : Inv b s) (hpc : s.pc t = .asReg v r) : Inv b (stepAsReg s t v r) := by
  unfold stepAsReg
  split
  · mv h
  · split
    · mv h
    · exact h.regWas hpc (by omega) ‹_›

theorem inv_asUnl {c : Bool} (h : Inv b s) (hpc : s.pc t = .asUnl v r c) : Inv b (stepAsUnl s t v r c) := by
  have h1 := h.unlink (t := t) (r := r) (by simp [hpc]) (h2 := .erase _ _)
  unfold stepAsUnl
  split
  · rename_i hc; subst hc; mv h1 using trivial
  · mv h1

theorem inv_asRef (h : Inv b s) (hpc : s.pc t = .asRef v r) : Inv b (stepAsRef s t v r) := by
  unfold stepAsRef
  split <;> mv h

theorem inv_fdUnlS (h : Inv b s) (hpc : s.pc t = .fdUnlS v r) : Inv b (stepFdUnlS s t v r) := by
  have h1 := h.unlink (t := t) (r := r) (by simp [hpc]) (h2 := .filter _ _)
  unfold stepFdUnlS; mv h1

theorem inv_arTry (h : Inv b s) (hpc : s.pc t = .arTry r) : Inv b (stepArTry s t r) := by
  unfold stepArTry
  split
  · rename_i v s1 hs
    obtain ⟨q, hq, ⟨r', hm, hw, rfl⟩ | ⟨r', hn, hm, hw, rfl⟩ | ⟨hn, hn', rfl⟩⟩ := recvCore_cases hs <;> clear hs
    · mv ((h.wakeSend hq (.inr hm) hw (.inr ⟨rfl, rfl⟩) (.inr rfl)).unlink (t := t) (r := r) (by simp [hpc])
          (h4 := .filter _ _))
        using h.fut_out hb (.inl hpc)
    · mv ((h.wakeSend hq (.inl hm) hw (.inl ⟨rfl, rfl⟩) (.inr rfl)).unlink (t := t) (r := r) (by simp [hpc])
          (h4 := .filter _ _))
        using h.fut_out hb (.inl hpc)
    · mv ((h.popNone hq hn hn' (.inr rfl)).unlink (t := t) (r := r) (by simp [hpc]) (h4 := .filter _ _))
        using h.fut_out hb (.inl hpc)
  · have h1 := h.eraseAr (r := r) (recvCore_none ‹_›) (.inr rfl)
    split
    · mv (h1.unlink (t := t) (r := r) (by simp [hpc]) (h4 := .filter _ _))
        using h.fut_out hb (.inl hpc)
    · mv h1 using h.ar_erase hb r

theorem inv_arReg (h : Inv b s) (hpc : s.pc t = .arReg r) : Inv b (stepArReg s t r) := by
  unfold stepArReg
  split
  · mv h
  · have hq : s.queue = [] := by simpa using ‹¬ s.queue ≠ []›
    split
    · mv ((h.eraseAr (r := r) hq (.inr rfl)).unlink (t := t) (r := r) (by simp [hpc]) (h4 := .filter _ _))
        using h.fut_out hb (.inr hpc)
    · split
      · mv h using (h.links.war r ‹_›).1
      · exact h.regWar hpc hq ‹_› ‹_›

theorem inv_arUnl (h : Inv b s) (hpc : s.pc t = .arUnl r) : Inv b (stepArUnl s t r) := by
  unfold stepArUnl; mv (h.unlink (t := t) (r := r) (by simp [hpc]) (h4 := .filter _ _))

theorem inv_fdUnlR (h : Inv b s) (hpc : s.pc t = .fdUnlR r) : Inv b (stepFdUnlR s t r) := by
  unfold stepFdUnlR; mv (h.unlink (t := t) (r := r) (by simp [hpc]) (h4 := .filter _ _))

theorem inv_closeS {s' : State} (h : Inv b s) (hpc : s.pc t = .hCloseS) (hs : stepCloseS s t = some s') :
    Inv b s' := by
  unfold stepCloseS at hs
  repeat' split at hs
  all_goals (simp at hs; try subst hs)
  · exact h.close (.inl ⟨hpc, rfl, rfl, rfl, rfl⟩)
  · mv (h.counts (ns := s.senders - 1) (nr := s.receivers) (by omega) id)

theorem inv_closeR {s' : State} (h : Inv b s) (hpc : s.pc t = .hCloseR) (hs : stepCloseR s t = some s') :
    Inv b s' := by
  unfold stepCloseR at hs
  split at hs
  · simp at hs
  split at hs
  · simp at hs; subst hs; exact h.close (.inr ⟨hpc, rfl, rfl, rfl, rfl⟩)
  have h0 := h.counts (ns := s.senders) (nr := s.receivers - 1) id (by omega)
  split at hs
  · rename_i r1 f1
    split at hs <;> simp at hs <;> subst hs
    · rename_i r2 f2
      have h1 : Inv b { s with receivers := s.receivers - 1, pc := upd s.pc t (.hWake [s.owner r1, s.owner r2]) } := by
        mv h0
      have h2 := (h1.hint (t := t) (.inl (frontW_some f1).1) (frontW_some f1).2 (by simp)).hint (t := t)
        (.inr (frontW_some f2).1) (frontW_some f2).2 (by simp)
      rw [show s.asg ++ [r1, r2] = s.asg ++ [r1] ++ [r2] by simp]; exact h2
    · have h1 : Inv b { s with receivers := s.receivers - 1, pc := upd s.pc t (.hWake [s.owner r1]) } := by mv h0
      exact h1.hint (t := t) (.inl (frontW_some f1).1) (frontW_some f1).2 (by simp)
  · split at hs <;> simp at hs <;> subst hs
    · rename_i r2 f2
      have h1 : Inv b { s with receivers := s.receivers - 1, pc := upd s.pc t (.hWake [s.owner r2]) } := by mv h0
      exact h1.hint (t := t) (.inr (frontW_some f2).1) (frontW_some f2).2 (by simp)
    · mv h0

theorem inv_hWake {ws : List Nat} (h : Inv b s) (hpc : s.pc t = .hWake ws) : Inv b (stepHWake s t ws) := by
  unfold stepHWake
  split
  · mv h
  · exact h.deliver hpc

theorem inv_spurious {s' : State} (h : Inv b s) (hs : stepSpurious s t = some s') : Inv b s' := by
  unfold stepSpurious at hs
  split at hs <;> simp at hs <;> subst hs <;> rename_i hpc <;> mv h

theorem inv_poll {s' : State} (h : Inv b s) (hs : stepPoll s t = some s') : Inv b s' := by
  unfold stepPoll at hs
  split at hs
  all_goals rename_i hpc
  all_goals repeat' split at hs
  all_goals (simp at hs; try subst hs)
  all_goals mv h

theorem inv_call {s' : State} {op : Op} (h : Inv b s) (hs : stepCall s t op = some s') : Inv b s' := by
  unfold stepCall at hs
  split at hs
  · have hr : s.pc t = .idle ∨ ∃ x, s.pc t = .done x := by
      cases hp : s.pc t <;> simp_all [PC.atRest]
    have f1 : s.nextRec ∉ s.war := fun hm => Nat.lt_irrefl _ (h.links.lt_r _ (.inr hm)).1
    have f2 : s.nextRec ∉ s.wsr := fun hm => Nat.lt_irrefl _ (h.links.lt_r _ (.inl hm)).1
    cases op <;> simp only [] at hs
    -- the operations that create a waiter record; a guard (`v ∈ s.offered`, no handle left to clone) is split off
    case send | recv | recvTimeout0 | sendFut | recvFut =>
      (repeat' split at hs) <;> simp at hs <;> subst hs <;> rcases hr with hpc | ⟨x, hpc⟩ <;> mv (h.fresh (t := t))
    all_goals (repeat' split at hs) <;> simp at hs <;> subst hs <;> rcases hr with hpc | ⟨x, hpc⟩ <;> mv h
  · simp at hs

theorem inv_dropFut {s' : State} (h : Inv b s) (hn : b → Benign s t .dropFut) (hs : stepDropFut s t = some s') :
    Inv b s' := by
  unfold stepDropFut at hs
  split at hs
  · rename_i hpc; simp at hs; subst hs; mv h
  · rename_i v r hpc
    split at hs <;> simp at hs <;> subst hs
    · exact h.cancel ‹_› (.inr (.inl ⟨v, hpc, rfl⟩))
    · exact h.move (by have hk := h.rowK t; rw [hpc] at hk; simp_all) (by simp [hpc]) (by simp [hpc]) (by simp)
        (fun hb => absurd ‹s.st r = .success› (by simpa [Benign, hpc] using hn hb))
    · mv h
    · mv h
  · rename_i hpc; simp at hs; subst hs; mv h
  · rename_i r hpc
    split at hs <;> simp at hs <;> subst hs
    · exact h.cancel ‹_› (.inr (.inr ⟨hpc, rfl⟩))
    · exact h.move (by have hk := h.rowK t; rw [hpc] at hk; simp_all) (by simp [hpc]) (by simp [hpc]) (by simp)
        (fun hb => absurd ‹s.st r = .success› (by simpa [Benign, hpc] using hn hb))
    · mv h
    · mv h
  · simp at hs

theorem inv_adv {s' : State} (h : Inv b s) (hs : stepAdv s t = some s') : Inv b s' :=
  stepAdv_cases hs (fun _ _ => inv_sTry h) (fun _ _ => inv_sReg h) (fun _ _ => inv_sWait h) (fun _ _ => inv_sPark h)
    (fun _ _ _ => inv_sUnl h) (fun _ => inv_tsTry h) (fun _ => inv_rTry h) (fun _ => inv_rReg h) (fun _ => inv_rWait h)
    (fun _ => inv_rPark h) (fun _ => inv_rUnl h) (inv_trTry h) (fun _ => inv_toTry h) (fun _ => inv_toReg h)
    (fun _ => inv_toRetry h) (fun _ => inv_toCas h) (fun _ => inv_toUnl h) (fun _ => inv_toFin h) (fun _ _ => inv_asTry h)
    (fun _ _ => inv_asReg h) (fun _ _ _ => inv_asUnl h) (fun _ _ => inv_asRef h) (fun _ _ => inv_fdUnlS h)
    (fun _ => inv_arTry h) (fun _ => inv_arReg h) (fun _ => inv_arUnl h) (fun _ => inv_fdUnlR h)
    (fun hpc => by mv (h.counts (ns := s.senders + 1) (nr := s.receivers) (by omega) id))
    (fun hpc => by mv (h.counts (ns := s.senders) (nr := s.receivers + 1) id (by omega)))
    (inv_closeS h) (inv_closeR h) (fun hpc => by mv h) (fun _ => inv_hWake h)

theorem inv_step {s' : State} {l : Label} (h : Inv b s) (hn : b → Benign s t l) (hs : step s t l = some s') :
    Inv b s' := by
  cases l <;> simp only [step] at hs
  · exact inv_call h hs
  · exact inv_adv h hs
  · exact inv_poll h hs
  · exact inv_dropFut h hn hs
  · exact inv_spurious h hs

theorem inv_reach {cap : Nat} (h : Reach cap s) : Inv False s := by
  induction h with
  | init => exact inv_init _ cap
  | step _ hs ih => exact inv_step ih (fun hb => hb.elim) hs

theorem inv_reachB {cap : Nat} (h : ReachB cap s) : Inv True s := by
  induction h with
  | init => exact inv_init _ cap
  | step _ hn hs ih => exact inv_step ih (fun _ => hn) hs

theorem invK_reach {cap : Nat} (h : Reach cap s) : InvK s := (inv_reach h).k
theorem invD_reach {cap : Nat} (h : Reach cap s) : InvD s := (inv_reach h).d
theorem invR_reach {cap : Nat} (h : ReachB cap s) : InvR s := (inv_reachB h).r trivial
theorem invA_reach {cap : Nat} (h : ReachB cap s) : InvA s := (inv_reachB h).a trivial
theorem invW_reach {cap : Nat} (h : ReachB cap s) : InvW s := (inv_reachB h).w trivial

end Fv.Chan.Mpmc2B
