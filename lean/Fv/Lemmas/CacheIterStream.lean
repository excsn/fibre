import Fv.Lemmas.CacheIter
/-
The hand-polled `IterStream` with a contended refill (`refillLoopL`, `streamPoll`, `streamRun`), for C17:
whatever is locked during each poll, the items handed out so far plus what is buffered (in the stream or in the
parked refill future) are the live entries of the keys the cursor has passed, so the parked future's completion
advances the cursor exactly once.  The blocking iterator is the stream polled with no lock held.
-/
namespace Fv.Cache.C17L
variable (nshards batch : Nat) (keysOf : Nat → List Nat) (m : List (Nat × Entry)) (now : Nat) (tti : Option Nat)

/-- between two polls (`acc`: the items handed out so far).  While a refill is parked the FUTURE's cursor and buffer
    satisfy the cursor invariant; the stream's own cursor is stale until the future completes and is taken over. -/
def SInv (nshards : Nat) (keysOf : Nat → List Nat) (m : List (Nat × Entry)) (now : Nat) (tti : Option Nat)
    (st : StreamSt) (acc : List (Nat × Nat)) : Prop :=
  match st.inflight with
  | none => CurInv nshards keysOf m now tti st.cur acc ∧ (st.cur.finished = true → st.cur.shard = nshards)
  | some f => st.cur.buffer = [] ∧ st.cur.finished = false ∧ CurInv nshards keysOf m now tti f acc

theorem SInv_init :
    SInv nshards keysOf m now tti {} [] := by
  refine ⟨⟨?_, Nat.zero_le _, fun _ => rfl⟩, ?_⟩
  · simp [consumed, allKeys, liveOf]
  · intro h; cases h

theorem SInv.prefix {nshards : Nat} {keysOf : Nat → List Nat} {m : List (Nat × Entry)} {now : Nat} {tti : Option Nat}
    {st : StreamSt} {acc : List (Nat × Nat)} (h : SInv nshards keysOf m now tti st acc) :
    ∃ t, liveOf m now tti (allKeys nshards keysOf) = acc ++ t := by
  unfold SInv at h
  split at h
  · exact h.1.prefix.elim (fun t ht => ⟨_, ht.trans (List.append_assoc ..)⟩)
  · exact h.2.2.prefix.elim (fun t ht => ⟨_, ht.trans (List.append_assoc ..)⟩)

def PollPost (nshards : Nat) (keysOf : Nat → List Nat) (m : List (Nat × Entry)) (now : Nat) (tti : Option Nat)
    (locked : Nat → Bool) (acc : List (Nat × Nat)) (r : StreamSt × Poll) : Prop :=
  match r.2 with
  | .item k v => SInv nshards keysOf m now tti r.1 (acc ++ [(k, v)])
  | .pending => SInv nshards keysOf m now tti r.1 acc ∧ ∃ i, i < nshards ∧ locked i = true
  | .done => SInv nshards keysOf m now tti r.1 acc ∧ liveOf m now tti (allKeys nshards keysOf) = acc

theorem streamAbsorb_spec (locked : Nat → Bool) (acc : List (Nat × Nat)) (st : StreamSt) (f : IterSt) (hb : 1 ≤ batch)
    (hbuf : st.cur.buffer = []) (hinv : CurInv nshards keysOf m now tti f acc)
    (hx : ¬ (f.shard < nshards ∧ f.buffer.length < batch)) :
    PollPost nshards keysOf m now tti locked acc (streamAbsorb nshards st f) := by
  unfold streamAbsorb
  rw [hbuf, List.nil_append]
  have hle := hinv.le
  split
  · next x rest hfb =>
    dsimp only [PollPost]
    unfold SInv
    dsimp only
    refine ⟨hinv.congr rfl rfl (by simp [hfb]), ?_⟩
    · intro hfin
      have : f.shard ≥ nshards := by simpa using hfin
      omega
  · next hfb =>
    have hs : f.shard = nshards := by
      rw [hfb] at hx; simp only [List.length_nil] at hx; omega
    dsimp only [PollPost]
    refine ⟨?_, ?_⟩
    · unfold SInv
      exact ⟨hinv.congr rfl rfl (by simp [hfb]), fun _ => hs⟩
    · have := hinv.atEnd_all hs
      rw [hfb, List.append_nil] at this
      exact this

theorem start_inv (acc : List (Nat × Nat)) (st : StreamSt) (hbuf : st.cur.buffer = [])
    (h : SInv nshards keysOf m now tti st acc) : CurInv nshards keysOf m now tti st.start acc := by
  unfold SInv at h
  unfold StreamSt.start
  cases hi : st.inflight with
  | some f => rw [hi] at h; exact h.2.2
  | none =>
    rw [hi] at h
    exact h.1.congr rfl rfl (by simp [hbuf])

theorem streamPoll_spec (locked : Nat → Bool) (acc : List (Nat × Nat)) (st : StreamSt)
    (hall : (allKeys nshards keysOf).length ≤ m.length) (hb : 1 ≤ batch)
    (h : SInv nshards keysOf m now tti st acc) :
    PollPost nshards keysOf m now tti locked acc (streamPoll nshards batch keysOf m now tti locked st) := by
  unfold streamPoll
  split
  · next x rest hbuf =>
    dsimp only [PollPost]
    unfold SInv at h ⊢
    cases hi : st.inflight with
    | some f => rw [hi] at h; dsimp only at h; rw [h.1] at hbuf; cases hbuf
    | none =>
      rw [hi] at h; dsimp only at h ⊢
      exact ⟨h.1.congr rfl rfl (by simp [hbuf]), h.2⟩
  · next hbuf =>
    split
    · next hfin =>
      dsimp only [PollPost]
      have h' := h
      unfold SInv at h'
      cases hi : st.inflight with
      | some f => rw [hi] at h'; dsimp only at h'; rw [h'.2.1] at hfin; cases hfin
      | none =>
        rw [hi] at h'; dsimp only at h'
        refine ⟨h, ?_⟩
        have := h'.1.atEnd_all (h'.2 hfin)
        rw [hbuf, List.append_nil] at this
        exact this
    · next hfin =>
      -- resume the parked future or start a new one from the stream's cursor
      have hstart := start_inv nshards keysOf m now tti acc st hbuf h
      obtain ⟨hinv, hexit⟩ := refillLoopL_inv nshards batch keysOf m now tti locked acc (nshards + m.length + 1) st.start hstart
      have hexit := hexit (by omega)
      have hpark := refillLoopL_parked nshards batch keysOf m now tti locked (nshards + m.length + 1) st.start
      dsimp only
      generalize refillLoopL nshards batch keysOf m now tti locked (nshards + m.length + 1) st.start = r at hinv hpark hexit
      split
      · next hp =>
        dsimp only [PollPost]
        refine ⟨?_, ⟨r.1.shard, (hpark hp).2, (hpark hp).1⟩⟩
        unfold SInv
        exact ⟨hbuf, by simpa using hfin, hinv⟩
      · next hp =>
        exact streamAbsorb_spec nshards batch keysOf m now tti locked acc st r.1 hb hbuf hinv (hexit (by simpa using hp))

theorem streamPoll_noLock (acc : List (Nat × Nat)) (st : StreamSt)
    (hall : (allKeys nshards keysOf).length ≤ m.length) (hb : 1 ≤ batch)
    (h : SInv nshards keysOf m now tti st acc) :
    (streamPoll nshards batch keysOf m now tti noLock st).2 ≠ .pending := by
  have hs := streamPoll_spec nshards batch keysOf m now tti noLock acc st hall hb h
  intro hp
  generalize streamPoll nshards batch keysOf m now tti noLock st = r at hs hp
  obtain ⟨st', p⟩ := r
  dsimp only at hp
  subst hp
  dsimp only [PollPost] at hs
  obtain ⟨_, i, _, hl⟩ := hs
  simp [noLock] at hl

theorem streamRun_spec (hall : (allKeys nshards keysOf).length ≤ m.length) (hb : 1 ≤ batch) :
    ∀ (locks : List (Nat → Bool)) (st : StreamSt) (acc : List (Nat × Nat)), SInv nshards keysOf m now tti st acc →
      SInv nshards keysOf m now tti (streamRun nshards batch keysOf m now tti st locks acc).1
        (streamRun nshards batch keysOf m now tti st locks acc).2.1 ∧
      ((streamRun nshards batch keysOf m now tti st locks acc).2.2 = true →
        (streamRun nshards batch keysOf m now tti st locks acc).2.1 = liveOf m now tti (allKeys nshards keysOf)) := by
  intro locks
  induction locks with
  | nil => intro st acc h; exact ⟨h, by simp [streamRun]⟩
  | cons l ls ih =>
    intro st acc h
    have hs := streamPoll_spec nshards batch keysOf m now tti l acc st hall hb h
    rw [streamRun]
    generalize streamPoll nshards batch keysOf m now tti l st = r at hs
    obtain ⟨st', p⟩ := r
    cases p with
    | item k v => exact ih st' _ hs
    | pending => dsimp only [PollPost] at hs; exact ih st' _ hs.1
    | done => dsimp only [PollPost] at hs; exact ⟨hs.1, fun _ => hs.2.symm⟩

theorem streamRun_append :
    ∀ (a b : List (Nat → Bool)) (st : StreamSt) (acc : List (Nat × Nat)),
      streamRun nshards batch keysOf m now tti st (a ++ b) acc =
        if (streamRun nshards batch keysOf m now tti st a acc).2.2 then streamRun nshards batch keysOf m now tti st a acc
        else streamRun nshards batch keysOf m now tti (streamRun nshards batch keysOf m now tti st a acc).1 b
          (streamRun nshards batch keysOf m now tti st a acc).2.1 := by
  intro a
  induction a with
  | nil => intro b st acc; simp [streamRun]
  | cons l ls ih =>
    intro b st acc
    rw [List.cons_append, streamRun, streamRun]
    generalize streamPoll nshards batch keysOf m now tti l st = r
    obtain ⟨st', p⟩ := r
    cases p with
    | item k v => exact ih b st' _
    | pending => exact ih b st' _
    | done => simp

theorem streamRun_noLock (hall : (allKeys nshards keysOf).length ≤ m.length) (hb : 1 ≤ batch) :
    ∀ (n : Nat) (st : StreamSt) (acc : List (Nat × Nat)), SInv nshards keysOf m now tti st acc →
      (liveOf m now tti (allKeys nshards keysOf)).length + 1 ≤ n + acc.length →
      (streamRun nshards batch keysOf m now tti st (List.replicate n noLock) acc).2 =
        (liveOf m now tti (allKeys nshards keysOf), true) := by
  intro n
  induction n with
  | zero =>
    intro st acc h hn
    obtain ⟨t, ht⟩ := h.prefix
    simp only [ht, List.length_append] at hn
    omega
  | succ n ih =>
    intro st acc h hn
    have hs := streamPoll_spec nshards batch keysOf m now tti noLock acc st hall hb h
    have hnp := streamPoll_noLock nshards batch keysOf m now tti acc st hall hb h
    rw [List.replicate_succ, streamRun]
    generalize streamPoll nshards batch keysOf m now tti noLock st = r at hs hnp
    obtain ⟨st', p⟩ := r
    cases p with
    | item k v =>
      apply ih st' _ hs
      simp only [List.length_append, List.length_singleton]; omega
    | pending => exact absurd rfl hnp
    | done => dsimp only [PollPost] at hs; dsimp only; rw [hs.2]

theorem streamRun_exact (hall : (allKeys nshards keysOf).length ≤ m.length) (hb : 1 ≤ batch)
    (locks : List (Nat → Bool)) (n : Nat) (hn : (liveOf m now tti (allKeys nshards keysOf)).length + 1 ≤ n) :
    (streamRun nshards batch keysOf m now tti {} (locks ++ List.replicate n noLock) []).2 =
      (liveOf m now tti (allKeys nshards keysOf), true) := by
  rw [streamRun_append]
  have h := streamRun_spec nshards batch keysOf m now tti hall hb locks {} [] (SInv_init ..)
  split
  · next he =>
    have := h.2 he
    generalize streamRun nshards batch keysOf m now tti {} locks [] = r at this he
    obtain ⟨st, items, e⟩ := r
    dsimp only at this he
    rw [this, he]
  · exact streamRun_noLock nshards batch keysOf m now tti hall hb n _ _ h.1 (by omega)

theorem iterDrive_eq_streamRun : ∀ (fuel : Nat) (it : IterSt) (acc : List (Nat × Nat)),
    iterDrive nshards batch keysOf m tti fuel now none it acc =
      (now, (streamRun nshards batch keysOf m now tti { cur := it } (List.replicate fuel noLock) acc).2.1) := by
  intro fuel
  induction fuel with
  | zero => intro it acc; rfl
  | succ fuel ih =>
    intro it acc
    rw [iterDrive_succ, List.replicate_succ, streamRun]
    show iterBody nshards batch keysOf m tti fuel now none it acc = _
    unfold iterBody streamPoll
    dsimp only
    cases hbuf : it.buffer with
    | cons x rest => exact ih _ _
    | nil =>
      dsimp only
      cases hfin : it.finished with
      | true => simp
      | false =>
        have hstart : ({ cur := it } : StreamSt).start = it := by cases it; simp_all [StreamSt.start]
        rw [hstart, refillLoopL_noLock, refill_eq nshards batch keysOf m now tti it hfin]
        unfold streamAbsorb
        simp only [Bool.false_eq_true, if_false, hbuf, List.nil_append]
        generalize (refillLoopL nshards batch keysOf m now tti noLock (nshards + m.length + 1) it).1 = it1
        cases it1.buffer with
        | nil => rfl
        | cons x rest => exact ih _ _

theorem iterDrive_exact
    (now fuel : Nat) (hb : 1 ≤ batch) (hall : (allKeys nshards keysOf).length ≤ m.length)
    (hfuel : (allKeys nshards keysOf).length + 1 ≤ fuel) :
    iterDrive nshards batch keysOf m tti fuel now none {} [] = (now, liveOf m now tti (allKeys nshards keysOf)) := by
  have := liveOf_length_le m now tti (allKeys nshards keysOf)
  rw [iterDrive_eq_streamRun, streamRun_noLock nshards batch keysOf m now tti hall hb fuel {} [] (SInv_init ..)
    (by simp only [List.length_nil]; omega)]

end Fv.Cache.C17L
