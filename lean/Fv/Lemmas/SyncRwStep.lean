import Fv.Sync.RwLock
/-!
`Step cfg s t l s'` lists every transition of `RwLock.next` once, at the granularity of the model's helper
functions (`callStep`, `taFail`, `llEnter`, `afterRel`, `wakeAllNext`, …).  A transition whose effect on the state
word depends on the flag `wr` of the acquisition comes in a `…W` and a `…R` version, with the new word written out.
`step_of_mem` is all the invariant proofs use of `next`.
-/
namespace Fv.Sync.RwLock
open Fv.Sync

section ite
variable (c : Prop) [Decidable c]
@[simp] theorem Thread.ite_pc (a b : Thread) : (if c then a else b).pc = if c then a.pc else b.pc := by split <;> rfl
@[simp] theorem Thread.ite_wr (a b : Thread) : (if c then a else b).wr = if c then a.wr else b.wr := by split <;> rfl
@[simp] theorem Thread.ite_sv (a b : Thread) : (if c then a else b).sv = if c then a.sv else b.sv := by split <;> rfl
@[simp] theorem Thread.ite_linked (a b : Thread) : (if c then a else b).linked = if c then a.linked else b.linked := by split <;> rfl
@[simp] theorem Thread.ite_i (a b : Thread) : (if c then a else b).i = if c then a.i else b.i := by split <;> rfl
@[simp] theorem Thread.ite_cur (a b : Thread) : (if c then a else b).cur = if c then a.cur else b.cur := by split <;> rfl
@[simp] theorem Thread.ite_blockOn (a b : Thread) : (if c then a else b).blockOn = if c then a.blockOn else b.blockOn := by split <;> rfl
@[simp] theorem Thread.ite_tgt (a b : Thread) : (if c then a else b).tgt = if c then a.tgt else b.tgt := by split <;> rfl
@[simp] theorem Thread.ite_ws (a b : Thread) : (if c then a else b).ws = if c then a.ws else b.ws := by split <;> rfl
@[simp] theorem Fut.ite_phase (a b : Fut) : (if c then a else b).phase = if c then a.phase else b.phase := by split <;> rfl
@[simp] theorem Fut.ite_busy (a b : Fut) : (if c then a else b).busy = if c then a.busy else b.busy := by split <;> rfl
@[simp] theorem Fut.ite_wr (a b : Fut) : (if c then a else b).wr = if c then a.wr else b.wr := by split <;> rfl
@[simp] theorem Fut.ite_bo (a b : Fut) : (if c then a else b).bo = if c then a.bo else b.bo := by split <;> rfl
end ite

inductive Step (cfg : Cfg) (s : State) (t : Tid) : Lbl → State → Prop
  | call {op rest} (hpc : (s.th t).pc = .idle) (hp : s.prog t = op :: rest) :
      Step cfg s t (.call op) (callStep cfg s t op)
  | ret {r} (hpc : (s.th t).pc = .ret r) :
      Step cfg s t (.ret r)
        { s with th := upd s.th t { s.th t with pc := .idle }, prog := upd s.prog t (s.prog t).tail }
  | taLoadBlocked {k} (hpc : (s.th t).pc = .taLoad k) (hb : s.word.blocked (s.th t).wr = true) :
      Step cfg s t (.load .state .relaxed s.word.toNat) (taFail cfg s t k)
  | taLoadFree {k} (hpc : (s.th t).pc = .taLoad k) (hb : ¬ s.word.blocked (s.th t).wr = true) :
      Step cfg s t (.load .state .relaxed s.word.toNat)
        (setTh s t { s.th t with pc := .taCas k, sv := s.word })
  | taCasOkW {k} (hpc : (s.th t).pc = .taCas k) (he : s.word = (s.th t).sv) (hw : (s.th t).wr = true) :
      Step cfg s t
        (.cas .state (casWeak (s.th t) k) .acquire .relaxed s.word.toNat
          ({ (s.th t).sv with wl := true } : RWord).toNat true)
        (taSucc { s with word := { (s.th t).sv with wl := true }, holders := (t, (s.th t).wr) :: s.holders } t k)
  | taCasOkR {k} (hpc : (s.th t).pc = .taCas k) (he : s.word = (s.th t).sv) (hw : ¬ (s.th t).wr = true) :
      Step cfg s t
        (.cas .state (casWeak (s.th t) k) .acquire .relaxed s.word.toNat
          ({ (s.th t).sv with readers := (s.th t).sv.readers + 1 } : RWord).toNat true)
        (taSucc { s with word := { (s.th t).sv with readers := (s.th t).sv.readers + 1 },
                         holders := (t, (s.th t).wr) :: s.holders } t k)
  /-- `compare_exchange_weak` fails although the word has the expected value -/
  | taCasSpur {k} (hpc : (s.th t).pc = .taCas k) (he : s.word = (s.th t).sv) (hweak : casWeak (s.th t) k = true) :
      Step cfg s t (.cas .state (casWeak (s.th t) k) .acquire .relaxed s.word.toNat s.word.toNat false)
        (taFail cfg s t k)
  | taCasFail {k} (hpc : (s.th t).pc = .taCas k) (he : ¬ s.word = (s.th t).sv) :
      Step cfg s t (.cas .state (casWeak (s.th t) k) .acquire .relaxed s.word.toNat s.word.toNat false)
        (taFail cfg s t k)
  | spinYield (hpc : (s.th t).pc = .spinYield) :
      Step cfg s t .yield (spinHead cfg (setTh s t { s.th t with i := (s.th t).i + 1 }) t)
  | llSwapBusy {k} (hpc : (s.th t).pc = .llSwap k) (hl : s.wl.locked = true) :
      Step cfg s t (.rmw .listLock .swap .acquire (b2n s.wl.locked) 1) (withPc s t (.llLoad k))
  | llSwapOk {k} (hpc : (s.th t).pc = .llSwap k) (hl : ¬ s.wl.locked = true) :
      Step cfg s t (.rmw .listLock .swap .acquire (b2n s.wl.locked) 1)
        (llEnter { s with wl := s.wl.setLocked true } t k)
  | llLoadBusy {k} (hpc : (s.th t).pc = .llLoad k) (hl : s.wl.locked = true) :
      Step cfg s t (.load .listLock .relaxed (b2n s.wl.locked)) (withPc s t (.llSpin k))
  | llLoadFree {k} (hpc : (s.th t).pc = .llLoad k) (hl : ¬ s.wl.locked = true) :
      Step cfg s t (.load .listLock .relaxed (b2n s.wl.locked)) (withPc s t (.llSwap k))
  | llSpin {k} (hpc : (s.th t).pc = .llSpin k) :
      Step cfg s t .spin (withPc s t (.llLoad k))
  | qRearmSyncLinked (hpc : (s.th t).pc = .qRearm) (hc : (s.th t).cur = none)
      (hl : ((s.th t).wr && (s.th t).linked) = true) :
      Step cfg s t (.store (.nodeState (me t (s.th t))) .relaxed 0)
        { s with wl := s.wl.setWoken (me t (s.th t)) false
                 th := upd s.th t { s.th t with pc := .qFetchOr, linked := true } }
  | qRearmSyncLink (hpc : (s.th t).pc = .qRearm) (hc : (s.th t).cur = none)
      (hl : ¬ ((s.th t).wr && (s.th t).linked) = true) :
      Step cfg s t (.store (.nodeState (me t (s.th t))) .relaxed 0)
        { s with wl := (s.wl.setWoken (me t (s.th t)) false).linkBack (me t (s.th t))
                 th := upd s.th t { s.th t with pc := .qFetchOr, linked := true } }
  | qRearmAsyncLinked {f} (hpc : (s.th t).pc = .qRearm) (hc : (s.th t).cur = some f)
      (hl : (s.wl.setWoken (me t (s.th t)) false).wasLinked (me t (s.th t)) = true) :
      Step cfg s t (.store (.nodeState (me t (s.th t))) .relaxed 0)
        { s with wl := s.wl.setWoken (me t (s.th t)) false
                 th := upd s.th t { s.th t with pc := .qFetchOr, linked := true } }
  | qRearmAsyncLink {f} (hpc : (s.th t).pc = .qRearm) (hc : (s.th t).cur = some f)
      (hl : ¬ (s.wl.setWoken (me t (s.th t)) false).wasLinked (me t (s.th t)) = true) :
      Step cfg s t (.store (.nodeState (me t (s.th t))) .relaxed 0)
        { s with wl := (s.wl.setWoken (me t (s.th t)) false).linkBack (me t (s.th t))
                 th := upd s.th t { s.th t with pc := .qFetchOr, linked := true } }
  | qFetchOrW (hpc : (s.th t).pc = .qFetchOr) (hw : (s.th t).wr = true) :
      Step cfg s t (.rmw .state .or .relaxed s.word.toNat ({ s.word with hq := true, wp := true } : RWord).toNat)
        (withPc { s with word := { s.word with hq := true, wp := true } } t .qLoad)
  | qFetchOrR (hpc : (s.th t).pc = .qFetchOr) (hw : ¬ (s.th t).wr = true) :
      Step cfg s t (.rmw .state .or .relaxed s.word.toNat ({ s.word with hq := true } : RWord).toNat)
        (withPc { s with word := { s.word with hq := true } } t .qLoad)
  | qLoadBlockedSync (hpc : (s.th t).pc = .qLoad) (hb : s.word.blocked (s.th t).wr = true)
      (hc : (s.th t).cur = none) :
      Step cfg s t (.load .state .relaxed s.word.toNat) (withPc s t (.llRel .parkLoad))
  | qLoadBlockedAsync {f} (hpc : (s.th t).pc = .qLoad) (hb : s.word.blocked (s.th t).wr = true)
      (hc : (s.th t).cur = some f) :
      Step cfg s t (.load .state .relaxed s.word.toNat) (withPc s t (.llRel .pending))
  | qLoadFree (hpc : (s.th t).pc = .qLoad) (hb : ¬ s.word.blocked (s.th t).wr = true) :
      Step cfg s t (.load .state .relaxed s.word.toNat) (setTh s t { s.th t with pc := .qCas, sv := s.word })
  | qCasOkSyncW (hpc : (s.th t).pc = .qCas) (he : s.word = (s.th t).sv) (hw : (s.th t).wr = true)
      (hc : (s.th t).cur = none) :
      Step cfg s t
        (.cas .state false .acquire .relaxed s.word.toNat ({ (s.th t).sv with wl := true } : RWord).toNat true)
        (withPc { s with word := { (s.th t).sv with wl := true }, holders := (t, (s.th t).wr) :: s.holders,
                         wl := s.wl.unlink (me t (s.th t)) } t (.ff1 .retOk))
  | qCasOkSyncR (hpc : (s.th t).pc = .qCas) (he : s.word = (s.th t).sv) (hw : ¬ (s.th t).wr = true)
      (hc : (s.th t).cur = none) :
      Step cfg s t
        (.cas .state false .acquire .relaxed s.word.toNat
          ({ (s.th t).sv with readers := (s.th t).sv.readers + 1 } : RWord).toNat true)
        (withPc { s with word := { (s.th t).sv with readers := (s.th t).sv.readers + 1 },
                         holders := (t, (s.th t).wr) :: s.holders,
                         wl := s.wl.unlink (me t (s.th t)) } t (.ff1 .retOk))
  | qCasOkAsyncW {f} (hpc : (s.th t).pc = .qCas) (he : s.word = (s.th t).sv) (hw : (s.th t).wr = true)
      (hc : (s.th t).cur = some f) :
      Step cfg s t
        (.cas .state false .acquire .relaxed s.word.toNat ({ (s.th t).sv with wl := true } : RWord).toNat true)
        (withPc { s with word := { (s.th t).sv with wl := true }, holders := (t, (s.th t).wr) :: s.holders,
                         wl := s.wl.unlink (me t (s.th t)) } t (.ff1 .retReady))
  | qCasOkAsyncR {f} (hpc : (s.th t).pc = .qCas) (he : s.word = (s.th t).sv) (hw : ¬ (s.th t).wr = true)
      (hc : (s.th t).cur = some f) :
      Step cfg s t
        (.cas .state false .acquire .relaxed s.word.toNat
          ({ (s.th t).sv with readers := (s.th t).sv.readers + 1 } : RWord).toNat true)
        (withPc { s with word := { (s.th t).sv with readers := (s.th t).sv.readers + 1 },
                         holders := (t, (s.th t).wr) :: s.holders,
                         wl := s.wl.unlink (me t (s.th t)) } t (.ff1 .retReady))
  | qCasFail (hpc : (s.th t).pc = .qCas) (he : ¬ s.word = (s.th t).sv) :
      Step cfg s t (.cas .state false .acquire .relaxed s.word.toNat s.word.toNat false) (withPc s t .qLoad)
  | ff1Zero {a} (hpc : (s.th t).pc = .ff1 a) (he : s.wl.writers = 0) :
      Step cfg s t (.rmw .state .and .relaxed s.word.toNat ({ s.word with wp := false } : RWord).toNat)
        (withPc { s with word := { s.word with wp := false } } t (.ff2 a))
  | ff1Pos {a} (hpc : (s.th t).pc = .ff1 a) (he : ¬ s.wl.writers = 0) :
      Step cfg s t (.rmw .state .or .relaxed s.word.toNat ({ s.word with wp := true } : RWord).toNat)
        (withPc { s with word := { s.word with wp := true } } t (.ff2 a))
  | ff2Empty {a} (hpc : (s.th t).pc = .ff2 a) (he : s.wl.len = 0) :
      Step cfg s t (.rmw .state .and .relaxed s.word.toNat ({ s.word with hq := false } : RWord).toNat)
        (withPc { s with word := { s.word with hq := false } } t (.llRel a))
  | ff2Nonempty {a} (hpc : (s.th t).pc = .ff2 a) (he : ¬ s.wl.len = 0) :
      Step cfg s t (.rmw .state .or .relaxed s.word.toNat ({ s.word with hq := true } : RWord).toNat)
        (withPc { s with word := { s.word with hq := true } } t (.llRel a))
  | llRel {a} (hpc : (s.th t).pc = .llRel a) :
      Step cfg s t (.store .listLock .release 0) (afterRel { s with wl := s.wl.setLocked false } t a)
  | wLoadWoken (hpc : (s.th t).pc = .wLoad) (hw : (s.wl.node (me t (s.th t))).woken = true) :
      Step cfg s t (.load (.nodeState (me t (s.th t))) .acquire (b2n (s.wl.node (me t (s.th t))).woken))
        (spinHead cfg (setTh s t { s.th t with i := 0 }) t)
  | wLoadWaiting (hpc : (s.th t).pc = .wLoad) (hw : ¬ (s.wl.node (me t (s.th t))).woken = true) :
      Step cfg s t (.load (.nodeState (me t (s.th t))) .acquire (b2n (s.wl.node (me t (s.th t))).woken))
        (withPc s t .wPark)
  | wPark (hpc : (s.th t).pc = .wPark) (htok : s.token t = true) :
      Step cfg s t .park (withPc { s with token := upd s.token t false } t .wLoad)
  | wParkSpur (hpc : (s.th t).pc = .wPark) :
      Step cfg s t .parkSpur (withPc s t .wLoad)
  | relSubWake (hpc : (s.th t).pc = .relSub) (hq : s.word.readers = 1 ∧ s.word.hq = true) :
      Step cfg s t
        (.rmw .state .sub .release s.word.toNat ({ s.word with readers := s.word.readers - 1 } : RWord).toNat)
        (withPc { s with word := { s.word with readers := s.word.readers - 1 },
                         holders := s.holders.erase (t, false) } t (.llSwap .wake))
  | relSubPlain (hpc : (s.th t).pc = .relSub) (hq : ¬ (s.word.readers = 1 ∧ s.word.hq = true)) :
      Step cfg s t
        (.rmw .state .sub .release s.word.toNat ({ s.word with readers := s.word.readers - 1 } : RWord).toNat)
        (withPc { s with word := { s.word with readers := s.word.readers - 1 },
                         holders := s.holders.erase (t, false) } t (.ret .ok))
  | relAndQueued (hpc : (s.th t).pc = .relAnd) (hq : s.word.hq = true) :
      Step cfg s t (.rmw .state .and .release s.word.toNat ({ s.word with wl := false } : RWord).toNat)
        (withPc { s with word := { s.word with wl := false }, holders := s.holders.erase (t, true) } t
          (.llSwap .wake))
  | relAndPlain (hpc : (s.th t).pc = .relAnd) (hq : ¬ s.word.hq = true) :
      Step cfg s t (.rmw .state .and .release s.word.toNat ({ s.word with wl := false } : RWord).toNat)
        (withPc { s with word := { s.word with wl := false }, holders := s.holders.erase (t, true) } t
          (.ret .ok))
  | wnStore (hpc : (s.th t).pc = .wnStore) :
      Step cfg s t (.store (.nodeState (s.th t).tgt) .release 1)
        { s with wl := s.wl.takeAndMark (s.th t).tgt
                 th := upd s.th t { s.th t with pc := .llRel .wake,
                                                ws := ((s.wl.node (s.th t).tgt).waiter).toList } }
  | wrStore (hpc : (s.th t).pc = .wrStore) :
      Step cfg s t (.store (.nodeState (s.th t).tgt) .release 1)
        (wakeAllNext
          { s with wl := s.wl.takeAndMark (s.th t).tgt
                   th := upd s.th t { s.th t with ws := (s.th t).ws ++ ((s.wl.node (s.th t).tgt).waiter).toList } }
          t)
  | wnWake {u rest} (hpc : (s.th t).pc = .wnWake) (hw : (s.th t).ws = .thread u :: rest) :
      Step cfg s t (.unpark u) (wakeRest { s with token := upd s.token u true } t rest)
  | dLoadWoken (hpc : (s.th t).pc = .dLoad) (hw : (s.wl.node (.fut (curF (s.th t)))).woken = true) :
      Step cfg s t (.load (.nodeState (.fut (curF (s.th t)))) .acquire (b2n (s.wl.node (.fut (curF (s.th t)))).woken))
        (withPc { s with fut := upd s.fut (curF (s.th t))
                                  { s.fut (curF (s.th t)) with phase := .absent, busy := false } } t (.llSwap .wake))
  | dLoadWaiting (hpc : (s.th t).pc = .dLoad) (hw : ¬ (s.wl.node (.fut (curF (s.th t)))).woken = true) :
      Step cfg s t (.load (.nodeState (.fut (curF (s.th t)))) .acquire (b2n (s.wl.node (.fut (curF (s.th t)))).woken))
        (withPc { s with fut := upd s.fut (curF (s.th t))
                                  { s.fut (curF (s.th t)) with phase := .absent, busy := false } } t (.ret .ok))
  | boPark (hpc : (s.th t).pc = .boPark) (htok : s.token t = true) :
      Step cfg s t .park
        (pollHead cfg { s with token := upd s.token t false, th := upd s.th t { s.th t with i := 0 } } t)
  | boParkSpur (hpc : (s.th t).pc = .boPark) :
      Step cfg s t .parkSpur (pollHead cfg (setTh s t { s.th t with i := 0 }) t)

macro "unfold_next" h:ident : tactic => `(tactic| (
  unfold next at $h:ident
  split at $h:ident
  all_goals simp only [nIdle, nRet, nTaLoad, nTaCas, nSpinYield, nLlSwap, nLlLoad, nLlSpin, nQRearm, nQFetchOr,
    nQLoad, nQCas, nFf1, nFf2, nLlRel, nWLoad, nWPark, nRelSub, nRelAnd, nWnStore, nWrStore, nWnWake, nDLoad,
    nBoPark, RWord.acq] at $h:ident))

theorem step_of_mem {cfg : Cfg} {s s' : State} {t : Tid} {l : Lbl} (h : (l, s') ∈ next cfg s t) :
    Step cfg s t l s' := by
  unfold_next h
  all_goals (repeat' split at h)
  all_goals simp only [List.mem_cons, List.not_mem_nil, Prod.mk.injEq, or_false,
    false_or, List.mem_append] at h
  -- `taCasSpur`/`taCasFail` and the `…Sync…`/`…Async…` constructors of `qRearm` differ only in a premise: retry
  -- with the second
  all_goals first
    | (obtain ⟨rfl, rfl⟩ : _ ∧ _ := h
       first
        | (constructor <;> assumption)
        | (apply Step.taCasFail <;> assumption)
        | (apply Step.qRearmAsyncLinked <;> assumption)
        | (apply Step.qRearmAsyncLink <;> assumption))
    | (rcases h with ⟨rfl, rfl⟩ | ⟨rfl, rfl⟩ <;> constructor <;> assumption)

end Fv.Sync.RwLock
