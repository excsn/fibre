import Fv.Log.Json
import Fv.Lemmas.LogText
/-! C20 helper lemmas (JSON codec): the string decoder inverts serde_json's escaping, the value / object decoder
inverts the compact serialiser, and serialised text contains no control character. -/
namespace Fv.Log.Json
open Fv.Log

theorem hex_digitChar : ∀ k < 16, hexVal (Nat.digitChar k) = some k ∧ 0x20 ≤ (Nat.digitChar k).toNat := by decide

/-- serde_json's two-character escapes, as a table: each is undone by `unescapeSimple` -/
theorem simple_escapes : ∀ n ∈ [34, 92, 8, 9, 10, 12, 13], ∃ e ∈ ['"', '\\', 'b', 't', 'n', 'f', 'r'],
    escapeChar (Char.ofNat n) = ['\\', e] ∧ e ≠ 'u' ∧ unescapeSimple e = some (Char.ofNat n) ∧ 0x20 ≤ e.toNat := by
  decide

theorem escapeChar_cases (c : Char) :
    (∃ e, escapeChar c = ['\\', e] ∧ e ≠ 'u' ∧ unescapeSimple e = some c ∧ 0x20 ≤ e.toNat) ∨
    (c.toNat < 0x20 ∧ escapeChar c = ['\\', 'u', '0', '0', Nat.digitChar (c.toNat / 16), Nat.digitChar (c.toNat % 16)]) ∨
    (escapeChar c = [c] ∧ c ≠ '"' ∧ c ≠ '\\' ∧ 0x20 ≤ c.toNat) := by
  by_cases h : c.toNat ∈ [34, 92, 8, 9, 10, 12, 13]
  · obtain ⟨e, -, he⟩ := simple_escapes _ h
    rw [Char.ofNat_toNat] at he
    exact Or.inl ⟨e, he⟩
  · simp only [List.mem_cons, List.not_mem_nil, or_false, not_or] at h
    have hq : c ≠ '"' := fun h' => h.1 (by rw [h']; rfl)
    have hb : c ≠ '\\' := fun h' => h.2.1 (by rw [h']; rfl)
    by_cases hc : c.toNat < 0x20
    · exact Or.inr (Or.inl ⟨hc, by simp [escapeChar, *]⟩)
    · exact Or.inr (Or.inr ⟨by simp [escapeChar, *], hq, hb, by omega⟩)

theorem parseStrBody_escapeChar (c : Char) (t : Text) :
    parseStrBody (escapeChar c ++ t) =
      match parseStrBody t with
      | some (s, r) => some (c :: s, r)
      | none => none := by
  have hbs : ('\\' : Char) ≠ '"' := by decide
  rcases escapeChar_cases c with ⟨e, he, hu, hs, _⟩ | ⟨hc, he⟩ | ⟨he, hq, hb, hc⟩ <;>
    (rw [he]; simp only [List.cons_append, List.nil_append]; conv => lhs; unfold parseStrBody)
  · simp only [hbs, if_false, if_true, hu, hs]
    cases parseStrBody t <;> rfl
  · have hn : ((0 * 16 + 0) * 16 + c.toNat / 16) * 16 + c.toNat % 16 = c.toNat := by omega
    have hs : ¬ (0xD800 ≤ c.toNat ∧ c.toNat ≤ 0xDFFF) := by omega
    simp only [hbs, if_false, if_true, show hexVal '0' = some 0 by decide, (hex_digitChar _ (by omega : c.toNat / 16 < 16)).1,
      (hex_digitChar _ (by omega : c.toNat % 16 < 16)).1, hn, hs, Char.ofNat_toNat]
    cases parseStrBody t <;> rfl
  · simp only [hq, hb, Nat.not_lt.2 hc, if_false]
    cases parseStrBody t <;> rfl

theorem parseStrBody_escape (s t : Text) : parseStrBody (escape s ++ '"' :: t) = some (s, t) := by
  induction s with
  | nil =>
    simp only [escape, List.nil_append]
    conv => lhs; unfold parseStrBody
    simp
  | cons c cs ih =>
    simp only [escape, List.append_assoc]
    rw [parseStrBody_escapeChar, ih]

theorem escape_no_control (s : Text) : ∀ x ∈ escape s, 0x20 ≤ x.toNat := by
  induction s with
  | nil => simp [escape]
  | cons c cs ih =>
    simp only [escape, List.mem_append, or_imp, forall_and]
    refine ⟨?_, ih⟩
    rcases escapeChar_cases c with ⟨e, he, _, _, h⟩ | ⟨hc, he⟩ | ⟨he, _, _, h⟩ <;> rw [he] <;>
      simp only [List.mem_cons, List.not_mem_nil, or_false, forall_eq_or_imp, forall_eq]
    · exact ⟨by decide, h⟩
    · exact ⟨by decide, by decide, by decide, by decide, (hex_digitChar _ (by omega)).2, (hex_digitChar _ (by omega)).2⟩
    · exact h

theorem encodeString_no_control (s : Text) : ∀ x ∈ encodeString s, 0x20 ≤ x.toNat := by
  simp only [encodeString, List.mem_cons, List.mem_append, List.not_mem_nil, or_false, or_imp, forall_and, forall_eq]
  exact ⟨by decide, escape_no_control s, by decide⟩


/-- what follows a value inside an object: `,` or `}` -/
def Delim (t : Text) : Prop := ∃ c r, t = c :: r ∧ (c = ',' ∨ c = '}')

/-- a finite float as serde_json prints it: a number token that is not an integer token -/
def FloatTok (r : Text) : Prop := r ≠ [] ∧ (∀ c ∈ r, numChar c = true) ∧ parseIntTok r = none

/-- the round-trip law of a value codec inside an object: the decoder reads back a printed value that `P` admits and
leaves what follows it -/
def Inverts {α} (P : α → Prop) (sv : α → Text) (pv : Text → Option (α × Text)) : Prop :=
  ∀ v, P v → ∀ t, Delim t → pv (sv v ++ t) = some (v, t)

def CleanScalar : Scalar → Prop
  | .num r => FloatTok r
  | _ => True

def CleanValue : Value → Prop
  | .scalar s => CleanScalar s
  | .obj kvs => ∀ e ∈ kvs, CleanScalar e.2

theorem numChar_spec {c : Char} (h : numChar c = true) :
    c ≠ '"' ∧ c ≠ 't' ∧ c ≠ 'f' ∧ c ≠ 'n' ∧ 0x20 ≤ c.toNat := by
  simp only [numChar, isDigit, Bool.or_eq_true, Bool.and_eq_true, decide_eq_true_eq] at h
  rcases h with ((((h | rfl) | rfl) | rfl) | rfl) | rfl
  · refine ⟨?_, ?_, ?_, ?_, by omega⟩ <;> (rintro rfl; revert h; decide)
  all_goals decide

theorem parseIntTok_decInt (i : Int) : parseIntTok (decInt i) = some i := by
  have hall : ∀ n, (dec n).all isDigit = true := fun n => List.all_eq_true.2 (dec_all_isDigit n)
  cases i with
  | ofNat n =>
    rw [decInt]
    cases hd : dec n with
    | nil => exact absurd hd (dec_ne_nil n)
    | cons c rest =>
      have hc : c ≠ '-' := by
        rintro rfl; have := dec_all_isDigit n '-' (by simp [hd]); revert this; decide
      simp only [parseIntTok, hc, if_false, ← hd, hall, if_true, digitsVal_dec]
      rfl
  | negSucc n =>
    simp only [decInt, parseIntTok, if_true, hall, dec_ne_nil, ne_eq, not_false_eq_true, and_self, digitsVal_dec]
    rfl

theorem decInt_numChar (i : Int) : decInt i ≠ [] ∧ ∀ c ∈ decInt i, numChar c = true := by
  have hd : ∀ n, ∀ c ∈ dec n, numChar c = true := fun n c hc => by simp [numChar, dec_all_isDigit n c hc]
  cases i with
  | ofNat n => exact ⟨dec_ne_nil n, hd n⟩
  | negSucc n => exact ⟨by simp [decInt], List.forall_mem_cons.2 ⟨by decide, hd _⟩⟩

theorem parseScalar_run (r t : Text) (hne : r ≠ []) (hall : ∀ c ∈ r, numChar c = true) (ht : Delim t) :
    parseScalar (r ++ t) =
      some ((match parseIntTok r with | some i => Scalar.int i | none => Scalar.num r), t) := by
  obtain ⟨d, t', rfl, hd⟩ := ht
  cases r with
  | nil => exact absurd rfl hne
  | cons c rest =>
    have hc : numChar c = true := hall c (by simp)
    obtain ⟨h1, h2, h3, h4, _⟩ := numChar_spec hc
    have hs := takeWhile_append_stop (p := numChar) (c := d) (r := t') hall (by rcases hd with rfl | rfl <;> decide)
    simp only [List.cons_append] at hs
    simp only [parseScalar, List.cons_append, h1, h2, h3, h4, if_false, hc, if_true, hs.1, hs.2]
    cases parseIntTok (c :: rest) <;> rfl

theorem isPrefixOf_append (a t : Text) : a.isPrefixOf (a ++ t) = true := by
  simp

theorem parseScalar_serScalar : Inverts CleanScalar serScalar parseScalar := by
  intro v hv t ht
  cases v with
  | str s =>
    simp only [serScalar, encodeString, List.cons_append, List.append_assoc, List.nil_append, parseScalar, if_true,
      parseStrBody_escape]
  | int i =>
    rw [serScalar, parseScalar_run _ _ (decInt_numChar i).1 (decInt_numChar i).2 ht, parseIntTok_decInt]
  | bool b =>
    cases b
    · show parseScalar ('f' :: 'a' :: 'l' :: 's' :: 'e' :: t) = _
      simp [parseScalar, parseLit, List.isPrefixOf]
    · show parseScalar ('t' :: 'r' :: 'u' :: 'e' :: t) = _
      simp [parseScalar, parseLit, List.isPrefixOf]
  | null =>
    show parseScalar ('n' :: 'u' :: 'l' :: 'l' :: t) = _
    simp [parseScalar, parseLit, List.isPrefixOf]
  | num r =>
    rw [serScalar, parseScalar_run _ _ hv.1 hv.2.1 ht, hv.2.2]

theorem serScalar_no_control (v : Scalar) (hv : CleanScalar v) : ∀ c ∈ serScalar v, 0x20 ≤ c.toNat := by
  cases v with
  | str s => exact encodeString_no_control s
  | int i => exact fun c hc => (numChar_spec ((decInt_numChar i).2 c hc)).2.2.2.2
  | bool b => cases b <;> decide
  | null => decide
  | num r => exact fun c hc => (numChar_spec (hv.2.1 c hc)).2.2.2.2

theorem serMembersWith_nil {α} (sv : α → Text) : serMembersWith sv [] = [] := rfl
theorem serMembersWith_single {α} (sv : α → Text) (k : Text) (v : α) :
    serMembersWith sv [(k, v)] = encodeString k ++ (':' :: sv v) := by
  simp [serMembersWith]
theorem serMembersWith_cons2 {α} (sv : α → Text) (k : Text) (v : α) (e : Text × α) (rest : List (Text × α)) :
    serMembersWith sv ((k, v) :: e :: rest) = encodeString k ++ (':' :: sv v) ++ (',' :: serMembersWith sv (e :: rest)) := by
  simp [serMembersWith]

theorem serMembersWith_shape {α} (sv : α → Text) (kvs : List (Text × α)) (hne : kvs ≠ []) :
    (∃ r, serMembersWith sv kvs = '"' :: r) ∧ kvs.length ≤ (serMembersWith sv kvs).length := by
  induction kvs with
  | nil => exact absurd rfl hne
  | cons e tail ih =>
    obtain ⟨k, v⟩ := e
    cases tail with
    | nil => simp [serMembersWith_single, encodeString]
    | cons e2 tail2 =>
      have := (ih (by simp)).2
      simp only [serMembersWith_cons2, encodeString, List.length_append, List.length_cons, List.cons_append] at this ⊢
      exact ⟨⟨_, rfl⟩, by omega⟩

theorem parseMembersWith_step {α} (pv : Text → Option (α × Text)) (fuel : Nat) (k : Text) (v : α) (svv : Text) (sep : Char)
    (t5 : Text) (hpv : pv (svv ++ sep :: t5) = some (v, sep :: t5)) :
    parseMembersWith pv (fuel + 1) (encodeString k ++ (':' :: svv) ++ sep :: t5) =
      if sep = ',' then (parseMembersWith pv fuel t5).map fun r => ((k, v) :: r.1, r.2)
      else if sep = '}' then some ([(k, v)], t5)
      else none := by
  simp only [encodeString, List.cons_append, List.append_assoc, List.nil_append]
  conv => lhs; unfold parseMembersWith
  simp only [if_true, parseStrBody_escape, hpv]
  split
  · cases parseMembersWith pv fuel t5 <;> rfl
  · rfl

theorem parseMembersWith_ser {α} {pv : Text → Option (α × Text)} {sv : α → Text} {P : α → Prop} (hpv : Inverts P sv pv)
    (kvs : List (Text × α)) (hne : kvs ≠ []) (hP : ∀ e ∈ kvs, P e.2) (fuel : Nat) (hf : kvs.length ≤ fuel) (rest : Text) :
    parseMembersWith pv fuel (serMembersWith sv kvs ++ '}' :: rest) = some (kvs, rest) := by
  induction kvs generalizing fuel with
  | nil => exact absurd rfl hne
  | cons e tail ih =>
    obtain ⟨k, v⟩ := e
    cases fuel with
    | zero => simp at hf
    | succ fuel =>
      have hv : P v := hP (k, v) (by simp)
      cases tail with
      | nil =>
        rw [serMembersWith_single, parseMembersWith_step pv fuel k v (sv v) '}' rest (hpv v hv _ ⟨_, _, rfl, .inr rfl⟩)]
        simp
      | cons e2 tail2 =>
        rw [serMembersWith_cons2, List.append_assoc, List.cons_append,
          parseMembersWith_step pv fuel k v (sv v) ',' _ (hpv v hv _ ⟨_, _, rfl, .inl rfl⟩)]
        simp only [if_true, ih (by simp) (fun e he => hP e (by simp [he])) fuel (by simp at hf ⊢; omega), Option.map_some]

theorem parseObjWith_ser {α} {pv : Text → Option (α × Text)} {sv : α → Text} {P : α → Prop} (hpv : Inverts P sv pv)
    (kvs : List (Text × α)) (hP : ∀ e ∈ kvs, P e.2) (rest : Text) :
    parseObjWith pv (serMembersWith sv kvs ++ '}' :: rest) = some (kvs, rest) := by
  by_cases hne : kvs = []
  · subst hne; simp [serMembersWith, parseObjWith]
  · obtain ⟨⟨r, hr⟩, hlen⟩ := serMembersWith_shape sv kvs hne
    have := parseMembersWith_ser hpv kvs hne hP (serMembersWith sv kvs ++ '}' :: rest).length
      (by simp only [List.length_append]; omega) rest
    rw [hr] at this ⊢
    simpa [parseObjWith] using this

theorem parseValue_serValue : Inverts CleanValue serValue parseValue := by
  intro v hv t ht
  cases v with
  | scalar s =>
    -- the text of a scalar is read back by `parseScalar`, so it does not start with `{`
    have hp := parseScalar_serScalar s hv t ht
    simp only [serValue]
    cases hst : serScalar s ++ t with
    | nil => rw [hst] at hp; cases hp
    | cons c r =>
      rw [hst] at hp
      have hc : c ≠ '{' := by rintro rfl; simp [parseScalar, numChar, isDigit] at hp
      simp only [parseValue, hc, if_false, hp]
  | obj kvs =>
    have := parseObjWith_ser parseScalar_serScalar kvs hv t
    simp only [serValue, serObjWith, List.cons_append, List.append_assoc, List.nil_append, parseValue, if_true]
    rw [this]

/-- The record decoder inverts `serde_json::to_string` of the top-level map followed by `\n`. -/
theorem parseLine_serObj (kvs : List (Text × Value)) (h : ∀ e ∈ kvs, CleanValue e.2) :
    parseLine (serObj kvs ++ ['\n']) = some kvs := by
  have := parseObjWith_ser parseValue_serValue kvs h ['\n']
  simp only [serObj, serObjWith, List.cons_append, List.append_assoc, List.nil_append, parseLine, if_true]
  rw [this]; rfl

theorem serObjWith_no_control {α} (sv : α → Text) (kvs : List (Text × α))
    (h : ∀ e ∈ kvs, ∀ c ∈ sv e.2, 0x20 ≤ c.toNat) : ∀ c ∈ serObjWith sv kvs, 0x20 ≤ c.toNat := by
  have members : ∀ c ∈ serMembersWith sv kvs, 0x20 ≤ c.toNat := by
    induction kvs with
    | nil => simp [serMembersWith]
    | cons e tail ih =>
      obtain ⟨k, v⟩ := e
      have hk := encodeString_no_control k
      have hv := h (k, v) (by simp)
      have ih := ih fun e he => h e (by simp [he])
      cases tail with
      | nil =>
        simp only [serMembersWith_single, List.forall_mem_append, List.forall_mem_cons]
        exact ⟨hk, by decide, hv⟩
      | cons e2 tail2 =>
        simp only [serMembersWith_cons2, List.forall_mem_append, List.forall_mem_cons]
        exact ⟨⟨hk, by decide, hv⟩, by decide, ih⟩
  simp only [serObjWith, List.forall_mem_append, List.forall_mem_cons]
  exact ⟨by decide, members, by decide, by simp⟩

theorem serValue_no_control (v : Value) (hv : CleanValue v) : ∀ c ∈ serValue v, 0x20 ≤ c.toNat := by
  cases v with
  | scalar s => exact serScalar_no_control s hv
  | obj kvs => exact serObjWith_no_control serScalar kvs (fun e he => serScalar_no_control e.2 (hv e he))

end Fv.Log.Json
