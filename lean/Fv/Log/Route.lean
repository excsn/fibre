/-
C19 — routing model of `fibre_logging` (import-free, executable).

Two independent things live here:

* `RouteSpec` — the property text made formal (a decidable proposition per appender).
* `route`     — a transliteration of what the code builds at `init_from_file` and evaluates per
                event: `build_filter_for_appender` (init.rs), `PerAppenderFilter::{find_most_
                specific_rule, max_level, enabled}` and `target_matches_prefix` (subscriber/
                actor.rs), `EventProcessor::{new, max_level, event_enabled, process_event}`
                (subscriber/processor.rs), the `log` bridge (`LogHandler::log`, subscriber/
                log_handler.rs) and the `tracing` layer (`DispatchLayer::{enabled, max_level_hint,
                on_event}`, subscriber/dispatch.rs).

Representation.
* Names / targets are `List Char`. Rust compares `prefix.len()` in bytes; among prefixes of one
  target the byte order and the char-count order coincide (a shorter prefix of the same string is
  a prefix of the longer one), so `List.length` is used.
* `std::collections::HashMap`s (`ConfigInternal.appenders`, `ConfigInternal.loggers`, the
  per-appender `rules`) are lists in *iteration order*; theorems quantify over every list, i.e.
  over every iteration order. Distinctness of keys is the well-formedness predicate `Config.WF`.
* The logger called `root` is not an entry of `loggers` here: `process_raw_config` guarantees it
  exists (default `info`, no appenders), `build_filter_for_appender` reads only its level and
  appender list (its `additive` flag is ignored by the code) and skips it when building rules.
* Levels: `tracing_core::LevelFilter` order, OFF=0 < ERROR=1 < WARN=2 < INFO=3 < DEBUG=4 < TRACE=5.
  An event of level `n` passes filter `f` iff `n ≤ f`.
* Appenders are numbered (the driver keeps the name table).
-/
namespace Fv.Log

abbrev Name := List Char
abbrev Appender := Nat

/-- `LoggerInternal` (config/processed.rs) for a logger other than `root`. -/
structure Logger where
  name : Name
  level : Nat
  appenders : List Appender
  additive : Bool
deriving DecidableEq, Repr

/-- `ConfigInternal` as far as routing reads it. -/
structure Config where
  /-- keys of `ConfigInternal.appenders`, in HashMap iteration order (= order of `actors`) -/
  appenders : List Appender
  /-- the non-root entries of `ConfigInternal.loggers`, in HashMap iteration order -/
  loggers : List Logger
  rootLevel : Nat
  rootAppenders : List Appender
deriving Repr

structure Event where
  target : Name
  level : Nat
deriving DecidableEq, Repr

/-- What the HashMaps and `process_raw_config`'s validation guarantee: distinct appender keys,
distinct logger keys, every appender a logger names is defined. -/
structure Config.WF (cfg : Config) : Prop where
  appenders_nodup : cfg.appenders.Nodup
  names_nodup : (cfg.loggers.map (·.name)).Nodup
  named_defined : ∀ l ∈ cfg.loggers, ∀ a ∈ l.appenders, a ∈ cfg.appenders

/-! ## The code -/

/-- `str::strip_prefix`. -/
def stripPrefix : Name → Name → Option Name
  | t, [] => some t
  | [], _ :: _ => none
  | c :: t, d :: p => if c = d then stripPrefix t p else none

/-- `rest.starts_with("::")`. -/
def startsWithColons : Name → Bool
  | ':' :: ':' :: _ => true
  | _ => false

/-- actor.rs `target_matches_prefix`. -/
def targetMatchesPrefix (target pfx : Name) : Bool :=
  match stripPrefix target pfx with
  | some rest => rest.isEmpty || startsWithColons rest
  | none => false

/-- one entry of `PerAppenderFilter.rules`: prefix ↦ (level, additive). -/
abbrev Rule := Name × Nat × Bool

/-- `PerAppenderFilter`. -/
structure Filter where
  rules : List Rule
  defaultLevel : Nat
deriving Repr

/-- init.rs `build_filter_for_appender`. -/
def buildFilter (cfg : Config) (a : Appender) : Filter :=
  { rules := (cfg.loggers.filter (fun l => l.appenders.contains a)).map
      (fun l => (l.name, l.level, l.additive))
    defaultLevel := if cfg.rootAppenders.contains a then cfg.rootLevel else 0 }

/-- `Iterator::max_by_key(|(p, _)| p.len())`: the *last* element among those of maximal key. -/
def maxByLen : List Rule → Option Rule
  | [] => none
  | r :: rs =>
    match maxByLen rs with
    | none => some r
    | some m => if r.1.length ≤ m.1.length then some m else some r

/-- `PerAppenderFilter::find_most_specific_rule`. -/
def findMostSpecificRule (f : Filter) (target : Name) : Option Rule :=
  maxByLen (f.rules.filter (fun r => targetMatchesPrefix target r.1))

/-- `PerAppenderFilter::max_level`. -/
def Filter.maxLevel (f : Filter) : Nat :=
  (f.rules.map (fun r => r.2.1)).foldl max f.defaultLevel

/-- `PerAppenderFilter::enabled`. -/
def Filter.enabled (f : Filter) (ev : Event) : Bool :=
  match findMostSpecificRule f ev.target with
  | some r => decide (ev.level ≤ r.2.1)
  | none => decide (ev.level ≤ f.defaultLevel)

/-- the `actors` vector of `EventProcessor` (name + filter; formatter/channel are in `Pipeline`). -/
def actors (cfg : Config) : List (Appender × Filter) :=
  cfg.appenders.map (fun a => (a, buildFilter cfg a))

/-- `EventProcessor::new`: `max_level` = max over actors, `OFF` if there are none. -/
def maxLevel (cfg : Config) : Nat :=
  ((actors cfg).map (fun a => a.2.maxLevel)).foldl max 0

/-- `EventProcessor::event_enabled`. -/
def eventEnabled (cfg : Config) (ev : Event) : Bool :=
  (actors cfg).any (fun a => a.2.enabled ev)

/-- one iteration of the "globally most specific matching logger" loop of `process_event`
(strictly longer replaces: the first of maximal length wins). -/
def winnerStep (w : Option (Name × Bool)) (r : Option Rule) : Option (Name × Bool) :=
  match r with
  | none => w
  | some (p, _, add) =>
    match w with
    | none => some (p, add)
    | some (wp, _) => if wp.length < p.length then some (p, add) else w

def pickWinner (rules : List (Option Rule)) : Option (Name × Bool) :=
  rules.foldl winnerStep none

/-- `non_additive_gate`. -/
def gateOf (w : Option (Name × Bool)) : Option Name :=
  match w with
  | some (p, false) => some p
  | _ => none

/-- body of the delivery loop of `process_event` for one `(actor, rule)` pair. -/
def deliverTo (gate : Option Name) (ev : Event) (actor : Appender × Filter) (rule : Option Rule) : Bool :=
  let wiredToGate :=
    match gate with
    | some g => (match rule with | some r => r.1 == g | none => false)
    | none => true
  let enabled :=
    match rule with
    | some r => decide (ev.level ≤ r.2.1)
    | none => decide (ev.level ≤ actor.2.defaultLevel)
  wiredToGate && enabled

/-- `EventProcessor::process_event`: the names of the actors whose channel gets the event, in
actor order (byte appenders are sent to inside the loop, event-stream appenders right after it,
each in actor order; both are "one send per selected actor"). -/
def processEvent (acts : List (Appender × Filter)) (ev : Event) : List Appender :=
  let rules := acts.map (fun a => findMostSpecificRule a.2 ev.target)
  let gate := gateOf (pickWinner rules)
  ((acts.zip rules).filter (fun ar => deliverTo gate ev ar.1 ar.2)).map (fun ar => ar.1.1)

/-- The routing decision of the code for configuration `cfg`. -/
def route (cfg : Config) (ev : Event) : List Appender :=
  processEvent (actors cfg) ev

/-! ### Entry points -/

/-- `log::Level`. -/
inductive LogLevel | error | warn | info | debug | trace
deriving DecidableEq, Repr

/-- `log::LevelFilter` as a number: Off=0 … Trace=5. -/
def LogLevel.toNat : LogLevel → Nat
  | .error => 1 | .warn => 2 | .info => 3 | .debug => 4 | .trace => 5

/-- the `match record.level()` in `LogHandler::build_log_event`. -/
def logLevelToTracing : LogLevel → Nat
  | .error => 1 | .warn => 2 | .info => 3 | .debug => 4 | .trace => 5

/-- init.rs `tracing_filter_to_log_filter` (result as `log::LevelFilter` number). -/
def tracingFilterToLogFilter (f : Nat) : Nat :=
  if f = 0 then 0 else if f = 1 then 1 else if f = 2 then 2 else if f = 3 then 3
  else if f = 4 then 4 else 5

/-- `log::max_level()` after `init_from_file`. -/
def logMaxLevel (cfg : Config) : Nat := tracingFilterToLogFilter (maxLevel cfg)

/-- A `log::Record` reaching `LogHandler::log` (the `log!` macro has already compared the level
with `log::max_level()`; `LogHandler::log` does it again). -/
def emitLog (cfg : Config) (target : Name) (lvl : LogLevel) : List Appender :=
  if logMaxLevel cfg < lvl.toNat then []
  else route cfg { target := target, level := logLevelToTracing lvl }

/-- A `tracing` event: the macro checks the global max-level hint (`max_level_hint`), the callsite
interest / `enabled` (`DispatchLayer::enabled` = `event_enabled` for events), then `on_event`
calls `process_event` with the callsite's metadata. -/
def emitTracing (cfg : Config) (target : Name) (lvl : Nat) : List Appender :=
  let ev : Event := { target := target, level := lvl }
  if maxLevel cfg < lvl then []
  else if !eventEnabled cfg ev then []
  else route cfg ev

/-! ## The property -/

/-- logger `l`'s name is a module-path prefix of the event target: equal, or followed by `::`. -/
def Matches (l : Logger) (ev : Event) : Prop :=
  l.name = ev.target ∨ ∃ rest, ev.target = l.name ++ ':' :: ':' :: rest

/-- executable form of `Matches` for the spec side (independent of `stripPrefix`). -/
def matchesB (l : Logger) (ev : Event) : Bool :=
  l.name == ev.target || (l.name ++ [':', ':']).isPrefixOf ev.target

/-- The level of the most specific logger that names `a` and matches the target admits the
event; the root logger is the fallback when no such logger exists. -/
def Admits (cfg : Config) (ev : Event) (a : Appender) : Prop :=
  (∃ l ∈ cfg.loggers, matchesB l ev = true ∧ a ∈ l.appenders ∧
      (∀ l' ∈ cfg.loggers, matchesB l' ev = true → a ∈ l'.appenders → l'.name.length ≤ l.name.length) ∧
      ev.level ≤ l.level)
  ∨ ((∀ l ∈ cfg.loggers, matchesB l ev = true → a ∉ l.appenders) ∧
      a ∈ cfg.rootAppenders ∧ ev.level ≤ cfg.rootLevel)

/-- `w` is the most specific matching logger overall. -/
def MostSpecificOverall (cfg : Config) (ev : Event) (w : Logger) : Prop :=
  w ∈ cfg.loggers ∧ matchesB w ev = true ∧
    ∀ l' ∈ cfg.loggers, matchesB l' ev = true → l'.name.length ≤ w.name.length

/-- When the most specific matching logger overall is non-additive only its own appenders can
receive the event. -/
def GateOk (cfg : Config) (ev : Event) (a : Appender) : Prop :=
  ∀ w ∈ cfg.loggers, matchesB w ev = true →
    (∀ l' ∈ cfg.loggers, matchesB l' ev = true → l'.name.length ≤ w.name.length) →
    w.additive = false → a ∈ w.appenders

/-- **C19, routing clause**: appender `a` receives event `ev` under configuration `cfg`. -/
def RouteSpec (cfg : Config) (ev : Event) (a : Appender) : Prop :=
  a ∈ cfg.appenders ∧ Admits cfg ev a ∧ GateOk cfg ev a

instance (cfg : Config) (ev : Event) (a : Appender) : Decidable (Admits cfg ev a) := by
  unfold Admits; infer_instance
instance (cfg : Config) (ev : Event) (a : Appender) : Decidable (GateOk cfg ev a) := by
  unfold GateOk; infer_instance
instance (cfg : Config) (ev : Event) (a : Appender) : Decidable (RouteSpec cfg ev a) := by
  unfold RouteSpec; infer_instance

/-- the specification as a list (used by the driver to tag cases where code and spec differ). -/
def routeSpecList (cfg : Config) (ev : Event) : List Appender :=
  cfg.appenders.filter (fun a => decide (RouteSpec cfg ev a))

/-- The hypothesis excluding F12a: the most specific matching logger overall (if there is one)
names at least one appender — otherwise it is in no per-appender rule map and the code cannot
see it. -/
def WinnerWired (cfg : Config) (ev : Event) : Prop :=
  ∀ w ∈ cfg.loggers, matchesB w ev = true →
    (∀ l' ∈ cfg.loggers, matchesB l' ev = true → l'.name.length ≤ w.name.length) →
    w.appenders ≠ []

/-- configuration-wide form: every (non-root) logger names at least one appender. -/
def AllWired (cfg : Config) : Prop := ∀ l ∈ cfg.loggers, l.appenders ≠ []

/-- the form in the finding's wording: every non-additive logger names at least one appender.
(Not sufficient on its own, see `C19_fails_F12c`.) -/
def NonAdditiveWired (cfg : Config) : Prop := ∀ l ∈ cfg.loggers, l.additive = false → l.appenders ≠ []

instance (cfg : Config) (ev : Event) : Decidable (WinnerWired cfg ev) := by
  unfold WinnerWired; infer_instance
instance (cfg : Config) : Decidable (AllWired cfg) := by unfold AllWired; infer_instance
instance (cfg : Config) : Decidable (NonAdditiveWired cfg) := by unfold NonAdditiveWired; infer_instance

end Fv.Log
